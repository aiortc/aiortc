import Aiortc.Lemmas.C05.SctpChan
import Aiortc.Lemmas.C05.SctpRecvSide
/-! # Crash-freedom of the data plane: DCEP, DATA, FORWARD-TSN, SACK

The specifications hold for any invariant `I` with `DataInv I` (the closure facts they use); `dataInv_WF` at the end
shows `DataInv WF`. -/
namespace Aiortc.Sctp
open Aiortc.Gen Aiortc.Sctp.Wire

theorem ChansOk.delDc {chans dcs q rcq} (h : ChansOk chans dcs q rcq) (sid : Nat) :
    ChansOk chans (dictDel dcs sid) q rcq := by
  refine ⟨?_, ?_, h.qIdx, h.qId, h.qRel, h.qPpid, h.sid, h.rcq⟩
  · intro p hp; exact h.dcIdx p ((List.mem_filter.mp hp).1)
  · exact h.dcKeys.sublist ((List.filter_sublist).map _)

theorem WF.delDc {e : Ep} (h : WF e) (sid : Nat) : WF { e with dataChannels := dictDel e.dataChannels sid } :=
  { h with ch := h.ch.delDc sid }

theorem dictDel_absent {β} {d : List (Nat × β)} {k : Nat} (h : dictGet d k = none) : dictDel d k = d := by
  unfold dictDel
  rw [List.filter_eq_self]
  intro p hp
  simp only [bne_iff_ne, ne_eq]
  intro heq
  exact (dictGet_none_iff _ _).1 h (List.mem_map.mpr ⟨p, hp, heq⟩)

theorem ChansOk.open {chans dcs q rcq} (h : ChansOk chans dcs q rcq) {sid : Nat} {c : Chan}
    (hnone : dictGet dcs sid = none) (hs : sid < 65536) (hc : c.id = some sid) (data : Bytes) :
    ChansOk (chans ++ [c]) (dcs ++ [(sid, chans.length)]) (q ++ [(chans.length, WEBRTC_DCEP, data)]) rcq := by
  refine ⟨List.forall_mem_snoc (fun p hp => ?_) ?_, nodup_keys_snoc h.dcKeys hnone _, List.forall_mem_snoc (fun x hx => ?_) ?_,
    List.forall_mem_snoc (fun x hx d hd => ?_) (fun d hd => ?_), List.forall_mem_snoc (fun x hx d hd => ?_) (fun _ _ => Or.inl rfl),
    List.forall_mem_snoc h.qPpid (by simp [WEBRTC_DCEP]),
    List.forall_mem_snoc h.sid (fun s hds => by rw [hc] at hds; cases hds; exact hs), h.rcq⟩
  · have := h.dcIdx p hp; simp; omega
  · simp
  · have := h.qIdx x hx; simp; omega
  · simp
  · rw [List.getElem?_append_left (h.qIdx x hx)] at hd; exact h.qId x hx d hd
  · simp at hd; subst hd; simp [hc]
  · rw [List.getElem?_append_left (h.qIdx x hx)] at hd; exact h.qRel x hx d hd

theorem WF.rxFields {e : Ep} (h : WF e) (rwnd : Int) (ins : List (Nat × InStream)) :
    WF { e with rwnd := rwnd, inStreams := ins } :=
  h.congr rfl

/-- Every fragment waiting for reassembly came from the wire: its stream id fits 16 bits. -/
def SidOk (ins : List (Nat × InStream)) : Prop := ∀ p ∈ ins, ∀ c ∈ p.2.reasm, c.sid < 65536

theorem SidOk.set {ins : List (Nat × InStream)} (h : SidOk ins) {sid : Nat} {s : InStream}
    (hs : ∀ c ∈ s.reasm, c.sid < 65536) : SidOk (dictSet ins sid s) := by
  intro p hp
  rcases mem_dictSet _ _ _ _ hp with hp | rfl
  · exact h p hp
  · exact hs

theorem SidOk.get {ins : List (Nat × InStream)} (h : SidOk ins) {sid : Nat} {s : InStream}
    (hg : dictGet ins sid = some s) : ∀ c ∈ s.reasm, c.sid < 65536 :=
  h _ (dictGet_mem _ _ _ hg)

/-- What the data plane of the receive path uses of an invariant `I` of the endpoint (`WF`, `V2.WFx B`) besides
`ChanInv`: bounds that can be read off it, the elementary updates that keep it, and the handlers below (`flushLoop`,
`_transmit`, `_transmit_reconfig`).
It does not read the receive window or the inbound streams. -/
structure DataInv (I : Ep → Prop) : Prop extends ChanInv I where
  net : ∀ {e}, I e → NetOk e.localPort e.remotePort e.remoteTag e.localTag e.inboundMax e.outboundCount
  rxR : ∀ {e r}, I e → e.rx = some r → Rx.All InRange32 r
  dcIdx : ∀ {e}, I e → ∀ p ∈ e.dataChannels, p.2 < e.chans.length
  setRx : ∀ {e r}, I e → Rx.All InRange32 r → ∀ b, I { e with rx := some r, sackNeeded := b }
  rxFields : ∀ {e}, I e → ∀ rwnd ins, I { e with rwnd := rwnd, inStreams := ins }
  delDc : ∀ {e}, I e → ∀ sid, I { e with dataChannels := dictDel e.dataChannels sid }
  /-- the peer announced a channel on a free stream -/
  opened : ∀ {e sid c}, I e → dictGet e.dataChannels sid = none → sid < 65536 → c.id = some sid → ∀ data,
    I { e with chans := e.chans ++ [c], dataChannels := e.dataChannels ++ [(sid, e.chans.length)],
               dcQueue := e.dcQueue ++ [(e.chans.length, WEBRTC_DCEP, data)] }
  flushLoop : ∀ {A} fuel {Q : Unit → St → Prop} {e l}, I e → Cont DataKept I e Q → wp A (flushLoop fuel) Q (e, l)
  transmitReconfig : ∀ {A} {Q : Unit → St → Prop} {e l}, I e → Cont DataKept I e Q → wp A transmitReconfig Q (e, l)
  transmit : ∀ {A} {Q : Unit → St → Prop} {e l}, I e →
    (∀ tx l', I { e with tx := tx } → Q () ({ e with tx := tx }, l')) → wp A transmit Q (e, l)
  /-- the pure part of `_receive_sack_chunk` returns, and what it returns keeps `I` and can be sent -/
  sackTx : ∀ {e} cum gaps, I e → ∃ r, e.tx.receiveSack cum gaps (1000 * e.now) = .ok r ∧
    ∀ tx evs, r = some (tx, evs) → I { e with tx := tx } ∧
      ∀ {A} {Q : Unit → St → Prop} {l}, (∀ l', Q () ({ e with tx := tx }, l')) →
        wp A (playTx evs) Q ({ e with tx := tx }, l)

variable {I : Ep → Prop}

/-- `_data_channel_flush()`. -/
theorem wp_flush {A} {Q : Unit → St → Prop} {e : Ep} {l : List Out} (hI : DataInv I) (h : I e)
    (hq : Cont DataKept I e Q) : wp A flush Q (e, l) := by
  unfold flush
  simp only [wp_bind, wp_getE]
  refine wp.ite (fun _ => by simpa using hq.here (.refl _) h l) (fun _ => ?_)
  simp only [wp_bind]
  refine hI.flushLoop _ h ?_
  intro e1 l1 hw1 k1
  simp only [wp_getE]
  refine wp.ite (fun _ => hI.transmitReconfig hw1 (hq.trans DataKept.trans k1)) (fun _ => ?_)
  simp only [wp_pure]; exact hq e1 l1 hw1 k1

/-- `_receive_sack_chunk`. -/
theorem wp_receiveSack {A} {cum : Nat} {gaps : List (Nat × Nat)} {Q : Unit → St → Prop} {e : Ep} {l : List Out}
    (hI : DataInv I) (h : I e)
    (hq : Cont RxKept I e Q) :
    wp A (receiveSack cum gaps) Q (e, l) := by
  unfold receiveSack
  simp only [wp_bind, wp_getE]
  refine wp.ite (fun _ => by simpa using hq.here (.refl _) h l) (fun _ => ?_)
  obtain ⟨r, hr, hok⟩ := hI.sackTx cum gaps h
  simp only [wp_bind, ite_self, hr, wp_liftO_ok]
  cases r with
  | none => simpa using hq.here (.refl _) h l
  | some p =>
    obtain ⟨tx, evs⟩ := p
    obtain ⟨hw1, hplay⟩ := hok tx evs rfl
    simp only [wp_bind, wp_setE]
    refine hplay fun l1 => ?_
    refine wp_flush hI hw1 fun e2 l2 hw2 k2 => ?_
    exact hI.transmit hw2 fun tx3 l3 hw3 => hq _ _ hw3 k2.rx

/-- `_data_channel_closed(stream_id)`: the stream is unregistered (an unknown one is ignored), then the channel closes. -/
theorem wp_dcClosed {A} {sid : Nat} {Q : Unit → St → Prop} {e : Ep} {l : List Out} (hI : DataInv I) (h : I e)
    (hq : Cont RFrame I { e with dataChannels := dictDel e.dataChannels sid } Q) : wp A (dcClosed sid) Q (e, l) := by
  unfold dcClosed
  simp only [wp_bind, wp_getE]
  split
  · rename_i hnone
    simp only [wp_pure]
    exact hq e l h (by rw [dictDel_absent hnone]; exact RFrame.refl _)
  · rename_i i hsome
    simp only [wp_bind, wp_modE]
    exact hI.setReady (hI.delDc h sid) (hI.dcIdx h _ (dictGet_mem _ _ _ hsome)) (Or.inl (by decide)) hq

/-- `_data_channel_receive`, with the `datachannel` / `open` / `message` handlers of the application. -/
theorem wp_dcReceive {A} {sid ppid : Nat} {data : Bytes} {Q : Unit → St → Prop} {e : Ep} {l : List Out}
    (hI : DataInv I) (h : I e) (hs : sid < 65536)
    (hq : Cont RxKept I e Q) :
    wp A (dcReceive sid ppid data) Q (e, l) := by
  have hdone : ∀ l', Q () (e, l') := hq.here (.refl _) h
  have hframe : Cont RFrame I e Q := hq.mono fun k => k.kept.rx
  unfold dcReceive
  simp only [wp_bind, wp_getE]
  refine wp.ite (fun _ => ?_) (fun _ => ?_)
  · refine wp.ite (fun _ => ?_) (fun _ => ?_)
    · refine wp.ite (fun _ => ?_) (fun hnone => ?_)
      · simpa using hdone l
      · refine wp.ite (fun _ => ?_) (fun _ => ?_)
        · simpa using hdone l
        · simp only [wp_bind, wp_setE]
          have hnone' : dictGet e.dataChannels sid = none := Option.not_isSome_iff_eq_none.mp hnone
          refine wp_flush hI (hI.opened h hnone' hs rfl _) ?_
          intro e1 l1 hw1 k1
          have hi : e.chans.length < e1.chans.length := by have := k1.len; simp at this; omega
          simp only [wp_getE]
          refine wp.ite (fun _ => ?_) (fun _ => ?_)
          · simp only [wp_bind]
            obtain ⟨c, hc⟩ := List.exists_getElem?_of_lt hi
            rw [wp_chanGet (c := c) hc]
            have hw2 := hI.setChan hw1 hc (c' := { c with silent := false }) ⟨rfl, rfl, rfl⟩ (fun h' => Or.inl h')
            simp only [wp_chanSet, wp_emit]
            refine hI.react hw2 (by simpa using hi) ?_
            intro e2 l2 hw3 hf3
            exact hq e2 l2 hw3 ⟨hf3.rwnd.trans k1.rwnd, hf3.ins.trans k1.ins⟩
          · simp only [wp_pure]
            exact hq _ _ hw1 ⟨k1.rwnd, k1.ins⟩
    · refine wp.ite (fun _ => ?_) (fun _ => ?_)
      · split
        · simpa using hdone l
        · rename_i i hsome
          have hmem := dictGet_mem _ _ _ hsome
          have hi := hI.dcIdx h _ hmem
          obtain ⟨c, hc⟩ := List.exists_getElem?_of_lt hi
          simp only [wp_bind, wp_chanGet hc]
          refine wp.ite (fun _ => ?_) (fun _ => ?_)
          · exact hI.setReady h hi (Or.inr ⟨sid, hmem⟩) hframe
          · simpa using hdone l
      · simpa using hdone l
  · split
    · simpa using hdone l
    · rename_i i hsome
      have hi := hI.dcIdx h _ (dictGet_mem _ _ _ hsome)
      obtain ⟨c, hc⟩ := List.exists_getElem?_of_lt hi
      simp only [wp_bind, wp_chanGet hc]
      -- the local function `fire` of the model, for any message
      have hfire : ∀ isStr d, wp A (if (!c.silent && decide (c.ready ≠ 3)) = true then do
            emit (Out.evMessage i isStr d)
            react 3 i
          else pure ()) Q (e, l) := by
        intro isStr d
        refine wp.ite (fun _ => ?_) (fun _ => (wp_pure ..).mpr (hdone l))
        simp only [wp_bind, wp_emit]
        exact hI.react h hi hframe
      simp only [wp_ite, wp_pure, hfire, hdone, implies_true, and_self]

/-- `for message in …: self._advertised_rwnd += len(message[2]); await self._receive(*message)`. -/
theorem wp_deliver {A} {msgs : List Msg} {Q : Unit → St → Prop} {e : Ep} {l : List Out} (hI : DataInv I) (h : I e)
    (ha : Acc (msgsBytes msgs) e.rwnd e.inStreams) (hs : ∀ m ∈ msgs, m.sid < 65536)
    (hq : ∀ e' l', I e' → Acc 0 e'.rwnd e'.inStreams → e'.inStreams = e.inStreams → Q () (e', l')) :
    wp A (deliver msgs) Q (e, l) := by
  unfold deliver
  rw [wp_bind]
  refine wp_forIn A msgs _ _ (fun suf s' => I s'.1 ∧ Acc (msgsBytes suf) s'.1.rwnd s'.1.inStreams ∧
    (∀ m ∈ suf, m.sid < 65536) ∧ s'.1.inStreams = e.inStreams) (e, l) ⟨h, ha, hs, rfl⟩ ?_ ?_
  · intro m rest s' ⟨hw, hacc, hsid, hins⟩
    obtain ⟨e1, l1⟩ := s'
    simp only [wp_bind, wp_modE]
    refine wp_dcReceive hI (hI.rxFields hw _ _) (hsid m (by simp)) ?_
    intro e2 l2 hw2 ⟨hr2, hi2⟩
    simp only [wp_pure, true_and]
    refine ⟨hw2, ?_, fun x hx => hsid x (by simp [hx]), hi2.trans hins⟩
    obtain ⟨h1, h2⟩ := hacc
    rw [hr2, hi2]
    refine ⟨?_, h2⟩
    simp only [msgsBytes, List.map_cons, List.sum_cons] at h1 ⊢
    omega
  · intro s' ⟨hw, hacc, _, hins⟩
    simp only [wp_pure]
    have : Acc 0 s'.1.rwnd s'.1.inStreams := by simpa [msgsBytes] using hacc
    exact hq s'.1 s'.2 hw this hins

/-- `_get_inbound_stream`. -/
theorem wp_getInStream {A} {sid : Nat} {k : Int} {Q : InStream → St → Prop} {e : Ep} {l : List Out}
    (ha : Acc k e.rwnd e.inStreams) (hso : SidOk e.inStreams)
    (hq : ∀ s ins, dictGet ins sid = some s → Acc k e.rwnd ins → SidOk ins →
      Q s ({ e with inStreams := ins }, l)) : wp A (getInStream sid) Q (e, l) := by
  unfold getInStream
  simp only [wp_bind, wp_getE]
  split
  · rename_i s hs
    simpa using hq s e.inStreams hs ha hso
  · rename_i hnone
    simp only [wp_bind, wp_modE, wp_pure]
    obtain ⟨h1, h2⟩ := ha.append hnone
    refine hq _ _ h2 h1 ?_
    intro p hp c hc
    rcases List.mem_append.mp hp with hp | hp
    · exact hso p hp c hc
    · simp at hp; subst hp; simp at hc

@[simp] theorem wp_setInStream {A} {sid : Nat} {s : InStream} {Q : Unit → St → Prop} {e : Ep} {l : List Out} :
    wp A (setInStream sid s) Q (e, l) ↔ Q () ({ e with inStreams := dictSet e.inStreams sid s }, l) := by
  simp [setInStream]

theorem WF.setRx {e : Ep} (h : WF e) {r : Rx} (hr : Rx.All InRange32 r) (b : Bool) : WF { e with rx := some r, sackNeeded := b } :=
  { h with rx := ⟨by intro r' hr'; cases hr'; exact hr⟩, sack := fun _ => rfl }

theorem WF.rxR {e : Ep} (h : WF e) {r : Rx} (hr : e.rx = some r) : Rx.All InRange32 r := h.rx.rng r hr

/-- `_receive_data_chunk` raises nothing: a TSN already held in the stream's reassembly queue returns before
`add_chunk`, whose assertion therefore holds. -/
theorem wp_receiveData {A} {c : RChunk} {Q : Unit → St → Prop} {e : Ep} {l : List Out} (hI : DataInv I) (h : I e)
    (hrx : e.rx.isSome = true) (ha : Acc 0 e.rwnd e.inStreams) (hso : SidOk e.inStreams)
    (hc : InRange32 c.tsn) (hsid : c.sid < 65536)
    (hq : ∀ e' l', I e' → Acc 0 e'.rwnd e'.inStreams → SidOk e'.inStreams → Q () (e', l')) :
    wp A (receiveData c) Q (e, l) := by
  obtain ⟨r, hr⟩ := Option.isSome_iff_exists.mp hrx
  unfold receiveData
  simp only [wp_bind, wp_modE, wp_getE, hr, wp_pure, wp_setE]
  have hw1 : I { e with sackNeeded := true, rx := some (markReceived r c.tsn).2 } :=
    hI.setRx h (markReceived_all (hI.rxR h hr) hc) true
  refine wp.ite (fun _ => ?_) (fun _ => ?_)
  · simp only [wp_pure]
    exact hq _ _ hw1 ha hso
  · simp only [wp_bind]
    refine wp_getInStream (k := 0) (e := { e with sackNeeded := true, rx := some (markReceived r c.tsn).2 }) ha hso ?_
    intro s ins hg hacc hsok
    refine wp.ite (fun _ => ?_) (fun hfresh => ?_)
    · simp only [wp_pure]
      exact hq _ _ (hI.rxFields hw1 _ _) hacc hsok
    -- no queued chunk has this TSN, so `add_chunk` does not assert
    obtain ⟨s1, h1, -, hm1, -⟩ := addChunk_spec s c (by
      intro x hx heq
      exact hfresh (List.any_eq_true.2 ⟨x, hx, by simp [heq]⟩))
    have hb1 := addChunk_bytes h1
    obtain ⟨msgs, s2, h2, hb2, hm2, hm3⟩ := popMessages_moved s1
    have hs1 : ∀ x ∈ s1.reasm, x.sid < 65536 := by
      intro x hx
      rcases hm1 x hx with rfl | hx
      · exact hsid
      · exact hsok.get hg x hx
    simp only [h1, h2, wp_liftO_ok, wp_modE, wp_setInStream, wp_bind]
    refine wp_deliver hI (hI.rxFields hw1 _ _) ?_ ?_ ?_
    · refine hacc.set hg ?_
      simp only [Int.add_zero]
      omega
    · intro m hm
      obtain ⟨x, hx, hxe⟩ := hm3 m hm
      rw [hxe]; exact hs1 x hx
    · intro e' l' hw' ha' hins
      refine hq e' l' hw' ha' ?_
      rw [hins]
      exact hsok.set (fun x hx => hs1 x (hm2 x hx))

theorem dictGet_of_mem_nodup {β} {d : List (Nat × β)} (hn : (d.map (·.1)).Nodup) {k : Nat} {v : β}
    (hm : (k, v) ∈ d) : dictGet d k = some v := by
  induction d with
  | nil => cases hm
  | cons p rest ih =>
    simp only [List.map_cons, List.nodup_cons] at hn
    rcases List.mem_cons.mp hm with rfl | hm
    · simp [dictGet]
    · have hne : p.1 ≠ k := by
        intro heq; apply hn.1; rw [heq]; exact List.mem_map.mpr ⟨(k, v), hm, rfl⟩
      have hb : (p.1 == k) = false := by simp [hne]
      unfold dictGet
      rw [List.find?_cons]
      simp only [hb]
      exact ih hn.2 hm

theorem WF.sackTrue {e : Ep} (h : WF e) (hrx : e.rx.isSome = true) : WF { e with sackNeeded := true } :=
  { h with sack := fun _ => hrx }

/-- `_receive_forward_tsn_chunk`. -/
theorem wp_receiveForwardTsn {A} {cum : Int} {streams : List (Nat × Nat)} {Q : Unit → St → Prop} {e : Ep}
    {l : List Out} (hI : DataInv I) (h : I e) (hrx : e.rx.isSome = true) (ha : Acc 0 e.rwnd e.inStreams)
    (hso : SidOk e.inStreams) (hc : InRange32 cum) (hsid : ∀ p ∈ streams, p.1 < 65536)
    (hq : ∀ e' l', I e' → Acc 0 e'.rwnd e'.inStreams → SidOk e'.inStreams → Q () (e', l')) :
    wp A (receiveForwardTsn cum streams) Q (e, l) := by
  obtain ⟨r, hr⟩ := Option.isSome_iff_exists.mp hrx
  have hrr := hI.rxR h hr
  unfold receiveForwardTsn
  simp only [wp_bind, wp_modE, wp_getE, hr, wp_pure]
  refine wp.ite (fun _ => ?_) (fun _ => ?_)
  · simp only [wp_pure]
    exact hq _ _ (hI.setRx h hrr true) ha hso
  · simp only [wp_bind, wp_setE, wp_getE]
    have hmis0 : ∀ x ∈ r.mis.filter (fun x => uint32_gt x cum), InRange32 x :=
      fun x hx => hrr.2.1 x (List.mem_filter.mp hx).1
    have hr' : Rx.All InRange32
        { last := consolidate cum (sortByKey cum (r.mis.filter fun x => uint32_gt x cum))
          dups := r.dups.filter fun x => uint32_gt x
            (consolidate cum (sortByKey cum (r.mis.filter fun x => uint32_gt x cum)))
          mis := (r.mis.filter fun x => uint32_gt x cum).filter fun x => uint32_gt x
            (consolidate cum (sortByKey cum (r.mis.filter fun x => uint32_gt x cum))) } :=
      absorb_keeps InRange32 hc hmis0 hrr.2.2
    have hw1 := hI.setRx h hr' true
    -- first loop: prune.  It walks a snapshot of the dict while writing the live one, so the invariant says that the
    -- keys not yet visited (`suf`, duplicate-free) still map to their snapshot values
    refine wp_forIn A e.inStreams _ _ (fun suf s' => I s'.1 ∧ Acc 0 s'.1.rwnd s'.1.inStreams ∧
      SidOk s'.1.inStreams ∧ (∀ p ∈ suf, dictGet s'.1.inStreams p.1 = some p.2) ∧ (suf.map (·.1)).Nodup) _
      ⟨hw1, ha, hso, fun p hp => dictGet_of_mem_nodup ha.keys hp, ha.keys⟩ ?_ ?_
    · intro ⟨sid, s⟩ rest ⟨e1, l1⟩ ⟨hw, hacc, hsok, hget, hnd⟩
      have hg : dictGet e1.inStreams sid = some s := hget (sid, s) (by simp)
      simp only [List.map_cons, List.nodup_cons] at hnd
      simp only [wp_bind, wp_setInStream, wp_modE, wp_pure, true_and]
      refine ⟨hI.rxFields hw _ _, ?_, ?_, ?_, hnd.2⟩
      · refine hacc.set hg ?_
        have : rbytes _ + _ = rbytes _ := pruneChunks_bytes s cum
        dsimp only
        omega
      · exact hsok.set (fun x hx => hsok.get hg x ((pruneChunks_sublist s cum).subset hx))
      · intro p hp
        have hne : p.1 ≠ sid := by
          intro heq; apply hnd.1; rw [← heq]; exact List.mem_map.mpr ⟨p, hp, rfl⟩
        show dictGet (dictSet e1.inStreams sid _) p.1 = some p.2
        rw [dictGet_dictSet_other _ _ _ _ hne]
        exact hget p (by simp [hp])
    · intro ⟨e1, l1⟩ ⟨hw, hacc, hsok, _, _⟩
      -- second loop: advance the streams and deliver
      refine wp_forIn A streams _ _ (fun suf s' => I s'.1 ∧ Acc 0 s'.1.rwnd s'.1.inStreams ∧
        SidOk s'.1.inStreams ∧ (∀ p ∈ suf, p.1 < 65536)) _ ⟨hw, hacc, hsok, hsid⟩ ?_ ?_
      · intro ⟨sid, sseq⟩ rest ⟨e2, l2⟩ ⟨hw2, hacc2, hsok2, hsid2⟩
        simp only [wp_bind]
        refine wp_getInStream (k := 0) hacc2 hsok2 ?_
        intro s ins hg hacc3 hsok3
        obtain ⟨msgs, s2, h2, hb2, hm2, hm3⟩ := popMessages_moved
          (if uint16_gt (uint16_add sseq 1) s.seq = true then { s with seq := uint16_add sseq 1 } else s)
        have hreasm : (if uint16_gt (uint16_add sseq 1) s.seq = true then { s with seq := uint16_add sseq 1 } else s).reasm
            = s.reasm := by split <;> rfl
        rw [hreasm] at hb2 hm2 hm3
        simp only [h2, wp_liftO_ok, wp_setInStream]
        refine wp_deliver hI (hI.rxFields hw2 _ _) ?_ ?_ ?_
        · refine hacc3.set hg ?_
          simp only [Int.add_zero]
          omega
        · intro m hm
          obtain ⟨x, hx, hxe⟩ := hm3 m hm
          rw [hxe]; exact hsok3.get hg x hx
        · intro e' l' hw' ha' hins
          simp only [wp_pure, true_and]
          refine ⟨hw', ha', ?_, fun p hp => hsid2 p (by simp [hp])⟩
          rw [hins]
          exact hsok3.set (fun x hx => hsok3.get hg x (hm2 x hx))
      · intro ⟨e2, l2⟩ ⟨hw2, hacc2, hsok2, _⟩
        exact hq _ _ hw2 hacc2 hsok2

theorem sack_inRange {r : Rx} (hr : Rx.All InRange32 r) {rwnd : Int} (hw : rwnd ≤ 1048576) :
    (Chunk.sack 0 r.last.toNat (max 0 rwnd).toNat (sendSack.build r none [] (sortByKey r.last r.mis))
      ((r.dups.take (SACK_MAX_ENTRIES - (sendSack.build r none [] (sortByKey r.last r.mis)).length)).map
        (·.toNat))).inRange = true := by
  obtain ⟨hlen, hpairs⟩ := sackBuild_ok r (sortByKey r.last r.mis)
  obtain ⟨⟨hl0, hl1⟩, _, hd⟩ := hr
  simp only [Chunk.inRange, hpairs, Bool.and_true, Bool.and_eq_true, decide_eq_true_eq, u32sInRange,
    List.all_eq_true, List.mem_map, forall_exists_index, and_imp, forall_apply_eq_imp_iff₂, List.length_map,
    List.length_take, SACK_MAX_ENTRIES]
  refine ⟨⟨⟨⟨by omega, by omega⟩, by omega⟩, by omega⟩, ?_⟩
  intro x hx
  obtain ⟨h0, h1⟩ := hd x (List.mem_of_mem_take hx)
  omega

/-- `_send_sack()`. -/
theorem wp_sendSack {A} {Q : Unit → St → Prop} {e : Ep} {l : List Out} (hI : DataInv I) (h : I e)
    (hrx : e.rx.isSome = true) (ha : Acc 0 e.rwnd e.inStreams)
    (hq : ∀ r l', I { e with rx := some r, sackNeeded := false } →
      Q () ({ e with rx := some r, sackNeeded := false }, l')) : wp A sendSack Q (e, l) := by
  obtain ⟨r, hr⟩ := Option.isSome_iff_exists.mp hrx
  have hrr := hI.rxR h hr
  have hrw : e.rwnd ≤ 1048576 := by have := ha.acc; omega
  unfold sendSack
  simp only [wp_bind, wp_getE, hr, wp_pure]
  refine wp_sendChunk (hI.net h) (sack_inRange hrr hrw) ?_
  intro d
  simp only [wp_modE]
  exact hq _ _ (hI.setRx h (r := { r with dups := [] }) ⟨hrr.1, hrr.2.1, by simp⟩ false)

theorem dataInv_WF : DataInv WF where
  toChanInv := chanInv_WF
  net h := h.net
  rxR h hr := h.rxR hr
  dcIdx h := h.ch.dcIdx
  setRx h hr b := h.setRx hr b
  rxFields h _ _ := h.rxFields _ _
  delDc h sid := h.delDc sid
  opened h hn hs hc _ := { h with ch := h.ch.open hn hs hc _ }
  flushLoop fuel _ _ _ h hq := wp_flushLoop fuel h (hq.mono V2.DFrame.kept)
  transmitReconfig h hq := wp_transmitReconfig h (hq.mono DataFrame.kept)
  transmit h hq := wp_transmit h hq
  sackTx cum gaps h := by
    obtain ⟨r, hr, hok⟩ := Tx.receiveSack_ok _ h.tx cum gaps _
    exact ⟨r, hr, fun tx evs he =>
      ⟨h.setTx (hok tx evs he).1, fun hq => wp_playTx (h.setTx (hok tx evs he).1) (hok tx evs he).2 hq⟩⟩

end Aiortc.Sctp
