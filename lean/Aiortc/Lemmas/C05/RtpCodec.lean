import Aiortc.Lemmas.C07.ParsersSafe
import Aiortc.Lemmas.C16.H264
import Aiortc.Lemmas.C16.Vp8
/-! C05 (RTP part): the payload descriptor parsers of `codecs/h264.py` and `codecs/vpx.py` return a value or
raise `ValueError` on EVERY byte string — no `IndexError`, no `struct.error`, and the STAP-A loop terminates
within `len(data) + 1` rounds. -/
namespace Aiortc.Lemmas.RtpDispatch
open Aiortc Aiortc.Rtp Aiortc.Gen

/-- The STAP-A loop: with more fuel than bytes left it never runs out of fuel and never crashes. -/
theorem stapOffsets_safe (data : Bytes) : ∀ (fuel pos : Nat), data.length < fuel + pos → 0 < fuel →
    Safe (Model.H264.stapOffsets data fuel pos) := by
  intro fuel
  induction fuel with
  | zero => intro pos _ h0; omega
  | succ n ih =>
    intro pos h _
    unfold Model.H264.stapOffsets
    have hc : H264_LENGTH_FIELD_SIZE = 2 := by decide
    refine safe_ite_of (fun hlt => safe_ite_of (fun _ => safe_ve) fun hge => ?_) fun _ => safe_ok _
    obtain ⟨v, hv⟩ := unpackU16_slice data pos (by omega)
    rw [hv]
    exact safe_ite_of (fun _ => safe_ve) fun _ => (ih _ (by omega) (by omega)).bind fun _ => safe_ok _

/-- `H264PayloadDescriptor.parse` is total. -/
theorem h264_parse_safe (data : Bytes) : Safe (Model.H264.parse data) := by
  unfold Model.H264.parse
  refine safe_ite_of (fun _ => safe_ve) fun hlen => ?_
  have h1 : H264_NAL_HEADER_SIZE < data.length := by
    have : H264_NAL_HEADER_SIZE = 1 := by decide
    omega
  rw [Lemmas.H264.getB_ok data 0 (by omega)]
  refine safe_ite (safe_ok _) <| safe_ite ?_ <| safe_ite ?_ safe_ve
  · rw [Lemmas.H264.getB_ok data _ h1]; exact safe_ok _
  · exact (stapOffsets_safe data _ _ (by omega) (by omega)).bind fun _ => safe_ok _

theorem h264_depayload_safe (data : Bytes) : Safe (Model.H264.depayload data) :=
  (h264_parse_safe data).bind fun _ => safe_ok _

open Aiortc.Lemmas.Vp8 in
theorem vp8_parse_safe (data : Bytes) : Safe (Model.Vp8.parse data) := by
  cases data with
  | nil => exact safe_ve
  | cons o tl =>
    rw [parse_cons]
    refine safe_ite ?_ (safe_ok _)
    split
    · exact safe_ve
    · exact (readPic_safe ..).bind fun _ => (readTl0_safe ..).bind fun _ => (readTk_safe ..).bind fun _ => safe_ok _

theorem vp8_depayload_safe (data : Bytes) : Safe (Model.Vp8.depayload data) := by
  unfold Model.Vp8.depayload
  exact (vp8_parse_safe data).on safe_ve fun _ => safe_ok _

end Aiortc.Lemmas.RtpDispatch
