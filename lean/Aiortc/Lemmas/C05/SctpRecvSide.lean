import Aiortc.Lemmas.C05.SctpInv
import Aiortc.Lemmas.SctpRx.Pop
import Aiortc.Lemmas.SctpRx.Insert
import Aiortc.Lemmas.SctpRx.Sorted
import Aiortc.Lemmas.SctpRx.Runs
/-! # Receive side, pure part: TSN bookkeeping stays in range, reassembly never hangs, byte accounting of the stream
table against the advertised window, the gap list of `_send_sack` fits its chunk -/
namespace Aiortc.Sctp
open Aiortc.Gen Aiortc.Sctp.Wire

/-- payload bytes of a queue (`bytesOf` of `SctpRx/Runs`, under the name the window accounting uses) -/
def rbytes (l : List RChunk) : Nat := (l.map (·.data.length)).sum
def msgsBytes (l : List Msg) : Nat := (l.map (·.data.length)).sum

theorem rbytes_eq_bytesOf (l : List RChunk) : rbytes l = bytesOf l := rfl
@[simp] theorem msgsBytes_nil : msgsBytes [] = 0 := rfl
@[simp] theorem msgsBytes_cons (m : Msg) (l : List Msg) : msgsBytes (m :: l) = m.data.length + msgsBytes l := by
  simp [msgsBytes]

@[simp] theorem rbytes_nil : rbytes [] = 0 := rfl
@[simp] theorem rbytes_cons (c : RChunk) (l : List RChunk) : rbytes (c :: l) = c.data.length + rbytes l := by
  simp [rbytes]
@[simp] theorem rbytes_append (l l' : List RChunk) : rbytes (l ++ l') = rbytes l + rbytes l' :=
  bytesOf_append l l'

theorem addChunk_bytes {s s' : InStream} {c : RChunk} (h : s.addChunk c = .ok s') :
    rbytes s'.reasm ≤ rbytes s.reasm + c.data.length := by
  obtain ⟨_, pre, post, e, e' | e'⟩ := addChunk_ok h <;> rw [e', e] <;> simp <;> omega

/-! ## `pop_messages` terminates within its fuel and only moves bytes from the queue to the output -/

theorem length_flatMap_data (l : List RChunk) : (l.flatMap (·.data)).length = rbytes l := by
  induction l with
  | nil => rfl
  | cons c cs ih => simp [ih]

/-- Every yield of `pop_messages` cuts a run out of the queue and hands over its bytes, on the stream of its last
chunk. -/
theorem PopSteps.moved {r r2 : List RChunk} {s s2 : Int} {ms : List Msg} (h : PopSteps r s ms r2 s2) :
    rbytes r2 + msgsBytes ms ≤ rbytes r ∧ (∀ x ∈ r2, x ∈ r) ∧ (∀ m ∈ ms, ∃ x ∈ r, m.sid = x.sid) := by
  induction h with
  | nil r s => exact ⟨by simp, fun _ hx => hx, fun _ hm => absurd hm List.not_mem_nil⟩
  | cons hstep _ ih =>
    obtain ⟨pre, run, post, hd, lst, rfl, rfl, _, hlast, _, _, _, _, rfl, _⟩ := hstep
    obtain ⟨hb, hsub, hsid⟩ := ih
    have hsub' : ∀ x ∈ pre ++ post, x ∈ pre ++ run ++ post := by
      intro x hx
      rcases List.mem_append.1 hx with hx | hx
      · exact List.mem_append_left _ (List.mem_append_left _ hx)
      · exact List.mem_append_right _ hx
    refine ⟨?_, fun x hx => hsub' x (hsub x hx), ?_⟩
    · simp only [msgsBytes_cons, length_flatMap_data, rbytes_append] at hb ⊢
      omega
    · intro m hm
      rcases List.mem_cons.1 hm with rfl | hm
      · exact ⟨lst, List.mem_append_left _ (List.mem_append_right _ (List.mem_of_getLast? hlast)), rfl⟩
      · obtain ⟨x, hx, hxs⟩ := hsid m hm
        exact ⟨x, hsub' x hx, hxs⟩

theorem popMessages_moved (s : InStream) :
    ∃ msgs s', s.popMessages = .ok (msgs, s') ∧ rbytes s'.reasm + msgsBytes msgs ≤ rbytes s.reasm
      ∧ (∀ x ∈ s'.reasm, x ∈ s.reasm) ∧ (∀ m ∈ msgs, ∃ x ∈ s.reasm, m.sid = x.sid) := by
  obtain ⟨msgs, s', h, hsteps⟩ := popMessages_ok s
  exact ⟨msgs, s', h, hsteps.moved⟩

/-! ## the inbound stream table (`dict`) and the receive window accounting -/

@[simp] theorem reasmBytes_nil : reasmBytes [] = 0 := rfl
@[simp] theorem reasmBytes_cons (e : Nat × InStream) (es : List (Nat × InStream)) :
    reasmBytes (e :: es) = rbytes e.2.reasm + reasmBytes es := by
  simp [reasmBytes, rbytes]
@[simp] theorem reasmBytes_append (l l' : List (Nat × InStream)) :
    reasmBytes (l ++ l') = reasmBytes l + reasmBytes l' := by
  simp [reasmBytes]

theorem reasmBytes_mapSet {ins : List (Nat × InStream)} {sid : Nat} {s s' : InStream}
    (hk : (ins.map (·.1)).Nodup) (hg : dictGet ins sid = some s) :
    reasmBytes (ins.map (fun e => if e.1 == sid then (sid, s') else e)) + rbytes s.reasm =
      reasmBytes ins + rbytes s'.reasm := by
  induction ins with
  | nil => simp [dictGet_nil] at hg
  | cons e es ih =>
    simp only [List.map_cons, List.nodup_cons] at hk
    by_cases h : e.1 = sid
    · rw [dictGet_cons_eq _ _ h] at hg
      simp only [Option.some.injEq] at hg
      rw [mapSet_cons_eq e es s' h, mapSet_absent es sid s' (h ▸ hk.1), reasmBytes_cons, reasmBytes_cons, hg]
      show rbytes s'.reasm + _ + _ = _
      omega
    · rw [dictGet_cons_ne _ _ h] at hg
      have := ih hk.2 hg
      rw [mapSet_cons_ne e es s' h, reasmBytes_cons, reasmBytes_cons]
      omega

theorem Acc.set {k k' rwnd rwnd' : Int} {ins : List (Nat × InStream)} {sid : Nat} {s s' : InStream}
    (ha : Acc k rwnd ins) (hg : dictGet ins sid = some s)
    (hle : rwnd' + rbytes s'.reasm + k' ≤ rwnd + rbytes s.reasm + k) : Acc k' rwnd' (dictSet ins sid s') := by
  have hmem : sid ∈ ins.map (·.1) := by
    apply Classical.byContradiction
    intro h; rw [(dictGet_none_iff ins sid).2 h] at hg; cases hg
  have hany := (dictAny_iff ins sid).2 hmem
  unfold dictSet
  rw [if_pos hany]
  refine ⟨?_, ?_⟩
  · have h1 := reasmBytes_mapSet (s' := s') ha.keys hg
    have h2 := ha.acc
    omega
  · rw [mapSet_keys]; exact ha.keys

theorem Acc.append {k rwnd : Int} {ins : List (Nat × InStream)} {sid : Nat}
    (ha : Acc k rwnd ins) (hg : dictGet ins sid = none) :
    Acc k rwnd (ins ++ [(sid, ({} : InStream))]) ∧ dictGet (ins ++ [(sid, ({} : InStream))]) sid = some {} := by
  have hmem := (dictGet_none_iff ins sid).1 hg
  refine ⟨⟨?_, ?_⟩, ?_⟩
  · have := ha.acc
    simp; omega
  · exact nodup_keys_snoc ha.keys hg _
  · have hany : ins.any (·.1 == sid) = false := by
      rw [Bool.eq_false_iff]; exact fun h => hmem ((dictAny_iff ins sid).1 h)
    rw [dictGet_append_new ins sid sid _ hany, if_pos rfl]

theorem reasmBytes_filter (p : Nat × InStream → Bool) (ins : List (Nat × InStream)) :
    reasmBytes (ins.filter p) ≤ reasmBytes ins := by
  induction ins with
  | nil => simp
  | cons e es ih =>
    rw [List.filter_cons]
    split <;> simp <;> omega

theorem Acc.del {k rwnd : Int} {ins : List (Nat × InStream)} (ha : Acc k rwnd ins) (sid : Nat) :
    Acc k rwnd (dictDel ins sid) := by
  unfold dictDel
  refine ⟨?_, ?_⟩
  · have := ha.acc
    have := reasmBytes_filter (·.1 != sid) ins
    omega
  · exact List.Nodup.sublist (List.Sublist.map _ List.filter_sublist) ha.keys

/-! ## `_send_sack` -/

/-- the gap list fits a SACK chunk: at most `SACK_MAX_ENTRIES` = 296 blocks, 16-bit offsets -/
def GapsOk (acc : List (Nat × Nat)) : Prop := acc.length ≤ 296 ∧ ∀ g ∈ acc, g.1 ≤ 65535 ∧ g.2 ≤ 65535

theorem GapsOk.snoc {acc : List (Nat × Nat)} {pos : Nat} (h : GapsOk acc) (hl : acc.length ≠ 296)
    (hp : pos ≤ 65535) : GapsOk (acc ++ [(pos, pos)]) := by
  refine ⟨?_, ?_⟩
  · have := h.1; simp; omega
  · intro g hg
    rcases List.mem_append.1 hg with hg | hg
    · exact h.2 g hg
    · simp at hg; subst hg; exact ⟨hp, hp⟩

theorem GapsOk.extend {acc r : List (Nat × Nat)} {a b pos : Nat} (h : GapsOk acc)
    (hr : acc.reverse = (a, b) :: r) (hp : pos ≤ 65535) : GapsOk (r.reverse ++ [(a, pos)]) := by
  have hacc : acc = r.reverse ++ [(a, b)] := by
    have := congrArg List.reverse hr
    simpa using this
  subst hacc
  refine ⟨?_, ?_⟩
  · have := h.1; simp at this ⊢; omega
  · intro g hg
    rcases List.mem_append.1 hg with hg | hg
    · exact h.2 g (List.mem_append_left _ hg)
    · simp at hg; subst hg
      exact ⟨(h.2 (a, b) (by simp)).1, hp⟩

theorem sackBuild_gapsOk (rx : Rx) (l : List Int) : ∀ (gapNext : Option Int) (acc : List (Nat × Nat)),
    GapsOk acc → GapsOk (sendSack.build rx gapNext acc l) := by
  induction l with
  | nil => intro g acc h; simpa [sendSack.build] using h
  | cons t ts ih =>
    intro g acc h
    simp only [sendSack.build]
    split
    · exact h
    · rename_i hpos
      have hp : ((t - rx.last) % 4294967296).toNat ≤ 65535 := by omega
      split
      · apply ih
        split
        · rename_i a b r hr
          exact h.extend hr hp
        · exact ⟨by simp, by intro g hg; simp at hg; subst hg; exact ⟨hp, hp⟩⟩
      · split
        · exact h
        · rename_i hl
          exact ih _ _ (h.snoc hl hp)

theorem sackBuild_ok (rx : Rx) (sorted : List Int) :
    (sendSack.build rx none [] sorted).length ≤ 296 ∧ pairsInRange (sendSack.build rx none [] sorted) = true := by
  have h := sackBuild_gapsOk rx sorted none [] ⟨by simp, by simp⟩
  refine ⟨h.1, ?_⟩
  simp only [pairsInRange, List.all_eq_true, Bool.and_eq_true, decide_eq_true_eq]
  intro g hg
  have := h.2 g hg
  omega

end Aiortc.Sctp
