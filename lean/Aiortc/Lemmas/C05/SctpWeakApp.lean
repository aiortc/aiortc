import Aiortc.Lemmas.C05.SctpWeakTask
/-! # `V2.WFx B` (`C05/SctpWeakInv`): `createDataChannel` (before and after `start()`), and `start()` itself -/
namespace Aiortc.Sctp.V2
open Aiortc.Gen Aiortc.Sctp.Wire
variable {U : List Nat} {B : Nat}

theorem ChansOk.snocChan {chans dcs q rcq} (h : ChansOk U chans dcs q rcq) {c : Chan}
    (hs : ∀ s, c.id = some s → s < 65536) (ho : c.ready = 1 → c.Reliable ∨ c.id.isSome) :
    ChansOk U (chans ++ [c]) dcs q rcq := by
  refine ⟨?_, h.dcKeys, ?_, ?_, h.qPpid, ?_, h.rcq, ?_, ?_⟩
  · intro p hp; have := h.dcIdx p hp; simp; omega
  · intro x hx; have := h.qIdx x hx; simp; omega
  · intro x hx d hd
    rw [List.getElem?_append_left (h.qIdx x hx)] at hd
    exact h.qPR x hx d hd
  · exact List.forall_mem_snoc h.sid hs
  · intro p hp
    obtain ⟨d, hd, hid⟩ := h.dcLink p hp
    exact ⟨d, by rw [List.getElem?_append_left (h.dcIdx p hp)]; exact hd, hid⟩
  · exact List.forall_mem_snoc h.openId ho

/-- What `createChannel` does to the state, in the three successful cases. -/
inductive Created (e : Ep) (c : Chan) : Ep → Prop
  /-- `_data_channel_open` of a channel without id -/
  | openPending (d : Bytes) : c.id = none → c.ready = 0 →
      Created e c { e with chans := e.chans ++ [c], dcQueue := e.dcQueue ++ [(e.chans.length, WEBRTC_DCEP, d)],
                           tasks := e.tasks ++ [.flush] }
  /-- `_data_channel_open` of a channel with an id chosen by the application -/
  | openId (d : Bytes) (sid : Nat) : c.id = some sid → sid < 65536 → dictGet e.dataChannels sid = none →
      Created e c { e with chans := e.chans ++ [c], dataChannels := e.dataChannels ++ [(sid, e.chans.length)],
                           dcQueue := e.dcQueue ++ [(e.chans.length, WEBRTC_DCEP, d)], tasks := e.tasks ++ [.flush] }
  /-- `_data_channel_add_negotiated` -/
  | negotiated (sid : Nat) : c.id = some sid → sid < 65536 → dictGet e.dataChannels sid = none →
      Created e c { e with chans := e.chans ++ [c], dataChannels := e.dataChannels ++ [(sid, e.chans.length)] }

theorem WF.created {e e' : Ep} {c : Chan} (h : WF U e) (hc : Created e c e') : WF U e' := by
  cases hc with
  | openPending d hid hrd =>
    have hch : ChansOk U (e.chans ++ [c]) e.dataChannels e.dcQueue e.reconfigQueue :=
      h.ch.snocChan (by intro s hs; rw [hid] at hs; cases hs) (by intro h1; rw [hrd] at h1; cases h1)
    refine { h with ch := hch.pushQ (by simp) (by simp [WEBRTC_DCEP]) (fun _ _ => Or.inl rfl), tasks := ?_ }
    exact (h.pushTask (t := .flush) trivial).tasks
  | openId d sid hid hs hnew =>
    refine { h with ch := h.ch.open hnew hs hid d, tasks := ?_ }
    exact (h.pushTask (t := .flush) trivial).tasks
  | negotiated sid hid hs hnew =>
    have hch := (h.ch.open hnew hs hid []).subQ (q' := e.dcQueue) (by intro x hx; simp [hx])
    exact { h with ch := hch }

theorem Created.kept {e e' : Ep} {c : Chan} (hc : Created e c e') : RxKept e e' := by
  cases hc <;> exact ⟨rfl, rfl⟩

theorem WFx.created {e e' : Ep} {c : Chan} (h : WFx B e) (hc : Created e c e') : WFx B e' :=
  h.map (fun _ hw => hw.created hc) (by cases hc <;> rfl)

/-- Parameters `createDataChannel` accepts without `struct.error`: label / protocol of < 65536 bytes, 32-bit
reliability parameter, and a 16-bit id if the application picks one. -/
def CreateOk (p : CreateParams) : Prop :=
  p.label.length < 65536 ∧ p.protocol.length < 65536 ∧
  (∀ r, p.maxRetransmits = some r → r < 4294967296) ∧ (∀ r, p.maxPacketLifeTime = some r → r < 4294967296) ∧
  (∀ v, p.id = some v → 0 ≤ v ∧ v ≤ 65534)

theorem encodeOpen_ok {c : Chan} (hl : c.label.length < 65536) (hp : c.protocol.length < 65536)
    (h1 : ∀ r, c.maxRetransmits = some r → r < 4294967296) (h2 : ∀ r, c.maxPacketLifeTime = some r → r < 4294967296) :
    ∃ d, encodeOpen c = .ok d := by
  unfold encodeOpen
  cases hr : c.maxRetransmits with
  | some r =>
    have := h1 r hr
    simp only []
    rw [if_neg (by simp; omega)]
    exact ⟨_, rfl⟩
  | none =>
    cases hm : c.maxPacketLifeTime with
    | some r =>
      have := h2 r hm
      simp only []
      rw [if_neg (by simp; omega)]
      exact ⟨_, rfl⟩
    | none =>
      simp only []
      rw [if_neg (by simp; omega)]
      exact ⟨_, rfl⟩

/-- `createDataChannel` with acceptable parameters never raises inside the transport: it either refuses (state
unchanged, the caller gets a `ValueError`) or ends in one of the three `Created` states. -/
theorem wp_create {A} {p : CreateParams} {Q : Unit → St → Prop} {e : Ep} {l : List Out} (hp : CreateOk p)
    (hq : ∀ e' l', (e' = e ∨ ∃ c, Created e c e') → Q () (e', l')) : wp A (createChannel p) Q (e, l) := by
  obtain ⟨hl, hpr, hm1, hm2, hid⟩ := hp
  unfold createChannel
  cases hneg : p.negotiated with
  | false =>
    cases hpid : p.id with
    | none =>
      simp only [wp_bind, wp_getE, Bool.false_and, Bool.false_eq_true, if_false, Bool.not_false, if_true,
        Option.map_none]
      obtain ⟨d, hd⟩ := encodeOpen_ok (c := { id := none, label := p.label, protocol := p.protocol, ordered := p.ordered, maxRetransmits := p.maxRetransmits, maxPacketLifeTime := p.maxPacketLifeTime, negotiated := false }) hl hpr hm1 hm2
      simp only [hd, wp_bind, wp_setE, wp_queueTask]
      exact hq _ _ (Or.inr ⟨_, Created.openPending d rfl rfl⟩)
    | some v =>
      obtain ⟨hv0, hv1⟩ := hid v hpid
      simp only [wp_bind, wp_getE, Bool.false_and, Bool.false_eq_true, if_false, Bool.not_false, if_true,
        Option.map_some]
      refine wp.ite (fun _ => ?_) (fun hnone => ?_)
      · simp only [wp_bind, wp_emit, wp_pure]
        exact hq _ _ (Or.inl rfl)
      · have hnone' : dictGet e.dataChannels v.toNat = none := Option.not_isSome_iff_eq_none.mp hnone
        obtain ⟨d, hd⟩ := encodeOpen_ok (c := { id := some v.toNat, label := p.label, protocol := p.protocol, ordered := p.ordered, maxRetransmits := p.maxRetransmits, maxPacketLifeTime := p.maxPacketLifeTime, negotiated := false }) hl hpr hm1 hm2
        simp only [hd, wp_bind, wp_setE, wp_queueTask]
        exact hq _ _ (Or.inr ⟨_, Created.openId d v.toNat rfl (by omega) hnone'⟩)
  | true =>
    cases hpid : p.id with
    | none =>
      simp only [wp_bind, wp_getE, Bool.true_and, if_true, wp_emit, wp_pure]
      exact hq _ _ (Or.inl rfl)
    | some v =>
      simp only [wp_bind, wp_getE, Bool.true_and, Option.map_some, Bool.not_true, Bool.false_eq_true,
        if_false]
      obtain ⟨hv0, hv1⟩ := hid v hpid
      refine wp.ite (fun _ => ?_) (fun _ => ?_)
      · simp only [wp_bind, wp_emit, wp_pure]
        exact hq _ _ (Or.inl rfl)
      · refine wp.ite (fun _ => ?_) (fun hnone => ?_)
        · simp only [wp_bind, wp_emit, wp_pure]
          exact hq _ _ (Or.inl rfl)
        · have hnone' : dictGet e.dataChannels v.toNat = none := Option.not_isSome_iff_eq_none.mp hnone
          simp only [wp_setE]
          refine hq _ _ (Or.inr ⟨_, Created.negotiated v.toNat ?_ (by omega) hnone'⟩)
          split <;> rfl

/-! ## before `start()` -/

/-- The fields `start()` sets (before the client sends its INIT). -/
@[reducible] def startF (e : Ep) (rp : Nat) : Ep :=
  { e with started := true, state := "connecting", remotePort := some rp,
           dcId := some (if e.isServer then 0 else 1), registered := true }

/-- The invariant before `start()`: the association is closed, no timer runs, only flush tasks are queued, and
everything else is already as `WF` wants it (`WF` holds as soon as `start()` has set its fields). -/
structure Pre (B : Nat) (e : Ep) : Prop where
  ns : e.started = false
  cl : e.assoc = .closed
  t1 : e.t1 = false
  tk : ∀ t ∈ e.tasks, t = .flush
  /-- the remote port 0 is a placeholder: `WF` reads it only in `NetOk.rp`, which `wp_start` proves again for the
  port `start()` is given -/
  wf : WFx B (startF e 0)
  acc : Acc 0 e.rwnd e.inStreams
  so : SidOk e.inStreams

theorem Pre.created {e e' : Ep} {c : Chan} (h : Pre B e) (hc : Created e c e') : Pre B e' := by
  cases hc with
  | openPending d hid hrd =>
    refine ⟨h.ns, h.cl, h.t1, ?_, h.wf.map (fun _ hw => hw.created (e := startF e 0) (Created.openPending d hid hrd)) rfl, h.acc, h.so⟩
    intro t ht
    rcases List.mem_append.mp ht with ht | ht
    · exact h.tk t ht
    · simpa using ht
  | openId d sid hid hs hnew =>
    refine ⟨h.ns, h.cl, h.t1, ?_, h.wf.map (fun _ hw => hw.created (e := startF e 0) (Created.openId d sid hid hs hnew)) rfl, h.acc, h.so⟩
    intro t ht
    rcases List.mem_append.mp ht with ht | ht
    · exact h.tk t ht
    · simpa using ht
  | negotiated sid hid hs hnew =>
    exact ⟨h.ns, h.cl, h.t1, h.tk, h.wf.map (fun _ hw => hw.created (e := startF e 0) (Created.negotiated sid hid hs hnew)) rfl, h.acc, h.so⟩

theorem Pre.setNow {e : Ep} (h : Pre B e) (now : Int) : Pre B { e with now := now } :=
  ⟨h.ns, h.cl, h.t1, h.tk, h.wf.setNow now, h.acc, h.so⟩

/-- Arming a handler before `start()`: one unit of the budget. -/
theorem Pre.armed {e : Ep} (h : Pre (B + 1) e) (r : Nat × Nat × Bool × Bytes) :
    Pre B { e with reactions := e.reactions ++ [r] } :=
  ⟨h.ns, h.cl, h.t1, h.tk, h.wf.armed r, h.acc, h.so⟩

/-- A fresh endpoint (32-bit tag and initial TSN) satisfies the pre-start invariant with any budget `B ≤ 16381`. -/
theorem Pre.init (hB : B ≤ 16381) (isServer : Bool) {tag tsn : Nat} (ht : tag < 4294967296)
    (hs : tsn < 4294967296) : Pre B (Ep.init isServer tag tsn) := by
  refine ⟨rfl, rfl, rfl, by simp [Ep.init], ⟨[], by simp [Ep.init]; omega, ?_⟩,
    ⟨by simp [Ep.init, reasmBytes], by simp [Ep.init]⟩, by intro p hp; simp [Ep.init] at hp⟩
  refine ⟨⟨by simp [Ep.init], ⟨0, rfl, by decide⟩, by simp [Ep.init], ht,
      by simp [Ep.init, MAX_STREAMS], by simp [Ep.init, MAX_STREAMS]⟩,
    ⟨by simp [Ep.init], by simp [Ep.init], by simp [Ep.init],
     by simp [Ep.init], by simp [Ep.init], by simp [Ep.init],
     by simp [Ep.init], by simp [Ep.init], by simp [Ep.init]⟩,
    ⟨by simp [Ep.init], by simp [Ep.init], by simp [Ep.init, V2.Chain, wire],
     by simp [Ep.init, V2.LastE, wire], ⟨by simp [Ep.init], by simp [Ep.init]⟩,
     by simp [Ep.init], by simp [Ep.init], by simp [Ep.init], ?_⟩,
    ⟨by simp [Ep.init]⟩, ?_, ?_, by simp [Ep.init],
    ⟨_, rfl, by split <;> omega⟩, by simp, by simp [Ep.init], by simp [Ep.init],
    by simp [Ep.init], by simp [Ep.init]⟩
  · simp only [Ep.init]; omega
  · simp only [Ep.init, InRange32]; omega
  · simp only [Ep.init, InRange32]; omega

/-- A flush task run before `start()` does nothing (the association is not established). -/
theorem wp_runTask_pre {A} {Q : Unit → St → Prop} {e : Ep} {l : List Out} (h : Pre B e)
    (hq : ∀ e' l', Pre B e' → Q () (e', l')) : wp A runTask Q (e, l) := by
  unfold runTask
  simp only [wp_bind, wp_getE]
  split
  · simpa using hq e l h
  · rename_i t rest hte
    have ht : t = .flush := h.tk t (by rw [hte]; simp)
    subst ht
    simp only [wp_bind, wp_setE]
    unfold flush
    simp only [wp_bind, wp_getE]
    split
    · simp only [wp_pure]
      refine hq _ _ ⟨h.ns, h.cl, h.t1, fun x hx => h.tk x (by rw [hte]; simp [hx]), ?_, h.acc, h.so⟩
      exact h.wf.map (fun _ hw => (hw.popTask (e := startF e 0) (t := .flush) (rest := rest) hte).1) rfl
    · rename_i hne
      exact absurd (by simp [h.cl]) hne

/-- `start()`: the client sends its INIT and arms T1; afterwards `WF` holds. -/
theorem wp_start {A} {rp : Nat} {Q : Unit → St → Prop} {e : Ep} {l : List Out} (h : Pre B e) (hr : rp < 65536)
    (hq : Cont RxKept (WFx B) e Q) :
    wp A (handle (.start rp)) Q (e, l) := by
  obtain ⟨U, hb, hwf⟩ := h.wf
  have hrw : e.rwnd ≤ 1048576 := by have := h.acc.acc; omega
  have hw0 : WF U (startF e rp) :=
    ⟨{ hwf.net with rp := ⟨rp, rfl, hr⟩ }, hwf.ch, hwf.tx,
     hwf.rx, hwf.rcReq, hwf.rcResp, hwf.sack, hwf.ids, hwf.cap, hwf.tm1, hwf.tm2, hwf.tasks, hwf.rcr⟩
  simp only [handle, wp_bind, wp_getE, h.ns, Bool.not_false, if_true, wp_setE]
  split
  · simp only [wp_bind, wp_getE]
    have hin : (Chunk.init .init 0 e.localTag e.rwnd.toNat e.outboundCount e.inboundMax e.tx.localTsn.toNat
        localExtensions).inRange = true :=
      initChunk_inRange hw0.net.ltag hrw hw0.net.outCnt hw0.net.inMax hw0.tx.tsn
    refine wp_sendChunk hw0.net hin ?_
    intro d
    refine wp_t1Start h.t1 ?_
    intro l'
    rw [wp_setState_other (by decide) (by decide)]
    exact hq _ _ ⟨U, hb, (hw0.t1On hin).congr rfl⟩ ⟨rfl, rfl⟩
  · simp only [wp_pure]
    exact hq _ _ ⟨U, hb, hw0⟩ ⟨rfl, rfl⟩

end Aiortc.Sctp.V2
