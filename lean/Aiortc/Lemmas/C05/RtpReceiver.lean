import Aiortc.Lemmas.C05.RtpCodec
import Aiortc.Lemmas.C05.RtpNack
import Aiortc.Lemmas.C18.StatsRecv
import Aiortc.Props.C10
/-! C05 (RTP part): `RTCRtpReceiver._handle_rtp_packet` / `_handle_rtcp_packet` never raise on a packet that came out
of `RtpPacket.parse` / `RtcpPacket.parse`, for every receiver state that satisfies the component invariants
(jitter buffer: C10 `Inv`; stream statistics: C18 `GoodRecv`; NACK generator: 16-bit `max_seq`; timestamp mapper:
`_last` set whenever `_origin` is). -/
namespace Aiortc.Lemmas.RtpDispatch
open Aiortc Aiortc.Gen Aiortc.Rtp Aiortc.Model Aiortc.Model.RtpDispatch

/-- What `RtpPacket.parse` guarantees about the fields the receiver computes with. -/
structure PktOk (p : RtpPacket) : Prop where
  seq : p.sequenceNumber < 65536
  ssrc : p.ssrc < 4294967296
  payload : IsBytes p.payload

structure TsInv (m : TsMap) : Prop where
  last : m.origin.isSome → m.last.isSome

structure RecvInv (r : Receiver) : Prop where
  jb : Lemmas.Jitter.Inv r.jb
  stats : Lemmas.Stats.GoodRecv r.stats
  ts : TsInv r.tsMap
  nack : ∀ m, r.nack.maxSeq = some m → Props.C17.R16 m

/-! ## the stages of `_handle_rtp_packet` -/

/-- After the RTX unwrap only these two are needed. -/
structure PktOk' (p : RtpPacket) : Prop where
  seq : p.sequenceNumber < 65536
  payload : IsBytes p.payload

theorem unwrapRtx_ok (p : RtpPacket) (hp : PktOk p) (hl : ¬ p.payload.length < 2) (a o : Nat) :
    ∃ q, unwrapRtx p a o = .ok q ∧ PktOk' q := by
  unfold unwrapRtx
  match hpl : p.payload, hl with
  | x :: y :: rest, _ =>
    have hx := hp.payload x (by rw [hpl]; simp)
    have hy := hp.payload y (by rw [hpl]; simp)
    refine ⟨_, rfl, ⟨?_, ?_⟩⟩
    · simp only; omega
    · intro b hb'
      exact hp.payload b (by rw [hpl]; simp at hb'; simp [hb'])
  | [_], h => simp at h
  | [], h => simp at h

theorem stageRtx_total (r : Receiver) (codec : Codec) (p : RtpPacket) (hp : PktOk p) :
    r.stageRtx codec p = .ok none ∨ ∃ q c, r.stageRtx codec p = .ok (some (q, c)) ∧ PktOk' q := by
  unfold Receiver.stageRtx
  cases hk : codec.kind with
  | rtx apt =>
    simp only
    cases ho : Router.dget p.ssrc r.rtxSsrc with
    | none => exact Or.inl rfl
    | some original =>
      simp only
      by_cases hl : p.payload.length < 2
      · rw [if_pos hl]; exact Or.inl rfl
      · rw [if_neg hl]
        cases apt with
        | none => exact Or.inl rfl
        | some a =>
          simp only
          cases hc : Router.dget a r.codecs with
          | none => exact Or.inl rfl
          | some c =>
            simp only
            obtain ⟨q, hq, hok⟩ := unwrapRtx_ok p hp hl a original
            rw [hq]
            exact Or.inr ⟨q, c, rfl, hok⟩
  | _ => exact Or.inr ⟨p, codec, rfl, ⟨hp.seq, hp.payload⟩⟩

theorem depayloadFor_safe (k : CodecKind) (payload : Bytes) : Safe (depayloadFor k payload) := by
  unfold depayloadFor
  split
  · exact vp8_depayload_safe payload
  · exact h264_depayload_safe payload
  · exact safe_ok _

theorem tsMap_total (m : TsMap) (hm : TsInv m) (ts : Int) : ∃ m' v, m.map ts = .ok (m', v) ∧ TsInv m' := by
  unfold TsMap.map
  cases ho : m.origin with
  | none => exact ⟨_, _, rfl, ⟨fun _ => rfl⟩⟩
  | some o =>
    have := hm.last (by rw [ho]; rfl)
    cases hl : m.last with
    | none => rw [hl] at this; cases this
    | some l => exact ⟨_, _, rfl, ⟨fun _ => rfl⟩⟩

theorem stageNack_returns (r : Receiver) (hr : RecvInv r) (p : RtpPacket) (hp : PktOk' p) :
    (r.stageNack p).Returns fun x => RecvInv x.1 ∧ x.2.2 ≤ 128 := by
  unfold Receiver.stageNack
  split
  · obtain ⟨g', missed, n, hadd, hn, hg'⟩ := nack_add_total r.nack hr.nack (p.sequenceNumber : Int)
      (by have := hp.seq; unfold Props.C17.R16; omega)
    rw [hadd]
    exact .ok ⟨⟨hr.jb, hr.stats, hr.ts, hg'⟩, hn⟩
  · exact .ok ⟨hr, Nat.zero_le _⟩

theorem stageJitter_returns (r : Receiver) (hr : RecvInv r) (codec : Codec) (p : RtpPacket) (hp : PktOk' p)
    (data : Bytes) : (r.stageJitter codec p data).Returns fun x => RecvInv x.1 := by
  unfold Receiver.stageJitter
  obtain ⟨out, hadd, hinv, _⟩ := Props.C10.jb_total hr.jb ⟨p.sequenceNumber, p.timestamp, data⟩
    (by have := hp.seq; unfold Lemmas.Jitter.R16; simp only; omega)
  rw [hadd]
  simp only
  cases hf : out.frame with
  | none => exact .ok ⟨hinv, hr.stats, hr.ts, hr.nack⟩
  | some f =>
    simp only
    split
    · obtain ⟨m', v, hm, hts⟩ := tsMap_total r.tsMap hr.ts f.ts
      rw [hm]
      exact .ok ⟨hinv, hr.stats, hts, hr.nack⟩
    · exact .ok ⟨hinv, hr.stats, hr.ts, hr.nack⟩

theorem stageNack_fields {r r' : Receiver} {p : RtpPacket} {e : List Effect} {n : Nat}
    (h : r.stageNack p = .ok (r', e, n)) :
    r'.jb = r.jb ∧ r'.tsMap = r.tsMap ∧ r'.decoderRunning = r.decoderRunning := by
  unfold Receiver.stageNack at h
  split at h
  · split at h
    · cases h; exact ⟨rfl, rfl, rfl⟩
    all_goals cases h
  · cases h; exact ⟨rfl, rfl, rfl⟩

end Aiortc.Lemmas.RtpDispatch
