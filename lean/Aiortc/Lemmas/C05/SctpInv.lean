import Aiortc.Lemmas.C05.SctpWpExc
import Aiortc.Lemmas.SctpDict
import Aiortc.Lemmas.Util.List
/-!
# The well-formedness invariant of the SCTP endpoint automaton (see notes/C05a.md)

Grouped by the fields a clause reads, so that an update of one field leaves the other groups alone.
The handler specifications of the following modules are not stated for `WF` but for any invariant `I` that offers what they
use, in a chain of interfaces `ChanInv` (SctpChan) ⊂ `DataInv` (…Data) ⊂ `CtlInv` (…Ctl) ⊂ `ChunkInv` (…Chunk); `WF` and
`V2.WFx B` are the two instances. The second half of this file holds what those statements are written with: the frames
(`DataFrame`, `RFrame`, `V2.DFrame`, `DataKept`, `RxKept`) and the continuation `Cont`.

A further invariant `J` is added as `I := fun e => WF e ∧ J e`: a field of the instance is
`⟨xInv_WF.field h.1 …, <J of the updated state>⟩`. `react`, `transmit`, `sackTx` of the `WF` instance give the end state
exactly (`{ e with tx := tx }`, `RFrame`) and `wp_flushLoop` gives it up to `V2.DFrame`, so they serve again when `J` reads
nothing these frames let change; `transmitReconfig`, and `flushLoop` for a `J` that reads inside the frame, are proved again
from `transmitReconfig_spec` with `WF.sentReconfig`, and from `wp_sendData`.
-/
namespace Aiortc.Sctp
open Aiortc.Gen Aiortc.Sctp.Wire

/-- The wire-visible (immutable) fields of an outbound DATA chunk fit their `struct.pack` formats. -/
def SChunk.Wire (c : SChunk) : Prop :=
  c.flags < 256 ∧ 0 ≤ c.tsn ∧ c.tsn < 4294967296 ∧ c.sid < 65536 ∧ 0 ≤ c.ssn ∧ c.ssn < 65536 ∧
  c.ppid < 4294967296 ∧ 16 + c.data.length < 65536

/-- The chunk is not subject to partial reliability (never abandoned, so no FORWARD-TSN is ever built). -/
def SChunk.Rel (c : SChunk) : Prop :=
  c.expiry = none ∧ c.maxRetransmits = none ∧ c.abandoned = false

def RChunk.Wire (c : RChunk) : Prop :=
  c.flags < 256 ∧ 0 ≤ c.tsn ∧ c.tsn < 4294967296 ∧ c.sid < 65536 ∧ 0 ≤ c.ssn ∧ c.ssn < 65536 ∧
  c.ppid < 4294967296 ∧ 16 + c.data.length < 65536

/-- What `playTx` can serialise. (`fwd` never occurs while no chunk is abandonable.) -/
def TxEv.Ok : TxEv → Prop
  | .data c => c.Wire
  | .fwd _ _ => False
  | .t3start => True
  | .t3cancel => True

structure TxOk (t : Tx) : Prop where
  sent : ∀ c ∈ t.sentQ, c.Wire ∧ c.Rel
  out : ∀ c ∈ t.outQ, c.Wire ∧ c.Rel
  fwd : t.forwardTsn = none
  fwdN : t.forwardNeeded = false
  seq : ∀ p ∈ t.streamSeq, 0 ≤ p.2 ∧ p.2 < 65536
  tsn : 0 ≤ t.localTsn ∧ t.localTsn < 4294967296

/-- Addressing and the fields copied into INIT / INIT-ACK. -/
structure NetOk (lp : Nat) (rp : Option Nat) (rtag ltag inMax outCnt : Nat) : Prop where
  lp : lp < 65536
  rp : ∃ p, rp = some p ∧ p < 65536
  rtag : rtag < 4294967296
  ltag : ltag < 4294967296
  inMax : inMax < 65536
  outCnt : outCnt < 65536

def Chan.Reliable (c : Chan) : Prop := c.maxRetransmits = none ∧ c.maxPacketLifeTime = none

structure ChansOk (chans : List Chan) (dcs : List (Nat × Nat)) (q : List (Nat × Nat × Bytes))
    (rcq : List Nat) : Prop where
  dcIdx : ∀ p ∈ dcs, p.2 < chans.length
  dcKeys : (dcs.map (·.1)).Nodup
  qIdx : ∀ x ∈ q, x.1 < chans.length
  /-- no queued message waits for a stream id -/
  qId : ∀ x ∈ q, ∀ c, chans[x.1]? = some c → c.id.isSome
  /-- queued user messages belong to reliable channels -/
  qRel : ∀ x ∈ q, ∀ c, chans[x.1]? = some c → x.2.1 = WEBRTC_DCEP ∨ c.Reliable
  qPpid : ∀ x ∈ q, x.2.1 < 4294967296
  sid : ∀ c ∈ chans, ∀ s, c.id = some s → s < 65536
  rcq : ∀ s ∈ rcq, s < 65536

def InRange32 (x : Int) : Prop := 0 ≤ x ∧ x < 4294967296

theorem inRange32_ofNat {n : Nat} (h : n < 4294967296) : InRange32 (n : Int) := ⟨by omega, by omega⟩

def reasmBytes (ins : List (Nat × InStream)) : Nat :=
  (ins.map fun p => (p.2.reasm.map (·.data.length)).sum).sum

structure RxOk (rx : Option Rx) : Prop where
  rng : ∀ r, rx = some r → InRange32 r.last ∧ (∀ x ∈ r.mis, InRange32 x) ∧ (∀ x ∈ r.dups, InRange32 x)

/-- Receive window accounting: `_advertised_rwnd` plus everything held in the reassembly queues (plus `k` bytes
popped but not yet handed over) never exceeds the initial window, so `max(0, rwnd)` always fits 32 bits. -/
structure Acc (k : Int) (rwnd : Int) (ins : List (Nat × InStream)) : Prop where
  acc : rwnd + reasmBytes ins + k ≤ 1048576
  keys : (ins.map (·.1)).Nodup

structure WF (e : Ep) : Prop where
  net : NetOk e.localPort e.remotePort e.remoteTag e.localTag e.inboundMax e.outboundCount
  ch : ChansOk e.chans e.dataChannels e.dcQueue e.reconfigQueue
  tx : TxOk e.tx
  rx : RxOk e.rx
  rcReq : InRange32 e.reconfigRequestSeq
  rcResp : InRange32 e.reconfigResponseSeq
  /-- `_send_sack` reads `_last_received_tsn` -/
  sack : e.sackNeeded = true → e.rx.isSome
  /-- no application handler that re-enters the API is armed (**NoReact**): such a handler may `send()` on a partially
  reliable channel opened by the peer, which `ChansOk.qRel` rules out; the general case is `Aiortc.Sctp.V2.WF` -/
  nr : e.reactions = []

/-- The exceptions aiortc raises on the receive path without `fixes/C05a-duplicate-tsn-in-reassembly.patch` and
`fixes/C05a-reset-response-after-abort.patch`: `AssertionError` from `InboundStream.add_chunk` (duplicate TSN in the
reassembly queue after a TSN wrap) and `KeyError` from `_data_channel_closed` (stream reset response after the
association was re-opened).  The model has both patches applied and raises neither
(`Props.C05Sctp.rx_never_crashes_proved`). -/
def Known : String → Prop := fun k => k = "AssertionError" ∨ k = "KeyError"

/-! ## frames and preservation under the elementary updates -/

/-- The static attributes of a channel object (everything the invariant reads). -/
def Chan.Same (c c' : Chan) : Prop :=
  c'.id = c.id ∧ c'.maxRetransmits = c.maxRetransmits ∧ c'.maxPacketLifeTime = c.maxPacketLifeTime

theorem Chan.Same.rfl' (c : Chan) : Chan.Same c c := ⟨rfl, rfl, rfl⟩

theorem ChansOk.set {chans dcs q rcq} (h : ChansOk chans dcs q rcq) {i : Nat} {c c' : Chan}
    (hi : chans[i]? = some c) (hs : Chan.Same c c') : ChansOk (chans.set i c') dcs q rcq := by
  obtain ⟨h1, h2, h3⟩ := hs
  obtain ⟨hlt, -⟩ := List.getElem?_eq_some_iff.mp hi
  refine ⟨?_, h.dcKeys, ?_, ?_, ?_, h.qPpid, ?_, h.rcq⟩
  · intro p hp; simpa using h.dcIdx p hp
  · intro x hx; simpa using h.qIdx x hx
  · intro x hx d hd
    rw [List.getElem?_set] at hd
    split at hd
    · rename_i heq
      simp only [Option.some.injEq] at hd
      subst hd; rw [h1]; exact h.qId x hx c (heq ▸ hi)
    · exact h.qId x hx d hd
  · intro x hx d hd
    rw [List.getElem?_set] at hd
    split at hd
    · rename_i heq
      simp only [Option.some.injEq] at hd
      subst hd
      rcases h.qRel x hx c (heq ▸ hi) with h' | h'
      · exact Or.inl h'
      · exact Or.inr ⟨h2 ▸ h'.1, h3 ▸ h'.2⟩
    · exact h.qRel x hx d hd
  · intro d hd s hs
    rcases List.mem_or_eq_of_mem_set hd with hd | rfl
    · exact h.sid d hd s hs
    · exact h.sid c (List.mem_of_getElem? hi) s (h1 ▸ hs)

/-- `e'` differs from `e` at most in the channel objects, the stream table, the channel queue, the send side and
the stream reset bookkeeping (`_data_channel_flush` ends with `_transmit_reconfig`), and no channel object
disappeared.  (What the data plane helpers may touch.) -/
def DataFrame (e e' : Ep) : Prop :=
  ∃ cs dcs q tx rq rr rs rt,
    e' = { e with chans := cs, dataChannels := dcs, dcQueue := q, tx := tx, reconfigQueue := rq,
                  reconfigRequest := rr, reconfigRequestSeq := rs, rcTimer := rt } ∧
    e.chans.length ≤ cs.length

theorem DataFrame.refl (e : Ep) : DataFrame e e :=
  ⟨e.chans, e.dataChannels, e.dcQueue, e.tx, e.reconfigQueue, e.reconfigRequest, e.reconfigRequestSeq, e.rcTimer,
   rfl, Nat.le_refl _⟩

theorem DataFrame.rwnd {e e' : Ep} (h : DataFrame e e') : e'.rwnd = e.rwnd := by
  obtain ⟨cs, dcs, q, tx, rq, rr, rs, rt, rfl, _⟩ := h; rfl
theorem DataFrame.ins {e e' : Ep} (h : DataFrame e e') : e'.inStreams = e.inStreams := by
  obtain ⟨cs, dcs, q, tx, rq, rr, rs, rt, rfl, _⟩ := h; rfl
theorem DataFrame.assoc {e e' : Ep} (h : DataFrame e e') : e'.assoc = e.assoc := by
  obtain ⟨cs, dcs, q, tx, rq, rr, rs, rt, rfl, _⟩ := h; rfl
theorem DataFrame.len {e e' : Ep} (h : DataFrame e e') : e.chans.length ≤ e'.chans.length := by
  obtain ⟨cs, dcs, q, tx, rq, rr, rs, rt, rfl, hl⟩ := h; exact hl

/-- What an application handler (hence `_setReadyState`, `_addBufferedAmount`) may change: the channel objects (their
number stays), the channel queue, the task queue and the armed handlers. -/
def RFrame (e e' : Ep) : Prop :=
  ∃ cs q ts rs, e' = { e with chans := cs, dcQueue := q, tasks := ts, reactions := rs } ∧
    cs.length = e.chans.length

theorem RFrame.refl (e : Ep) : RFrame e e := ⟨e.chans, e.dcQueue, e.tasks, e.reactions, rfl, rfl⟩

theorem RFrame.trans {a b c : Ep} (h1 : RFrame a b) (h2 : RFrame b c) : RFrame a c := by
  obtain ⟨cs, q, ts, rs, rfl, hl⟩ := h1
  obtain ⟨cs', q', ts', rs', rfl, hl'⟩ := h2
  exact ⟨cs', q', ts', rs', rfl, hl'.trans hl⟩

theorem RFrame.rwnd {e e' : Ep} (h : RFrame e e') : e'.rwnd = e.rwnd := by
  obtain ⟨_, _, _, _, rfl, _⟩ := h; rfl
theorem RFrame.ins {e e' : Ep} (h : RFrame e e') : e'.inStreams = e.inStreams := by
  obtain ⟨_, _, _, _, rfl, _⟩ := h; rfl
theorem RFrame.assoc {e e' : Ep} (h : RFrame e e') : e'.assoc = e.assoc := by
  obtain ⟨_, _, _, _, rfl, _⟩ := h; rfl
theorem RFrame.dcs {e e' : Ep} (h : RFrame e e') : e'.dataChannels = e.dataChannels := by
  obtain ⟨_, _, _, _, rfl, _⟩ := h; rfl
theorem RFrame.len {e e' : Ep} (h : RFrame e e') : e'.chans.length = e.chans.length := by
  obtain ⟨_, _, _, _, rfl, hl⟩ := h; exact hl

/-- Receive window and inbound streams are those of `e`: all that `Acc` and `SidOk` read (`Cont.of_acc`). -/
def RxKept (e e' : Ep) : Prop := e'.rwnd = e.rwnd ∧ e'.inStreams = e.inStreams

theorem RxKept.refl (e : Ep) : RxKept e e := ⟨rfl, rfl⟩

theorem RxKept.trans {a b c : Ep} (h1 : RxKept a b) (h2 : RxKept b c) : RxKept a c :=
  ⟨h2.1.trans h1.1, h2.2.trans h1.2⟩

/-- What every frame of this file (`DataFrame`, `RFrame`, `V2.DFrame`) leaves alone, as far as a caller of the data
plane needs it: the receive side, the association state, and no channel object disappears. A handler specified with
`Cont DataKept` tells its caller nothing about any other field: state it with its exact frame where it has one and weaken
with `.mono ….kept` at the call. -/
structure DataKept (e e' : Ep) : Prop where
  rwnd : e'.rwnd = e.rwnd
  ins : e'.inStreams = e.inStreams
  assoc : e'.assoc = e.assoc
  len : e.chans.length ≤ e'.chans.length

theorem DataKept.refl (e : Ep) : DataKept e e := ⟨rfl, rfl, rfl, Nat.le_refl _⟩

theorem DataKept.trans {a b c : Ep} (h1 : DataKept a b) (h2 : DataKept b c) : DataKept a c :=
  ⟨h2.rwnd.trans h1.rwnd, h2.ins.trans h1.ins, h2.assoc.trans h1.assoc, Nat.le_trans h1.len h2.len⟩

theorem DataKept.rx {e e' : Ep} (h : DataKept e e') : RxKept e e' := ⟨h.rwnd, h.ins⟩

theorem DataFrame.kept {e e' : Ep} (h : DataFrame e e') : DataKept e e' := ⟨h.rwnd, h.ins, h.assoc, h.len⟩

theorem RFrame.kept {e e' : Ep} (h : RFrame e e') : DataKept e e' := ⟨h.rwnd, h.ins, h.assoc, Nat.le_of_eq h.len.symm⟩

namespace V2

/-- `Aiortc.Sctp.DataFrame` plus the task queue and the armed handlers: the join of `DataFrame` and `RFrame`, what the
loop of `_data_channel_flush` (with the application's handlers running inside it) may change. -/
def DFrame (e e' : Ep) : Prop :=
  ∃ cs dcs q tx rq rr rs rt ts re,
    e' = { e with chans := cs, dataChannels := dcs, dcQueue := q, tx := tx, reconfigQueue := rq,
                  reconfigRequest := rr, reconfigRequestSeq := rs, rcTimer := rt, tasks := ts, reactions := re } ∧
    e.chans.length ≤ cs.length

theorem DFrame.rwnd {e e' : Ep} (h : DFrame e e') : e'.rwnd = e.rwnd := by
  obtain ⟨_, _, _, _, _, _, _, _, _, _, rfl, _⟩ := h; rfl
theorem DFrame.ins {e e' : Ep} (h : DFrame e e') : e'.inStreams = e.inStreams := by
  obtain ⟨_, _, _, _, _, _, _, _, _, _, rfl, _⟩ := h; rfl
theorem DFrame.len {e e' : Ep} (h : DFrame e e') : e.chans.length ≤ e'.chans.length := by
  obtain ⟨_, _, _, _, _, _, _, _, _, _, rfl, hl⟩ := h; exact hl
theorem DFrame.assoc {e e' : Ep} (h : DFrame e e') : e'.assoc = e.assoc := by
  obtain ⟨_, _, _, _, _, _, _, _, _, _, rfl, _⟩ := h; rfl
theorem DFrame.rx {e e' : Ep} (h : DFrame e e') : e'.rx = e.rx := by
  obtain ⟨_, _, _, _, _, _, _, _, _, _, rfl, _⟩ := h; rfl
theorem DFrame.sackNeeded {e e' : Ep} (h : DFrame e e') : e'.sackNeeded = e.sackNeeded := by
  obtain ⟨_, _, _, _, _, _, _, _, _, _, rfl, _⟩ := h; rfl

theorem DFrame.refl (e : Ep) : DFrame e e := ⟨_, _, _, _, _, _, _, _, _, _, rfl, Nat.le_refl _⟩

theorem DFrame.trans {a b c : Ep} (h1 : DFrame a b) (h2 : DFrame b c) : DFrame a c := by
  obtain ⟨_, _, _, _, _, _, _, _, _, _, rfl, hl⟩ := h1
  obtain ⟨_, _, _, _, _, _, _, _, _, _, rfl, hl'⟩ := h2
  exact ⟨_, _, _, _, _, _, _, _, _, _, rfl, Nat.le_trans hl hl'⟩

theorem DFrame.kept {e e' : Ep} (h : DFrame e e') : DataKept e e' := ⟨h.rwnd, h.ins, h.assoc, h.len⟩

theorem DFrame.of_rframe {e e' : Ep} (h : RFrame e e') : DFrame e e' := by
  obtain ⟨_, _, _, _, rfl, hl⟩ := h
  exact ⟨_, _, _, _, _, _, _, _, _, _, rfl, Nat.le_of_eq hl.symm⟩

end V2

/-- What is left to prove once a handler specification is applied (its continuation): `Q` in every state in which the
invariant `I` holds again and that is `F`-related to the state `e` the handler started in. `F` is one of the frames above. -/
abbrev Cont (F : Ep → Ep → Prop) (I : Ep → Prop) (e : Ep) (Q : Unit → St → Prop) : Prop :=
  ∀ e' l', I e' → F e e' → Q () (e', l')

section
variable {F G : Ep → Ep → Prop} {I : Ep → Prop} {e e1 : Ep} {Q : Unit → St → Prop}

/-- a continuation for a weaker frame serves a handler that keeps more -/
theorem Cont.mono (hq : Cont G I e Q) (hF : ∀ {e'}, F e e' → G e e') : Cont F I e Q :=
  fun e' l' h k => hq e' l' h (hF k)

theorem Cont.here (hq : Cont F I e Q) (hr : F e e) (h : I e) (l : List Out) : Q () (e, l) := hq e l h hr

/-- the continuation for the rest of a handler, after a first part that ended in `e1` -/
theorem Cont.trans (hq : Cont F I e Q) (htr : ∀ {c}, F e e1 → F e1 c → F e c) (k : F e e1) : Cont F I e1 Q :=
  fun e' l' h k' => hq e' l' h (htr k k')

end

def WF.reads (e : Ep) :=
  (e.localPort, e.remotePort, e.remoteTag, e.localTag, e.inboundMax, e.outboundCount, e.chans, e.dataChannels,
   e.dcQueue, e.reconfigQueue, e.tx, e.rx, e.reconfigRequestSeq, e.reconfigResponseSeq, e.sackNeeded, e.reactions)

/-- `WF` does not read the other fields: `h.congr rfl` after an update of those. -/
theorem WF.congr {e e' : Ep} (h : WF e) (he : WF.reads e' = WF.reads e) : WF e' := by
  simp only [WF.reads, Prod.mk.injEq] at he
  obtain ⟨h1, h2, h3, h4, h5, h6, h7, h8, h9, h10, h11, h12, h13, h14, h15, h16⟩ := he
  refine ⟨?_, ?_, ?_, ?_, ?_, ?_, ?_, ?_⟩
  · rw [h1, h2, h3, h4, h5, h6]; exact h.net
  · rw [h7, h8, h9, h10]; exact h.ch
  · rw [h11]; exact h.tx
  · rw [h12]; exact h.rx
  · rw [h13]; exact h.rcReq
  · rw [h14]; exact h.rcResp
  · rw [h15, h12]; exact h.sack
  · rw [h16]; exact h.nr

theorem WF.setChan {e : Ep} (h : WF e) {i : Nat} {c c' : Chan} (hi : e.chans[i]? = some c) (hs : Chan.Same c c') :
    WF { e with chans := e.chans.set i c' } :=
  { h with ch := h.ch.set hi hs }

theorem WF.setTx {e : Ep} (h : WF e) {tx : Tx} (ht : TxOk tx) : WF { e with tx := tx } :=
  { h with tx := ht }

end Aiortc.Sctp
