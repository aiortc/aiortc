import Aiortc.Lemmas.SctpEndpoint.Wp
/-!
# `wp A m Q`: weakest precondition for "returns with `Q`, or throws a tolerated exception"

`wp A m Q s`: started in `s = (endpoint, outputs so far)`, the action `m` either returns `a` in a state `s'`
with `Q a s'`, or throws an exception `k` with `A k` (`A` = the set of exceptions we tolerate; `NoExc` = none).
It is `WP` (`Lemmas/SctpEndpoint/Wp.lean`) for the postcondition `post A Q` (`wp_iff_WP`): `wp_bind`, `wp_mono`, `wp_weaken` are
the rules of `WP` read through that equivalence; the rules for the primitives hold by computation.
Assertions used with it only look at `s.1` (the endpoint), the output log is carried along untouched.

The specification of a model function `X` is stated in continuation form, for an arbitrary postcondition `Q`:
`wp_X : I e → … → (hq : ∀ e' l', I e' → <what X leaves unchanged> → Q () (e', l')) → wp A X Q (e, l)`,
so that a caller applies it with `refine wp_X h … ?_` and goes on under `intro e' l' h' …`; `hq` is abbreviated
`Cont F I e Q` (`SctpInv.lean`), `F` the frame.
-/
namespace Aiortc.Sctp
open Aiortc.Gen Aiortc.Sctp.Wire

def wp {α} (A : String → Prop) (m : M α) (Q : α → St → Prop) (s : St) : Prop :=
  match m.run.run s with
  | (.ok a, s') => Q a s'
  | (.error k, _) => A k

def NoExc : String → Prop := fun _ => False

/-- the postcondition of `WP` that `wp A · Q` stands for -/
def post {α} (A : String → Prop) (Q : α → St → Prop) : Except String α → St → Prop
  | .ok a, s' => Q a s'
  | .error k, _ => A k

theorem wp_iff_WP {α} {A : String → Prop} {m : M α} {Q : α → St → Prop} {s : St} :
    wp A m Q s ↔ WP m (post A Q) s := by
  rw [WP.def]
  unfold wp run
  cases m.run.run s with
  | mk r s' => cases r <;> rfl

theorem wp_mono {α} {A : String → Prop} {m : M α} {R Q : α → St → Prop} {s : St}
    (h : wp A m R s) (hq : ∀ a s', R a s' → Q a s') : wp A m Q s :=
  wp_iff_WP.2 ((wp_iff_WP.1 h).mono fun r _ => match r with | .ok _ => hq _ _ | .error _ => id)

theorem wp_weaken {α} {A B : String → Prop} {m : M α} {Q : α → St → Prop} {s : St}
    (h : wp A m Q s) (hab : ∀ k, A k → B k) : wp B m Q s :=
  wp_iff_WP.2 ((wp_iff_WP.1 h).mono fun r _ => match r with | .ok _ => id | .error _ => hab _)

@[simp] theorem wp_pure {α} (A) (a : α) (Q : α → St → Prop) (s : St) : wp A (pure a) Q s ↔ Q a s := Iff.rfl

@[simp] theorem wp_bind {α β} (A) (m : M α) (f : α → M β) (Q : β → St → Prop) (s : St) :
    wp A (m >>= f) Q s ↔ wp A m (fun a s' => wp A (f a) Q s') s := by
  rw [wp_iff_WP, wp_iff_WP, WP_bind]
  refine iff_of_eq (congrArg (WP m · s) ?_)
  funext r s'
  cases r <;> simp only [post, wp_iff_WP]

@[simp] theorem wp_map {α β} (A) (g : α → β) (m : M α) (Q : β → St → Prop) (s : St) :
    wp A (g <$> m) Q s ↔ wp A m (fun a s' => Q (g a) s') s := by
  rw [map_eq_pure_bind, wp_bind]
  simp only [wp_pure]

@[simp] theorem wp_throw {α} (A) (k : String) (Q : α → St → Prop) (s : St) :
    wp A (throw k : M α) Q s ↔ A k := Iff.rfl

@[simp] theorem wp_crash {α} (A) (k : String) (Q : α → St → Prop) (s : St) :
    wp A (crash k : M α) Q s ↔ A k := Iff.rfl

@[simp] theorem wp_getE (A) (Q : Ep → St → Prop) (s : St) : wp A getE Q s ↔ Q s.1 s := Iff.rfl

@[simp] theorem wp_setE (A) (e : Ep) (Q : Unit → St → Prop) (s : St) : wp A (setE e) Q s ↔ Q () (e, s.2) := Iff.rfl

@[simp] theorem wp_modE (A) (f : Ep → Ep) (Q : Unit → St → Prop) (s : St) :
    wp A (modE f) Q s ↔ Q () (f s.1, s.2) := Iff.rfl

@[simp] theorem wp_emit (A) (o : Out) (Q : Unit → St → Prop) (s : St) :
    wp A (emit o) Q s ↔ Q () (s.1, s.2 ++ [o]) := Iff.rfl

theorem wp_ite {α} (A) (c : Prop) [Decidable c] (a b : M α) (Q : α → St → Prop) (s : St) :
    wp A (if c then a else b) Q s ↔ (c → wp A a Q s) ∧ (¬c → wp A b Q s) := by
  split <;> simp_all

/-- The head `if` of a handler is taken apart with this rule: `split` would rewrite the whole continuation. -/
theorem wp.ite {α} {A} {c : Prop} [Decidable c] {a b : M α} {Q : α → St → Prop} {s : St}
    (ht : c → wp A a Q s) (he : ¬c → wp A b Q s) : wp A (if c then a else b) Q s :=
  (wp_ite ..).mpr ⟨ht, he⟩

@[simp] theorem wp_liftO_ok {α} (A) (a : α) (Q : α → St → Prop) (s : St) : wp A (liftO (.ok a)) Q s ↔ Q a s := Iff.rfl

/-- `for x in l do body` with a unit loop state: invariant indexed by the not yet visited suffix. -/
theorem wp_forIn {β} (A) (l : List β) (f : β → PUnit → M (ForInStep PUnit)) (Q : PUnit → St → Prop)
    (I : List β → St → Prop) (s : St)
    (h0 : I l s)
    (hstep : ∀ x rest s, I (x :: rest) s → wp A (f x ⟨⟩) (fun r s' => r = .yield ⟨⟩ ∧ I rest s') s)
    (hend : ∀ s', I [] s' → Q ⟨⟩ s') : wp A (forIn l ⟨⟩ f) Q s := by
  induction l generalizing s with
  | nil => simpa using hend s h0
  | cons x rest ih =>
    rw [List.forIn_cons]
    rw [wp_bind]
    refine wp_mono (hstep x rest s h0) ?_
    intro r s' ⟨hr, hI⟩
    subst hr
    exact ih s' hI

end Aiortc.Sctp
