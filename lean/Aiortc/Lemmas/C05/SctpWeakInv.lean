import Aiortc.Lemmas.C05.SctpInv
import Aiortc.Lemmas.C06.SctpAbandonWire
/-!
# The invariant `V2.WF` of the SCTP endpoint automaton: partial reliability and pending stream ids allowed

See notes/C05c.md.

`Aiortc.Sctp.WF` (`Lemmas/C05/SctpInv.lean`) demands that every queued message's channel already has a stream id
(`ChansOk.qId`) and that nothing partially reliable is queued for sending (`ChansOk.qRel`, `TxOk.sent` / `.out`).
`Aiortc.Sctp.V2.WF U e` has neither clause; it has

* a PR discipline relative to a set `U` of stream ids (`U.length ≤ 16381`; `send()` and armed handlers may enlarge it,
  `WF.monoU`, so the invariant proper is `WFx B`, which hides `U` and keeps a budget `B` for its growth): a chunk /
  queued message that is subject to partial reliability belongs to a stream in `U`; the streams a FORWARD-TSN lists
  are distinct members of `U`, so the chunk fits its 16-bit length (`4 + 4·n + 4 < 65536 ⇔ n ≤ 16381`);
* the structural facts `_maybe_abandon` relies on: adjacent chunks of `sent_queue ++ outbound_queue` either belong
  to the same stream or are a message boundary (E then B), and the last queued chunk ends a message;
* no capacity clause for stream ids: `_data_channel_flush` closes a channel that cannot get one (every id of the
  local parity below 65536 is taken).

The names shadow those of `Aiortc.Sctp` inside the namespace `Aiortc.Sctp.V2`: there `WF`, `TxOk`, `ChansOk`, `TaskOk` are the ones
defined here; in the `Props` files, which open `Aiortc.Sctp` only, the unqualified names are the ones of `SctpInv`.
-/
namespace Aiortc.Sctp.V2
open Aiortc.Gen Aiortc.Sctp.Wire

/-! ## send side -/

def Good (U : List Nat) (c : SChunk) : Prop := c.Wire ∧ (c.Rel ∨ c.sid ∈ U)

/-- Two neighbours of `sent_queue ++ outbound_queue`: a message boundary, or fragments on the same stream. -/
def Link (x y : RChunk) : Prop := (flagE x.flags = true ∧ flagB y.flags = true) ∨ x.sid = y.sid

def Chain : List RChunk → Prop
  | [] => True
  | [_] => True
  | x :: y :: r => Link x y ∧ Chain (y :: r)

def LastE (l : List RChunk) : Prop := ∀ x, l.getLast? = some x → flagE x.flags = true

/-- A `_forward_tsn_streams` dict: distinct streams of `U`, 16-bit ids and sequence numbers. -/
def FsOk (U : List Nat) (s : List (Nat × Int)) : Prop :=
  (s.map (·.1)).Nodup ∧ ∀ p ∈ s, p.1 ∈ U ∧ p.1 < 65536 ∧ 0 ≤ p.2 ∧ p.2 < 65536

/-- What `playTx` can serialise. -/
def TxEv.Ok (U : List Nat) : TxEv → Prop
  | .data c => c.Wire
  | .fwd cum streams => InRange32 cum ∧ FsOk U streams
  | .t3start => True
  | .t3cancel => True

structure TxOk (U : List Nat) (t : Tx) : Prop where
  sent : ∀ c ∈ t.sentQ, Good U c
  out : ∀ c ∈ t.outQ, Good U c
  chain : Chain (wire (t.sentQ ++ t.outQ))
  lastE : LastE (wire (t.sentQ ++ t.outQ))
  fs : FsOk U t.forwardStreams
  fwd : ∀ cum streams, t.forwardTsn = some (cum, streams) → InRange32 cum ∧ FsOk U streams
  adv : t.forwardNeeded = true → InRange32 t.advAck
  seq : ∀ p ∈ t.streamSeq, 0 ≤ p.2 ∧ p.2 < 65536
  tsn : 0 ≤ t.localTsn ∧ t.localTsn < 4294967296

/-- `TxOk` only reads these fields. -/
theorem TxOk.congr {U : List Nat} {t t' : Tx} (h : TxOk U t) (he : t'.reads = t.reads) : TxOk U t' := by
  simp only [Tx.reads, Prod.mk.injEq] at he
  obtain ⟨h1, h2, h3, h4, h5, h6, h7, h8⟩ := he
  refine ⟨?_, ?_, ?_, ?_, ?_, ?_, ?_, ?_, ?_⟩
  · rw [h1]; exact h.sent
  · rw [h2]; exact h.out
  · rw [h1, h2]; exact h.chain
  · rw [h1, h2]; exact h.lastE
  · rw [h3]; exact h.fs
  · rw [h4]; exact h.fwd
  · rw [h5, h6]; exact h.adv
  · rw [h7]; exact h.seq
  · rw [h8]; exact h.tsn

theorem FsOk.length_le {U : List Nat} {s : List (Nat × Int)} (h : FsOk U s) : s.length ≤ U.length := by
  have := List.Nodup.length_le_of_subset h.1 (l₂ := U) (by
    intro k hk
    obtain ⟨p, hp, rfl⟩ := List.mem_map.mp hk
    exact (h.2 p hp).1)
  simpa using this

/-! ## data channels -/

/-- Data channel bookkeeping (`qPR` in place of the clauses `qId`, `qRel` of `Aiortc.Sctp.ChansOk`; `dcLink` and `openId`
are additional). -/
structure ChansOk (U : List Nat) (chans : List Chan) (dcs : List (Nat × Nat)) (q : List (Nat × Nat × Bytes))
    (rcq : List Nat) : Prop where
  dcIdx : ∀ p ∈ dcs, p.2 < chans.length
  dcKeys : (dcs.map (·.1)).Nodup
  qIdx : ∀ x ∈ q, x.1 < chans.length
  /-- a queued user message of a partially reliable channel: the channel has its id, a stream of `U` -/
  qPR : ∀ x ∈ q, ∀ c, chans[x.1]? = some c → x.2.1 = WEBRTC_DCEP ∨ c.Reliable ∨ ∃ s, c.id = some s ∧ s ∈ U
  qPpid : ∀ x ∈ q, x.2.1 < 4294967296
  sid : ∀ c ∈ chans, ∀ s, c.id = some s → s < 65536
  rcq : ∀ s ∈ rcq, s < 65536
  /-- a registered stream id is the id of the channel object it points to -/
  dcLink : ∀ p ∈ dcs, ∃ c, chans[p.2]? = some c ∧ c.id = some p.1
  /-- an OPEN channel (the only kind an application handler can `send()` on) has its stream id, unless it is reliable
  (a channel opens on the DCEP ACK or at its announcement, both looked up by id; negotiated channels have one) -/
  openId : ∀ c ∈ chans, c.ready = 1 → c.Reliable ∨ c.id.isSome

/-- A stored stream reset request can be serialised again (`_reconfig_timer_expired`); 135 = `RECONFIG_MAX_STREAMS`, what
`_transmit_reconfig` takes off the queue at a time. -/
def RcOk (p : Int × Int × Int × List Nat) : Prop :=
  (RcParam.resetOut p.1.toNat p.2.1.toNat p.2.2.1.toNat p.2.2.2).inRange = true ∧ p.2.2.2.length ≤ 135

/-- What a queued task needs to run without raising: a retransmission re-sends something serialisable.
The same predicate as `Aiortc.Sctp.TaskOk` (`SctpTask`), with `RcOk` named; `TaskOk.toSctp` in `SctpWeakTask`. -/
def TaskOk : Task → Prop
  | .resend c => c.inRange = true
  | .resendReconfig p => RcOk p
  | _ => True

structure WF (U : List Nat) (e : Ep) : Prop where
  net : NetOk e.localPort e.remotePort e.remoteTag e.localTag e.inboundMax e.outboundCount
  ch : ChansOk U e.chans e.dataChannels e.dcQueue e.reconfigQueue
  tx : TxOk U e.tx
  rx : RxOk e.rx
  rcReq : InRange32 e.reconfigRequestSeq
  rcResp : InRange32 e.reconfigResponseSeq
  sack : e.sackNeeded = true → e.rx.isSome
  /-- `_data_channel_id` was set by `start()` -/
  ids : ∃ s0, e.dcId = some s0 ∧ s0 ≤ 1
  cap : U.length ≤ 16381
  /-- an armed T1 / T2 timer holds the (serialisable) chunk it retransmits -/
  tm1 : e.t1 = true → ∃ c, e.t1Chunk = some c ∧ c.inRange = true
  tm2 : e.t2 = true → ∃ c, e.t2Chunk = some c ∧ c.inRange = true
  tasks : ∀ t ∈ e.tasks, TaskOk t
  rcr : ∀ p, e.reconfigRequest = some p → RcOk p

/-! ## elementary preservation

An update of one or two fields has a lemma here if more than one handler needs it; what only an instance of the
interfaces (`chanInv_WFx` … `chunkInv_WFx`) needs is written there as a structure update `{ hw with … }`. -/

theorem ChansOk.set {U chans dcs q rcq} (h : ChansOk U chans dcs q rcq) {i : Nat} {c c' : Chan}
    (hi : chans[i]? = some c) (hs : Chan.Same c c')
    (ho : c'.ready = 1 → c.ready = 1 ∨ c.Reliable ∨ c.id.isSome) : ChansOk U (chans.set i c') dcs q rcq := by
  obtain ⟨h1, h2, h3⟩ := hs
  obtain ⟨hlt, -⟩ := List.getElem?_eq_some_iff.mp hi
  refine ⟨?_, h.dcKeys, ?_, ?_, h.qPpid, ?_, h.rcq, ?_, ?_⟩
  · intro p hp; simpa using h.dcIdx p hp
  · intro x hx; simpa using h.qIdx x hx
  · intro x hx d hd
    rw [List.getElem?_set] at hd
    split at hd
    · rename_i heq
      simp only [Option.some.injEq] at hd
      subst hd
      rcases h.qPR x hx c (heq ▸ hi) with h' | h' | ⟨s, hs, hu⟩
      · exact Or.inl h'
      · exact Or.inr (Or.inl ⟨h2 ▸ h'.1, h3 ▸ h'.2⟩)
      · exact Or.inr (Or.inr ⟨s, h1 ▸ hs, hu⟩)
    · exact h.qPR x hx d hd
  · intro d hd s hs
    rcases List.mem_or_eq_of_mem_set hd with hd | rfl
    · exact h.sid d hd s hs
    · exact h.sid c (List.mem_of_getElem? hi) s (h1 ▸ hs)
  · intro p hp
    obtain ⟨d, hd, hid⟩ := h.dcLink p hp
    rw [List.getElem?_set]
    split
    · rename_i heq
      refine ⟨c', by simp [], ?_⟩
      rw [← heq, hi] at hd; cases hd; rw [h1]; exact hid
    · exact ⟨d, hd, hid⟩
  · intro d hd hr
    rcases List.mem_or_eq_of_mem_set hd with hd | rfl
    · exact h.openId d hd hr
    · have hc := h.openId c (List.mem_of_getElem? hi)
      have : c.Reliable ∨ c.id.isSome := by
        rcases ho hr with h' | h'
        · exact hc h'
        · exact h'
      rcases this with h' | h'
      · exact Or.inl ⟨h2 ▸ h'.1, h3 ▸ h'.2⟩
      · exact Or.inr (h1 ▸ h')

theorem WF.setChan {U} {e : Ep} (h : WF U e) {i : Nat} {c c' : Chan} (hi : e.chans[i]? = some c)
    (hs : Chan.Same c c') (ho : c'.ready = 1 → c.ready = 1 ∨ c.Reliable ∨ c.id.isSome) :
    WF U { e with chans := e.chans.set i c' } :=
  { h with ch := h.ch.set hi hs ho }

theorem WF.setTx {U} {e : Ep} (h : WF U e) {tx : Tx} (ht : TxOk U tx) : WF U { e with tx := tx } :=
  { h with tx := ht }

theorem WF.pushTask {U} {e : Ep} (h : WF U e) {t : Task} (ht : TaskOk t) :
    WF U { e with tasks := e.tasks ++ [t] } :=
  { h with tasks := fun x hx => (List.mem_append.mp hx).elim (h.tasks x) fun hx => List.mem_singleton.mp hx ▸ ht }

theorem WF.t1Off {U} {e : Ep} (h : WF U e) (ch : Option Chunk) : WF U { e with t1 := false, t1Chunk := ch } :=
  { h with tm1 := nofun }

theorem WF.t2Off {U} {e : Ep} (h : WF U e) (ch : Option Chunk) : WF U { e with t2 := false, t2Chunk := ch } :=
  { h with tm2 := nofun }

theorem WF.t1On {U} {e : Ep} (h : WF U e) {c : Chunk} (hc : c.inRange = true) :
    WF U { e with t1Chunk := some c, t1Failures := 0, t1 := true } :=
  { h with tm1 := fun _ => ⟨c, rfl, hc⟩ }

theorem WF.t2On {U} {e : Ep} (h : WF U e) {c : Chunk} (hc : c.inRange = true) :
    WF U { e with t2Chunk := some c, t2Failures := 0, t2 := true } :=
  { h with tm2 := fun _ => ⟨c, rfl, hc⟩ }

def WF.reads (e : Ep) :=
  (e.localPort, e.remotePort, e.remoteTag, e.localTag, e.inboundMax, e.outboundCount, e.chans, e.dataChannels,
   e.dcQueue, e.reconfigQueue, e.tx, e.rx, e.reconfigRequestSeq, e.reconfigResponseSeq, e.sackNeeded, e.dcId,
   e.t1, e.t1Chunk, e.t2, e.t2Chunk, e.tasks, e.reconfigRequest)

/-- `WF` does not read the other fields: `h.congr rfl` after an update of those. -/
theorem WF.congr {U} {e e' : Ep} (h : WF U e) (he : WF.reads e' = WF.reads e) : WF U e' := by
  simp only [WF.reads, Prod.mk.injEq] at he
  obtain ⟨h1, h2, h3, h4, h5, h6, h7, h8, h9, h10, h11, h12, h13, h14, h15, h16, h17, h18, h19, h20, h21, h22⟩ := he
  refine ⟨?_, ?_, ?_, ?_, ?_, ?_, ?_, ?_, h.cap, ?_, ?_, ?_, ?_⟩
  · rw [h1, h2, h3, h4, h5, h6]; exact h.net
  · rw [h7, h8, h9, h10]; exact h.ch
  · rw [h11]; exact h.tx
  · rw [h12]; exact h.rx
  · rw [h13]; exact h.rcReq
  · rw [h14]; exact h.rcResp
  · rw [h15, h12]; exact h.sack
  · rw [h16]; exact h.ids
  · rw [h17, h18]; exact h.tm1
  · rw [h19, h20]; exact h.tm2
  · rw [h21]; exact h.tasks
  · rw [h22]; exact h.rcr

/-! ## the set `U` may grow; budget for it -/

theorem Good.monoU {U U' : List Nat} {c : SChunk} (h : Good U c) (hs : ∀ x ∈ U, x ∈ U') : Good U' c :=
  ⟨h.1, h.2.imp id (hs _)⟩

theorem FsOk.monoU {U U' : List Nat} {s : List (Nat × Int)} (h : FsOk U s) (hs : ∀ x ∈ U, x ∈ U') : FsOk U' s :=
  ⟨h.1, fun p hp => ⟨hs _ (h.2 p hp).1, (h.2 p hp).2⟩⟩

theorem TxOk.monoU {U U' : List Nat} {t : Tx} (h : TxOk U t) (hs : ∀ x ∈ U, x ∈ U') : TxOk U' t :=
  ⟨fun c hc => (h.sent c hc).monoU hs, fun c hc => (h.out c hc).monoU hs, h.chain, h.lastE, h.fs.monoU hs,
   fun cum st hf => ⟨(h.fwd cum st hf).1, (h.fwd cum st hf).2.monoU hs⟩, h.adv, h.seq, h.tsn⟩

theorem ChansOk.monoU {U U' chans dcs q rcq} (h : ChansOk U chans dcs q rcq) (hs : ∀ x ∈ U, x ∈ U') :
    ChansOk U' chans dcs q rcq :=
  { h with qPR := fun x hx c hc => (h.qPR x hx c hc).imp id (Or.imp id fun ⟨s, h1, h2⟩ => ⟨s, h1, hs s h2⟩) }

theorem WF.monoU {U U' : List Nat} {e : Ep} (h : WF U e) (hs : ∀ x ∈ U, x ∈ U') (hc : U'.length ≤ 16381) : WF U' e :=
  { h with ch := h.ch.monoU hs, tx := h.tx.monoU hs, cap := hc }

/-- The invariant with its capacity: there is a set `U` of streams for partially reliable user messages such that
`|U|` + the number of armed application handlers (each may send once, possibly on a new partially reliable stream)
+ `B` (what the application may still spend on `send()` / arming handlers) does not exceed 16381, the number of
streams a FORWARD-TSN chunk can list. -/
inductive WFx (B : Nat) (e : Ep) : Prop
  | mk (U : List Nat) (hb : U.length + e.reactions.length + B ≤ 16381) (hw : WF U e)

theorem WFx.congr {B : Nat} {e e' : Ep} (h : WFx B e) (he : WF.reads e' = WF.reads e)
    (hr : e'.reactions = e.reactions) : WFx B e' := by
  obtain ⟨U, hb, hw⟩ := h
  exact ⟨U, by rw [hr]; exact hb, hw.congr he⟩

/-- A state change that keeps `WF` for every `U` and does not touch the armed handlers keeps `WFx`. -/
theorem WFx.map {B : Nat} {e e' : Ep} (h : WFx B e) (f : ∀ U, WF U e → WF U e') (hr : e'.reactions = e.reactions) :
    WFx B e' := by
  obtain ⟨U, hb, hw⟩ := h
  exact ⟨U, by rw [hr]; exact hb, f U hw⟩

theorem WFx.mono {B B' : Nat} {e : Ep} (h : WFx B e) (hb : B' ≤ B) : WFx B' e := by
  obtain ⟨U, h1, h2⟩ := h
  exact ⟨U, by omega, h2⟩

/-- the clock `step` sets before it runs the handler -/
theorem WFx.setNow {B : Nat} {e : Ep} (h : WFx B e) (now : Int) : WFx B { e with now := now } :=
  h.congr rfl rfl

/-- Arming one more application handler takes one unit of the budget. -/
theorem WFx.armed {B : Nat} {e : Ep} (h : WFx (B + 1) e) (r : Nat × Nat × Bool × Bytes) :
    WFx B { e with reactions := e.reactions ++ [r] } := by
  obtain ⟨U, hb, hw⟩ := h
  exact ⟨U, by simp only [List.length_append, List.length_singleton]; omega, hw.congr rfl⟩

end Aiortc.Sctp.V2
