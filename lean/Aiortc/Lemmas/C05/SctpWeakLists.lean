import Aiortc.Lemmas.C05.SctpWeakInv
import Aiortc.Lemmas.SctpTx.Inv
/-!
# Send side under the weaker invariant: list lemmas

`Chain` / `LastE` under append and suffix, bookkeeping updates of chunks (`Bk`), `List.modify`, the
`_forward_tsn_streams` dict, and the frame lemma `TxOk.v2_queues`.
-/
namespace Aiortc.Sctp.V2
open Aiortc.Gen
variable {U : List Nat}

theorem chain_iff : ∀ {l : List RChunk}, Chain l ↔ List.Adjacent Link l
  | [] => Iff.rfl
  | [_] => Iff.rfl
  | _ :: y :: r => and_congr_right fun _ => chain_iff (l := y :: r)

theorem v2_chain_append_right (a b : List RChunk) (h : Chain (a ++ b)) : Chain b :=
  chain_iff.2 (List.adjacent_append.1 (chain_iff.1 h)).2.1

theorem v2_chain_append (a b : List RChunk) (ha : Chain a) (hb : Chain b)
    (hl : ∀ x y, a.getLast? = some x → b.head? = some y → Link x y) : Chain (a ++ b) :=
  chain_iff.2 (List.adjacent_append.2 ⟨chain_iff.1 ha, chain_iff.1 hb, hl⟩)

theorem v2_lastE_append_right (a b : List RChunk) (h : LastE (a ++ b)) : LastE b := by
  intro x hx
  apply h x
  rw [List.getLast?_append, hx]; rfl

theorem v2_lastE_append (a b : List RChunk) (hb : b ≠ []) (h : LastE b) : LastE (a ++ b) := by
  intro x hx
  apply h x
  rw [List.getLast?_append] at hx
  cases hl : b.getLast? with
  | none => exact absurd (List.getLast?_eq_none_iff.1 hl) hb
  | some z => rw [hl] at hx; exact hx

theorem v2_chain_of_sid (s : Nat) : ∀ (l : List RChunk), (∀ c ∈ l, c.sid = s) → Chain l
  | [], _ => trivial
  | [_], _ => trivial
  | x :: y :: r, h =>
    ⟨Or.inr ((h x (by simp)).trans (h y (by simp)).symm),
     v2_chain_of_sid s (y :: r) (fun c hc => h c (List.mem_cons_of_mem _ hc))⟩

theorem v2_wire_of_toR {c c' : SChunk} (h : c'.toR = c.toR) (hw : c.Wire) : c'.Wire := by
  have : RChunk.Wire c'.toR := by rw [h]; exact hw
  exact this

theorem Good.bk {c c' : SChunk} (h : Good U c) (hb : Bk c c') : Good U c' := by
  obtain ⟨h1, h2, h3, h4⟩ := hb
  refine ⟨v2_wire_of_toR h1 h.1, ?_⟩
  rcases h.2 with hr | hu
  · exact Or.inl ⟨h2.trans hr.1, h3.trans hr.2.1, h4.trans hr.2.2⟩
  · right
    have : c'.toR.sid = c.toR.sid := by rw [h1]
    exact (show c'.sid = c.sid from this) ▸ hu

theorem Good.abSent {c : SChunk} (h : Good U c) (hu : c.sid ∈ U) : Good U (abSent c) :=
  ⟨h.1, Or.inr hu⟩

theorem Good.abUnsent {c : SChunk} (h : Good U c) (hu : c.sid ∈ U) : Good U (abUnsent c) :=
  ⟨h.1, Or.inr hu⟩

theorem Good.sid_of_abandoned {c : SChunk} (h : Good U c) (ha : c.abandoned = true) : c.sid ∈ U := by
  rcases h.2 with hr | hu
  · rw [hr.2.2] at ha; cases ha
  · exact hu

theorem v2_wire_cons (c : SChunk) (l : List SChunk) : wire (c :: l) = c.toR :: wire l := rfl

theorem v2_wire_nil : wire [] = [] := rfl

theorem v2_fsOk_nil : FsOk U [] := ⟨by simp, by intro p hp; simp at hp⟩

theorem v2_fsOk_dictSet {s : List (Nat × Int)} (h : FsOk U s) {k : Nat} {v : Int} (hk : k ∈ U) (hk' : k < 65536)
    (hv : 0 ≤ v ∧ v < 65536) : FsOk U (dictSet s k v) :=
  ⟨nodup_keys_dictSet h.1 k v,
   fun p hp => (mem_dictSet _ _ _ _ hp).elim (h.2 p) fun e => e ▸ ⟨hk, hk', hv.1, hv.2⟩⟩

/-- the two queues are replaced by queues of good chunks of which the peer sees a suffix of what it saw -/
theorem TxOk.v2_queues {t : Tx} (h : TxOk U t) {s o : List SChunk} (hs : ∀ c ∈ s, Good U c) (ho : ∀ c ∈ o, Good U c)
    (hw : ∃ a, wire (t.sentQ ++ t.outQ) = a ++ wire (s ++ o)) : TxOk U { t with sentQ := s, outQ := o } := by
  obtain ⟨a, ha⟩ := hw
  exact ⟨hs, ho, v2_chain_append_right a _ (ha ▸ h.chain), v2_lastE_append_right a _ (ha ▸ h.lastE),
    h.fs, h.fwd, h.adv, h.seq, h.tsn⟩

end Aiortc.Sctp.V2
