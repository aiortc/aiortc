import Aiortc.Lemmas.C05.SctpWeakAbandon
import Aiortc.Lemmas.SctpTx.Sack
/-!
# Send side under the weaker invariant: `_t3_expired`, `_receive_sack_chunk`, `_transmit`
-/
namespace Aiortc.Sctp.V2
open Aiortc.Gen
variable {U : List Nat}

theorem txInv_TxOk : TxInv (TxOk U) (TxEv.Ok U) where
  congr := TxOk.congr
  sent {t} _ h hpw :=
    (h.v2_queues (PW.forall (fun _ _ hb hc => hc.bk hb) hpw h.sent) h.out
      ⟨[], by rw [wire_append, wire_append, show wire _ = wire t.sentQ from PW.map_eq SChunk.toR (fun _ _ hb => hb.1) hpw]; rfl⟩).congr rfl
  drop {t} h k :=
    (h.v2_queues (fun c hc => h.sent c (List.mem_of_mem_drop hc)) h.out
      ⟨wire (t.sentQ.take k), by rw [← wire_append, ← List.append_assoc, List.take_append_drop]⟩).congr rfl
  send {t} h k f hf := by
    refine h.v2_queues (fun c hc => ?_) (fun c hc => h.out c (List.mem_of_mem_drop hc)) ⟨[], ?_⟩
    · rcases List.mem_append.1 hc with hc | hc
      · exact h.sent c hc
      · obtain ⟨d, hd, rfl⟩ := List.mem_map.1 hc
        exact (h.out d (List.mem_of_mem_take hd)).bk (hf d)
    · have : wire ((t.outQ.take k).map f) = wire (t.outQ.take k) := by
        simp only [wire, List.map_map]; exact List.map_congr_left fun c _ => (hf c).1
      rw [List.nil_append, List.append_assoc, wire_append, wire_append, wire_append, this, ← wire_append (t.outQ.take k),
        List.take_append_drop]
  abandon h pos now := v2_maybeAbandon_ok _ h pos now
  advAck h := v2_updateAdvAck_ok _ h
  fwdSent h := ⟨h.sent, h.out, h.chain, h.lastE, h.fs, nofun, h.adv, h.seq, h.tsn⟩
  data h hc := ((List.mem_append.1 hc).elim (h.sent _) (h.out _)).1
  fwd h hf := h.fwd _ _ hf
  t3start := trivial
  t3cancel := trivial

theorem Tx.t3Expired_ok (t : Tx) (h : TxOk U t) (now : Int) : TxOk U (t.t3Expired now) := txInv_TxOk.t3Expired h now

theorem Tx.transmit_ok (t : Tx) (h : TxOk U t) : TxOk U t.transmit.1 ∧ ∀ ev ∈ t.transmit.2, TxEv.Ok U ev :=
  txInv_TxOk.transmit h

theorem Tx.receiveSack_ok (t : Tx) (h : TxOk U t) (cum : Int) (gaps : List (Nat × Nat)) (now : Int) :
    ∃ r, t.receiveSack cum gaps now = .ok r ∧
      ∀ t' evs, r = some (t', evs) → TxOk U t' ∧ ∀ ev ∈ evs, TxEv.Ok U ev :=
  txInv_TxOk.receiveSack h cum gaps now

end Aiortc.Sctp.V2
