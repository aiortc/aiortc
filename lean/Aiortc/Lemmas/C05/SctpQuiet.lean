import Aiortc.Lemmas.C05.SctpWpExc
import Aiortc.Lemmas.C13.SctpReact
/-!
# The handlers of the SCTP endpoint never write `Out.crash` to the output log

`Out.crash` is only appended by `step`, after an exception escaped a handler: the log is only touched through `emit`,
and every `emit` in the model has a literal constructor other than `.crash` as its argument.  This is half of the
specification `boundSpec n` of `Lemmas/C13/SctpReact.lean`, which the traversal `pres_handle` proves of every handler;
here it is read off for `handle` and carried over to `step`.
-/
namespace Aiortc.Sctp
open Aiortc.Gen Aiortc.Sctp.Wire

def NoC (l : List Out) : Prop := ∀ o ∈ l, ∀ k, o ≠ Out.crash k

/-- the action never appends an `Out.crash` to the log (whether it returns or throws) -/
def Quiet {α} (m : M α) : Prop := ∀ s : Ep × List Out, NoC s.2 → NoC (m.run.run s).2.2

theorem NoC.append {l : List Out} {o : Out} (hl : NoC l) (ho : ∀ k, o ≠ Out.crash k) : NoC (l ++ [o]) := by
  intro x hx
  rcases List.mem_append.1 hx with h | h
  · exact hl x h
  · rw [List.mem_singleton.1 h]; exact ho

theorem noC_iff_noCrash {l : List Out} : NoC l ↔ NoCrash l :=
  ⟨fun h k hk => h _ hk k rfl, fun h _ ho k e => h k (e ▸ ho)⟩

/-- an action that keeps `boundSpec n` for every `n` (in particular for the number of reactions armed at its start) -/
theorem Quiet.of_pres {α} {m : M α} (h : ∀ n, Pres (boundSpec n) m) : Quiet m := fun s hs =>
  noC_iff_noCrash.2 ((WP.def.1 ((h _).out s (Nat.le_refl _)) fun f => f.elim).2 (noC_iff_noCrash.1 hs))

theorem Quiet.map {α β} (g : α → β) {m : M α} (hm : Quiet m) : Quiet (g <$> m) := by
  intro s hs
  have h := hm s hs
  rw [map_eq_pure_bind]
  show NoC (run (m >>= fun a => pure (g a)) s).2.2
  rw [run_bind]
  change NoC (run m s).2.2 at h
  cases hr : run m s with
  | mk r s' => rw [hr] at h; cases r <;> exact h

theorem now1000_quiet : Quiet now1000 := fun _ h => h

theorem handle_quiet (inp : Input) : Quiet (handle inp) := by
  cases inp with
  | react k i isStr data => exact fun _ h => h
  | _ => exact .of_pres fun n => pres_handle _ (by intro k i b d h; cases h)

/-- `step` appends `Out.crash k` exactly when `k` escapes `handle`, and nothing else in its log is a crash. -/
theorem step_of_wp {e : Ep} {now : Int} {inp : Input} {A : String → Prop} {P : Ep → Prop}
    (hw : wp A (handle inp) (fun _ s' => P s'.1) ({ e with now := now }, [])) :
    (∀ k, Out.crash k ∈ (step e now inp).2 → A k) ∧ (NoCrash (step e now inp).2 → P (step e now inp).1) := by
  refine WP.step (P := fun r => (∀ k, Out.crash k ∈ r.2 → A k) ∧ (NoCrash r.2 → P r.1))
    ((WP.and (wp_iff_WP.1 hw)
      ((WP.def (Q := fun _ s' => NoC s'.2)).2 (handle_quiet inp _ (by intro o ho; cases ho)))).mono ?_)
  intro r s' ⟨h1, h2⟩
  -- what the handler logged holds no crash marker
  have hq : NoCrash s'.2 := noC_iff_noCrash.1 h2
  cases r with
  | ok a => exact ⟨fun k hk => absurd hk (hq k), fun _ => h1⟩
  | error k =>
    refine ⟨fun k' hk' => ?_, fun hno => absurd (List.mem_append.mpr (Or.inr (List.mem_singleton.mpr rfl))) (hno k)⟩
    rcases List.mem_append.mp hk' with hk' | hk'
    · exact absurd hk' (hq k')
    · simp only [List.mem_singleton, Out.crash.injEq] at hk'; subst hk'; exact h1

theorem step_ok {e : Ep} {now : Int} {inp : Input} {P : Ep → Prop}
    (hw : wp NoExc (handle inp) (fun _ s' => P s'.1) ({ e with now := now }, [])) :
    NoCrash (step e now inp).2 ∧ P (step e now inp).1 := by
  obtain ⟨h1, h2⟩ := step_of_wp hw
  have hno : NoCrash (step e now inp).2 := fun k hk => h1 k hk
  exact ⟨hno, h2 hno⟩

end Aiortc.Sctp
