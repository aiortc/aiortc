import Aiortc.Lemmas.C05.SctpWeakData
import Aiortc.Lemmas.C05.SctpCtl
/-! # `V2.WFx B` (`C05/SctpWeakInv`): the control plane

`_set_state`, `_data_channel_close` and `_receive_reconfig_param` are proved in `SctpCtl` for any invariant with
`CtlInv`; here `WFx B` is shown to be one (`ctlInv_WFx`). -/
namespace Aiortc.Sctp.V2
open Aiortc.Gen Aiortc.Sctp.Wire
variable {U : List Nat} {B : Nat}

theorem WFx.pushTask {e : Ep} (h : WFx B e) {t : Task} (ht : TaskOk t) : WFx B { e with tasks := e.tasks ++ [t] } :=
  h.map (fun _ hw => hw.pushTask ht) rfl

theorem WF.popTask {e : Ep} (h : WF U e) {t : Task} {rest : List Task} (ht : e.tasks = t :: rest) :
    WF U { e with tasks := rest } ∧ TaskOk t :=
  ⟨{ h with tasks := fun x hx => h.tasks x (by rw [ht]; simp [hx]) }, h.tasks t (by rw [ht]; simp)⟩

theorem ctlInv_WFx : CtlInv (WFx B) where
  toDataInv := dataInv_WFx
  dcKeys := fun ⟨_, _, hw⟩ => hw.ch.dcKeys
  qIdx := fun ⟨_, _, hw⟩ => hw.ch.qIdx
  sidLt := fun ⟨_, _, hw⟩ => hw.ch.sid
  assoc h _ _ := h.congr rfl rfl
  queued h ht := h.pushTask (by rcases ht with rfl | rfl <;> trivial)
  popTask h ht := h.map (fun _ hw => (hw.popTask ht).1) rfl
  closed h _ _ := h.map (fun U h =>
    { h with ch := { h.ch with rcq := by simp }, tx := h.tx.congr rfl,
             tm1 := nofun, tm2 := nofun, rcr := nofun }) rfl
  subQ h hs _ := h.map (fun _ hw => (hw.subQ hs).congr rfl) rfl
  pushRcq h hs := h.map (fun _ hw => { hw with ch := { hw.ch with rcq := List.forall_mem_snoc hw.ch.rcq hs } }) rfl
  respSeq h hn _ := h.map (fun _ hw => { hw with rcResp := inRange32_ofNat hn }) rfl
  delSeq h _ := h.map (fun _ hw => hw.setTx { hw.tx with seq := fun p hp => hw.tx.seq p (List.mem_filter.mp hp).1 }) rfl
  clearRcr h := h.map (fun _ hw => { hw with rcr := nofun }) rfl
  t3Expired h := (h.map (fun _ hw => hw.setTx (Tx.t3Expired_ok _ hw.tx _)) rfl).pushTask trivial

end Aiortc.Sctp.V2
