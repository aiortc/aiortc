import Aiortc.Lemmas.C05.SctpWeakLists
/-!
# `V2.TxOk U` (the send-side invariant that admits partially reliable traffic on the streams `U`, `SctpWeakInv.lean`) across
`_maybe_abandon` and `_update_advanced_peer_ack_point`

The two fields `abandon` and `advAck` of the `TxInv` instance in `SctpWeakSack.lean`.
-/
namespace Aiortc.Sctp.V2
open Aiortc.Gen
variable {U : List Nat}

/-- neighbours of `sent_queue ++ outbound_queue` inside one message are on one stream -/
theorem Chain.msgConst : ∀ {l : List SChunk}, Chain (wire l) → MsgConst (·.sid) l
  | [], _ => trivial
  | [_], _ => trivial
  | c :: d :: l, h => by
    refine ⟨fun hb => ?_, Chain.msgConst (l := d :: l) h.2⟩
    rcases h.1 with ⟨h1, h2⟩ | h1
    · have h1 : flagE c.flags = true := h1
      have h2 : flagB d.flags = true := h2
      simp [h1, h2] at hb
    · exact h1.symm

/-- a chunk of the message of one that is due to be abandoned is on a stream of `U` -/
theorem AbLink.sid_mem {t : Tx} {now : Int} {c : SChunk} (h : TxOk U t) (hl : AbLink t now c) : c.sid ∈ U := by
  obtain ⟨x, hxs, hx, key⟩ := hl
  rw [show c.sid = x.sid from key (·.sid) (Chain.msgConst h.chain)]
  rcases (h.sent x hxs).2 with hr | hu
  · rw [shouldAbandon_reliable x now hr.2.1 hr.1] at hx; cases hx
  · exact hu

/-- **`_maybe_abandon` keeps the invariant**, at any position. -/
theorem v2_maybeAbandon_ok (t : Tx) (h : TxOk U t) (pos : Nat) (now : Int) : TxOk U (t.maybeAbandon pos now).2 := by
  have hg := maybeAbandon_all t pos now (fun c hl hc => Good.abSent hc (AbLink.sid_mem h hl))
    (fun c hl hc => Good.abUnsent hc (AbLink.sid_mem h hl)) h.sent h.out
  have hw := (maybeAbandon_wire t pos now).1
  rw [maybeAbandon_frame t pos now] at hg hw ⊢
  exact (h.v2_queues hg.1 hg.2 ⟨[], by rw [wire_append, wire_append, ← hw]; rfl⟩).congr rfl

theorem v2_popAbandoned_ok : ∀ (l : List SChunk) (adv : Int) (streams : List (Nat × Int)) (needed : Bool),
    (∀ c ∈ l, Good U c) → FsOk U streams → (needed = true → InRange32 adv) →
    FsOk U (popAbandoned adv streams needed l).2.1 ∧
    ((popAbandoned adv streams needed l).2.2.1 = true → InRange32 (popAbandoned adv streams needed l).1) ∧
    ∃ a, l = a ++ (popAbandoned adv streams needed l).2.2.2 := by
  intro l
  induction l with
  | nil => intro adv streams needed _ hf ha; exact ⟨hf, ha, [], rfl⟩
  | cons c cs ih =>
    intro adv streams needed hl hf ha
    have hgc : Good U c := hl c (by simp)
    unfold popAbandoned
    split
    · rename_i hab
      have hu := hgc.sid_of_abandoned hab
      obtain ⟨_, h0, h1, h2, h3, h4, _⟩ := hgc.1
      have := ih c.tsn (if (!flagU c.flags) = true then dictSet streams c.sid c.ssn else streams) true
        (fun d hd => hl d (List.mem_cons_of_mem _ hd))
        (by split
            · exact v2_fsOk_dictSet hf hu h2 ⟨h3, h4⟩
            · exact hf)
        (fun _ => ⟨h0, h1⟩)
      refine ⟨this.1, this.2.1, ?_⟩
      obtain ⟨a, ha⟩ := this.2.2
      exact ⟨c :: a, by rw [List.cons_append, ← ha]⟩
    · exact ⟨hf, ha, [], rfl⟩

theorem v2_updateAdvAck_ok (t : Tx) (h : TxOk U t) : TxOk U t.updateAdvAck := by
  unfold Tx.updateAdvAck
  dsimp only
  generalize ht1 : (if uint32_gte t.lastSacked t.advAck = true then
      { t with advAck := t.lastSacked, forwardNeeded := false, forwardStreams := [] } else t) = t1
  have h1 : TxOk U t1 ∧ t1.sentQ = t.sentQ ∧ t1.outQ = t.outQ := by
    subst ht1
    split
    · exact ⟨{ h with fs := v2_fsOk_nil, adv := nofun }, rfl, rfl⟩
    · exact ⟨h, rfl, rfl⟩
  clear ht1
  obtain ⟨h1, _, _⟩ := h1
  have hp := v2_popAbandoned_ok t1.sentQ t1.advAck t1.forwardStreams t1.forwardNeeded h1.sent h1.fs h1.adv
  generalize popAbandoned t1.advAck t1.forwardStreams t1.forwardNeeded t1.sentQ = r at hp ⊢
  obtain ⟨adv, streams, needed, sent⟩ := r
  obtain ⟨hfs, hadv, a, ha⟩ := hp
  simp only at hfs hadv ha ⊢
  have hsent : ∀ c ∈ sent, Good U c := fun c hc => h1.sent c (by rw [ha]; simp [hc])
  have hw : wire (t1.sentQ ++ t1.outQ) = wire a ++ wire (sent ++ t1.outQ) := by
    rw [ha, List.append_assoc, wire_append]
  have hch : Chain (wire (sent ++ t1.outQ)) := v2_chain_append_right _ _ (hw ▸ h1.chain)
  have hle : LastE (wire (sent ++ t1.outQ)) := v2_lastE_append_right _ _ (hw ▸ h1.lastE)
  split
  · rename_i hn
    have hn' : needed = true := hn
    exact ⟨hsent, h1.out, hch, hle, hfs, by
      intro cum st he
      simp only [Option.some.injEq, Prod.mk.injEq] at he
      obtain ⟨rfl, rfl⟩ := he
      exact ⟨hadv hn', hfs⟩, hadv, h1.seq, h1.tsn⟩
  · exact ⟨hsent, h1.out, hch, hle, hfs, h1.fwd, hadv, h1.seq, h1.tsn⟩

end Aiortc.Sctp.V2
