import Aiortc.Lemmas.C05.RtpReceiver
import Aiortc.Props.C12
/-! C05 (RTP part): the handlers of `RTCRtpReceiver`, `RTCRtpSender` and `RTCDtlsTransport` around the parsers. -/
namespace Aiortc.Lemmas.RtpDispatch
open Aiortc Aiortc.Gen Aiortc.Rtp Aiortc.Model Aiortc.Model.RtpDispatch

theorem handleRtpCodec_returns (r : Receiver) (hr : RecvInv r) (e0 : List Effect) (codec : Codec) (p : RtpPacket)
    (hp : PktOk p) : (r.handleRtpCodec e0 codec p).Returns fun x => RecvInv x.1 ∧ x.2.2 ≤ 128 := by
  unfold Receiver.handleRtpCodec
  rcases stageRtx_total r codec p hp with hx | ⟨q, c, hx, hq⟩ <;> rw [hx] <;> dsimp only
  · exact .ok ⟨hr, Nat.zero_le _⟩
  · refine (stageNack_returns r hr q hq).on fun ⟨r2, e1, n⟩ ⟨hinv2, hle⟩ => ?_
    dsimp only
    refine Safe.on (safe_ite (safe_ok _) (depayloadFor_safe _ _)) (.ok ⟨hinv2, hle⟩) fun data => ?_
    dsimp only
    exact (stageJitter_returns r2 hinv2 c q hq data).on fun _ hinv3 => .ok ⟨hinv3, hle⟩

/-- `_handle_rtp_packet` never raises (given that the bitrate estimator does not): new state keeps the invariant,
the only loop runs at most 128 times. -/
theorem handleRtp_returns (r : Receiver) (hr : RecvInv r) (p : RtpPacket) (hp : PktOk p) (clock : Int) (remb : Bool) :
    (r.handleRtp p clock (.ok remb)).Returns fun x => RecvInv x.1 ∧ x.2.2 ≤ 128 := by
  unfold Receiver.handleRtp
  split
  · exact .ok ⟨hr, Nat.zero_le _⟩
  · have hrbe : ∃ e0, r.stageRbe p (.ok remb) = .ok e0 := by
      unfold Receiver.stageRbe; split <;> exact ⟨_, rfl⟩
    obtain ⟨e0, he0⟩ := hrbe
    rw [he0]
    simp only
    cases hc : Router.dget p.payloadType r.codecs with
    | none => exact .ok ⟨⟨hr.jb, hr.stats, hr.ts, hr.nack⟩, Nat.zero_le _⟩
    | some codec =>
      simp only
      refine Outcome.Returns.on (Lemmas.Stats.rtp_good r.stats hr.stats (p.ssrc : Int) (p.sequenceNumber : Int)
        (p.timestamp : Int) clock (by have := hp.ssrc; unfold Lemmas.Stats.U32; omega) (by have := hp.seq; omega))
        fun st ⟨hgood, _⟩ => ?_
      exact handleRtpCodec_returns { r with activeSsrc := addKey p.ssrc r.activeSsrc, stats := st }
        ⟨hr.jb, hgood, hr.ts, hr.nack⟩ e0 codec p hp

/-- Receiver-side RTCP never raises and keeps the invariant. -/
theorem recv_handleRtcp_inv (r : Receiver) (hr : RecvInv r) (p : RtcpPacket) : RecvInv (r.handleRtcp p).1 := by
  unfold Receiver.handleRtcp
  split
  · exact ⟨hr.jb, Lemmas.Stats.sr_good r.stats hr.stats _ _, hr.ts, hr.nack⟩
  · exact ⟨hr.jb, hr.stats, hr.ts, hr.nack⟩
  · exact hr

/-- Sender invariant: the RTX sequence number is a 16-bit number (what `RtpPacket.serialize` can pack).
`random_sequence_number()` establishes it, `uint16_add` keeps it. -/
def SenderInv (s : Sender) : Prop := Props.C17.R16 s.rtxSequenceNumber

theorem seqPackable_of_r16 {n : Int} (h : Props.C17.R16 n) : seqPackable n = true := by
  unfold seqPackable
  have h1 := h.1
  have h2 := h.2
  simp only [decide_eq_true_eq]
  omega

/-- `_retransmit` with a bump that stays in the 16-bit range: returns, at most one packet sent, invariant kept. -/
theorem retransmitWith_returns (bump : Int → Int) (hb : ∀ n, Props.C17.R16 n → Props.C17.R16 (bump n))
    (s : Sender) (hs : SenderInv s) (seq : Nat) :
    (s.retransmitWith bump seq).Returns fun x => SenderInv x.1 ∧ x.2.length ≤ 1 := by
  unfold Sender.retransmitWith
  split
  · exact .ok ⟨hs, by simp⟩
  · split
    · split
      · rw [if_pos (seqPackable_of_r16 hs)]
        exact .ok ⟨hb _ hs, by simp⟩
      · exact .ok ⟨hs, by simp⟩
    · exact .ok ⟨hs, by simp⟩

theorem retransmitAllWith_returns (bump : Int → Int) (hb : ∀ n, Props.C17.R16 n → Props.C17.R16 (bump n)) :
    ∀ (lost : List Nat) (s : Sender), SenderInv s →
    (s.retransmitAllWith bump lost).Returns fun x => SenderInv x.1 ∧ x.2.length ≤ lost.length
  | [], _, hs => .ok ⟨hs, Nat.le_refl _⟩
  | a :: rest, s, hs => by
    unfold Sender.retransmitAllWith
    refine (retransmitWith_returns bump hb s hs a).on fun ⟨s1, e1⟩ ⟨hs1, hl1⟩ => ?_
    dsimp only
    refine (retransmitAllWith_returns bump hb rest s1 hs1).on fun ⟨s2, e2⟩ ⟨hs2, hl2⟩ => .ok ⟨hs2, ?_⟩
    simp only [List.length_append, List.length_cons] at hl1 hl2 ⊢; omega

/-- One round of the loop over `packet.lost`, when both parts return. -/
theorem retransmitAllWith_cons_ok {bump : Int → Int} {s s1 s2 : Sender} {seq : Nat} {rest : List Nat}
    {e1 e2 : List Effect} (h1 : s.retransmitWith bump seq = .ok (s1, e1))
    (h2 : s1.retransmitAllWith bump rest = .ok (s2, e2)) :
    s.retransmitAllWith bump (seq :: rest) = .ok (s2, e1 ++ e2) := by
  rw [Sender.retransmitAllWith, h1]
  dsimp only
  rw [h2]

theorem retransmitAll_returns (s : Sender) (hs : SenderInv s) (lost : List Nat) :
    (s.retransmitAll lost).Returns fun x => SenderInv x.1 ∧ x.2.length ≤ lost.length :=
  retransmitAllWith_returns _ (fun n _ => Props.C17.uint16_add_range n 1) lost s hs

/-- `RTCRtpSender._handle_rtcp_packet` never raises on a sender whose RTX sequence number is a 16-bit number: the only
parser it calls (`unpack_remb_fci`) is inside `try … except ValueError` and raises nothing else, and every
retransmitted packet can be serialised. -/
theorem sender_handleRtcp_returns (s : Sender) (hs : SenderInv s) (p : RtcpPacket) :
    (s.handleRtcp p).Returns fun x => SenderInv x.1 := by
  unfold Sender.handleRtcp
  split
  · exact .ok hs
  · exact .ok hs
  · split
    · exact (retransmitAll_returns s hs _).mono fun _ h => h.1
    · exact .ok hs
  · split
    · exact .ok hs
    · split
      · exact (unpackRemb_safe _).on (.ok hs) fun _ => .ok hs
      · exact .ok hs
  · exact .ok hs

def TransportInv (t : Transport) : Prop := (∀ i, RecvInv (t.receivers i)) ∧ ∀ i, SenderInv (t.senders i)

theorem setReceiver_inv {t : Transport} (h : TransportInv t) (i : Nat) (r : Receiver) (hr : RecvInv r) :
    TransportInv (t.setReceiver i r) := by
  refine ⟨?_, fun j => h.2 j⟩
  intro j
  unfold Transport.setReceiver
  simp only
  split
  · exact hr
  · exact h.1 j

theorem setSender_inv {t : Transport} (h : TransportInv t) (i : Nat) (s : Sender) (hs : SenderInv s) :
    TransportInv (t.setSender i s) := by
  refine ⟨fun j => h.1 j, ?_⟩
  intro j
  unfold Transport.setSender
  simp only
  split
  · exact hs
  · exact h.2 j

/-- What the two RTCP loops keep of the transport `t` they started from. -/
def KeepsT (t : Transport) (x : Transport × List Effect) : Prop :=
  TransportInv x.1 ∧ x.1.router = t.router ∧ x.1.ids = t.ids ∧ x.1.hasSrtp = t.hasSrtp

theorem deliverRtcp_returns (p : RtcpPacket) : ∀ (rs : List Router.Recipient) (t : Transport), TransportInv t →
    (deliverRtcp t p rs).Returns (KeepsT t)
  | [], t, ht => .ok ⟨ht, rfl, rfl, rfl⟩
  | .receiver i :: rest, t, ht => by
    unfold deliverRtcp
    simp only
    exact (deliverRtcp_returns p rest _ (setReceiver_inv ht i _ (recv_handleRtcp_inv _ (ht.1 i) p))).on
      fun _ h => .ok ⟨h.1, h.2⟩
  | .sender i :: rest, t, ht => by
    unfold deliverRtcp
    refine (sender_handleRtcp_returns (t.senders i) (ht.2 i) p).on fun ⟨s', e1⟩ hinvs => ?_
    dsimp only
    exact (deliverRtcp_returns p rest _ (setSender_inv ht i s' hinvs)).on fun _ h => .ok ⟨h.1, h.2⟩

theorem rtcpLoop_returns : ∀ (ps : List RtcpPacket) (t : Transport), TransportInv t →
    (rtcpLoop t ps).Returns (KeepsT t)
  | [], t, ht => .ok ⟨ht, rfl, rfl, rfl⟩
  | p :: rest, t, ht => by
    unfold rtcpLoop
    obtain ⟨l, hl⟩ := Props.C12.route_rtcp_never_raises t.router (toRouterRtcp p)
    rw [hl]
    dsimp only
    refine (deliverRtcp_returns p l t ht).on fun ⟨t1, e1⟩ ⟨hinv1, ha, hb, hc⟩ => ?_
    dsimp only
    exact (rtcpLoop_returns rest t1 hinv1).on fun _ ⟨hinv2, ha2, hb2, hc2⟩ =>
      .ok ⟨hinv2, ha2.trans ha, hb2.trans hb, hc2.trans hc⟩

/-- `_handle_rtcp_data` never raises, for ANY byte string. -/
theorem handleRtcpData_returns (t : Transport) (ht : TransportInv t) (data : Bytes) :
    (handleRtcpData t data).Returns fun x => TransportInv x.1 := by
  unfold handleRtcpData
  exact (parseCompound_safe data).on (.ok ht) fun ps => (rtcpLoop_returns ps t ht).mono fun _ h => h.1

/-- `_handle_rtp_data` never raises, for ANY byte string (bitrate estimator permitting). -/
theorem handleRtpData_returns (env : Env) (remb : Bool) (henv : env.rbeOut = .ok remb) (t : Transport)
    (ht : TransportInv t) (data : Bytes) (hb : IsBytes data) :
    (handleRtpData env t data).Returns fun x => TransportInv x.1 ∧ x.2.2 ≤ 128 := by
  unfold handleRtpData
  refine (parse_spec t.ids data).on (.ok ⟨ht, Nat.zero_le _⟩) fun p h => ?_
  dsimp only
  have hp : PktOk p := ⟨(h hb).1, (h hb).2.1, (h hb).2.2⟩
  rcases Router.routeRtp t.router p.ssrc p.payloadType with ⟨router, _ | i⟩ <;> dsimp only
  · exact .ok ⟨⟨fun i => ht.1 i, fun i => ht.2 i⟩, Nat.zero_le _⟩
  · rw [henv]
    refine (handleRtp_returns (t.receivers i) (ht.1 i) p hp env.clock remb).on fun ⟨r', e, n⟩ ⟨hinv, hn⟩ => .ok ⟨?_, hn⟩
    exact setReceiver_inv (t := { t with router := router }) ⟨fun j => ht.1 j, fun j => ht.2 j⟩ i r' hinv

/-- `_recv_next`: demultiplex, unprotect, hand to one of the two handlers above; every other case only counts. -/
theorem recvNext_returns (env : Env) (remb : Bool) (henv : env.rbeOut = .ok remb)
    (hsrtp : ∀ d plain, env.unprotect d = some plain → IsBytes plain)
    (t : Transport) (ht : TransportInv t) (data : Bytes) :
    (recvNext env t data).Returns fun x => TransportInv x.1 ∧ x.2.2 ≤ 128 := by
  unfold recvNext
  dsimp only
  have hc : TransportInv (t.count data) := ⟨fun i => ht.1 i, fun i => ht.2 i⟩
  cases demux (t.count data).hasSrtp data with
  | empty | dtls | ignored => exact .ok ⟨hc, Nat.zero_le _⟩
  | rtcp =>
    dsimp only
    cases env.unprotect data with
    | none => exact .ok ⟨hc, Nat.zero_le _⟩
    | some plain =>
      dsimp only
      exact (handleRtcpData_returns (t.count data) hc plain).on fun _ hinv => .ok ⟨hinv, Nat.zero_le _⟩
  | rtp =>
    dsimp only
    cases hu : env.unprotect data with
    | none => exact .ok ⟨hc, Nat.zero_le _⟩
    | some plain => exact handleRtpData_returns env remb henv (t.count data) hc plain (hsrtp data plain hu)

/-- A datagram whose parse is rejected leaves the transport, the router and every receiver / sender untouched. -/
theorem handleRtpData_rejected (env : Env) (t : Transport) (data : Bytes) (h : Rtp.parse t.ids data = .valueError) :
    handleRtpData env t data = .ok (t, [], 0) := by
  unfold handleRtpData; rw [h]

theorem handleRtcpData_rejected (t : Transport) (data : Bytes) (h : parseCompound data = .valueError) :
    handleRtcpData t data = .ok (t, []) := by
  unfold handleRtcpData; rw [h]

end Aiortc.Lemmas.RtpDispatch
