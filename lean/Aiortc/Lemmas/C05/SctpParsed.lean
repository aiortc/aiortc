import Aiortc.Lemmas.C08.SctpWire
/-!
# The fixed SCTP parsers are total, and what they return for a datagram made of bytes

One traversal per parser, stated as a postcondition (`Outcome.SafeWith`, `Option.Gives`): the parser returns or raises
`ValueError` on EVERY list of numbers (never `struct.error`, never a hang), and IF the input consists of bytes the value
returned is `Wired`. The byte hypothesis sits inside the postcondition because totality does not need it.

Fields read with `unpack` are in the range of their format, parameter lists can be re-encoded
(HEARTBEAT-ACK echoes them, COOKIE-ECHO echoes the state cookie), parameter values are bytes again.
-/
namespace Aiortc.Sctp.Wire
open Aiortc Aiortc.Gen Aiortc.Rtp Outcome

/-- A decoded parameter list: every entry can be packed again, the re-encoding is not longer than a chunk
body can be, and the values are byte strings. -/
def ParamsWired (ps : List Param) : Prop :=
  paramsInRange ps = true ∧ (encodeParams ps).length + 4 < 65536 ∧ ∀ p ∈ ps, IsBytes p.2

def Chunk.Wired : Chunk → Prop
  | .data _ tsn sid _ _ _ => tsn < 4294967296 ∧ sid < 65536
  | .forwardTsn _ ctsn streams => ctsn < 4294967296 ∧ ∀ p ∈ streams, p.1 < 65536
  | .params _ _ ps => ParamsWired ps
  | .init _ _ tag _ _ _ _ ps => tag < 4294967296 ∧ paramsInRange ps = true
  | _ => True

def RcParam.Wired : RcParam → Prop
  | .resetOut a b c streams => a < 4294967296 ∧ b < 4294967296 ∧ c < 4294967296 ∧ ∀ s ∈ streams, s < 65536
  | .addOut a _ => a < 4294967296
  | .resetResp a _ => a < 4294967296

theorem isBytes_nil : IsBytes [] := Aiortc.isBytes_nil

theorem isBytes_slice {l : Bytes} (h : IsBytes l) (i j : Nat) : IsBytes (slice l i j) :=
  isBytes_drop i (isBytes_take j h)

theorem u16_lt {a b : Nat} (ha : a < 256) (hb : b < 256) : a * 256 + b < 65536 := by omega

theorem u32_lt {a b c d : Nat} (ha : a < 256) (hb : b < 256) (hc : c < 256) (hd : d < 256) :
    ((a * 256 + b) * 256 + c) * 256 + d < 4294967296 := by omega

theorem takeU16_gives (r : Bytes) : (takeU16 r).Gives fun x => IsBytes r → x.1 < 65536 ∧ IsBytes x.2 := by
  match r with
  | [] | [_] => exact .none
  | x :: y :: t =>
    refine .some fun hr => ?_
    simp only [isBytes_cons] at hr
    exact ⟨by omega, hr.2.2⟩

theorem takeU32_gives (r : Bytes) : (takeU32 r).Gives fun x => IsBytes r → x.1 < 4294967296 ∧ IsBytes x.2 := by
  match r with
  | [] | [_] | [_, _] | [_, _, _] => exact .none
  | x :: y :: z :: w :: t =>
    refine .some fun hr => ?_
    simp only [isBytes_cons] at hr
    exact ⟨by omega, hr.2.2.2.2⟩

theorem readAllPairs_gives (r : Bytes) : (readAllPairs r).Gives fun l => IsBytes r → ∀ p ∈ l, p.1 < 65536 := by
  fun_induction readAllPairs r with
  | case1 => exact .some fun _ => nofun
  | case2 => exact .none
  | case3 a b c d r l' hrec ih =>
    refine .some fun hr => ?_
    simp only [isBytes_cons] at hr
    exact List.forall_mem_cons.mpr ⟨u16_lt hr.1 hr.2.1, ih l' hrec hr.2.2.2.2⟩
  | case4 => exact .none

theorem readAllU16s_gives (r : Bytes) : (readAllU16s r).Gives fun l => IsBytes r → ∀ s ∈ l, s < 65536 := by
  fun_induction readAllU16s r with
  | case1 => exact .some fun _ => nofun
  | case2 => exact .none
  | case3 a b r l' hrec ih =>
    refine .some fun hr => ?_
    simp only [isBytes_cons] at hr
    exact List.forall_mem_cons.mpr ⟨u16_lt hr.1 hr.2.1, ih l' hrec hr.2.2⟩
  | case4 => exact .none

/-- `Safe`, or a `struct.error` (what the upstream constructors may raise; the fix turns it into `ValueError`). -/
def SafeOrStructWith {α} (o : Outcome α) (Q : α → Prop) : Prop := o.SafeWith Q ∨ o = .crash "struct.error"

theorem safeWith_structToValue {α} {Q : α → Prop} {o : Outcome α} (h : SafeOrStructWith o Q) :
    (structToValue true o).SafeWith Q := by
  rcases h with h | rfl
  · exact h.on .ve fun _ hq => .ok hq
  · exact .ve

theorem safeOrStructWith_ofStruct {α} {Q : α → Prop} {o : Option α} (h : o.Gives Q) :
    SafeOrStructWith (Outcome.ofStruct o) Q :=
  h.on (.inr rfl) fun _ hq => .inl (.ok hq)

theorem length_slice_four_cons {α} (a b c d : α) (r : List α) (n : Nat) :
    (slice (a :: b :: c :: d :: r) 4 n).length = min n (r.length + 4) - 4 := by
  simp [slice, List.length_drop, List.length_take]

/-- One round of the `decode_params` loop, seen from `encode_params`: `L` is the length field, `n` the number
of bytes left, `v` the (possibly truncated) value and `rd` what the loop continues with. -/
theorem encodeParamsAux_step (T L n : Nat) (v rd : Bytes) (ps' : List Param)
    (hl : 4 ≤ L) (hn : 4 ≤ n) (hvl : v.length = min L n - 4) (hdl : rd.length = n - (L + padl L))
    (h2 : ps' ≠ [] → 4 ≤ rd.length)
    (h3 : ∀ pad, (encodeParamsAux pad ps').length ≤ pad.length + rd.length) (pad : Bytes) :
    (encodeParamsAux pad ((T, v) :: ps')).length ≤ pad.length + n := by
  cases ps' with
  | nil =>
    simp only [encodeParamsAux, List.length_append, length_u16be, List.length_nil]
    omega
  | cons q qs =>
    have h4 := h2 (by simp)
    have hve : v.length + 4 = L := by omega
    have h5 := h3 (zeros (padl L))
    rw [zeros_length] at h5
    rw [encodeParamsAux, hve]
    simp only [List.length_append, length_u16be]
    omega

/-- `decode_params`: entries that `pack` accepts, byte values, and a list whose re-encoding is not longer than the
input. -/
theorem decodeParamsAux_spec (fuel : Nat) (rest : Bytes) (hf : rest.length < fuel) :
    (decodeParamsAux true fuel rest).SafeWith fun ps => IsBytes rest →
      (∀ p ∈ ps, p.1 < 65536 ∧ p.2.length + 4 < 65536 ∧ IsBytes p.2) ∧
        (ps ≠ [] → 4 ≤ rest.length) ∧ ∀ pad, (encodeParamsAux pad ps).length ≤ pad.length + rest.length := by
  induction fuel generalizing rest with
  | zero => omega
  | succ f ih =>
    match rest, hf with
    | [], _ | [_], _ | [_, _], _ | [_, _, _], _ =>
      exact .ok fun _ => ⟨nofun, nofun, fun _ => by simp [encodeParamsAux]⟩
    | t0 :: t1 :: l0 :: l1 :: r, hf =>
      rw [decodeParamsAux_cons]
      refine .ite (fun _ => .ve) fun hl => ?_
      simp only [Bool.true_and, decide_eq_true_eq] at hl
      have hvl := length_slice_four_cons t0 t1 l0 l1 r (l0 * 256 + l1)
      have hdl : ((t0 :: t1 :: l0 :: l1 :: r).drop (l0 * 256 + l1 + padl (l0 * 256 + l1))).length
          = r.length + 4 - (l0 * 256 + l1 + padl (l0 * 256 + l1)) := by simp [List.length_drop]
      refine (ih _ (by rw [hdl]; simp only [List.length_cons] at hf; omega)).on .ve fun ps' h' => .ok fun hr => ?_
      obtain ⟨h1, h2, h3⟩ := h' (isBytes_drop _ hr)
      have hvb := isBytes_slice hr 4 (l0 * 256 + l1)
      simp only [isBytes_cons] at hr
      refine ⟨fun p hp => ?_, fun _ => by simp only [List.length_cons]; omega,
        encodeParamsAux_step _ _ (r.length + 4) _ _ ps' (by omega) (by omega) hvl hdl h2 h3⟩
      rcases List.mem_cons.mp hp with rfl | hp
      · exact ⟨u16_lt hr.1 hr.2.1, by have := u16_lt hr.2.2.1 hr.2.2.2.1; simp only [hvl]; omega, hvb⟩
      · exact h1 p hp

theorem decodeParamsG_spec (body : Bytes) :
    (decodeParamsG true body).SafeWith fun ps => IsBytes body →
      paramsInRange ps = true ∧ (encodeParams ps).length ≤ body.length ∧ ∀ p ∈ ps, IsBytes p.2 := by
  unfold decodeParamsG
  refine (decodeParamsAux_spec _ _ (Nat.lt_succ_self _)).on .ve fun ps h => .ok fun hb => ?_
  obtain ⟨h1, _, h3⟩ := h hb
  refine ⟨?_, by simpa [encodeParams] using h3 [], fun p hp => (h1 p hp).2.2⟩
  simp only [paramsInRange, List.all_eq_true, Bool.and_eq_true, decide_eq_true_eq]
  exact fun p hp => ⟨(h1 p hp).1, (h1 p hp).2.1⟩

theorem decodeParams_safe (body : Bytes) : Safe (decodeParams body) := (decodeParamsG_spec body).safe

theorem parseDataBody_gives {fl : Nat} {body : Bytes} :
    (parseDataBody fl body).Gives fun c => IsBytes body → c.Wired := by
  unfold parseDataBody
  refine (takeU32_gives body).on .none fun ⟨tsn, r⟩ h1 => ?_; dsimp only
  refine (takeU16_gives r).on .none fun ⟨sid, r⟩ h2 => ?_; dsimp only
  refine (takeU16_gives r).on .none fun _ _ => ?_; dsimp only
  exact (takeU32_gives _).on .none fun _ _ => .some fun hb => ⟨(h1 hb).1, (h2 (h1 hb).2).1⟩

theorem parseInitHead_gives {body : Bytes} :
    (parseInitHead body).Gives fun x => IsBytes body → x.1 < 4294967296 ∧ IsBytes x.2.2.2.2.2 := by
  unfold parseInitHead
  refine (takeU32_gives body).on .none fun ⟨tag, r⟩ h1 => ?_; dsimp only
  refine (takeU32_gives r).on .none fun ⟨_, r⟩ h2 => ?_; dsimp only
  refine (takeU16_gives r).on .none fun ⟨_, r⟩ h3 => ?_; dsimp only
  refine (takeU16_gives r).on .none fun ⟨_, r⟩ h4 => ?_; dsimp only
  exact (takeU32_gives r).on .none fun _ h5 => .some fun hb =>
    ⟨(h1 hb).1, (h5 (h4 (h3 (h2 (h1 hb).2).2).2).2).2⟩

/-- Whatever it reads, `parseSackBody` builds a SACK chunk, of which `Wired` asks nothing. -/
theorem parseSackBody_gives {fl : Nat} {body : Bytes} : (parseSackBody fl body).Gives Chunk.Wired := by
  unfold parseSackBody
  refine (takeU32_gives body).on .none fun ⟨_, r⟩ _ => ?_; dsimp only
  refine (takeU32_gives r).on .none fun ⟨_, r⟩ _ => ?_; dsimp only
  refine (takeU16_gives r).on .none fun ⟨ng, r⟩ _ => ?_; dsimp only
  refine (takeU16_gives r).on .none fun ⟨nd, r⟩ _ => ?_; dsimp only
  rcases readPairs ng r with _ | ⟨gaps, r⟩
  · exact .none
  · dsimp only
    rcases readU32s nd r with _ | ⟨dups, r⟩
    · exact .none
    · refine .some ?_; trivial

theorem paramsWired_nil : ParamsWired [] := by
  simp [ParamsWired, paramsInRange, encodeParams, encodeParamsAux]

theorem parseChunkBody_spec (cls : Cls) (fl : Nat) (body : Bytes) :
    SafeOrStructWith (parseChunkBody true cls fl body) fun c => IsBytes body → body.length + 4 < 65536 → c.Wired := by
  cases cls <;> simp only [parseChunkBody]
  case plain => exact .inl (.ok fun _ _ => trivial)
  case params =>
    split
    · exact .inl (.ok fun _ _ => paramsWired_nil)
    · exact (decodeParamsG_spec body).on (.inl .ve) fun _ h => .inl (.ok fun hb hlen =>
        have ⟨h1, h2, h3⟩ := h hb; ⟨h1, by omega, h3⟩)
  case data =>
    split
    · exact .inl (.ok fun _ _ => ⟨by decide, by decide⟩)
    · exact safeOrStructWith_ofStruct fun c e hb _ => parseDataBody_gives c e hb
  case init =>
    split
    · exact .inl (.ok fun _ _ => ⟨by decide, by simp [paramsInRange]⟩)
    · refine parseInitHead_gives.on (.inr rfl) fun ⟨tag, _, _, _, _, r⟩ hh => ?_; dsimp only
      exact (decodeParamsG_spec r).on (.inl .ve) fun _ h => .inl (.ok fun hb _ => ⟨(hh hb).1, (h (hh hb).2).1⟩)
  case sack =>
    split
    · exact .inl (.ok fun _ _ => trivial)
    · exact safeOrStructWith_ofStruct fun c e _ _ => parseSackBody_gives c e
  case shutdown =>
    split
    · exact .inl (.ok fun _ _ => trivial)
    · exact (takeU32_gives body).on (.inr rfl) fun _ _ => .inl (.ok fun _ _ => trivial)
  case forwardTsn =>
    split
    · exact .inl (.ok fun _ _ => ⟨by decide, by simp⟩)
    · refine (takeU32_gives body).on (.inr rfl) fun ⟨ctsn, r⟩ h1 => ?_; dsimp only
      exact (readAllPairs_gives r).on (.inr rfl) fun _ hl => .inl (.ok fun hb _ => ⟨(h1 hb).1, hl (h1 hb).2⟩)

theorem parseChunks_spec (fuel : Nat) (rest : Bytes) (hf : rest.length < fuel) :
    (parseChunks true fuel rest).SafeWith fun cs => IsBytes rest → ∀ c ∈ cs, c.Wired := by
  induction fuel generalizing rest with
  | zero => omega
  | succ f ih =>
    match rest, hf with
    | [], _ | [_], _ | [_, _], _ | [_, _, _], _ => exact .ok fun _ => nofun
    | ty :: fl :: l0 :: l1 :: r, hf =>
      rw [parseChunks_cons]
      refine .ite (fun _ => .ve) fun hc => ?_
      have hn := ih ((ty :: fl :: l0 :: l1 :: r).drop (l0 * 256 + l1 + padl (l0 * 256 + l1))) (by
        simp only [SCTP_CHUNK_HEADER_LENGTH] at hc
        simp only [List.length_drop, List.length_cons] at hf ⊢; omega)
      split
      · exact hn.on .ve fun _ h => .ok fun hr => h (isBytes_drop _ hr)
      · refine (safeWith_structToValue (parseChunkBody_spec _ _ _)).on .ve fun c hw => ?_
        refine hn.on .ve fun cs hcs => .ok fun hr =>
          List.forall_mem_cons.mpr ⟨hw (isBytes_slice hr _ _) ?_, hcs (isBytes_drop _ hr)⟩
        -- the body is at most as long as the 16-bit length field says
        have := length_slice_four_cons ty fl l0 l1 r (l0 * 256 + l1)
        simp only [isBytes_cons] at hr
        have hL : l0 * 256 + l1 < 65536 := u16_lt hr.2.2.1 hr.2.2.2.1
        show (slice _ 4 _).length + 4 < 65536
        rw [this]; omega

/-- `parse_packet`: total on every input, and every chunk of a parsed datagram of bytes is `Wired`. -/
theorem parsePacket_spec (d : Bytes) :
    (parsePacket d).SafeWith fun r => IsBytes d → ∀ c ∈ r.2.2.2, c.Wired := by
  unfold parsePacket parsePacketG
  refine .ite (fun _ => .ve) fun _ => .ite (fun _ => .ve) fun _ => ?_
  split
  · rename_i rest _ _
    refine (parseChunks_spec _ rest (Nat.lt_succ_self _)).on .ve fun _ h => .ok fun hd => h ?_
    simp only [isBytes_cons] at hd
    exact hd.2.2.2.2.2.2.2.2.2.2.2.2
  · exact .ve

theorem parsePacket_safe (d : Bytes) : Safe (parsePacket d) := (parsePacket_spec d).safe

theorem parsePacket_wired {d : Bytes} (hd : IsBytes d) {sp dp vtag : Nat} {chunks : List Chunk}
    (h : parsePacket d = .ok (sp, dp, vtag, chunks)) : ∀ c ∈ chunks, c.Wired :=
  (parsePacket_spec d).post h hd

theorem rcParse_spec (cls : RcCls) (v : Bytes) :
    (RcParam.parse cls v).SafeWith fun p => IsBytes v → p.Wired := by
  unfold RcParam.parse RcParam.parseG
  refine safeWith_structToValue (safeOrStructWith_ofStruct ?_)
  cases cls <;> dsimp only
  case resetOut =>
    refine (takeU32_gives v).on .none fun ⟨a, r⟩ h1 => ?_; dsimp only
    refine (takeU32_gives r).on .none fun ⟨b, r⟩ h2 => ?_; dsimp only
    refine (takeU32_gives r).on .none fun ⟨c, r⟩ h3 => ?_; dsimp only
    exact (readAllU16s_gives r).on .none fun _ hl => .some fun hv =>
      ⟨(h1 hv).1, (h2 (h1 hv).2).1, (h3 (h2 (h1 hv).2).2).1, hl (h3 (h2 (h1 hv).2).2).2⟩
  case addOut =>
    refine (takeU32_gives v).on .none fun ⟨a, r⟩ h1 => ?_; dsimp only
    refine (takeU16_gives r).on .none fun ⟨_, r⟩ _ => ?_; dsimp only
    exact (takeU16_gives r).on .none fun _ _ => .some fun hv => (h1 hv).1
  case resetResp =>
    refine (takeU32_gives v).on .none fun ⟨a, r⟩ h1 => ?_; dsimp only
    exact (takeU32_gives r).on .none fun _ _ => .some fun hv => (h1 hv).1

theorem rcParse_safe (cls : RcCls) (data : Bytes) : Safe (RcParam.parse cls data) := (rcParse_spec cls data).safe

theorem rcParse_wired {cls : RcCls} {v : Bytes} (hv : IsBytes v) {p : RcParam}
    (h : RcParam.parse cls v = .ok p) : p.Wired :=
  (rcParse_spec cls v).post h hv

end Aiortc.Sctp.Wire
