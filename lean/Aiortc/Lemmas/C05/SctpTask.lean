import Aiortc.Lemmas.C05.SctpChunk
/-! # Queued tasks and timers keep the invariant (under explicit conditions on what was queued / armed) -/
namespace Aiortc.Sctp
open Aiortc.Gen Aiortc.Sctp.Wire

/-- What a queued retransmission must satisfy to be serialisable (true for everything `_t1_expired`,
`_t2_expired` and `_reconfig_timer_expired` queue, since the chunk / parameter was sent once already). Under `WF` this
and "T1 / T2 hold a chunk" are hypotheses of the task and timer theorems; `V2.WF` has them as clauses (`tasks`, `tm1`, `tm2`,
`rcr`). -/
def TaskOk : Task → Prop
  | .resend c => c.inRange = true
  | .resendReconfig p =>
    (RcParam.resetOut p.1.toNat p.2.1.toNat p.2.2.1.toNat p.2.2.2).inRange = true ∧ p.2.2.2.length ≤ 135
  | _ => True

/-- A queued task never raises if what was queued is serialisable. -/
theorem wp_runTask {I : Ep → Prop} {A} {Q : Unit → St → Prop} {e : Ep} {l : List Out} (hI : CtlInv I) (h : I e)
    (ht : ∀ t rest, e.tasks = t :: rest → TaskOk t)
    (hq : Cont RxKept I e Q) :
    wp A runTask Q (e, l) := by
  unfold runTask
  simp only [wp_bind, wp_getE]
  split
  · simpa using hq.here (.refl _) h l
  · rename_i t rest hte
    have hok := ht t rest hte
    simp only [wp_bind, wp_setE]
    have hw1 : I { e with tasks := rest } := hI.popTask h hte
    -- popping the task touches neither the receive window nor the inbound streams
    have hq1 : Cont RxKept I { e with tasks := rest } Q := hq
    cases t with
    | flush => exact wp_flush hI.toDataInv hw1 (hq1.mono DataKept.rx)
    | transmit => exact hI.transmit hw1 fun tx l' hw' => hq _ _ hw' ⟨rfl, rfl⟩
    | reconfig => exact hI.transmitReconfig hw1 (hq1.mono DataKept.rx)
    | resend c => exact wp_sendChunk (hI.net hw1) hok fun d => hq _ _ hw1 ⟨rfl, rfl⟩
    | resendReconfig p =>
      obtain ⟨hin, hlen⟩ := hok
      simp only [wp_bind, RcParam.serialize, hin, if_true, wp_liftO_ok]
      refine wp_sendChunk (hI.net hw1) (reconfigChunk_inRange (by decide) ?_) fun d => hq _ _ hw1 ⟨rfl, rfl⟩
      simp only [RcParam.bytes, List.length_append, length_u32be, length_u16sBytes]
      omega

/-! ## timers

For any invariant `I` with `CtlInv I`; what `I` has to say about the states a timer writes is a hypothesis (`hoff`: the
timer has fired, `hon`: the retransmission is queued and the timer runs again). -/

/-- T1 expiry: `AttributeError` unless a chunk was stored when the timer was armed. -/
theorem wp_fire_t1 {I : Ep → Prop} {A} {Q : Unit → St → Prop} {e : Ep} {l : List Out} (hI : CtlInv I) {c : Chunk}
    (hc : e.t1Chunk = some c) (hoff : I { e with t1Failures := e.t1Failures + 1, t1 := false })
    (hon : I { e with t1Failures := e.t1Failures + 1, tasks := e.tasks ++ [.resend c], t1 := true })
    (hq : Cont RxKept I e Q) :
    wp A (handle (.fire "t1")) Q (e, l) := by
  simp only [handle, wp_bind, wp_modE, wp_getE]
  refine wp.ite (fun _ => ?_) (fun _ => ?_)
  · exact wp_setState_closed hI hoff hq
  · split
    · rename_i c' hc'
      cases hc.symm.trans hc'
      simp only [wp_bind, wp_queueTask, wp_modE, wp_emit]
      exact hq _ _ hon ⟨rfl, rfl⟩
    · rename_i hn
      cases hc.symm.trans hn

/-- T2 expiry, likewise. -/
theorem wp_fire_t2 {I : Ep → Prop} {A} {Q : Unit → St → Prop} {e : Ep} {l : List Out} (hI : CtlInv I) {c : Chunk}
    (hc : e.t2Chunk = some c) (hoff : I { e with t2Failures := e.t2Failures + 1, t2 := false })
    (hon : I { e with t2Failures := e.t2Failures + 1, tasks := e.tasks ++ [.resend c], t2 := true })
    (hq : Cont RxKept I e Q) :
    wp A (handle (.fire "t2")) Q (e, l) := by
  simp only [handle, wp_bind, wp_modE, wp_getE]
  refine wp.ite (fun _ => ?_) (fun _ => ?_)
  · exact wp_setState_closed hI hoff hq
  · split
    · rename_i c' hc'
      cases hc.symm.trans hc'
      simp only [wp_bind, wp_queueTask, wp_modE, wp_emit]
      exact hq _ _ hon ⟨rfl, rfl⟩
    · rename_i hn
      cases hc.symm.trans hn

/-- Expiry of the RE-CONFIG timer: a stored request is queued again while the association is established. -/
theorem wp_fire_reconfig {I : Ep → Prop} {A} {Q : Unit → St → Prop} {e : Ep} {l : List Out}
    (hoff : I { e with rcTimer := false })
    (hon : ∀ p, e.reconfigRequest = some p → I { e with tasks := e.tasks ++ [.resendReconfig p], rcTimer := true })
    (hq : Cont RxKept I e Q) :
    wp A (handle (.fire "reconfig")) Q (e, l) := by
  simp only [handle, wp_bind, wp_modE, wp_getE]
  split
  · rename_i p hp
    split
    · simp only [wp_bind, wp_queueTask]
      exact wp_rcStart fun l' => hq _ _ (hon p hp) ⟨rfl, rfl⟩
    · simp only [wp_pure]
      exact hq _ _ hoff ⟨rfl, rfl⟩
  · simp only [wp_pure]
    exact hq _ _ hoff ⟨rfl, rfl⟩

/-- T3 expiry (`_t3_expired`; every timer name but `t1`, `t2`, `reconfig`), exactly. The branch has no name in the model
and `simp only [handle]` does not reduce the comparison of timer names, so it is spelled out here once. -/
theorem wp_fire_t3_iff {A} {Q : Unit → St → Prop} {e : Ep} {l : List Out} :
    wp A (handle (.fire "t3")) Q (e, l) ↔
      Q () ({ e with tx := e.tx.t3Expired (1000 * e.now), tasks := e.tasks ++ [.transmit] }, l ++ [.task "transmit"]) := by
  show wp A (do let e ← getE; setE { e with tx := e.tx.t3Expired (1000 * e.now) }; queueTask .transmit "transmit") Q _ ↔ _
  simp only [wp_bind, wp_getE, wp_setE, wp_queueTask]

theorem wp_fire_t3 {I : Ep → Prop} {A} {Q : Unit → St → Prop} {e : Ep} {l : List Out} (hI : CtlInv I) (h : I e)
    (hq : Cont RxKept I e Q) : wp A (handle (.fire "t3")) Q (e, l) :=
  wp_fire_t3_iff.2 (hq _ _ (hI.t3Expired h) ⟨rfl, rfl⟩)

end Aiortc.Sctp
