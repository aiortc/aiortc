import Aiortc.Lemmas.C05.SctpInv
import Aiortc.Lemmas.SctpTx.Sack
import Aiortc.Lemmas.SctpTx.AdvAck
import Aiortc.Lemmas.SctpTx.Frag
/-!
# Send side: the queues stay serialisable through `_transmit`, `_send`, `_receive_sack_chunk`, `_t3_expired`

`TxOk` (reliable traffic only, `SctpInv.lean`) is an instance of `TxInv` (`txInv_TxOk`): on reliable traffic
`_maybe_abandon` and `_update_advanced_peer_ack_point` do nothing, every other move keeps `Wire ∧ Rel` of the chunks.  The
preservation theorems for `_t3_expired`, `_transmit`, `_receive_sack_chunk` are read off `SctpTx/Inv.lean` and `SctpTx/Sack.lean`;
`_send` (`Tx.enqueue_ok`) is proved here.
-/
namespace Aiortc.Sctp
open Aiortc.Gen Aiortc.Sctp.Wire

private def SChunk.Good (c : SChunk) : Prop := c.Wire ∧ c.Rel

private theorem toR_wire {c : SChunk} (h : c.Good) : TxEv.Ok (.data c.toR) := h.1

private theorem maybeAbandon_rel (t : Tx) (pos : Nat) (now : Int) (h : ∀ c ∈ t.sentQ, c.Good) :
    t.maybeAbandon pos now = (false, t) :=
  (maybeAbandon_keep t pos now).2 fun c hp =>
    have ⟨_, h1, h2, h3⟩ := h c (List.mem_of_getElem? hp)
    ⟨h3, shouldAbandon_reliable c now h2 h1⟩

private theorem updateAdvAck_ok (t : Tx) (h : TxOk t) : TxOk t.updateAdvAck := by
  rw [updateAdvAck_keep t (fun c hc => (h.sent c hc).2.2.2) h.fwdN]
  exact ⟨h.sent, h.out, h.fwd, h.fwdN, h.seq, h.tsn⟩

private theorem SChunk.Good.bk {c d : SChunk} (h : c.Good) (hb : Bk c d) : d.Good :=
  ⟨(show RChunk.Wire d.toR from hb.1 ▸ h.1), hb.2.1.trans h.2.1, hb.2.2.1.trans h.2.2.1, hb.2.2.2.trans h.2.2.2⟩

theorem TxOk.congr {t t' : Tx} (h : TxOk t) (he : t'.reads = t.reads) : TxOk t' := by
  simp only [Tx.reads, Prod.mk.injEq] at he
  obtain ⟨h1, h2, -, h4, h5, -, h7, h8⟩ := he
  exact ⟨h1 ▸ h.sent, h2 ▸ h.out, h4 ▸ h.fwd, h5 ▸ h.fwdN, h7 ▸ h.seq, h8 ▸ h.tsn⟩

theorem txInv_TxOk : TxInv TxOk TxEv.Ok where
  congr := TxOk.congr
  sent h hpw := { h with sent := PW.forall (fun _ _ hb hc => SChunk.Good.bk hc hb) hpw h.sent }
  drop h k := { h with sent := fun c hc => h.sent c (List.mem_of_mem_drop hc) }
  send h k f hf :=
    { h with
      sent := fun c hc => by
        rcases List.mem_append.1 hc with hc | hc
        · exact h.sent c hc
        · obtain ⟨d, hd, rfl⟩ := List.mem_map.1 hc
          exact SChunk.Good.bk (h.out d (List.mem_of_mem_take hd)) (hf d)
      out := fun c hc => h.out c (List.mem_of_mem_drop hc) }
  abandon h pos now := by rw [maybeAbandon_rel _ pos now h.sent]; exact h
  advAck h := updateAdvAck_ok _ h
  fwdSent h := { h with fwd := rfl }
  data h hc := ((List.mem_append.1 hc).elim (h.sent _) (h.out _)).1
  fwd h hf := by rw [h.fwd] at hf; cases hf
  t3start := trivial
  t3cancel := trivial

theorem Tx.t3Expired_ok (t : Tx) (h : TxOk t) (now : Int) : TxOk (t.t3Expired now) := txInv_TxOk.t3Expired h now

theorem Tx.transmit_ok (t : Tx) (h : TxOk t) : TxOk t.transmit.1 ∧ ∀ ev ∈ t.transmit.2, ev.Ok := txInv_TxOk.transmit h

/-- The fragments `_send` queues fit the wire, are on the stream and carry the reliability parameters of the message. -/
theorem fragments_spec (tsn : Int) (sid : Nat) (ssn : Int) (ppid : Nat) (ordered : Bool) (expiry maxRtx : Option Int)
    (n : Nat) (data : Bytes) (hs : sid < 65536) (hss : 0 ≤ ssn ∧ ssn < 65536) (hp : ppid < 4294967296) :
    ∀ k, ∀ c ∈ fragments tsn sid ssn ppid ordered expiry maxRtx n data k,
      c.Wire ∧ c.sid = sid ∧ c.expiry = expiry ∧ c.maxRetransmits = maxRtx ∧ c.abandoned = false := by
  intro k c hc
  obtain ⟨j, -, rfl⟩ := mem_fragments hc
  refine ⟨⟨?_, ?_, ?_, hs, hss.1, hss.2, hp, ?_⟩, rfl, rfl, rfl, rfl⟩
  · simp only [sfrag, fragFlags, SCTP_DATA_UNORDERED, SCTP_DATA_FIRST_FRAG, SCTP_DATA_LAST_FRAG]
    split <;> split <;> split <;> omega
  · exact Int.emod_nonneg _ (by decide)
  · exact Int.emod_lt_of_pos _ (by decide)
  · simp only [sfrag, List.length_take, USERDATA_MAX, USERDATA_MAX_LENGTH]
    omega

/-- The stream sequence number `_send` reads is a 16-bit number … -/
theorem streamSeq_get {d : List (Nat × Int)} (h : ∀ p ∈ d, 0 ≤ p.2 ∧ p.2 < 65536) (ordered : Bool) (sid : Nat) :
    0 ≤ (if ordered = true then (dictGet d sid).getD 0 else (0 : Int)) ∧
      (if ordered = true then (dictGet d sid).getD 0 else (0 : Int)) < 65536 := by
  split
  · cases hg : dictGet d sid with
    | none => simp
    | some v => exact h _ (dictGet_mem _ _ _ hg)
  · simp

/-- … and so is the one it stores. -/
theorem streamSeq_set {d : List (Nat × Int)} (h : ∀ p ∈ d, 0 ≤ p.2 ∧ p.2 < 65536) (ordered : Bool) (sid : Nat)
    (ssn : Int) : ∀ p ∈ (if ordered = true then dictSet d sid (uint16_add ssn 1) else d), 0 ≤ p.2 ∧ p.2 < 65536 := by
  intro p hp
  split at hp
  · rcases mem_dictSet _ _ _ p hp with hp | rfl
    · exact h p hp
    · exact ⟨Int.emod_nonneg _ (by decide), Int.emod_lt_of_pos _ (by decide)⟩
  · exact h p hp

theorem Tx.enqueue_ok (t : Tx) (h : TxOk t) (sid ppid : Nat) (data : Bytes) (ordered : Bool)
    (hs : sid < 65536) (hp : ppid < 4294967296) : TxOk (t.enqueue sid ppid data none none ordered) := by
  have hss := streamSeq_get h.seq ordered sid
  unfold Tx.enqueue
  refine ⟨h.sent, ?_, h.fwd, h.fwdN, streamSeq_set h.seq ordered sid _, ?_⟩
  · intro c hc
    simp only [List.mem_append] at hc
    rcases hc with hc | hc
    · exact h.out c hc
    · obtain ⟨hw, _, h1, h2, h3⟩ := fragments_spec _ _ _ _ _ none none _ _ hs hss hp _ c hc
      exact ⟨hw, h1, h2, h3⟩
  · exact ⟨Int.emod_nonneg _ (by decide), Int.emod_lt_of_pos _ (by decide)⟩

theorem Tx.receiveSack_ok (t : Tx) (h : TxOk t) (cum : Int) (gaps : List (Nat × Nat)) (now : Int) :
    ∃ r, t.receiveSack cum gaps now = .ok r ∧
      ∀ t' evs, r = some (t', evs) → TxOk t' ∧ ∀ ev ∈ evs, ev.Ok :=
  txInv_TxOk.receiveSack h cum gaps now

end Aiortc.Sctp
