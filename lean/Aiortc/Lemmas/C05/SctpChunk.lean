import Aiortc.Lemmas.C05.SctpCtl
/-! # Crash-freedom of `_receive_chunk` and `_handle_data`

Proved for any invariant `I` with `ChunkInv I`: `WF` (`chunkInv_WF`) and `V2.WFx B` (`V2.chunkInv_WFx`, `C05/SctpWeakChunk`). -/
namespace Aiortc.Sctp
open Aiortc.Gen Aiortc.Sctp.Wire

theorem paramsInRange_mem {ps : List Param} (h : paramsInRange ps = true) {p : Param} (hp : p ∈ ps) :
    p.1 < 65536 ∧ p.2.length + 4 < 65536 := by
  unfold paramsInRange at h
  rw [List.all_eq_true] at h
  simpa using h p hp

theorem encodeParamsAux_length_le (pad : Bytes) (ps : List Param) :
    (encodeParamsAux pad ps).length ≤ pad.length + (ps.map fun p => p.2.length + 7).sum := by
  induction ps generalizing pad with
  | nil => simp [encodeParamsAux]
  | cons p ps ih =>
    obtain ⟨t, v⟩ := p
    have := ih (zeros (padl (v.length + 4)))
    have hp := padl_lt (v.length + 4)
    simp only [encodeParamsAux, List.length_append, length_u16be, List.map_cons, List.sum_cons, zeros_length] at this ⊢
    omega

/-- The INIT-ACK built from the endpoint's fields and a cookie of at most 1000 bytes fits its `struct.pack` formats. -/
theorem initAck_inRange {e : Ep}
    (h : NetOk e.localPort e.remotePort e.remoteTag e.localTag e.inboundMax e.outboundCount)
    (ht : 0 ≤ e.tx.localTsn ∧ e.tx.localTsn < 4294967296) (hr : e.rwnd ≤ 1048576) {cookie : Bytes}
    (hc : cookie.length ≤ 1000) :
    (Chunk.init .initAck 0 e.localTag e.rwnd.toNat e.outboundCount e.inboundMax e.tx.localTsn.toNat
      (localExtensions ++ [(SCTP_STATE_COOKIE, cookie)])).inRange = true := by
  have h1 := h.ltag
  have h2 := h.outCnt
  have h3 := h.inMax
  obtain ⟨h4, h5⟩ := ht
  have hlen : (encodeParams (localExtensions ++ [(SCTP_STATE_COOKIE, cookie)])).length ≤ cookie.length + 23 := by
    have := encodeParamsAux_length_le [] (localExtensions ++ [(SCTP_STATE_COOKIE, cookie)])
    simp only [localExtensions, List.cons_append, List.nil_append, List.map_cons, List.map_nil, List.sum_cons,
      List.sum_nil, List.length_nil, List.length_cons] at this
    simp only [encodeParams, localExtensions, List.cons_append, List.nil_append]
    omega
  have hp : paramsInRange (localExtensions ++ [(SCTP_STATE_COOKIE, cookie)]) = true := by
    have c3 : SCTP_STATE_COOKIE < 65536 := by decide
    have c0 : paramsInRange localExtensions = true := by decide
    unfold paramsInRange at c0 ⊢
    rw [List.all_append, c0]
    simp only [List.all_cons, List.all_nil, Bool.and_true, Bool.true_and, Bool.and_eq_true, decide_eq_true_eq]
    omega
  simp only [Chunk.inRange, hp, Bool.and_true, Bool.and_eq_true, decide_eq_true_eq]
  omega

/-- The INIT chunk of `start()` fits its `struct.pack` formats. -/
theorem initChunk_inRange {ltag outs ins : Nat} {rwnd tsn : Int} (hl : ltag < 4294967296) (hr : rwnd ≤ 1048576)
    (ho : outs < 65536) (hi : ins < 65536) (ht : 0 ≤ tsn ∧ tsn < 4294967296) :
    (Chunk.init .init 0 ltag rwnd.toNat outs ins tsn.toNat localExtensions).inRange = true := by
  have h1 : paramsInRange localExtensions = true := by decide
  have h2 : 16 + (encodeParams localExtensions).length + 4 < 65536 := by decide
  simp only [Chunk.inRange, h1, Bool.and_true, Bool.and_eq_true, decide_eq_true_eq]
  omega

/-- A fresh endpoint (32-bit tag and initial TSN) is well-formed as soon as `start()` has set its fields. -/
theorem WF.started (isServer : Bool) {tag tsn rp : Nat} (now : Int) (ht : tag < 4294967296) (hs : tsn < 4294967296)
    (hr : rp < 65536) :
    WF { (Ep.init isServer tag tsn) with
      now := now, started := true, state := "connecting", remotePort := some rp,
      dcId := some (if isServer then 0 else 1), registered := true } := by
  refine ⟨⟨by simp [Ep.init], ⟨rp, rfl, hr⟩, by simp [Ep.init], ht, by simp [Ep.init, MAX_STREAMS],
      by simp [Ep.init, MAX_STREAMS]⟩,
    ⟨by simp [Ep.init], by simp [Ep.init], by simp [Ep.init], by simp [Ep.init], by simp [Ep.init],
     by simp [Ep.init], by simp [Ep.init], by simp [Ep.init]⟩,
    ⟨by simp [Ep.init], by simp [Ep.init], rfl, rfl, by simp [Ep.init], ?_⟩, ⟨by simp [Ep.init]⟩, ?_, ?_, ?_, rfl⟩
  · simp only [Ep.init]; omega
  · simp only [Ep.init, InRange32]; omega
  · simp only [Ep.init, InRange32]; omega
  · simp [Ep.init]

/-- The receive state INIT / INIT-ACK install: the peer's initial TSN, the old `mis` / `dups` lists kept. -/
theorem RxOk.init {rx : Option Rx} (h : RxOk rx) (itsn : Nat) :
    RxOk (some { last := tsn_minus_one itsn, mis := (rx.map (·.mis)).getD [], dups := (rx.map (·.dups)).getD [] }) := by
  refine ⟨fun r hr => ?_⟩
  cases hr
  refine ⟨tsn_minus_one_range _, ?_, ?_⟩
  · cases hrx : rx with
    | none => simp
    | some r0 => simpa using (h.rng r0 hrx).2.1
  · cases hrx : rx with
    | none => simp
    | some r0 => simpa using (h.rng r0 hrx).2.2

/-- What INIT / INIT-ACK copy from the peer: verification tag, initial TSN, advertised window. -/
abbrev Ep.peerInit (e : Ep) (tag itsn rwnd : Nat) : Ep :=
  { e with rx := some { last := tsn_minus_one itsn, mis := (e.rx.map (·.mis)).getD [],
                        dups := (e.rx.map (·.dups)).getD [] }
           reconfigResponseSeq := tsn_minus_one itsn
           remoteTag := tag
           hasSsthresh := true
           tx := { e.tx with ssthresh := rwnd } }

theorem WF.peerInit {e : Ep} (h : WF e) {tag : Nat} (ht : tag < 4294967296) (itsn rwnd : Nat) :
    WF (e.peerInit tag itsn rwnd) :=
  ⟨{ h.net with rtag := ht }, h.ch, h.tx.congr rfl, h.rx.init itsn, h.rcReq, tsn_minus_one_range _,
    fun _ => rfl, h.nr⟩

theorem WF.counts {e : Ep} (h : WF e) (outs ins : Nat) :
    WF { e with inboundCount := min outs e.inboundMax, outboundCount := min e.outboundCount ins } :=
  ⟨{ h.net with outCnt := by have := h.net.outCnt; simp only; omega },
   h.ch, h.tx, h.rx, h.rcReq, h.rcResp, h.sack, h.nr⟩

/-- a handler that keeps the receive window and the inbound streams keeps `Acc` and `SidOk` -/
theorem Cont.of_acc {I : Ep → Prop} {e : Ep} {Q : Unit → St → Prop} (ha : Acc 0 e.rwnd e.inStreams)
    (hso : SidOk e.inStreams)
    (hq : ∀ e' l', I e' → Acc 0 e'.rwnd e'.inStreams → SidOk e'.inStreams → Q () (e', l')) : Cont RxKept I e Q :=
  fun e' l' hw k => hq e' l' hw (by rw [k.1, k.2]; exact ha) (by rw [k.2]; exact hso)

/-- the invariant together with `Acc` and `SidOk` (`Props.C05Sctp.Inv` for `WF`, `Props.C05Sctp2.Inv2 B` for `V2.WFx B`) -/
theorem Cont.inv {I : Ep → Prop} {e : Ep} (ha : Acc 0 e.rwnd e.inStreams) (hso : SidOk e.inStreams) :
    Cont RxKept I e fun _ s' => I s'.1 ∧ Acc 0 s'.1.rwnd s'.1.inStreams ∧ SidOk s'.1.inStreams :=
  Cont.of_acc ha hso fun _ _ a b c => ⟨a, b, c⟩

/-- What `_receive_chunk` and `_handle_data` use of an invariant `I` of the endpoint, besides `CtlInv`:
the elementary updates of the timers T1 / T2 and of what INIT / INIT-ACK copy from the peer. -/
structure ChunkInv (I : Ep → Prop) : Prop extends CtlInv I where
  sack : ∀ {e}, I e → e.sackNeeded = true → e.rx.isSome
  txTsn : ∀ {e}, I e → 0 ≤ e.tx.localTsn ∧ e.tx.localTsn < 4294967296
  t1Off : ∀ {e}, I e → ∀ ch, I { e with t1 := false, t1Chunk := ch }
  t2Off : ∀ {e}, I e → ∀ ch, I { e with t2 := false, t2Chunk := ch }
  t1On : ∀ {e c}, I e → c.inRange = true → I { e with t1Chunk := some c, t1Failures := 0, t1 := true }
  t2On : ∀ {e c}, I e → c.inRange = true → I { e with t2Chunk := some c, t2Failures := 0, t2 := true }
  peerInit : ∀ {e tag}, I e → tag < 4294967296 → ∀ itsn rwnd : Nat, I (e.peerInit tag itsn rwnd)
  ext : ∀ {e}, I e → ∀ pr ext, I { e with remotePR := pr, remoteExt := ext }
  counts : ∀ {e}, I e → ∀ outs ins,
    I { e with inboundCount := min outs e.inboundMax, outboundCount := min e.outboundCount ins }
  cookies : ∀ {e}, I e → ∀ cs, I { e with cookies := cs }

variable {I : Ep → Prop}

/-- `_receive_chunk`. -/
theorem wp_receiveChunk {A} {cookie : Bytes} {c : Chunk} {Q : Unit → St → Prop} {e : Ep} {l : List Out}
    (hI : ChunkInv I) (h : I e)
    (ha : Acc 0 e.rwnd e.inStreams) (hso : SidOk e.inStreams) (hc : c.Wired) (hck : cookie.length ≤ 1000)
    (hq : ∀ e' l', I e' → Acc 0 e'.rwnd e'.inStreams → SidOk e'.inStreams → Q () (e', l')) :
    wp A (receiveChunk cookie c) Q (e, l) := by
  have hdone : ∀ l', Q () (e, l') := fun l' => hq e l' h ha hso
  cases c with
  | data flags tsn sid sseq proto ud =>
    obtain ⟨ht, hs⟩ := hc
    simp only [receiveChunk, wp_bind, wp_getE]
    refine wp.ite (fun hrx => ?_) (fun _ => by simpa using hdone l)
    exact wp_receiveData (c := { tsn := tsn, sid := sid, ssn := sseq, ppid := proto, flags := flags, data := ud })
      hI.toDataInv h hrx ha hso (inRange32_ofNat ht) hs hq
  | sack flags ctsn rwnd gaps dups =>
    simp only [receiveChunk, wp_bind, wp_getE]
    exact wp_receiveSack hI.toDataInv h (Cont.of_acc ha hso hq)
  | forwardTsn flags ctsn streams =>
    obtain ⟨ht, hs⟩ := hc
    simp only [receiveChunk, wp_bind, wp_getE]
    refine wp.ite (fun hrx => ?_) (fun _ => by simpa using hdone l)
    exact wp_receiveForwardTsn hI.toDataInv h hrx ha hso (inRange32_ofNat ht) hs hq
  | shutdown flags ctsn =>
    simp only [receiveChunk, wp_bind, wp_getE]
    refine wp_t2Cancel ?_; intro ch l1
    rw [wp_setState_other (by decide) (by decide)]
    have hw1 : I { e with t2 := false, t2Chunk := ch, assoc := .shutdownReceived } := hI.assoc (hI.t2Off h ch) _ _
    refine wp_sendChunk (hI.net hw1) (by decide) ?_
    intro d
    refine wp_t2Start rfl ?_
    intro l2
    rw [wp_setState_other (by decide) (by decide)]
    exact hq _ _ (hI.assoc (hI.t2On (c := .plain .shutdownAck 0 []) hw1 (by decide)) _ _) ha hso
  | plain k flags body =>
    cases k with
    | cookieEcho =>
      simp only [receiveChunk, wp_bind, wp_getE]
      refine wp.ite (fun _ => ?_) (fun _ => by simpa using hdone l)
      refine wp.ite (fun _ => by simpa using hdone l) (fun _ => ?_)
      refine wp.ite (fun _ => ?_) (fun _ => ?_)
      · simp only [wp_bind]
        refine wp_sendChunk (hI.net h) ?_ ?_
        · simp only [Chunk.inRange, paramsInRange, encodeParams_single, List.all_cons, List.all_nil,
            zeros_length, SCTP_CAUSE_STALE_COOKIE]
          decide
        · intro d; simpa using hdone _
      · simp only [wp_bind]
        refine wp_sendChunk (hI.net h) (by decide) ?_
        intro d
        exact wp_setState_established hI.toCtlInv h (Cont.of_acc ha hso hq)
    | cookieAck =>
      simp only [receiveChunk, wp_bind, wp_getE]
      refine wp.ite (fun _ => ?_) (fun _ => by simpa using hdone l)
      simp only [wp_bind]
      refine wp_t1Cancel ?_; intro ch l1
      exact wp_setState_established hI.toCtlInv (e := { e with t1 := false, t1Chunk := ch }) (hI.t1Off h ch)
        (Cont.of_acc ha hso hq)
    | shutdownAck =>
      simp only [receiveChunk, wp_bind, wp_getE]
      simpa using hdone l
    | shutdownComplete =>
      simp only [receiveChunk, wp_bind, wp_getE]
      refine wp.ite (fun _ => ?_) (fun _ => by simpa using hdone l)
      simp only [wp_bind]
      refine wp_t2Cancel ?_; intro ch l1
      exact wp_setState_closed hI.toCtlInv (e := { e with t2 := false, t2Chunk := ch }) (hI.t2Off h ch)
        (Cont.of_acc ha hso hq)
  | params k flags ps =>
    obtain ⟨hpr, hpl, hpb⟩ := hc
    cases k with
    | heartbeat =>
      simp only [receiveChunk, wp_bind, wp_getE]
      refine wp_sendChunk (hI.net h) ?_ ?_
      · simp only [Chunk.inRange, hpr, Bool.and_true, Bool.and_eq_true, decide_eq_true_eq]
        omega
      · intro d; exact hdone _
    | heartbeatAck =>
      simp only [receiveChunk, wp_bind, wp_getE]
      simpa using hdone l
    | abort =>
      simp only [receiveChunk, wp_bind, wp_getE]
      exact wp_setState_closed hI.toCtlInv h (Cont.of_acc ha hso hq)
    | error =>
      simp only [receiveChunk, wp_bind, wp_getE]
      refine wp.ite (fun _ => ?_) (fun _ => by simpa using hdone l)
      simp only [wp_bind]
      refine wp_t1Cancel ?_; intro ch l1
      exact wp_setState_closed hI.toCtlInv (e := { e with t1 := false, t1Chunk := ch }) (hI.t1Off h ch)
        (Cont.of_acc ha hso hq)
    | reconfig =>
      simp only [receiveChunk, wp_bind, wp_getE]
      refine wp.ite (fun hest => ?_) (fun _ => by simpa using hdone l)
      · rw [wp_bind]
        refine wp_forIn A ps _ _ (fun suf s' => I s'.1 ∧ Acc 0 s'.1.rwnd s'.1.inStreams ∧
          SidOk s'.1.inStreams ∧ s'.1.assoc = .established ∧ ∀ p ∈ suf, IsBytes p.2) _
          ⟨h, ha, hso, hest, hpb⟩ ?_ ?_
        · intro ⟨t, v⟩ rest ⟨e1, l1⟩ ⟨hw, hacc, hsok, hest1, hbytes⟩
          have hrest : ∀ p ∈ rest, IsBytes p.2 := fun p hp => hbytes p (by simp [hp])
          have hv : IsBytes v := hbytes (t, v) (by simp)
          split
          · rename_i cls hcls
            have hben := rcParse_safe cls v
            split
            · rename_i p hp
              simp only [wp_bind]
              refine wp_receiveReconfigParam hI.toCtlInv hw hacc hsok (rcParse_wired hv hp) hest1 ?_
              intro e' l' hw' ha' hs' hest'
              simp only [wp_pure, true_and]
              exact ⟨hw', ha', hs', hest', hrest⟩
            · simp only [wp_pure, true_and]
              exact ⟨hw, hacc, hsok, hest1, hrest⟩
            · rename_i k hk; exact absurd hk (hben.ne_crash k)
            · rename_i hk; exact absurd hk hben.ne_hang
          · simp only [wp_pure, true_and]
            exact ⟨hw, hacc, hsok, hest1, hrest⟩
        · intro ⟨e1, l1⟩ ⟨hw, hacc, hsok, _, _⟩
          simp only [wp_pure]
          exact hq _ _ hw hacc hsok
  | init k flags tag rwnd outs ins itsn ps =>
    obtain ⟨htag, hpr⟩ := hc
    have hrw : e.rwnd ≤ 1048576 := by have := ha.acc; omega
    cases k with
    | init =>
      simp only [receiveChunk, wp_bind, wp_getE]
      refine wp.ite (fun _ => ?_) (fun _ => by simpa using hdone l)
      simp only [wp_bind, wp_modE]
      refine wp_getExtensions ?_
      intro pr ext l1
      simp only [wp_getE]
      have hw2 := hI.counts (hI.ext (hI.peerInit h htag itsn rwnd) pr ext) outs ins
      have hn := hI.net hw2
      refine wp_sendChunk hn (initAck_inRange hn (hI.txTsn hw2) hrw hck) ?_
      intro d
      exact hq _ _ (hI.cookies hw2 _) ha hso
    | initAck =>
      simp only [receiveChunk, wp_bind, wp_getE]
      refine wp.ite (fun _ => ?_) (fun _ => by simpa using hdone l)
      simp only [wp_bind]
      refine wp_t1Cancel ?_; intro ch l1
      simp only [wp_modE]
      refine wp_getExtensions ?_
      intro pr ext l2
      dsimp only
      have hw2 := hI.counts (hI.ext (hI.peerInit (hI.t1Off h ch) htag itsn rwnd) pr ext) outs ins
      have hecho : (Chunk.plain .cookieEcho 0
          (((ps.find? fun p => p.1 == SCTP_STATE_COOKIE).map (·.2)).getD [])).inRange = true := by
        have hb : (((ps.find? fun p => p.1 == SCTP_STATE_COOKIE).map (·.2)).getD []).length + 4 < 65536 := by
          cases hf : ps.find? fun p => p.1 == SCTP_STATE_COOKIE with
          | none => simp
          | some p => simpa using (paramsInRange_mem hpr (List.mem_of_find?_eq_some hf)).2
        simpa [Chunk.inRange] using hb
      refine wp_sendChunk (hI.net hw2) hecho ?_
      intro d
      refine wp_t1Start rfl ?_
      intro l3
      rw [wp_setState_other (by decide) (by decide)]
      exact hq _ _ (hI.assoc (hI.t1On hw2 hecho) _ _) ha hso

/-- `_handle_data(data)` for a datagram of bytes. -/
theorem wp_handleData {A} {data cookie : Bytes} {Q : Unit → St → Prop} {e : Ep} {l : List Out}
    (hI : ChunkInv I) (h : I e)
    (ha : Acc 0 e.rwnd e.inStreams) (hso : SidOk e.inStreams) (hd : IsBytes data) (hck : cookie.length ≤ 1000)
    (hq : ∀ e' l', I e' → Acc 0 e'.rwnd e'.inStreams → SidOk e'.inStreams → Q () (e', l')) :
    wp A (handleData data cookie) Q (e, l) := by
  have hdone : ∀ l', Q () (e, l') := fun l' => hq e l' h ha hso
  have hben := parsePacket_safe data
  unfold handleData
  split
  · simpa using hdone l
  · rename_i k hk; exact absurd hk (hben.ne_crash k)
  · rename_i hk; exact absurd hk hben.ne_hang
  · rename_i sp dp vtag chunks hp
    have hwired := parsePacket_wired hd hp
    simp only [wp_bind, wp_getE]
    refine wp.ite (fun _ => by simpa using hdone l) (fun _ => ?_)
    · refine wp.ite (fun _ => by simpa using hdone l) (fun _ => ?_)
      · simp only [wp_bind]
        refine wp_forIn A chunks _ _ (fun suf s' => I s'.1 ∧ Acc 0 s'.1.rwnd s'.1.inStreams ∧
          SidOk s'.1.inStreams ∧ ∀ c ∈ suf, c.Wired) _ ⟨h, ha, hso, hwired⟩ ?_ ?_
        · intro c rest ⟨e1, l1⟩ ⟨hw, hacc, hsok, hwi⟩
          simp only [wp_bind]
          refine wp_receiveChunk hI hw hacc hsok (hwi c (by simp)) hck ?_
          intro e' l' hw' ha' hs'
          simp only [wp_pure, true_and]
          exact ⟨hw', ha', hs', fun x hx => hwi x (by simp [hx])⟩
        · intro ⟨e1, l1⟩ ⟨hw, hacc, hsok, _⟩
          simp only [wp_getE]
          refine wp.ite (fun hsn => ?_) (fun _ => ?_)
          · exact wp_sendSack hI.toDataInv hw (hI.sack hw hsn) hacc fun r l' hw' => hq _ _ hw' hacc hsok
          · simp only [wp_pure]
            exact hq _ _ hw hacc hsok

theorem chunkInv_WF : ChunkInv WF where
  toCtlInv := ctlInv_WF
  sack h := h.sack
  txTsn h := h.tx.tsn
  t1Off h _ := h.congr rfl
  t2Off h _ := h.congr rfl
  t1On h _ := h.congr rfl
  t2On h _ := h.congr rfl
  peerInit h ht itsn rwnd := h.peerInit ht itsn rwnd
  ext h _ _ := h.congr rfl
  counts h outs ins := h.counts outs ins
  cookies h _ := h.congr rfl

end Aiortc.Sctp
