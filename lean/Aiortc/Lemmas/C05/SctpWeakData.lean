import Aiortc.Lemmas.C05.SctpWeakChan
/-! # `V2.WFx B` (`V2.WF U` for some `U` within the budget `B`; `C05/SctpWeakInv`): the data plane, with application handlers

DCEP, DATA, FORWARD-TSN, SACK and `_send_sack` are those of `SctpData` (`dataInv_WFx`). -/
namespace Aiortc.Sctp.V2
open Aiortc.Gen Aiortc.Sctp.Wire
variable {U : List Nat} {B : Nat}

theorem ChansOk.delDc {chans dcs q rcq} (h : ChansOk U chans dcs q rcq) (sid : Nat) :
    ChansOk U chans (dictDel dcs sid) q rcq := by
  refine ⟨?_, ?_, h.qIdx, h.qPR, h.qPpid, h.sid, h.rcq, ?_, h.openId⟩
  · intro p hp; exact h.dcIdx p ((List.mem_filter.mp hp).1)
  · exact h.dcKeys.sublist ((List.filter_sublist).map _)
  · intro p hp; exact h.dcLink p ((List.mem_filter.mp hp).1)

theorem WF.delDc {e : Ep} (h : WF U e) (sid : Nat) : WF U { e with dataChannels := dictDel e.dataChannels sid } :=
  { h with ch := h.ch.delDc sid }

theorem ChansOk.open {chans dcs q rcq} (h : ChansOk U chans dcs q rcq) {sid : Nat} {c : Chan}
    (hnone : dictGet dcs sid = none) (hs : sid < 65536) (hc : c.id = some sid) (data : Bytes) :
    ChansOk U (chans ++ [c]) (dcs ++ [(sid, chans.length)]) (q ++ [(chans.length, WEBRTC_DCEP, data)]) rcq := by
  refine ⟨List.forall_mem_snoc (fun p hp => ?_) ?_, nodup_keys_snoc h.dcKeys hnone _, List.forall_mem_snoc (fun x hx => ?_) ?_,
    List.forall_mem_snoc (fun x hx d hd => ?_) (fun _ _ => Or.inl rfl), List.forall_mem_snoc h.qPpid (by simp [WEBRTC_DCEP]),
    List.forall_mem_snoc h.sid (fun s hds => by rw [hc] at hds; cases hds; exact hs), h.rcq,
    List.forall_mem_snoc (fun p hp => ?_) ⟨c, by simp, hc⟩, List.forall_mem_snoc h.openId (fun _ => Or.inr (by rw [hc]; rfl))⟩
  · have := h.dcIdx p hp; simp; omega
  · simp
  · have := h.qIdx x hx; simp; omega
  · simp
  · rw [List.getElem?_append_left (h.qIdx x hx)] at hd; exact h.qPR x hx d hd
  · obtain ⟨d, hd, hid⟩ := h.dcLink p hp
    exact ⟨d, by rw [List.getElem?_append_left (h.dcIdx p hp)]; exact hd, hid⟩

/-- `WF` does not read the receive window and the inbound streams. -/
theorem WF.rxFields {e : Ep} (h : WF U e) (rwnd : Int) (ins : List (Nat × InStream)) :
    WF U { e with rwnd := rwnd, inStreams := ins } :=
  h.congr rfl

theorem WF.setRx {e : Ep} (h : WF U e) {r : Rx} (hr : Rx.All InRange32 r) (b : Bool) :
    WF U { e with rx := some r, sackNeeded := b } :=
  { h with rx := ⟨by intro r' hr'; cases hr'; exact hr⟩, sack := fun _ => rfl }

theorem WF.rxR {e : Ep} (h : WF U e) {r : Rx} (hr : e.rx = some r) : Rx.All InRange32 r := h.rx.rng r hr

theorem WFx.rxFields {e : Ep} (h : WFx B e) (rwnd : Int) (ins : List (Nat × InStream)) :
    WFx B { e with rwnd := rwnd, inStreams := ins } := h.map (fun _ hw => hw.rxFields _ _) rfl

theorem WFx.setRx {e : Ep} (h : WFx B e) {r : Rx} (hr : Rx.All InRange32 r) (b : Bool) :
    WFx B { e with rx := some r, sackNeeded := b } := h.map (fun _ hw => hw.setRx hr b) rfl

theorem WFx.rxR {e : Ep} (h : WFx B e) {r : Rx} (hr : e.rx = some r) : Rx.All InRange32 r := by
  obtain ⟨U, _, hw⟩ := h; exact hw.rxR hr

theorem WFx.sack {e : Ep} (h : WFx B e) (hs : e.sackNeeded = true) : e.rx.isSome := by
  obtain ⟨U, _, hw⟩ := h; exact hw.sack hs

theorem wpx_transmitReconfig {A} {Q : Unit → St → Prop} {e : Ep} {l : List Out} (h : WFx B e)
    (hq : Cont DataFrame (WFx B) e Q) : wp A transmitReconfig Q (e, l) := by
  obtain ⟨U, hb, hw⟩ := h
  refine wp_transmitReconfig hw ?_
  intro e' l' hw' hf
  have hre : e'.reactions = e.reactions := by
    obtain ⟨_, _, _, _, _, _, _, _, rfl, _⟩ := hf; rfl
  exact hq e' l' ⟨U, by rw [hre]; exact hb, hw'⟩ hf

/-- The data plane of `SctpData` (`wp_dcClosed`, `wp_dcReceive`, `wp_deliver`, `wp_receiveData`,
`wp_receiveForwardTsn`, `wp_sendSack`) applies. -/
theorem dataInv_WFx : DataInv (WFx B) where
  toChanInv := chanInv_WFx
  net := fun ⟨_, _, hw⟩ => hw.net
  rxR h hr := h.rxR hr
  dcIdx := fun ⟨_, _, hw⟩ => hw.ch.dcIdx
  setRx h hr b := h.setRx hr b
  rxFields h _ _ := h.rxFields _ _
  delDc h sid := h.map (fun _ hw => hw.delDc sid) rfl
  opened h hn hs hc _ := h.map (fun _ h => { h with ch := h.ch.open hn hs hc _ }) rfl
  flushLoop fuel _ _ _ h hq := wp_flushLoop fuel h (hq.mono DFrame.kept)
  transmitReconfig h hq := wpx_transmitReconfig h (hq.mono DataFrame.kept)
  transmit := fun ⟨U, hb, hw⟩ hq => wp_transmit hw fun tx l' hw' => hq tx l' ⟨U, hb, hw'⟩
  sackTx := fun cum gaps ⟨U, hb, hw⟩ => by
    obtain ⟨r, hr, hok⟩ := Tx.receiveSack_ok _ hw.tx cum gaps _
    exact ⟨r, hr, fun tx evs he => ⟨⟨U, hb, hw.setTx (hok tx evs he).1⟩,
      fun hq => wp_playTx (hw.setTx (hok tx evs he).1) (hok tx evs he).2 hq⟩⟩

theorem WF.sackTrue {e : Ep} (h : WF U e) (hrx : e.rx.isSome = true) : WF U { e with sackNeeded := true } :=
  { h with sack := fun _ => hrx }

end Aiortc.Sctp.V2
