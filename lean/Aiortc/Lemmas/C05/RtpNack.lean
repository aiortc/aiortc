import Aiortc.Model.RtpDispatch
import Aiortc.Props.C17
/-! C05 (RTP part): `NackGenerator.add` — the marking loop terminates, and with
fixes/C05b-nack-generator-jump.patch it runs at most `RTP_HISTORY_SIZE` times per packet; the pinned loop
runs `(seq - max_seq - 1) mod 2^16` times (up to 32766). -/
namespace Aiortc.Lemmas.RtpDispatch
open Aiortc Aiortc.Gen Aiortc.Model.RtpDispatch Aiortc.Props.C17

/-- Serial distance from `seq` up to `p` (the END comes first; `Lemmas.Video.fwd seq p` is the same number as a `Nat`). -/
def fwd (p seq : Int) : Int := (p - seq) % 65536

theorem gt_iff_fwd (p seq : Int) (hp : R16 p) (hs : R16 seq) :
    uint16_gt p seq = true ↔ 0 < fwd p seq ∧ fwd p seq < 32768 := uint16_gt_iff p seq hp hs

theorem fwd_succ (p seq : Int) (h : 0 < fwd p seq) :
    fwd p (uint16_add seq 1) = fwd p seq - 1 := by
  unfold fwd uint16_add at *; omega

/-- The loop runs exactly `fwd p seq` times when that distance is below half the space (and not at all
otherwise), given at least that much fuel. -/
theorem nackLoop_ok (p : Int) (hp : R16 p) : ∀ (fuel : Nat) (seq : Int) (missing : List Int) (n : Nat),
    R16 seq → fwd p seq < 32768 → fwd p seq < fuel →
    ∃ m, nackLoop p fuel seq missing n = .ok (m, n + (fwd p seq).toNat) := by
  intro fuel
  induction fuel with
  | zero => intro seq _ _ _ _ h; unfold fwd at h; omega
  | succ k ih =>
    intro seq missing n hs hhalf hfuel
    unfold nackLoop
    by_cases hgt : uint16_gt p seq = true
    · rw [if_pos hgt]
      have hpos := ((gt_iff_fwd p seq hp hs).1 hgt).1
      have hstep := fwd_succ p seq hpos
      obtain ⟨m, hm⟩ := ih (uint16_add seq 1) (setAdd seq missing) (n + 1) (uint16_add_range seq 1)
        (by omega) (by omega)
      refine ⟨m, ?_⟩
      rw [hm, hstep]
      congr 2
      omega
    · rw [if_neg hgt]
      have : ¬ (0 < fwd p seq ∧ fwd p seq < 32768) := fun h => hgt ((gt_iff_fwd p seq hp hs).2 h)
      have h0 : fwd p seq = 0 := by unfold fwd at *; omega
      exact ⟨missing, by rw [h0]; rfl⟩

/-- When the comparison is already false the loop does nothing (whatever the distance). -/
theorem nackLoop_stop (p : Int) (fuel : Nat) (seq : Int) (missing : List Int) (n : Nat)
    (h : uint16_gt p seq = false) : nackLoop p (fuel + 1) seq missing n = .ok (missing, n) := by
  unfold nackLoop; rw [if_neg (by simp [h])]

/-- Where the fixed loop starts is at most 128 behind the packet (and still a 16-bit number). -/
theorem nackStart_spec (p m : Int) (hp : R16 p) (hm : R16 m) (hgt : uint16_gt p m = true) :
    R16 (nackStart p m) ∧ fwd p (nackStart p m) ≤ 128 ∧ fwd p (nackStart p m) < 32768 := by
  have hd := (gt_iff_fwd p m hp hm).1 hgt
  unfold nackStart
  simp only [show (RTP_HISTORY_SIZE : Int) = 128 by decide]
  have hr1 := uint16_add_range m 1
  have hr2 := uint16_add_range p (-128)
  split
  · rename_i h
    refine ⟨hr2, ?_, ?_⟩ <;> (unfold fwd uint16_add R16 at *; omega)
  · rename_i h
    have h' : ¬ (0 < fwd (uint16_add p (-128)) (uint16_add m 1) ∧ fwd (uint16_add p (-128)) (uint16_add m 1) < 32768) :=
      fun hh => h ((gt_iff_fwd _ _ hr2 hr1).2 hh)
    refine ⟨hr1, ?_, ?_⟩ <;> (unfold fwd uint16_add R16 at *; omega)

/-- **Fixed generator**: total for 16-bit sequence numbers, at most 128 loop iterations, 16-bit state kept. -/
theorem nack_add_total (g : Nack) (hg : ∀ m, g.maxSeq = some m → R16 m) (p : Int) (hp : R16 p) :
    ∃ g' missed n, g.add p = .ok (g', missed, n) ∧ n ≤ 128 ∧ (∀ m, g'.maxSeq = some m → R16 m) := by
  unfold Nack.add Nack.addWith
  cases hm : g.maxSeq with
  | none => exact ⟨_, _, _, rfl, by omega, by intro m h; cases h; exact hp⟩
  | some m =>
    have hmr := hg m hm
    simp only
    by_cases hgt : uint16_gt p m = true
    · rw [if_pos hgt]
      obtain ⟨hsr, h128, hhalf⟩ := nackStart_spec p m hp hmr hgt
      have hc : RTP_HISTORY_SIZE + 1 = 129 := by decide
      obtain ⟨ms, hms⟩ := nackLoop_ok p hp (RTP_HISTORY_SIZE + 1) (nackStart p m) g.missing 0 hsr hhalf
        (by rw [hc]; omega)
      rw [hms]
      refine ⟨_, _, _, rfl, ?_, ?_⟩
      · have : 0 ≤ fwd p (nackStart p m) := by unfold fwd; omega
        omega
      · intro m' h; cases h; exact hp
    · rw [if_neg hgt]
      exact ⟨_, _, _, rfl, by omega, by intro m' h; rw [hm] at *; cases h; exact hmr⟩

/-- **Pinned generator**: the loop runs once per skipped sequence number — up to 32766 times for one packet. -/
theorem nack_add_unfixed_walks (g : Nack) (m p : Int) (hm : R16 m) (hp : R16 p) (hmax : g.maxSeq = some m)
    (hgt : uint16_gt p m = true) :
    ∃ g' missed, g.addUnfixed p = .ok (g', missed, (fwd p m - 1).toNat) := by
  unfold Nack.addUnfixed Nack.addWith
  rw [hmax]
  simp only [if_pos hgt]
  have hd := (gt_iff_fwd p m hp hm).1 hgt
  have hstep := fwd_succ p m hd.1
  obtain ⟨ms, hms⟩ := nackLoop_ok p hp 65536 (uint16_add m 1) g.missing 0 (uint16_add_range m 1)
    (by omega) (by omega)
  rw [hms, hstep]
  simp only [Nat.zero_add]
  exact ⟨_, _, rfl⟩

end Aiortc.Lemmas.RtpDispatch
