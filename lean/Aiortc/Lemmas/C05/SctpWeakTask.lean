import Aiortc.Lemmas.C05.SctpWeakChunk
import Aiortc.Lemmas.C05.SctpTask
/-! # `V2.WFx B` (`C05/SctpWeakInv`): queued tasks, timers and the application inputs keep it -/
namespace Aiortc.Sctp.V2
open Aiortc.Gen Aiortc.Sctp.Wire
variable {U : List Nat} {B : Nat}

theorem TaskOk.toSctp {t : Task} (h : TaskOk t) : Aiortc.Sctp.TaskOk t := by cases t <;> exact h

/-- A queued task never raises (what was queued is serialisable: clause `tasks` of the invariant). -/
theorem wp_runTask {A} {Q : Unit → St → Prop} {e : Ep} {l : List Out} (h : WFx B e)
    (hq : Cont RxKept (WFx B) e Q) :
    wp A runTask Q (e, l) := by
  refine Aiortc.Sctp.wp_runTask ctlInv_WFx h (fun t rest ht => ?_) hq
  obtain ⟨U, _, hw⟩ := h
  exact (hw.popTask ht).2.toSctp

/-- T1 expiry of an ARMED timer (`e.t1 = true`: asyncio only calls the handle of a timer that was started). -/
theorem wp_fire_t1 {A} {Q : Unit → St → Prop} {e : Ep} {l : List Out} (h : WFx B e) (ht : e.t1 = true)
    (hq : Cont RxKept (WFx B) e Q) :
    wp A (handle (.fire "t1")) Q (e, l) := by
  obtain ⟨c, hcs, hcr⟩ : ∃ c, e.t1Chunk = some c ∧ c.inRange = true := by
    obtain ⟨U, _, hw⟩ := h; exact hw.tm1 ht
  have hw0 : WFx B { e with t1Failures := e.t1Failures + 1, t1 := false } := (h.t1Off e.t1Chunk).congr rfl rfl
  refine Aiortc.Sctp.wp_fire_t1 ctlInv_WFx hcs hw0 ?_ hq
  exact (hw0.pushTask (t := .resend c) hcr).map (fun _ h1 => { h1 with tm1 := (fun _ => ⟨c, hcs, hcr⟩) }) rfl

theorem wp_fire_t2 {A} {Q : Unit → St → Prop} {e : Ep} {l : List Out} (h : WFx B e) (ht : e.t2 = true)
    (hq : Cont RxKept (WFx B) e Q) :
    wp A (handle (.fire "t2")) Q (e, l) := by
  obtain ⟨c, hcs, hcr⟩ : ∃ c, e.t2Chunk = some c ∧ c.inRange = true := by
    obtain ⟨U, _, hw⟩ := h; exact hw.tm2 ht
  have hw0 : WFx B { e with t2Failures := e.t2Failures + 1, t2 := false } := (h.t2Off e.t2Chunk).congr rfl rfl
  refine Aiortc.Sctp.wp_fire_t2 ctlInv_WFx hcs hw0 ?_ hq
  exact (hw0.pushTask (t := .resend c) hcr).map (fun _ h1 => { h1 with tm2 := (fun _ => ⟨c, hcs, hcr⟩) }) rfl

theorem wp_fire_reconfig {A} {Q : Unit → St → Prop} {e : Ep} {l : List Out} (h : WFx B e)
    (hq : Cont RxKept (WFx B) e Q) :
    wp A (handle (.fire "reconfig")) Q (e, l) := by
  have hw0 : WFx B { e with rcTimer := false } := h.congr rfl rfl
  refine Aiortc.Sctp.wp_fire_reconfig hw0 (fun p hp => ?_) hq
  have hrc : RcOk p := by obtain ⟨U, _, hw⟩ := h; exact hw.rcr p hp
  exact (hw0.pushTask (t := .resendReconfig p) hrc).congr rfl rfl

/-! ## application inputs -/

/-- `transport.stop()`. -/
theorem wp_stop {A} {Q : Unit → St → Prop} {e : Ep} {l : List Out} (h : WFx B e)
    (hq : Cont RxKept (WFx B) e Q) :
    wp A (handle .stop) Q (e, l) := by
  simp only [handle, wp_bind, wp_getE]
  have hfin : ∀ l1, wp A (setState .closed) Q ({ e with registered := false }, l1) := fun l1 =>
    wp_setState_closed ctlInv_WFx (e := { e with registered := false }) (h.congr rfl rfl) hq
  refine wp.ite (fun _ => ?_) (fun _ => ?_)
  · simp only [wp_bind]
    refine wp_sendChunk (c := .params .abort 0 []) (ctlInv_WFx.net h) (by decide) ?_
    intro d
    simp only [wp_modE]; exact hfin _
  · simp only [wp_bind, wp_modE]
    exact hfin _

/-- `channel.bufferedAmountLowThreshold = v` on an existing channel object. -/
theorem wp_threshold {A} {i : Nat} {v : Int} {Q : Unit → St → Prop} {e : Ep} {l : List Out} (h : WFx B e)
    (hi : i < e.chans.length)
    (hq : Cont RxKept (WFx B) e Q) :
    wp A (handle (.threshold i v)) Q (e, l) := by
  obtain ⟨c, hc⟩ := List.exists_getElem?_of_lt hi
  simp only [handle]
  refine wp.ite (fun _ => ?_) (fun _ => ?_)
  · simp only [wp_emit]; exact hq.here (.refl _) h _
  · simp only [wp_bind, wp_chanGet hc, wp_chanSet]
    exact hq _ _ (h.map (fun _ hw => hw.setChan hc (c' := { c with threshold := v.toNat }) ⟨rfl, rfl, rfl⟩
      (fun h' => Or.inl h')) rfl) ⟨rfl, rfl⟩

/-- `channel.close()` on an existing channel object; the `KeyError` of `self._data_channels.pop(channel.id)` needs the
channel to be registered when the association is not established. -/
theorem wp_close {A} {i : Nat} {Q : Unit → St → Prop} {e : Ep} {l : List Out} (h : WFx B e)
    (hi : i < e.chans.length) (hk : A "KeyError" ∨ e.assoc = .established)
    (hq : Cont RxKept (WFx B) e Q) :
    wp A (handle (.close i)) Q (e, l) := by
  simp only [handle]
  exact wp_dcClose ctlInv_WFx h hi hk (hq.mono DataKept.rx)

/-- `channel.send(data)` on an existing channel object: `InvalidStateError` unless it is open; one unit of the budget. -/
theorem wp_send {A} {i : Nat} {isStr : Bool} {data : Bytes} {Q : Unit → St → Prop} {e : Ep} {l : List Out}
    (h : WFx (B + 1) e) (hi : i < e.chans.length)
    (hq : Cont RxKept (WFx B) e Q) :
    wp A (handle (.send i isStr data)) Q (e, l) := by
  obtain ⟨c, hc⟩ := List.exists_getElem?_of_lt hi
  simp only [handle, wp_bind, wp_chanGet hc]
  refine wp.ite (fun _ => ?_) (fun hr => ?_)
  · simp only [wp_bind, wp_emit, wp_pure]; exact hq _ _ (h.mono (by omega)) ⟨rfl, rfl⟩
  · have hr1 : c.ready = 1 := Decidable.of_not_not hr
    obtain ⟨U, hb, hw⟩ := h
    exact wp_dcSend (B := B) hw hb hc hr1 (hq.mono fun hf => hf.kept.rx)

/-- The application arms a one-shot handler (any kind, any channel index): one unit of the budget. -/
theorem wp_arm {A} {k i : Nat} {isStr : Bool} {data : Bytes} {Q : Unit → St → Prop} {e : Ep} {l : List Out}
    (h : WFx (B + 1) e)
    (hq : Cont RxKept (WFx B) e Q) :
    wp A (handle (.react k i isStr data)) Q (e, l) := by
  simp only [handle, wp_modE]
  exact hq _ _ (h.armed _) ⟨rfl, rfl⟩

end Aiortc.Sctp.V2
