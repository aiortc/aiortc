import Aiortc.Lemmas.C05.SctpWeakSend
import Aiortc.Lemmas.C05.SctpData
import Aiortc.Lemmas.C13.SctpIds
import Aiortc.Lemmas.C13.SctpUserData
/-! # `V2.WF U` (partial reliability on the streams `U`; `C05/SctpWeakInv`): sending chunks (incl. FORWARD-TSN), channel state, `_transmit`, `_data_channel_flush` with id assignment -/
namespace Aiortc.Sctp.V2
open Aiortc.Gen Aiortc.Sctp.Wire
variable {U : List Nat} {B : Nat}

/-- A FORWARD-TSN over at most 16381 streams of 16-bit ids / sequence numbers fits its 16-bit length. -/
theorem forwardTsn_inRange {cum : Int} {streams : List (Nat × Int)} (hU : U.length ≤ 16381) (hc : InRange32 cum)
    (hs : FsOk U streams) :
    (Chunk.forwardTsn 0 cum.toNat (streams.map fun s => (s.1, s.2.toNat))).inRange = true := by
  have hlen := hs.length_le
  obtain ⟨h0, h1⟩ := hc
  have hp : pairsInRange (streams.map fun s => (s.1, s.2.toNat)) = true := by
    unfold pairsInRange
    rw [List.all_eq_true]
    intro q hq
    obtain ⟨p, hp, rfl⟩ := List.mem_map.mp hq
    obtain ⟨_, h2, h3, h4⟩ := hs.2 p hp
    simp only [Bool.and_eq_true, decide_eq_true_eq]
    omega
  simp only [Chunk.inRange, hp, List.length_map, Bool.and_eq_true, decide_eq_true_eq, Bool.and_true]
  omega

theorem wp_playTx {A} {evs : List TxEv} {Q : Unit → St → Prop} {e : Ep} {l : List Out} (h : WF U e)
    (hev : ∀ ev ∈ evs, TxEv.Ok U ev) (hq : ∀ l', Q () (e, l')) : wp A (playTx evs) Q (e, l) :=
  playTx_spec h.net (fun _ h => dataChunkOf_inRange h) (fun _ _ hf => forwardTsn_inRange h.cap hf.1 hf.2) hev hq

/-- `_transmit()`: only the send side changes. -/
theorem wp_transmit {A} {Q : Unit → St → Prop} {e : Ep} {l : List Out} (h : WF U e)
    (hq : ∀ tx l', WF U { e with tx := tx } → Q () ({ e with tx := tx }, l')) : wp A transmit Q (e, l) := by
  unfold transmit
  obtain ⟨ht, hev⟩ := Tx.transmit_ok e.tx h.tx
  simp only [wp_bind, wp_getE, wp_setE]
  have hw : WF U { e with tx := e.tx.transmit.1 } := h.setTx ht
  refine wp_playTx hw hev ?_
  intro l'
  exact hq _ _ hw

/-- `_send(...)`: reliable, or partially reliable on a stream of `U`. -/
theorem wp_sendData {A} {sid ppid : Nat} {data : Bytes} {expiry maxRtx : Option Int} {ordered : Bool}
    {Q : Unit → St → Prop} {e : Ep} {l : List Out}
    (h : WF U e) (hs : sid < 65536) (hp : ppid < 4294967296) (hpr : (expiry = none ∧ maxRtx = none) ∨ sid ∈ U)
    (hq : ∀ tx l', WF U { e with tx := tx } → Q () ({ e with tx := tx }, l')) :
    wp A (sendData sid ppid data expiry maxRtx ordered) Q (e, l) := by
  unfold sendData
  simp only [wp_bind, wp_modE]
  have hw : WF U { e with tx := e.tx.enqueue sid ppid data expiry maxRtx ordered } :=
    h.setTx (Tx.enqueue_ok _ h.tx _ _ _ _ _ _ hs hp hpr)
  refine wp_transmit hw ?_
  intro tx l' hw'
  exact hq tx l' hw'

theorem ChansOk.subQ {chans dcs q q' rcq} (h : ChansOk U chans dcs q rcq) (hsub : ∀ x ∈ q', x ∈ q) :
    ChansOk U chans dcs q' rcq :=
  ⟨h.dcIdx, h.dcKeys, fun x hx => h.qIdx x (hsub x hx), fun x hx => h.qPR x (hsub x hx),
   fun x hx => h.qPpid x (hsub x hx), h.sid, h.rcq, h.dcLink, h.openId⟩

theorem WF.subQ {e : Ep} (h : WF U e) {q : List (Nat × Nat × Bytes)} (hsub : ∀ x ∈ q, x ∈ e.dcQueue) :
    WF U { e with dcQueue := q } :=
  { h with ch := h.ch.subQ hsub }

theorem ChansOk.pushQ {chans dcs q rcq} (h : ChansOk U chans dcs q rcq) {i ppid : Nat} {data : Bytes}
    (hi : i < chans.length) (hp : ppid < 4294967296)
    (hpr : ∀ c, chans[i]? = some c → ppid = WEBRTC_DCEP ∨ c.Reliable ∨ ∃ s, c.id = some s ∧ s ∈ U) :
    ChansOk U chans dcs (q ++ [(i, ppid, data)]) rcq :=
  { h with qIdx := List.forall_mem_snoc h.qIdx hi, qPR := List.forall_mem_snoc h.qPR hpr, qPpid := List.forall_mem_snoc h.qPpid hp }

theorem WF.pushQ {e : Ep} (h : WF U e) {i ppid : Nat} {data : Bytes}
    (hi : i < e.chans.length) (hp : ppid < 4294967296)
    (hpr : ∀ c, e.chans[i]? = some c → ppid = WEBRTC_DCEP ∨ c.Reliable ∨ ∃ s, c.id = some s ∧ s ∈ U) :
    WF U { e with dcQueue := e.dcQueue ++ [(i, ppid, data)] } :=
  { h with ch := h.ch.pushQ hi hp hpr }

/-- `WF` does not read the armed handlers. -/
theorem WF.setReactions {e : Ep} (h : WF U e) (rs : List (Nat × Nat × Bool × Bytes)) :
    WF U { e with reactions := rs } :=
  h.congr rfl

/-! ## application handlers that re-enter the API -/

/-- `channel.send(data)` after its state check, on an OPEN channel: one unit of the budget pays for the stream of a
partially reliable channel joining `U`. -/
theorem wp_dcSend {A} {i : Nat} {isStr : Bool} {data : Bytes} {Q : Unit → St → Prop} {e : Ep} {l : List Out}
    (h : WF U e) (hb : U.length + e.reactions.length + (B + 1) ≤ 16381) {c : Chan} (hc : e.chans[i]? = some c)
    (hr : c.ready = 1) (hq : Cont RFrame (WFx B) e Q) :
    wp A (dcSend i isStr data) Q (e, l) := by
  obtain ⟨hi, -⟩ := List.getElem?_eq_some_iff.mp hc
  obtain ⟨hpp, hnd⟩ := userData_ppid isStr data
  -- the set of partially reliable streams afterwards
  obtain ⟨U', hsub, hlen, hmem⟩ : ∃ U' : List Nat, (∀ x ∈ U, x ∈ U') ∧ U'.length ≤ U.length + 1 ∧
      (c.Reliable ∨ ∃ s, c.id = some s ∧ s ∈ U') := by
    rcases h.ch.openId c (List.mem_of_getElem? hc) hr with hrel | hid
    · exact ⟨U, fun x hx => hx, by omega, Or.inl hrel⟩
    · obtain ⟨s, hs⟩ := Option.isSome_iff_exists.mp hid
      exact ⟨s :: U, fun x hx => List.mem_cons_of_mem _ hx, by simp, Or.inr ⟨s, hs, List.mem_cons_self⟩⟩
  have hw0 : WF U' e := h.monoU hsub (by omega)
  unfold dcSend addBuffered0 addBufferedCore
  simp only [wp_bind, wp_chanGet hc, wp_chanSet]
  have hw := hw0.setChan hc (c' := { c with buffered := c.buffered + (userData isStr data).2.length })
    ⟨rfl, rfl, rfl⟩ (fun h' => Or.inl h')
  have hw2 := (hw.pushQ (i := i) (ppid := (userData isStr data).1) (data := (userData isStr data).2)
    (by simpa using hi) hpp (by
      intro c' hc'
      simp only [List.getElem?_set, hi, if_true] at hc'
      cases hc'
      rcases hmem with hrel | ⟨s, hs1, hs2⟩
      · exact Or.inr (Or.inl hrel)
      · exact Or.inr (Or.inr ⟨s, hs1, hs2⟩))).pushTask (t := .flush) trivial
  refine wp.ite (fun _ => ?_) (fun _ => ?_)
  · simp only [wp_bind, wp_emit, wp_pure, wp_modE, queueTask]
    exact hq _ _ ⟨U', by simp only; omega, hw2⟩ ⟨_, _, _, _, rfl, by simp⟩
  · simp only [wp_pure, wp_modE, wp_bind, wp_emit, queueTask]
    exact hq _ _ ⟨U', by simp only; omega, hw2⟩ ⟨_, _, _, _, rfl, by simp⟩

/-- An application handler runs: at most one armed reaction is consumed; its `send()` either fails inside the handler
(`InvalidStateError`) or queues one user message on an open channel. -/
theorem wp_react {A} {k i : Nat} {Q : Unit → St → Prop} {e : Ep} {l : List Out} (h : WF U e)
    (hb : U.length + e.reactions.length + B ≤ 16381) (hi : i < e.chans.length)
    (hq : Cont RFrame (WFx B) e Q) : wp A (react k i) Q (e, l) := by
  unfold react
  simp only [wp_bind, wp_getE]
  split
  · simp only [wp_pure]; exact hq e l ⟨U, hb, h⟩ (RFrame.refl _)
  · rename_i r hfind
    have hmem : r ∈ e.reactions := List.mem_of_find?_eq_some hfind
    have hlen : (e.reactions.erase r).length + 1 = e.reactions.length := by
      rw [List.length_erase_of_mem hmem]
      have : 0 < e.reactions.length := List.length_pos_of_mem hmem
      omega
    obtain ⟨c, hc⟩ := List.exists_getElem?_of_lt hi
    have hw1 : WF U { e with reactions := e.reactions.erase r } := h.setReactions _
    simp only [wp_bind, wp_setE]
    rw [wp_chanGet (c := c) (by simpa using hc)]
    refine wp.ite (fun _ => ?_) (fun hr => ?_)
    · simp only [wp_emit]
      exact hq _ _ ⟨U, by simp only; omega, hw1⟩ ⟨_, _, _, _, rfl, rfl⟩
    · have hr1 : c.ready = 1 := Decidable.of_not_not hr
      exact wp_dcSend (B := B) hw1 (by simp only; omega) (by simpa using hc) hr1
        (hq.trans RFrame.trans ⟨_, _, _, _, rfl, rfl⟩)

/-- `_setReadyState` and `_addBufferedAmount` are those of `SctpChan`. A channel that opens because its stream id
is registered has that id (`dcLink`). -/
theorem chanInv_WFx : ChanInv (WFx B) where
  setChan h hc hs ho := h.map (fun _ hw => hw.setChan hc hs fun h' => (ho h').imp id fun ⟨s, hs⟩ => by
    obtain ⟨d, hd, hdid⟩ := hw.ch.dcLink _ hs
    rw [hd] at hc; cases hc
    exact Or.inr (by rw [hdid]; rfl)) rfl
  react := fun ⟨_, hb, hw⟩ hi hq => wp_react hw hb hi hq

/-! ## `_data_channel_flush`: picking a stream id -/

/-- registering the picked id for a channel that waited for one -/
theorem WF.assign {e : Ep} (h : WF U e) {i s : Nat} {c : Chan} (hc : e.chans[i]? = some c) (hid : c.id = none)
    (hnew : dictGet e.dataChannels s = none) (hs : s < 65536) :
    WF U { e with dataChannels := e.dataChannels ++ [(s, i)], chans := e.chans.set i { c with id := some s } } := by
  obtain ⟨hlt, -⟩ := List.getElem?_eq_some_iff.mp hc
  refine { h with ch := ⟨?_, ?_, ?_, ?_, h.ch.qPpid, ?_, h.ch.rcq, ?_, ?_⟩ }
  · exact List.forall_mem_snoc (fun p hp => by simpa using h.ch.dcIdx p hp) (by simpa using hlt)
  · exact nodup_keys_snoc h.ch.dcKeys hnew _
  · intro x hx; simpa using h.ch.qIdx x hx
  · intro x hx d hd
    rw [List.getElem?_set] at hd
    split at hd
    · rename_i heq
      simp only [Option.some.injEq] at hd
      subst hd
      rcases h.ch.qPR x hx c (heq ▸ hc) with h' | h' | ⟨s', hs', _⟩
      · exact Or.inl h'
      · exact Or.inr (Or.inl h')
      · rw [hid] at hs'; cases hs'
    · exact h.ch.qPR x hx d hd
  · intro d hd s' hs'
    rcases List.mem_or_eq_of_mem_set hd with hd | rfl
    · exact h.ch.sid d hd s' hs'
    · simp at hs'; omega
  · refine List.forall_mem_snoc (fun p hp => ?_) ⟨{ c with id := some s }, by rw [List.getElem?_set]; simp [hlt], rfl⟩
    obtain ⟨d, hd, hdid⟩ := h.ch.dcLink p hp
    have hne : ¬ i = p.2 := by
      intro heq; rw [← heq, hc] at hd; cases hd; rw [hid] at hdid; cases hdid
    refine ⟨d, ?_, hdid⟩
    rw [List.getElem?_set]; simp [hne, hd]
  · intro d hd hr
    rcases List.mem_or_eq_of_mem_set hd with hd | rfl
    · exact h.ch.openId d hd hr
    · exact Or.inr rfl

/-- `_transmit_reconfig()`: only the stream reset bookkeeping changes. -/
theorem wp_transmitReconfig {A} {Q : Unit → St → Prop} {e : Ep} {l : List Out} (h : WF U e)
    (hq : Cont DataFrame (WF U) e Q) :
    wp A transmitReconfig Q (e, l) := by
  refine transmitReconfig_spec h.net h.rcReq h.rcResp h.ch.rcq (hq e l h (DataFrame.refl _)) ?_
  intro streams l' hin hlen
  exact hq _ _
    { h with ch := { h.ch with rcq := fun s hs => h.ch.rcq s (List.mem_filter.mp hs).1 },
             rcReq := tsn_plus_one_range _, rcr := fun p hp => by cases hp; exact ⟨hin, hlen⟩ }
    ⟨_, _, _, _, _, _, _, _, rfl, Nat.le_refl _⟩

/-- `_data_channel_flush` loop, with its exact frame (`dataInv_WFx` weakens it to `DataKept`). -/
theorem wp_flushLoop {A} (fuel : Nat) {Q : Unit → St → Prop} {e : Ep} {l : List Out} (h : WFx B e)
    (hq : Cont DFrame (WFx B) e Q) : wp A (flushLoop fuel) Q (e, l) := by
  induction fuel generalizing e l with
  | zero => simpa [flushLoop] using hq.here (.refl _) h l
  | succ fuel ih =>
    rw [wp_iff_WP, flushLoop_succ]
    split
    · exact hq.here (.refl _) h l
    · rename_i i ppid data rest hqeq
      split
      · exact hq.here (.refl _) h l
      obtain ⟨U, hb, h⟩ := h
      have hqeq : e.dcQueue = (i, ppid, data) :: rest := hqeq
      have hmem : (i, ppid, data) ∈ e.dcQueue := by rw [hqeq]; simp
      have hi := h.ch.qIdx _ hmem
      obtain ⟨c, hc⟩ := List.exists_getElem?_of_lt hi
      have hw1 : WF U { e with dcQueue := rest } := h.subQ (by intro x hx; rw [hqeq]; simp [hx])
      have hpp := h.ch.qPpid _ hmem
      have hpr0 := h.ch.qPR _ hmem c hc
      -- the part after the stream id is known, for any state `e1` reached so far
      have hsend : ∀ (e1 : Ep) (l1 : List Out) (sid : Nat), WF U e1 → U.length + e1.reactions.length + B ≤ 16381 →
          DFrame e e1 → sid < 65536 → (ppid = WEBRTC_DCEP ∨ c.Reliable ∨ sid ∈ U) →
          wp A (flushSend fuel i ppid data c sid) Q (e1, l1) := by
        intro e1 l1 sid hwe hbe hfe hsid hprs
        have hi1 : i < e1.chans.length := Nat.lt_of_lt_of_le hi hfe.len
        have hq1 : Cont DFrame (WFx B) e1 Q := hq.trans DFrame.trans hfe
        unfold flushSend
        refine wp.ite (fun _ => ?_) (fun hne => ?_)
        · simp only [wp_bind]
          refine wp_sendData hwe hsid hpp (Or.inl ⟨rfl, rfl⟩) ?_
          intro tx l' hw2
          exact ih ⟨U, hbe, hw2⟩ (hq1.trans DFrame.trans ⟨_, _, _, _, _, _, _, _, _, _, rfl, Nat.le_refl _⟩)
        · simp only [wp_bind, wp_getE]
          have hpr : ((match c.maxPacketLifeTime with
              | some l => if l ≠ 0 then some (1000 * e1.now + 1024 * (l : Int)) else none
              | none => none : Option Int) = none ∧ (c.maxRetransmits.map fun m => (m : Int)) = none) ∨ sid ∈ U := by
            rcases hprs with h' | h' | h'
            · exact absurd h' hne
            · left; simp [h'.1, h'.2]
            · exact Or.inr h'
          refine wp_sendData hwe hsid hpp hpr ?_
          intro tx l' hw2
          refine chanInv_WFx.addBuffered ⟨U, hbe, hw2⟩ (by simpa using hi1) ?_
          intro e2 l'' hw3 hf2
          exact ih hw3 (hq1.trans DFrame.trans (.trans ⟨_, _, _, _, _, _, _, _, _, _, rfl, Nat.le_refl _⟩ (.of_rframe hf2)))
      obtain ⟨s0, hs0, hs0le⟩ := h.ids
      simp only [show (e, l).1.chans[i]? = some c from hc]
      cases hid : c.id with
      | some sid =>
        have hsidlt := h.ch.sid c (List.mem_of_getElem? hc) sid hid
        refine wp_iff_WP.1 (hsend _ _ sid hw1 hb ⟨_, _, _, _, _, _, _, _, _, _, rfl, Nat.le_refl _⟩ hsidlt ?_)
        rcases hpr0 with h' | h' | ⟨s, hs, hu⟩
        · exact Or.inl h'
        · exact Or.inr (Or.inl h')
        · rw [hid] at hs; cases hs; exact Or.inr (Or.inr hu)
      | none =>
        obtain ⟨k, hk, hpick, hin, hout⟩ := pick_spec e (e.dataChannels.length + 1) s0
        have hkl : k ≤ e.dataChannels.length := keys_pigeon _ _ _ hin
        have hnew : dictGet e.dataChannels (s0 + 2 * k) = none :=
          Option.isNone_iff_eq_none.mp (Option.isSome_eq_false_iff.mp (hout (by omega)))
        split
        · rename_i hx; cases hx
        · rename_i hnone; rw [hs0] at hnone; cases hnone
        rename_i s1 _ hs1
        obtain rfl : s0 = s1 := Option.some.inj (hs0.symm.trans hs1)
        simp only [hpick]
        split
        · -- no stream id of the local parity below 65536 is free: the channel is closed
          refine wp_iff_WP.1 ?_
          simp only [wp_bind]
          refine chanInv_WFx.setReady ⟨U, hb, hw1⟩ (by simpa using hi) (Or.inl (by decide)) ?_
          intro e2 l1 hw2 hf2
          exact ih hw2 (hq.trans DFrame.trans (.trans ⟨_, _, _, _, _, _, _, _, _, _, rfl, Nat.le_refl _⟩ (.of_rframe hf2)))
        · rename_i hle
          have hslt : s0 + 2 * k < 65536 := by omega
          have hw2 := hw1.assign (i := i) (s := s0 + 2 * k) (c := c) (by simpa using hc) hid
            (by simpa using hnew) hslt
          refine wp_iff_WP.1 (hsend _ _ _ hw2 hb ⟨_, _, _, _, _, _, _, _, _, _, rfl, by simp⟩ hslt ?_)
          rcases hpr0 with h' | h' | ⟨s, hs, _⟩
          · exact Or.inl h'
          · exact Or.inr (Or.inl h')
          · rw [hid] at hs; cases hs

end Aiortc.Sctp.V2
