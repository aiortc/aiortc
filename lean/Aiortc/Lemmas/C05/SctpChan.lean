import Aiortc.Lemmas.SctpEndpoint.Ops
import Aiortc.Lemmas.C05.SctpSendSide
import Aiortc.Lemmas.Serial
import Aiortc.Lemmas.Bytes
/-! # Crash-freedom of the small handlers: sending chunks, channel state, `_transmit`, `_data_channel_flush`

`ChanInv I` is the first of four interfaces (`ChanInv` ⊂ `DataInv` ⊂ `CtlInv` ⊂ `ChunkInv`) through which the handlers
see the invariant: `setReady` and `addBuffered` are proved for any `I` with it. What follows it (`_transmit`,
`_transmit_reconfig`, `_data_channel_flush`) is proved for `WF` and becomes fields of `dataInv_WF`; `C05/SctpWeakChan` does
the same for `V2.WF U`. -/
namespace Aiortc.Sctp
open Aiortc.Gen Aiortc.Sctp.Wire

theorem packetFor_ok {e : Ep} {c : Chunk}
    (h : NetOk e.localPort e.remotePort e.remoteTag e.localTag e.inboundMax e.outboundCount) (hc : c.inRange = true) :
    ∃ d, packetFor e c = .ok d := by
  obtain ⟨p, hp, hlt⟩ := h.rp
  refine ⟨serializePacketRaw e.localPort p e.remoteTag c, ?_⟩
  have := h.lp
  have := h.rtag
  simp [packetFor, serializePacket, headerInRange, *]

/-- `_send_chunk` only needs the addressing part of the invariant. -/
theorem wp_sendChunk {A} {c : Chunk} {Q : Unit → St → Prop} {e : Ep} {l : List Out}
    (h : NetOk e.localPort e.remotePort e.remoteTag e.localTag e.inboundMax e.outboundCount) (hc : c.inRange = true)
    (hq : ∀ d, Q () (e, l ++ [.tx d])) : wp A (sendChunk c) Q (e, l) := by
  obtain ⟨d, hd⟩ := packetFor_ok h hc
  simp [sendChunk, hd, hq]

theorem dataChunkOf_inRange {c : RChunk} (h : c.Wire) : (dataChunkOf c).inRange = true := by
  obtain ⟨h1, h2, h3, h4, h5, h6, h7, h8⟩ := h
  simp [dataChunkOf, Chunk.inRange]
  omega

/-- `playTx`: every event that carries a chunk must be serialisable (`Ok` says which events may occur). -/
theorem playTx_spec {Ok : TxEv → Prop} {A} {evs : List TxEv} {Q : Unit → St → Prop} {e : Ep} {l : List Out}
    (hn : NetOk e.localPort e.remotePort e.remoteTag e.localTag e.inboundMax e.outboundCount)
    (hd : ∀ c, Ok (.data c) → (dataChunkOf c).inRange = true)
    (hf : ∀ cum streams, Ok (.fwd cum streams) →
      (Chunk.forwardTsn 0 cum.toNat (streams.map fun s => (s.1, s.2.toNat))).inRange = true)
    (hev : ∀ ev ∈ evs, Ok ev) (hq : ∀ l', Q () (e, l')) : wp A (playTx evs) Q (e, l) := by
  unfold playTx
  rw [wp_bind]
  refine wp_forIn A evs _ _ (fun suf s' => s'.1 = e ∧ ∀ ev ∈ suf, Ok ev) (e, l) ⟨rfl, hev⟩ ?_ ?_
  · intro ev rest s' ⟨he, hok⟩
    have hev := hok ev (by simp)
    have hrest : ∀ ev ∈ rest, Ok ev := fun x hx => hok x (by simp [hx])
    cases ev with
    | data c =>
      simp only [wp_bind]
      refine wp_sendChunk (he ▸ hn) (hd c hev) ?_
      intro d; simpa [he] using hrest
    | fwd cum streams =>
      simp only [wp_bind]
      refine wp_sendChunk (he ▸ hn) (hf cum streams hev) ?_
      intro d; simpa [he] using hrest
    | t3start => simpa [he] using hrest
    | t3cancel => simpa [he] using hrest
  · intro s' ⟨he, _⟩
    have := hq s'.2
    rw [← he] at this
    simpa using this

theorem wp_playTx {A} {evs : List TxEv} {Q : Unit → St → Prop} {e : Ep} {l : List Out} (h : WF e)
    (hev : ∀ ev ∈ evs, ev.Ok) (hq : ∀ l', Q () (e, l')) : wp A (playTx evs) Q (e, l) :=
  playTx_spec h.net (fun _ h => dataChunkOf_inRange h) (fun _ _ h => h.elim) hev hq

theorem wp_chanGet {A} {i : Nat} {Q : Chan → St → Prop} {e : Ep} {l : List Out} {c : Chan} (h : e.chans[i]? = some c) :
    wp A (chanGet i) Q (e, l) ↔ Q c (e, l) := by
  simp [chanGet, h]

@[simp] theorem wp_chanSet {A} {i : Nat} {c : Chan} {Q : Unit → St → Prop} {e : Ep} {l : List Out} :
    wp A (chanSet i c) Q (e, l) ↔ Q () ({ e with chans := e.chans.set i c }, l) := by
  simp [chanSet]

theorem DataFrame.setChan (e : Ep) (i : Nat) (c : Chan) : DataFrame e { e with chans := e.chans.set i c } :=
  ⟨e.chans.set i c, e.dataChannels, e.dcQueue, e.tx, _, _, _, _, rfl, by simp⟩

/-- What `_setReadyState` and `_addBufferedAmount` use of an invariant `I` of the endpoint (`WF`, `V2.WFx B`): a channel
object may be replaced by one with the same static attributes (it may become OPEN only if its stream id is registered),
and a handler of the application keeps `I`. -/
structure ChanInv (I : Ep → Prop) : Prop where
  setChan : ∀ {e i c c'}, I e → e.chans[i]? = some c → Chan.Same c c' →
    (c'.ready = 1 → c.ready = 1 ∨ ∃ s, (s, i) ∈ e.dataChannels) → I { e with chans := e.chans.set i c' }
  react : ∀ {A k i} {Q : Unit → St → Prop} {e l}, I e → i < e.chans.length →
    Cont RFrame I e Q → wp A (react k i) Q (e, l)

/-- `_setReadyState`. -/
theorem ChanInv.setReady {I : Ep → Prop} (hI : ChanInv I) {A} {i st : Nat} {Q : Unit → St → Prop} {e : Ep}
    {l : List Out} (h : I e) (hi : i < e.chans.length) (hst : st ≠ 1 ∨ ∃ s, (s, i) ∈ e.dataChannels)
    (hq : Cont RFrame I e Q) : wp A (Sctp.setReady i st) Q (e, l) := by
  obtain ⟨c, hc⟩ := List.exists_getElem?_of_lt hi
  unfold Sctp.setReady
  simp only [wp_bind, wp_chanGet hc]
  refine wp.ite (fun _ => ?_) (fun _ => ?_)
  · simp only [wp_bind, wp_chanSet]
    have hw := hI.setChan h hc (c' := { c with ready := st }) ⟨rfl, rfl, rfl⟩
      (fun h' => Or.inr (hst.resolve_left fun hne => hne h'))
    have hfr : RFrame e { e with chans := e.chans.set i { c with ready := st } } := ⟨_, _, _, _, rfl, by simp⟩
    have hre : ∀ k l', wp A (Sctp.react k i) Q ({ e with chans := e.chans.set i { c with ready := st } }, l') :=
      fun k l' => hI.react hw (by simpa using hi) (hq.trans RFrame.trans hfr)
    -- all branches (silent, `open`, `closed`, another state) at once: each is an `emit` followed by a `react`
    -- (`hre`), or nothing (`hq`)
    simp only [wp_ite, wp_bind, wp_emit, wp_pure, hre, hq _ _ hw hfr, implies_true, and_self]
  · simp only [wp_pure]; exact hq e l h (RFrame.refl _)

/-- `_addBufferedAmount` with the application's `bufferedamountlow` handler. -/
theorem ChanInv.addBuffered {I : Ep → Prop} (hI : ChanInv I) {A} {i : Nat} {amount : Int} {Q : Unit → St → Prop}
    {e : Ep} {l : List Out} (h : I e) (hi : i < e.chans.length)
    (hq : Cont RFrame I e Q) : wp A (Sctp.addBuffered i amount) Q (e, l) := by
  obtain ⟨c, hc⟩ := List.exists_getElem?_of_lt hi
  unfold Sctp.addBuffered addBufferedCore
  simp only [wp_bind, wp_chanGet hc, wp_chanSet]
  have hw := hI.setChan h hc (c' := { c with buffered := c.buffered + amount }) ⟨rfl, rfl, rfl⟩ (fun h' => Or.inl h')
  have hfr : RFrame e { e with chans := e.chans.set i { c with buffered := c.buffered + amount } } :=
    ⟨_, _, _, _, rfl, by simp⟩
  refine wp.ite (fun _ => ?_) (fun _ => ?_)
  · simp only [wp_bind, wp_emit, wp_pure, if_true]
    exact hI.react hw (by simpa using hi) (hq.trans RFrame.trans hfr)
  · simp only [wp_pure, Bool.false_eq_true, if_false]; exact hq _ _ hw hfr

/-- Under `WF` no handler of the application is armed: `react` does nothing. -/
theorem chanInv_WF : ChanInv WF where
  setChan h hc hs _ := h.setChan hc hs
  react h _ hq := by
    unfold react
    simpa [h.nr] using hq _ _ h (RFrame.refl _)

/-- `_transmit()`: only the send side changes. -/
theorem wp_transmit {A} {Q : Unit → St → Prop} {e : Ep} {l : List Out} (h : WF e)
    (hq : ∀ tx l', WF { e with tx := tx } → Q () ({ e with tx := tx }, l')) : wp A transmit Q (e, l) := by
  unfold transmit
  obtain ⟨ht, hev⟩ := Tx.transmit_ok e.tx h.tx
  simp only [wp_bind, wp_getE, wp_setE]
  have hw : WF { e with tx := e.tx.transmit.1 } := h.setTx ht
  refine wp_playTx hw hev ?_
  intro l'
  exact hq _ _ hw

/-- `_send(...)` of a reliable message. -/
theorem wp_sendData {A} {sid ppid : Nat} {data : Bytes} {ordered : Bool} {Q : Unit → St → Prop} {e : Ep} {l : List Out}
    (h : WF e) (hs : sid < 65536) (hp : ppid < 4294967296)
    (hq : ∀ tx l', WF { e with tx := tx } → Q () ({ e with tx := tx }, l')) :
    wp A (sendData sid ppid data none none ordered) Q (e, l) := by
  unfold sendData
  simp only [wp_bind, wp_modE]
  have hw : WF { e with tx := e.tx.enqueue sid ppid data none none ordered } :=
    h.setTx (Tx.enqueue_ok _ h.tx _ _ _ _ hs hp)
  refine wp_transmit hw ?_
  intro tx l' hw'
  exact hq tx l' hw'

/-! ## timers and the task queue (they do not read the invariant) -/

theorem wp_t1Cancel {A} {Q : Unit → St → Prop} {e : Ep} {l : List Out}
    (hq : ∀ ch l', Q () ({ e with t1 := false, t1Chunk := ch }, l')) : wp A t1Cancel Q (e, l) := by
  unfold t1Cancel
  simp only [wp_bind, wp_getE]
  split
  · simp only [wp_bind, wp_emit, wp_modE]; exact hq _ _
  · rename_i hf
    simp only [wp_pure]
    have := hq e.t1Chunk l
    have he : ({ e with t1 := false, t1Chunk := e.t1Chunk } : Ep) = e := by
      cases e; simp_all
    rwa [he] at this

theorem wp_t2Cancel {A} {Q : Unit → St → Prop} {e : Ep} {l : List Out}
    (hq : ∀ ch l', Q () ({ e with t2 := false, t2Chunk := ch }, l')) : wp A t2Cancel Q (e, l) := by
  unfold t2Cancel
  simp only [wp_bind, wp_getE]
  split
  · simp only [wp_bind, wp_emit, wp_modE]; exact hq _ _
  · rename_i hf
    simp only [wp_pure]
    have := hq e.t2Chunk l
    have he : ({ e with t2 := false, t2Chunk := e.t2Chunk } : Ep) = e := by
      cases e; simp_all
    rwa [he] at this

theorem wp_t3Cancel {A} {Q : Unit → St → Prop} {e : Ep} {l : List Out}
    (hq : ∀ l', Q () ({ e with tx := { e.tx with t3 := false } }, l')) : wp A t3Cancel Q (e, l) := by
  unfold t3Cancel
  simp only [wp_bind, wp_getE]
  split
  · simp only [wp_bind, wp_emit, wp_modE]; exact hq _
  · rename_i hf
    simp only [wp_pure]
    have := hq l
    have he : ({ e with tx := { e.tx with t3 := false } } : Ep) = e := by
      cases e with | mk _ _ _ _ _ _ _ _ _ _ _ _ _ _ _ _ _ _ _ tx => cases tx; simp_all
    rwa [he] at this

theorem wp_t1Start {A} {c : Chunk} {Q : Unit → St → Prop} {e : Ep} {l : List Out} (ht : e.t1 = false)
    (hq : ∀ l', Q () ({ e with t1Chunk := some c, t1Failures := 0, t1 := true }, l')) :
    wp A (t1Start c) Q (e, l) := by
  unfold t1Start
  simp only [wp_bind, wp_getE, ht, Bool.false_eq_true, if_false, wp_modE, wp_emit]
  exact hq _

theorem wp_t2Start {A} {c : Chunk} {Q : Unit → St → Prop} {e : Ep} {l : List Out} (ht : e.t2 = false)
    (hq : ∀ l', Q () ({ e with t2Chunk := some c, t2Failures := 0, t2 := true }, l')) :
    wp A (t2Start c) Q (e, l) := by
  unfold t2Start
  simp only [wp_bind, wp_getE, ht, Bool.false_eq_true, if_false, wp_modE, wp_emit]
  exact hq _

theorem wp_rcCancel {A} {Q : Unit → St → Prop} {e : Ep} {l : List Out}
    (hq : ∀ l', Q () ({ e with rcTimer := false }, l')) : wp A rcCancel Q (e, l) := by
  unfold rcCancel
  simp only [wp_bind, wp_getE]
  split
  · simp only [wp_bind, wp_emit, wp_modE]; exact hq _
  · rename_i hf
    simp only [wp_pure]
    have := hq l
    have he : ({ e with rcTimer := false } : Ep) = e := by cases e; simp_all
    rwa [he] at this

theorem wp_rcStart {A} {Q : Unit → St → Prop} {e : Ep} {l : List Out}
    (hq : ∀ l', Q () ({ e with rcTimer := true }, l')) : wp A rcStart Q (e, l) := by
  unfold rcStart
  simp only [wp_bind]
  refine wp_rcCancel ?_
  intro l'
  simp only [wp_modE, wp_emit]
  exact hq _

@[simp] theorem wp_queueTask {A} {t : Task} {name : String} {Q : Unit → St → Prop} {e : Ep} {l : List Out} :
    wp A (queueTask t name) Q (e, l) ↔ Q () ({ e with tasks := e.tasks ++ [t] }, l ++ [.task name]) := by
  simp [queueTask]

/-! ## `_transmit_reconfig` (called at the end of `_data_channel_flush`) -/

theorem encodeParams_single (t : Nat) (v : Bytes) : (encodeParams [(t, v)]).length = v.length + 4 := by
  simp [encodeParams, encodeParamsAux, u16be]

theorem reconfigChunk_inRange {t : Nat} {b : Bytes} (ht : t < 65536) (hb : b.length + 8 < 65536) :
    (Chunk.params .reconfig 0 [(t, b)]).inRange = true := by
  simp only [Chunk.inRange, paramsInRange, List.all_cons, List.all_nil, encodeParams_single, Bool.and_true,
    Bool.and_eq_true, decide_eq_true_eq]
  omega

theorem length_u16sBytes (l : List Nat) : (u16sBytes l).length = 2 * l.length := by
  induction l with
  | nil => rfl
  | cons a l ih => simp [u16sBytes, List.flatMap_cons] at ih ⊢; omega

theorem tsn_minus_one_range (a : Int) : InRange32 (tsn_minus_one a) := Serial.emod_range (by decide) _

theorem tsn_plus_one_range (a : Int) : InRange32 (tsn_plus_one a) := Serial.emod_range (by decide) _

/-- `_transmit_reconfig()` reads the addressing, the two reset sequence numbers and the queued stream ids: it does
nothing, or stores a request over at most 135 of the queued ids, sends it and starts the timer. -/
theorem transmitReconfig_spec {A} {Q : Unit → St → Prop} {e : Ep} {l : List Out}
    (hn : NetOk e.localPort e.remotePort e.remoteTag e.localTag e.inboundMax e.outboundCount)
    (hreq : InRange32 e.reconfigRequestSeq) (hresp : InRange32 e.reconfigResponseSeq)
    (hrcq : ∀ s ∈ e.reconfigQueue, s < 65536) (hq0 : Q () (e, l))
    (hq : ∀ streams l',
      (RcParam.resetOut e.reconfigRequestSeq.toNat e.reconfigResponseSeq.toNat
        (tsn_minus_one e.tx.localTsn).toNat streams).inRange = true → streams.length ≤ 135 →
      Q () ({ e with reconfigQueue := e.reconfigQueue.filter fun x => !streams.contains x
                     reconfigRequest := some (e.reconfigRequestSeq, e.reconfigResponseSeq,
                       tsn_minus_one e.tx.localTsn, streams)
                     reconfigRequestSeq := tsn_plus_one e.reconfigRequestSeq
                     rcTimer := true }, l')) :
    wp A transmitReconfig Q (e, l) := by
  unfold transmitReconfig
  simp only [wp_bind, wp_getE]
  refine wp.ite (fun _ => ?_) (fun _ => (wp_pure ..).mpr hq0)
  generalize hst : ((e.reconfigQueue.filter fun x =>
      !(e.dcQueue.map fun q => (e.chans[q.1]?).bind (·.id)).contains (some x)).take RECONFIG_MAX_STREAMS) = streams
  have hstreams : ∀ s ∈ streams, s < 65536 := by
    intro s hs; rw [← hst] at hs
    exact hrcq s (List.mem_filter.mp (List.mem_of_mem_take hs)).1
  have hlen : streams.length ≤ 135 := by
    rw [← hst, List.length_take]; exact Nat.min_le_left _ _
  refine wp.ite (fun _ => (wp_pure ..).mpr hq0) (fun _ => ?_)
  simp only [wp_bind, wp_setE]
  obtain ⟨ha0, ha1⟩ := hreq
  obtain ⟨hb0, hb1⟩ := hresp
  obtain ⟨hc0, hc1⟩ := tsn_minus_one_range e.tx.localTsn
  have hin : (RcParam.resetOut e.reconfigRequestSeq.toNat e.reconfigResponseSeq.toNat
      (tsn_minus_one e.tx.localTsn).toNat streams).inRange = true := by
    have h1 : e.reconfigRequestSeq.toNat < 4294967296 := by omega
    have h2 : e.reconfigResponseSeq.toNat < 4294967296 := by omega
    have h3 : (tsn_minus_one e.tx.localTsn).toNat < 4294967296 := by omega
    simpa only [RcParam.inRange, h1, h2, h3, decide_true, Bool.true_and, List.all_eq_true, decide_eq_true_eq]
      using hstreams
  simp only [RcParam.serialize, hin, if_true, wp_liftO_ok]
  refine wp_sendChunk hn (reconfigChunk_inRange (by decide) ?_) ?_
  · simp only [RcParam.bytes, List.length_append, length_u32be, length_u16sBytes]
    omega
  · intro d
    exact wp_rcStart fun l' => hq streams l' hin hlen

/-- the state `_transmit_reconfig` stores when it issues a request over `streams` -/
theorem WF.sentReconfig {e : Ep} (h : WF e) (streams : List Nat) (rr : Option (Int × Int × Int × List Nat)) :
    WF { e with reconfigQueue := e.reconfigQueue.filter fun x => !streams.contains x
                reconfigRequest := rr
                reconfigRequestSeq := tsn_plus_one e.reconfigRequestSeq
                rcTimer := true } :=
  { h with ch := { h.ch with rcq := fun s hs => h.ch.rcq s (List.mem_filter.mp hs).1 }, rcReq := tsn_plus_one_range _ }

/-- `_transmit_reconfig()`: only the stream reset bookkeeping changes. -/
theorem wp_transmitReconfig {A} {Q : Unit → St → Prop} {e : Ep} {l : List Out} (h : WF e)
    (hq : Cont DataFrame WF e Q) :
    wp A transmitReconfig Q (e, l) := by
  refine transmitReconfig_spec h.net h.rcReq h.rcResp h.ch.rcq (hq e l h (DataFrame.refl _)) ?_
  intro streams l' _ _
  exact hq _ _ (h.sentReconfig streams _) ⟨_, _, _, _, _, _, _, _, rfl, Nat.le_refl _⟩

theorem ChansOk.subQ {chans dcs q q' rcq} (h : ChansOk chans dcs q rcq) (hsub : ∀ x ∈ q', x ∈ q) :
    ChansOk chans dcs q' rcq :=
  ⟨h.dcIdx, h.dcKeys, fun x hx => h.qIdx x (hsub x hx), fun x hx => h.qId x (hsub x hx),
   fun x hx => h.qRel x (hsub x hx), fun x hx => h.qPpid x (hsub x hx), h.sid, h.rcq⟩

theorem WF.subQ {e : Ep} (h : WF e) {q : List (Nat × Nat × Bytes)} (hsub : ∀ x ∈ q, x ∈ e.dcQueue) :
    WF { e with dcQueue := q } :=
  { h with ch := h.ch.subQ hsub }

/-- `_data_channel_flush` loop, with its exact frame (`dataInv_WF` weakens it to `DataKept`). -/
theorem wp_flushLoop {A} (fuel : Nat) {Q : Unit → St → Prop} {e : Ep} {l : List Out} (h : WF e)
    (hq : Cont V2.DFrame WF e Q) : wp A (flushLoop fuel) Q (e, l) := by
  induction fuel generalizing e l with
  | zero => simpa [flushLoop] using hq.here (.refl _) h l
  | succ fuel ih =>
    rw [wp_iff_WP, flushLoop_succ]
    split
    · exact hq.here (.refl _) h l
    · rename_i i ppid data rest hqeq
      split
      · exact hq.here (.refl _) h l
      have hqeq : e.dcQueue = (i, ppid, data) :: rest := hqeq
      have hmem : (i, ppid, data) ∈ e.dcQueue := by rw [hqeq]; simp
      have hi := h.ch.qIdx _ hmem
      obtain ⟨c, hc⟩ := List.exists_getElem?_of_lt hi
      have hw1 : WF { e with dcQueue := rest } := h.subQ (by intro x hx; rw [hqeq]; simp [hx])
      -- under `WF` the channel of a queued message has its stream id
      obtain ⟨sid, hsid⟩ := Option.isSome_iff_exists.mp (h.ch.qId _ hmem c hc)
      have hsidlt := h.ch.sid c (List.mem_of_getElem? hc) sid hsid
      have hpp := h.ch.qPpid _ hmem
      simp only [show (e, l).1.chans[i]? = some c from hc, hsid]
      refine wp_iff_WP.1 ?_
      unfold flushSend
      refine wp.ite (fun _ => ?_) (fun hne => ?_)
      · simp only [wp_bind]
        refine wp_sendData hw1 hsidlt hpp ?_
        intro tx l' hw2
        exact ih hw2 (hq.trans V2.DFrame.trans ⟨_, _, _, _, _, _, _, _, _, _, rfl, Nat.le_refl _⟩)
      · have hrel := (h.ch.qRel _ hmem c hc).resolve_left hne
        simp only [wp_bind, wp_getE, hrel.1, hrel.2]
        refine wp_sendData hw1 hsidlt hpp ?_
        intro tx l' hw2
        refine chanInv_WF.addBuffered hw2 (by simpa using hi) ?_
        intro e2 l'' hw3 hf
        exact ih hw3 (hq.trans V2.DFrame.trans (.trans ⟨_, _, _, _, _, _, _, _, _, _, rfl, Nat.le_refl _⟩ (.of_rframe hf)))

end Aiortc.Sctp
