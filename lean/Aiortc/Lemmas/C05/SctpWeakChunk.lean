import Aiortc.Lemmas.C05.SctpWeakCtl
import Aiortc.Lemmas.C05.SctpChunk
/-! # `V2.WFx B` (`C05/SctpWeakInv`): `_receive_chunk` and `_handle_data`

Both are proved in `SctpChunk` for any invariant with `ChunkInv`; here `WFx B` is shown to be one (`chunkInv_WFx`).

`dataLen` / `dgramDataBytes`: DATA payload bytes of a chunk / datagram (the argument of the side condition `C` of
`Props.C05Sctp2.Reach.rx`). -/
namespace Aiortc.Sctp.V2
open Aiortc.Gen Aiortc.Sctp.Wire
variable {U : List Nat} {B : Nat}

/-- User data bytes a chunk takes from the receive window. -/
def dataLen : Chunk → Nat
  | .data _ _ _ _ _ ud => ud.length
  | _ => 0

def chunksData (cs : List Chunk) : Nat := (cs.map dataLen).sum

/-- DATA payload bytes of a datagram (0 if it does not parse). -/
def dgramDataBytes (d : Bytes) : Nat :=
  match parsePacket d with
  | .ok (_, _, _, cs) => chunksData cs
  | _ => 0

theorem WF.peerInit {e : Ep} (h : WF U e) {tag : Nat} (ht : tag < 4294967296) (itsn rwnd : Nat) :
    WF U (e.peerInit tag itsn rwnd) :=
  ⟨{ h.net with rtag := ht }, h.ch, h.tx.congr rfl, h.rx.init itsn, h.rcReq, tsn_minus_one_range _,
    fun _ => rfl, h.ids, h.cap, h.tm1, h.tm2, h.tasks, h.rcr⟩

theorem WF.counts {e : Ep} (h : WF U e) (outs ins : Nat) :
    WF U { e with inboundCount := min outs e.inboundMax, outboundCount := min e.outboundCount ins } :=
  ⟨{ h.net with outCnt := by have := h.net.outCnt; simp only; omega },
   h.ch, h.tx, h.rx, h.rcReq, h.rcResp, h.sack, h.ids, h.cap, h.tm1, h.tm2, h.tasks, h.rcr⟩

theorem WFx.t1Off {e : Ep} (h : WFx B e) (ch : Option Chunk) : WFx B { e with t1 := false, t1Chunk := ch } :=
  h.map (fun _ hw => hw.t1Off ch) rfl
theorem WFx.t2Off {e : Ep} (h : WFx B e) (ch : Option Chunk) : WFx B { e with t2 := false, t2Chunk := ch } :=
  h.map (fun _ hw => hw.t2Off ch) rfl
theorem WFx.counts {e : Ep} (h : WFx B e) (outs ins : Nat) :
    WFx B { e with inboundCount := min outs e.inboundMax, outboundCount := min e.outboundCount ins } :=
  h.map (fun _ hw => hw.counts outs ins) rfl
theorem chunkInv_WFx : ChunkInv (WFx B) where
  toCtlInv := ctlInv_WFx
  sack h := h.sack
  txTsn := fun ⟨_, _, hw⟩ => hw.tx.tsn
  t1Off h ch := h.t1Off ch
  t2Off h ch := h.t2Off ch
  t1On h hc := h.map (fun _ hw => hw.t1On hc) rfl
  t2On h hc := h.map (fun _ hw => hw.t2On hc) rfl
  peerInit h ht itsn rwnd := h.map (fun _ hw => hw.peerInit ht itsn rwnd) rfl
  ext h _ _ := h.congr rfl rfl
  counts h outs ins := h.counts outs ins
  cookies h _ := h.congr rfl rfl

end Aiortc.Sctp.V2
