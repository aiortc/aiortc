import Aiortc.Lemmas.C05.SctpData
import Aiortc.Lemmas.C05.SctpParsed
/-! # Crash-freedom of the control plane: timers, `_set_state`, stream resets

`_set_state`, `_data_channel_close`, `_receive_reconfig_param` are proved for any invariant `I` that has the closure
properties `CtlInv I`: `WF` (`ctlInv_WF`) and `V2.WFx B` (`V2.ctlInv_WFx`). -/
namespace Aiortc.Sctp
open Aiortc.Gen Aiortc.Sctp.Wire

/-! ## `_set_state` -/

theorem wp_setState_other {A} {st : AState} {Q : Unit → St → Prop} {e : Ep} {l : List Out}
    (h1 : st ≠ .established) (h2 : st ≠ .closed) :
    wp A (setState st) Q (e, l) ↔ Q () ({ e with assoc := st }, l) := by
  unfold setState
  simp [h1, h2]

/-- What `_set_state`, `_data_channel_close`, `_receive_reconfig_param` and the queued tasks and timers of
`SctpTask` (`popTask`, `t3Expired`) use of an invariant `I` of the endpoint (`WF`, `V2.WFx B`), besides the data
plane: bounds that can be read off it and the elementary updates that keep it. -/
structure CtlInv (I : Ep → Prop) : Prop extends DataInv I where
  dcKeys : ∀ {e}, I e → (e.dataChannels.map (·.1)).Nodup
  qIdx : ∀ {e}, I e → ∀ x ∈ e.dcQueue, x.1 < e.chans.length
  sidLt : ∀ {e}, I e → ∀ c ∈ e.chans, ∀ s, c.id = some s → s < 65536
  assoc : ∀ {e}, I e → ∀ st s, I { e with assoc := st, state := s }
  queued : ∀ {e t}, I e → t = Task.flush ∨ t = Task.reconfig → I { e with tasks := e.tasks ++ [t] }
  popTask : ∀ {e t rest}, I e → e.tasks = t :: rest → I { e with tasks := rest }
  closed : ∀ {e}, I e → ∀ ch1 ch2,
    I { e with assoc := .closed, t1 := false, t1Chunk := ch1, t2 := false, t2Chunk := ch2,
               tx := { e.tx with t3 := false }, rcTimer := false, state := "closed",
               reconfigQueue := [], reconfigRequest := none }
  subQ : ∀ {e q}, I e → (∀ x ∈ q, x ∈ e.dcQueue) → ∀ b, I { e with dcQueue := q, listeners := b }
  pushRcq : ∀ {e sid}, I e → sid < 65536 → I { e with reconfigQueue := e.reconfigQueue ++ [sid] }
  respSeq : ∀ {e} {n : Nat}, I e → n < 4294967296 → ∀ cnt,
    I { e with inboundCount := cnt, reconfigResponseSeq := (n : Int) }
  delSeq : ∀ {e}, I e → ∀ sid, I { e with tx := { e.tx with streamSeq := dictDel e.tx.streamSeq sid } }
  clearRcr : ∀ {e}, I e → I { e with reconfigRequest := none, rcTimer := false }
  /-- `_t3_expired`: the send side after the expiry, and the `_transmit` it queues -/
  t3Expired : ∀ {e}, I e → I { e with tx := e.tx.t3Expired (1000 * e.now), tasks := e.tasks ++ [.transmit] }

variable {I : Ep → Prop}

theorem wp_setState_established {A} {Q : Unit → St → Prop} {e : Ep} {l : List Out} (hI : CtlInv I) (h : I e)
    (hq : Cont RxKept I e Q) :
    wp A (setState .established) Q (e, l) := by
  unfold setState
  simp only [wp_bind, wp_modE, if_true, wp_getE]
  have hw0 : I { e with assoc := .established, state := "connected" } := hI.assoc h _ _
  -- the loop runs over a snapshot of `_data_channels`; `_setReadyState` does not touch the stream table
  refine wp_forIn A _ _ _ (fun suf s' => I s'.1 ∧ (∀ p ∈ suf, p ∈ s'.1.dataChannels) ∧
    RxKept e s'.1) _ ⟨hw0, fun p hp => hp, .refl _⟩ ?_ ?_
  · intro ⟨sid, i⟩ rest ⟨e1, l1⟩ ⟨hw, hin, hr⟩
    have hmem : (sid, i) ∈ e1.dataChannels := hin (sid, i) (by simp)
    have hlt : i < e1.chans.length := hI.dcIdx hw _ hmem
    obtain ⟨c, hc⟩ := List.exists_getElem?_of_lt hlt
    simp only [wp_bind, wp_chanGet hc]
    refine wp.ite (fun _ => ?_) (fun _ => ?_)
    · simp only [wp_bind]
      refine hI.setReady hw hlt (Or.inr ⟨sid, hmem⟩) ?_
      intro e' l' hw' hf
      simp only [wp_pure, true_and]
      exact ⟨hw', fun p hp => by rw [hf.dcs]; exact hin p (by simp [hp]), hr.trans hf.kept.rx⟩
    · simp only [wp_pure, true_and]
      exact ⟨hw, fun p hp => hin p (by simp [hp]), hr⟩
  · intro ⟨e1, l1⟩ ⟨hw, _, hr⟩
    simp only [wp_queueTask]
    exact hq _ _ (hI.queued hw (Or.inl rfl)) hr

theorem wp_setState_closed {A} {Q : Unit → St → Prop} {e : Ep} {l : List Out} (hI : CtlInv I) (h : I e)
    (hq : Cont RxKept I e Q) :
    wp A (setState .closed) Q (e, l) := by
  unfold setState
  simp only [wp_bind, wp_modE, reduceCtorEq, if_false, if_true]
  refine wp_t1Cancel ?_; intro ch1 l1
  refine wp_t2Cancel ?_; intro ch2 l2
  refine wp_t3Cancel ?_; intro l3
  refine wp_rcCancel ?_; intro l4
  simp only [wp_getE]
  -- the loop walks a snapshot of `_data_channels`; `dataChannels = suf` says each `_data_channel_closed` pops exactly
  -- the head of what is left (`dictDel_cons_nodup`)
  refine wp_forIn A _ _ _ (fun suf s' => I s'.1 ∧ s'.1.dataChannels = suf ∧
    RxKept e s'.1) _ ⟨hI.closed h ch1 ch2, rfl, rfl, rfl⟩ ?_ ?_
  · intro ⟨sid, i⟩ rest ⟨e1, l1⟩ ⟨hw, hdc, hr⟩
    simp only at hdc
    simp only [wp_bind]
    refine wp_dcClosed hI.toDataInv hw ?_
    intro e' l' hw' hf
    simp only [wp_pure, true_and]
    refine ⟨hw', ?_, hr.trans hf.kept.rx⟩
    rw [hf.dcs]
    show dictDel e1.dataChannels sid = rest
    rw [hdc]
    exact dictDel_cons_nodup (hdc ▸ hI.dcKeys hw)
  · intro ⟨e1, l1⟩ ⟨hw, _, hr⟩
    dsimp only
    refine wp_forIn A _ _ _ (fun suf s' => I s'.1 ∧ (∀ x ∈ suf, x.1 < s'.1.chans.length) ∧
      RxKept e s'.1) _ ⟨hw, hI.qIdx hw, hr⟩ ?_ ?_
    · intro ⟨i, ppid, data⟩ rest ⟨e2, l2⟩ ⟨hw2, hidx, hr2⟩
      simp only [wp_bind]
      refine hI.setReady hw2 (hidx (i, ppid, data) (by simp)) (Or.inl (by decide)) ?_
      intro e' l' hw' hf
      simp only [wp_pure, true_and]
      exact ⟨hw', fun x hx => by rw [hf.len]; exact hidx x (by simp [hx]), hr2.trans hf.kept.rx⟩
    · intro ⟨e2, l2⟩ ⟨hw2, _, hr2⟩
      dsimp only
      exact hq _ _ (hI.subQ (q := []) hw2 (by simp) false) hr2

/-! ## closing channels, stream resets -/

/-- `_data_channel_close(channel)`. The `KeyError` of `self._data_channels.pop(channel.id)` cannot happen
while the association is established (the stream reset is queued instead). -/
theorem wp_dcClose {A} {i : Nat} {Q : Unit → St → Prop} {e : Ep} {l : List Out} (hI : CtlInv I) (h : I e)
    (hi : i < e.chans.length) (hk : A "KeyError" ∨ e.assoc = .established)
    (hq : Cont DataKept I e Q) : wp A (dcClose i) Q (e, l) := by
  obtain ⟨c, hc⟩ := List.exists_getElem?_of_lt hi
  have hsid : ∀ sid, c.id = some sid → sid < 65536 := hI.sidLt h c (List.mem_of_getElem? hc)
  unfold dcClose
  simp only [wp_bind, wp_chanGet hc]
  refine wp.ite (fun _ => ?_) (fun _ => ?_)
  · simp only [wp_bind]
    refine hI.setReady h hi (Or.inl (by decide)) ?_
    intro e1 l1 hw1 hf1
    have hq1 : Cont DataKept I e1 Q := hq.trans DataKept.trans hf1.kept
    have hi1 : i < e1.chans.length := by rw [hf1.len]; exact hi
    simp only [wp_getE]
    split
    · rename_i sid hsid'
      have hcid : c.id = some sid := by
        split at hsid'
        · exact hsid'
        · cases hsid'
      simp only [wp_bind, wp_setE]
      have hw2 := hI.pushRcq hw1 (hsid sid hcid)
      refine wp.ite (fun _ => ?_) (fun _ => ?_)
      · simp only [wp_queueTask]
        exact hq1 _ _ (hI.queued hw2 (Or.inr rfl)) ⟨rfl, rfl, rfl, Nat.le_refl _⟩
      · simp only [wp_pure]
        exact hq1 _ _ hw2 ⟨rfl, rfl, rfl, Nat.le_refl _⟩
    · rename_i hnone
      simp only [wp_bind, wp_setE]
      have hw2 : I { e1 with dcQueue := e1.dcQueue.filter fun q => q.1 != i } :=
        hI.subQ hw1 (fun x hx => (List.mem_filter.mp hx).1) _
      have hfin : ∀ (e3 : Ep) l3, I e3 → DataKept e1 e3 → e3.chans.length = e1.chans.length →
          wp A (setReady i 3) Q (e3, l3) := fun e3 l3 hw3 k3 h5 =>
        hI.setReady hw3 (by rw [h5]; exact hi1) (Or.inl (by decide)) ((hq1.trans DataKept.trans k3).mono RFrame.kept)
      split
      · rename_i sid hsid'
        have hnotest : e.assoc ≠ .established := by
          intro hest; rw [hf1.assoc] at hnone; simp [hest, hsid'] at hnone
        have hA : A "KeyError" := hk.resolve_right hnotest
        refine wp.ite (fun _ => ?_) (fun _ => ?_)
        · simpa using hA
        · simp only [wp_bind, wp_modE]
          exact hfin _ _ (hI.delDc hw2 sid) ⟨rfl, rfl, rfl, Nat.le_refl _⟩ rfl
      · exact hfin _ _ hw2 ⟨rfl, rfl, rfl, Nat.le_refl _⟩ rfl
  · simp only [wp_pure]
    exact hq.here (.refl _) h l

/-- `_send_reconfig_param(StreamResetResponseParam(...))`. -/
theorem wp_sendReconfigResponse {A} {respSeq : Nat} {Q : Unit → St → Prop} {e : Ep} {l : List Out}
    (h : NetOk e.localPort e.remotePort e.remoteTag e.localTag e.inboundMax e.outboundCount)
    (hr : respSeq < 4294967296) (hq : ∀ l', Q () (e, l')) : wp A (sendReconfigResponse respSeq) Q (e, l) := by
  unfold sendReconfigResponse
  have hser : (RcParam.resetResp respSeq 1).serialize = .ok (RcParam.resetResp respSeq 1).bytes := by
    simp [RcParam.serialize, RcParam.inRange, hr]
  simp only [wp_bind, hser, wp_liftO_ok]
  refine wp_sendChunk h (reconfigChunk_inRange (by decide) ?_) ?_
  · simp [RcParam.bytes, u32be]
  · intro d; exact hq _

theorem SidOk.del {ins : List (Nat × InStream)} (h : SidOk ins) (sid : Nat) : SidOk (dictDel ins sid) :=
  fun p hp => h p (List.mem_filter.mp hp).1

/-- `_get_extensions`. -/
theorem wp_getExtensions {A} {ps : List Param} {Q : Unit → St → Prop} {e : Ep} {l : List Out}
    (hq : ∀ pr ext l', Q () ({ e with remotePR := pr, remoteExt := ext }, l')) :
    wp A (getExtensions ps) Q (e, l) := by
  unfold getExtensions
  rw [wp_bind]
  refine wp_forIn A ps _ _ (fun _ s' => ∃ pr ext, s'.1 = { e with remotePR := pr, remoteExt := ext }) _
    ⟨e.remotePR, e.remoteExt, rfl⟩ ?_ ?_
  · intro ⟨k, v⟩ rest ⟨e1, l1⟩ ⟨pr, ext, he⟩
    simp only at he
    subst he
    repeat' split
    all_goals (simp only [wp_bind, wp_modE, wp_pure, true_and]; exact ⟨_, _, rfl⟩)
  · intro ⟨e1, l1⟩ ⟨pr, ext, he⟩
    simp only at he
    subst he
    simp only [wp_pure]
    exact hq _ _ _

/-- `_receive_reconfig_param` (only called while the association is established). -/
theorem wp_receiveReconfigParam {A} {p : RcParam} {Q : Unit → St → Prop} {e : Ep} {l : List Out}
    (hI : CtlInv I) (h : I e)
    (ha : Acc 0 e.rwnd e.inStreams) (hso : SidOk e.inStreams) (hp : p.Wired) (hest : e.assoc = .established)
    (hq : ∀ e' l', I e' → Acc 0 e'.rwnd e'.inStreams → SidOk e'.inStreams → e'.assoc = .established →
      Q () (e', l')) :
    wp A (receiveReconfigParam p) Q (e, l) := by
  cases p with
  | resetOut reqSeq respSeq lastTsn streams =>
    obtain ⟨hr1, _, _, hstreams⟩ := hp
    unfold receiveReconfigParam
    simp only [wp_bind, wp_getE]
    refine wp.ite (fun _ => ?_) (fun _ => ?_)
    · simp only [wp_bind]
      refine wp_sendReconfigResponse (hI.net h) hr1 ?_
      intro l'; simp only [wp_pure]; exact hq _ _ h ha hso hest
    · simp only [wp_bind, wp_getE]
      split
      · simp only [wp_pure]; exact hq _ _ h ha hso hest
      · refine wp.ite (fun _ => ?_) (fun _ => ?_)
        · simp only [wp_pure]; exact hq _ _ h ha hso hest
        · simp only [wp_bind]
          refine wp_forIn A streams _ _ (fun _ s' => I s'.1 ∧ Acc 0 s'.1.rwnd s'.1.inStreams ∧
            SidOk s'.1.inStreams ∧ s'.1.assoc = .established) _ ⟨h, ha, hso, hest⟩ ?_ ?_
          · intro sid rest ⟨e1, l1⟩ ⟨hw, hacc, hsok, hest1⟩
            simp only [wp_bind, wp_modE, wp_getE]
            have hw1 : I { e1 with inStreams := dictDel e1.inStreams sid } := hI.rxFields hw _ _
            split
            · rename_i i hsome
              have hi : i < e1.chans.length := hI.dcIdx hw _ (dictGet_mem _ _ _ hsome)
              simp only [wp_bind]
              refine wp_dcClose hI hw1 hi (Or.inr hest1) ?_
              intro e2 l2 hw2 ⟨hr2, hi2, has2, _⟩
              simp only [wp_pure, true_and]
              refine ⟨hw2, ?_, ?_, has2.trans hest1⟩
              · rw [hr2, hi2]; exact hacc.del sid
              · rw [hi2]; exact hsok.del sid
            · simp only [wp_pure, true_and]
              exact ⟨hw1, hacc.del sid, hsok.del sid, hest1⟩
          · intro ⟨e1, l1⟩ ⟨hw, hacc, hsok, hest1⟩
            simp only [wp_modE]
            have hw1 : I { e1 with reconfigResponseSeq := reqSeq } := hI.respSeq hw hr1 _
            refine wp_sendReconfigResponse (hI.net hw1) hr1 ?_
            intro l'; exact hq _ _ hw1 hacc hsok hest1
  | addOut reqSeq n =>
    have hr1 : reqSeq < 4294967296 := hp
    unfold receiveReconfigParam
    simp only [wp_bind, wp_modE]
    have hw1 := hI.respSeq h hr1 (e.inboundCount + n)
    refine wp_sendReconfigResponse (hI.net hw1) hr1 ?_
    intro l'; exact hq _ _ hw1 ha hso hest
  | resetResp respSeq result =>
    unfold receiveReconfigParam
    simp only [wp_bind, wp_getE]
    split
    · rename_i reqSeq x1 x2 streams hreq
      refine wp.ite (fun _ => ?_) (fun _ => ?_)
      · simp only [wp_bind]
        refine wp_forIn A streams _ _ (fun _ s' => I s'.1 ∧ s'.1.rwnd = e.rwnd ∧ s'.1.inStreams = e.inStreams ∧
          s'.1.assoc = .established) _ ⟨h, rfl, rfl, hest⟩ ?_ ?_
        · intro sid rest ⟨e1, l1⟩ ⟨hw, hr1, hi1, hest1⟩
          simp only [wp_bind, wp_modE]
          refine wp_dcClosed hI.toDataInv (hI.delSeq hw sid) ?_
          intro e' l' hw' hf
          simp only [wp_pure, true_and]
          exact ⟨hw', hf.rwnd.trans hr1, hf.ins.trans hi1, hf.assoc.trans hest1⟩
        · intro ⟨e1, l1⟩ ⟨hw, hr1, hi1, hest1⟩
          simp only [wp_modE]
          refine wp_rcCancel ?_
          intro l2
          refine hI.transmitReconfig (e := { e1 with reconfigRequest := none, rcTimer := false })
            (hI.clearRcr hw) ?_
          intro e3 l3 hw3 ⟨hr3, hi3, has3, _⟩
          refine hq _ _ hw3 ?_ ?_ (has3.trans hest1)
          · rw [hr3, hi3]; simp only; rw [hr1, hi1]; exact ha
          · rw [hi3]; simp only; rw [hi1]; exact hso
      · simp only [wp_pure]; exact hq _ _ h ha hso hest
    · simp only [wp_pure]; exact hq _ _ h ha hso hest

theorem ctlInv_WF : CtlInv WF where
  toDataInv := dataInv_WF
  dcKeys h := h.ch.dcKeys
  qIdx h := h.ch.qIdx
  sidLt h := h.ch.sid
  assoc h _ _ := h.congr rfl
  queued h _ := h.congr rfl
  popTask h _ := h.congr rfl
  closed h _ _ :=
    { h with ch := { h.ch with rcq := by simp }, tx := h.tx.congr rfl }
  subQ h hs _ := (h.subQ hs).congr rfl
  pushRcq h hs := { h with ch := { h.ch with rcq := List.forall_mem_snoc h.ch.rcq hs } }
  respSeq h hn _ := { h with rcResp := inRange32_ofNat hn }
  delSeq h _ := h.setTx { h.tx with seq := fun p hp => h.tx.seq p (List.mem_filter.mp hp).1 }
  clearRcr h := h.congr rfl
  t3Expired h := (h.setTx (Tx.t3Expired_ok _ h.tx _)).congr rfl

end Aiortc.Sctp
