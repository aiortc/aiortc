import Aiortc.Lemmas.C05.SctpSendSide
import Aiortc.Lemmas.C05.SctpWeakSack
/-!
# Send side under the weaker invariant: `_send`

Together with `SctpWeakSack` (`Tx.t3Expired_ok`, `Tx.receiveSack_ok`, `Tx.transmit_ok`, instances of `TxInv`) the four preservation
theorems of `V2.TxOk`.
-/
namespace Aiortc.Sctp.V2
open Aiortc.Gen
variable {U : List Nat}

section frag
variable (tsn : Int) (sid : Nat) (ssn : Int) (ppid : Nat) (ordered : Bool) (expiry maxRtx : Option Int) (n : Nat)
  (data : Bytes)

private theorem fragments_good (hs : sid < 65536) (hss : 0 ≤ ssn ∧ ssn < 65536) (hp : ppid < 4294967296)
    (hpr : (expiry = none ∧ maxRtx = none) ∨ sid ∈ U) :
    ∀ k, ∀ c ∈ fragments tsn sid ssn ppid ordered expiry maxRtx n data k, Good U c ∧ c.sid = sid := by
  intro k c hc
  obtain ⟨hw, hsid, h1, h2, h3⟩ := fragments_spec tsn sid ssn ppid ordered expiry maxRtx n data hs hss hp k c hc
  refine ⟨⟨hw, ?_⟩, hsid⟩
  rcases hpr with ⟨rfl, rfl⟩ | hu
  · exact Or.inl ⟨h1, h2, h3⟩
  · exact Or.inr (hsid ▸ hu)

end frag

theorem Tx.enqueue_ok (t : Tx) (h : TxOk U t) (sid ppid : Nat) (data : Bytes) (expiry maxRtx : Option Int) (ordered : Bool)
    (hs : sid < 65536) (hp : ppid < 4294967296) (hpr : (expiry = none ∧ maxRtx = none) ∨ sid ∈ U) :
    TxOk U (t.enqueue sid ppid data expiry maxRtx ordered) := by
  have hss := streamSeq_get h.seq ordered sid
  unfold Tx.enqueue
  dsimp only
  generalize (if ordered = true then (dictGet t.streamSeq sid).getD 0 else (0 : Int)) = ssn at hss ⊢
  have hg := fragments_good (U := U) t.localTsn sid ssn ppid ordered expiry maxRtx (fragCount data.length) data
    hs hss hp hpr (fragCount data.length)
  have hB := fragments_first t.localTsn sid ssn ppid ordered expiry maxRtx (fragCount data.length) data
  have hE := fragments_last t.localTsn sid ssn ppid ordered expiry maxRtx (fragCount data.length) data
    (fragCount data.length)
  generalize fragments t.localTsn sid ssn ppid ordered expiry maxRtx (fragCount data.length) data
    (fragCount data.length) = chunks at hg hB hE ⊢
  have hwe : wire (t.sentQ ++ (t.outQ ++ chunks)) = wire (t.sentQ ++ t.outQ) ++ wire chunks := by
    rw [← List.append_assoc, wire_append]
  refine ⟨h.sent, ?_, ?_, ?_, h.fs, h.fwd, h.adv, ?_, ?_⟩
  · intro c hc
    rcases List.mem_append.1 hc with hc | hc
    · exact h.out c hc
    · exact (hg c hc).1
  · show Chain (wire (t.sentQ ++ (t.outQ ++ chunks)))
    rw [hwe]
    refine v2_chain_append _ _ h.chain (v2_chain_of_sid sid _ ?_) ?_
    · intro r hr
      obtain ⟨c, hc, rfl⟩ := List.mem_map.1 hr
      exact (hg c hc).2
    · intro x y hx hy
      refine Or.inl ⟨h.lastE x hx, ?_⟩
      simp only [wire, List.head?_map] at hy
      cases hc : chunks.head? with
      | none => rw [hc] at hy; cases hy
      | some c =>
        rw [hc] at hy
        simp only [Option.map_some, Option.some.injEq] at hy
        subst hy
        exact hB c hc
  · show LastE (wire (t.sentQ ++ (t.outQ ++ chunks)))
    rw [hwe]
    cases hch : chunks with
    | nil => rw [v2_wire_nil, List.append_nil]; exact h.lastE
    | cons c0 cs =>
      rw [← hch]
      refine v2_lastE_append _ _ (by rw [hch]; simp [wire]) ?_
      intro x hx
      simp only [wire, List.getLast?_map] at hx
      cases hc : chunks.getLast? with
      | none => rw [hc] at hx; cases hx
      | some c =>
        rw [hc] at hx
        simp only [Option.map_some, Option.some.injEq] at hx
        subst hx
        exact hE c hc
  · exact streamSeq_set h.seq ordered sid _
  · exact ⟨Int.emod_nonneg _ (by decide), Int.emod_lt_of_pos _ (by decide)⟩

end Aiortc.Sctp.V2
