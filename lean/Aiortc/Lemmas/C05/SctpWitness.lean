import Aiortc.Model.Sctp.Endpoint
/-! # Two concrete runs of the endpoint automaton

On each of them aiortc without the patch named in the section heading raises (replayed on the real code, see
notes/C05a.md).  The model has the patches applied and does not raise: `Props.C05Sctp.witnesses_fixed`. -/
namespace Aiortc.Sctp.Witness
open Aiortc Aiortc.Sctp

def hasCrash (k : String) (l : List Out) : Bool :=
  l.any fun o => match o with | .crash k' => k' == k | _ => false

def noCrash (l : List Out) : Bool :=
  l.all fun o => match o with | .crash _ => false | _ => true

theorem noCrash_iff {l : List Out} (h : noCrash l = true) : ∀ k, Out.crash k ∉ l := by
  intro k hk
  unfold noCrash at h
  rw [List.all_eq_true] at h
  have := h _ hk
  simp at this

theorem hasCrash_mem {k : String} {l : List Out} (h : hasCrash k l = true) : Out.crash k ∈ l := by
  unfold hasCrash at h
  rw [List.any_eq_true] at h
  obtain ⟨o, ho, hk⟩ := h
  cases o <;> simp at hk
  subst hk; exact ho

def now0 : Int := 1024000
/-- a state cookie stamped 1000 s (what the endpoint issues at `now0`) -/
def ck : Bytes := [0, 0, 3, 232] ++ List.replicate 20 0

/-- the server endpoint after `start()` -/
def e0 : Ep := (step (Ep.init true 222 5000) now0 (.start 5000)).1

/-! ## run 1: a TSN held in a reassembly queue is offered again after the cumulative TSN wrapped past it
(`AssertionError` without `fixes/C05a-duplicate-tsn-in-reassembly.patch`) -/

/-- INIT (initial TSN 1000) -/
def dInit : Bytes := [19, 136, 19, 136, 0, 0, 0, 0, 100, 215, 177, 42, 1, 0, 0, 20, 0, 0, 0, 111, 0, 2, 0, 0, 0, 10, 0, 10, 0, 0, 3, 232]
/-- DATA tsn=1000 stream 7 ssn=5 B|E "abcd": complete but not deliverable (the stream expects ssn 0) -/
def dData : Bytes := [19, 136, 19, 136, 0, 0, 0, 222, 101, 111, 116, 39, 0, 3, 0, 20, 0, 0, 3, 232, 0, 7, 0, 5, 0, 0, 0, 53, 97, 98, 99, 100]
/-- FORWARD-TSN 1000 + 2^31 - 1 -/
def dFwd1 : Bytes := [19, 136, 19, 136, 0, 0, 0, 222, 50, 174, 165, 39, 192, 0, 0, 8, 128, 0, 3, 231]
/-- FORWARD-TSN 1000 + 2^31 + 5 -/
def dFwd2 : Bytes := [19, 136, 19, 136, 0, 0, 0, 222, 10, 134, 71, 76, 192, 0, 0, 8, 128, 0, 3, 237]

def rx (e : Ep) (d : Bytes) : Ep × List Out := step e now0 (.rx d ck)
def e1 : Ep := (rx e0 dInit).1
def e2 : Ep := (rx e1 dData).1
def e3 : Ep := (rx e2 dFwd1).1
def e4 : Ep := (rx e3 dFwd2).1

/-! ## run 2: stream reset response after ABORT + replayed COOKIE-ECHO
(`KeyError` without `fixes/C05a-reset-response-after-abort.patch`) -/

def dCookieEcho : Bytes := [19, 136, 19, 136, 0, 0, 0, 222, 20, 167, 232, 144, 10, 0, 0, 28, 0, 0, 3, 232, 0, 0, 0, 0, 0, 0, 0, 0, 0, 0, 0, 0, 0, 0, 0, 0, 0, 0, 0, 0]
def dAbort : Bytes := [19, 136, 19, 136, 0, 0, 0, 222, 81, 146, 89, 224, 6, 0, 0, 4]
/-- RE-CONFIG with a reset response for request sequence 5000 -/
def dResetResp : Bytes := [19, 136, 19, 136, 0, 0, 0, 222, 92, 45, 142, 119, 130, 0, 0, 16, 0, 16, 0, 12, 0, 0, 19, 136, 0, 0, 0, 1]

def runIn (e : Ep) (is : List Input) : Ep × List Out :=
  is.foldl (fun (s : Ep × List Out) i => let r := step s.1 now0 i; (r.1, s.2 ++ r.2)) (e, [])

/-- server: start, handshake, the application creates a channel and closes it (reset request 5000 goes out),
the peer aborts, replays its COOKIE-ECHO, and answers the reset request. -/
def run2 : List Input := [
  .start 5000, .rx dInit ck, .rx dCookieEcho ck, .task,
  .create { label := [120], protocol := [], ordered := true, maxRetransmits := none, maxPacketLifeTime := none,
            negotiated := false, id := none },
  .task, .close 0, .task,
  .rx dAbort ck, .rx dCookieEcho ck, .rx dResetResp ck]

end Aiortc.Sctp.Witness
