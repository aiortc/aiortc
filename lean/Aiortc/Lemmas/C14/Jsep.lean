import Aiortc.Model.Jsep.Spec
/-! Helper lemmas for C14: the checks of `__validate_description` expressed through the
specification's predicates and what the JSEP table and the invariant say about a single call (`validate_eq`); then `Trans`,
what a call can do to the connection, read off `step` once (`step_trans`), with the theorems that need no more than that
(`step_closed`, `run_closed`). -/
namespace Aiortc.Model.Jsep
open Spec (next mediaOk wellFormed matchesOffer acceptable)

theorem checkMedia_eq (t : DType) (m : Media) :
    checkMedia t m = if mediaOk t m then none else some .valueError := by
  unfold checkMedia mediaOk
  grind

theorem checkAll_eq (t : DType) (ms : List Media) :
    checkAll (checkMedia t) ms = if ms.all (mediaOk t) then none else some .valueError := by
  induction ms with
  | nil => simp [checkAll]
  | cons m ms ih =>
    simp only [checkAll, checkMedia_eq, List.all_cons]
    by_cases h : mediaOk t m = true
    · simp [h, ih]
    · simp [h]

/-- Under the invariant (no pranswer states) the state table of `__validate_description` is the JSEP table. -/
theorem stateCheck_eq_next (sig : Sig) (isLocal : Bool) (t : DType)
    (h1 : sig ≠ .haveLocalPranswer) (h2 : sig ≠ .haveRemotePranswer)
    (ht : t = .offer ∨ t = .answer) :
    stateCheck sig isLocal t = (next sig isLocal t).isSome := by
  rcases ht with rfl | rfl <;> cases sig <;> cases isLocal <;> simp_all [stateCheck, next]

theorem DType.ne_invalid {t : DType} (ht : t = .offer ∨ t = .answer) : t ≠ .invalid := by
  rcases ht with h | h <;> simp [h]

theorem DType.offer_or_answer {t : DType} (h : t.inAlphabet = true) (hi : t ≠ .invalid) : t = .offer ∨ t = .answer := by
  cases t <;> simp_all [DType.inAlphabet]

theorem Inv.open_of_ne {pc : Pc} (hinv : Inv pc) (hs : pc.sig ≠ .closed) : pc.isClosed = false := by
  cases h : pc.isClosed with
  | false => rfl
  | true => exact absurd (hinv.closed_iff.mp h) hs

/-- the JSEP table has no entry for the closed state -/
theorem Inv.open_of_next {pc : Pc} (hinv : Inv pc) {isLocal : Bool} {t : DType} {s' : Sig}
    (h : next pc.sig isLocal t = some s') : pc.isClosed = false :=
  hinv.open_of_ne fun hc => by rw [hc] at h; cases isLocal <;> cases t <;> cases h

theorem next_eq {sig s' : Sig} {l : Bool} {t : DType} (h : next sig l t = some s') :
    (t = .offer ∧ s' = (if l then .haveLocalOffer else .haveRemoteOffer)) ∨ (t = .answer ∧ s' = .stable) := by
  cases sig <;> cases l <;> cases t <;> simp_all [next]

theorem next_answer {sig s' : Sig} {l : Bool} (h : next sig l .answer = some s') :
    sig = if l then .haveRemoteOffer else .haveLocalOffer := by
  cases sig <;> cases l <;> simp_all [next]

theorem validate_eq (pc : Pc) (d : Desc) (isLocal : Bool) (hinv : Inv pc)
    (ht : d.type = .offer ∨ d.type = .answer) :
    validate pc d isLocal =
      match next pc.sig isLocal d.type with
      | none => some .invalidState
      | some _ =>
        if acceptable d (if isLocal then pc.remoteDescription else pc.localDescription) then none
        else some .valueError := by
  unfold validate validateWith
  rw [stateCheck_eq_next _ _ _ hinv.no_local_pranswer hinv.no_remote_pranswer ht, checkAll_eq]
  cases hn : next pc.sig isLocal d.type with
  | none => simp
  | some s' =>
    simp only [Option.isSome_some, Bool.not_true, Bool.false_eq_true, if_false]
    unfold acceptable wellFormed
    by_cases hw : d.media.all (mediaOk d.type) = true
    · simp only [hw, if_true, Bool.true_and]
      rcases ht with ht | ht
      · simp [ht, DType.answerLike]
      · rw [ht] at hn
        have hs := next_answer hn
        have hr : (if isLocal then pc.remoteDescription else pc.localDescription) ≠ none := by
          cases isLocal
          · exact hinv.local_offer_present hs
          · exact hinv.remote_offer_present hs
        cases hrd : (if isLocal then pc.remoteDescription else pc.localDescription) with
        | none => exact absurd hrd hr
        | some o => by_cases hk : mediaKeys d.media = mediaKeys o.media <;> simp [ht, DType.answerLike, matchesOffer, hk]
    · simp [hw]

theorem Inv.moved {pc pc' : Pc} (h : Inv pc) (ho : pc.sig ≠ .closed) (hc : pc'.isClosed = pc.isClosed)
    (hs : pc'.sig = .stable ∨ pc'.sig = .haveLocalOffer ∨ pc'.sig = .haveRemoteOffer)
    (hl : pc'.sig = .haveLocalOffer → pc'.localDescription ≠ none)
    (hr : pc'.sig = .haveRemoteOffer → pc'.remoteDescription ≠ none) : Inv pc' := by
  have := h.open_of_ne ho
  refine ⟨?_, ?_, ?_, hr, hl⟩ <;> rcases hs with e | e | e <;> simp [e, hc, this]

theorem Inv.pendLocal {pc : Pc} (h : Inv pc) (d : Desc) : Inv { pc with pendLocal := some d } :=
  ⟨h.1, h.2, h.3, h.4, fun _ => by simp [Pc.localDescription]⟩

theorem Inv.pendRemote {pc : Pc} (h : Inv pc) (d : Desc) : Inv { pc with pendRemote := some d } :=
  ⟨h.1, h.2, h.3, fun _ => by simp [Pc.remoteDescription], h.5⟩

/-- What one call can do to the connection, with what it returns: nothing, close it, or store a description and move
the signalling state as its type says (a pranswer / rollback description is stored and moves nothing).  Whether the call is
legal is not said here: the exact theorems go through `validate_eq`. -/
inductive Trans (pc : Pc) : Res × Pc → Prop
  | same (r) : Trans pc (r, pc)
  | close : pc.isClosed = false → Trans pc (.ok, { pc.setSig .closed with isClosed := true })
  | localOffer (d) : pc.isClosed = false →
      Trans pc (.ok, { pc.setSig .haveLocalOffer with pendLocal := some d })
  | localAnswer (d) : pc.isClosed = false →
      Trans pc (.ok, { pc.setSig .stable with curLocal := some d, pendLocal := none })
  | localOther (d) : pc.isClosed = false → Trans pc (.ok, { pc with pendLocal := some d })
  | remoteOffer (d) : pc.isClosed = false →
      Trans pc (.ok, { pc.setSig .haveRemoteOffer with pendRemote := some d })
  | remoteAnswer (d) : pc.isClosed = false →
      Trans pc (.ok, { pc.setSig .stable with curRemote := some d, pendRemote := none })
  | remoteOther (d) : pc.isClosed = false → Trans pc (.ok, { pc with pendRemote := some d })

theorem applyLocal_trans (pc : Pc) (hc : pc.isClosed = false) (d : Desc) :
    Trans pc (applyLocal pc d) := by
  unfold applyLocal
  cases hv : validate pc d true with
  | some e => exact .same _
  | none =>
    cases ht : d.type
    case offer => exact .localOffer d hc
    case answer => exact .localAnswer d hc
    all_goals exact .localOther d hc

theorem step_trans (pc : Pc) (c : Call) : Trans pc (step pc c) := by
  cases c with
  | createOffer km => exact .same _
  | createAnswer => exact .same _
  | setLocal d =>
    simp only [step, setLocal]
    split
    · exact .same _
    · split
      · exact .same _
      · rename_i hc; exact applyLocal_trans pc (by simpa using hc) d
  | setLocalImplicit km =>
    simp only [step, setLocalImplicit]
    split
    · exact .same _
    · rename_i hc
      split
      · exact applyLocal_trans pc (by simpa using hc) _
      · exact .same _
  | setRemote d =>
    simp only [step, setRemote]
    split
    · exact .same _
    cases hv : validate pc d false with
    | some e => exact .same _
    | none =>
      dsimp only
      split
      · exact .same _
      rename_i hc
      have hc : pc.isClosed = false := by simpa using hc
      cases ht : d.type
      case offer => exact .remoteOffer d hc
      case answer => exact .remoteAnswer d hc
      all_goals exact .remoteOther d hc
  | close =>
    simp only [step, close]
    split
    · exact .same _
    · rename_i hc; exact .close (by simpa using hc)

/-- every outcome that changes the connection returns `ok`: a failing call has no effect -/
theorem Trans.unchanged_of_failed {pc : Pc} {x : Res × Pc} (t : Trans pc x) (hf : x.1.failed = true) : x.2 = pc := by
  cases t with
  | same => rfl
  | _ => simp [Res.failed] at hf

theorem step_closed (pc : Pc) (h : pc.isClosed = true) (c : Call) : (step pc c).2 = pc := by
  have t := step_trans pc c
  generalize step pc c = x at t ⊢
  cases t with
  | same => rfl
  | _ => simp_all

theorem run_closed (pc : Pc) (h : pc.isClosed = true) (cs : List Call) : (run pc cs).2 = pc := by
  induction cs with
  | nil => rfl
  | cons c cs ih => simpa only [run, step_closed pc h c] using ih

end Aiortc.Model.Jsep
