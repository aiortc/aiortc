import Aiortc.Lemmas.Outcome
import Aiortc.Lemmas.Util.List
/-! `IsBytes` under list operations, big-endian encoding of any width (`beBytes` and
`beVal` inverse to each other) with the fixed-width helpers as its instances, and slices of concatenations. -/
namespace Aiortc

theorem isBytes_nil : IsBytes [] := by intro b h; cases h
theorem isBytes_cons {a : Nat} {l : Bytes} : IsBytes (a :: l) ↔ a < 256 ∧ IsBytes l := by
  unfold IsBytes; simp
theorem isBytes_append {l m : Bytes} : IsBytes (l ++ m) ↔ IsBytes l ∧ IsBytes m := by
  simp only [IsBytes, List.mem_append, or_imp, forall_and]
theorem isBytes_singleton {b : Nat} : IsBytes [b] ↔ b < 256 := by
  unfold IsBytes; simp

theorem isBytes_take {l : Bytes} (n : Nat) (h : IsBytes l) : IsBytes (l.take n) :=
  fun b hb => h b (List.mem_of_mem_take hb)
theorem isBytes_drop {l : Bytes} (n : Nat) (h : IsBytes l) : IsBytes (l.drop n) :=
  fun b hb => h b (List.mem_of_mem_drop hb)
theorem isBytes_replicate_zero (n : Nat) : IsBytes (zeros n) := by
  intro b hb; unfold zeros at hb; rw [List.mem_replicate] at hb; omega
@[simp] theorem zeros_length (n : Nat) : (zeros n).length = n := by simp [zeros]
theorem zeros_split (j k : Nat) (h : j ≤ k) : zeros k = zeros j ++ zeros (k - j) := by
  unfold zeros; rw [List.replicate_append_replicate]; congr 1; omega

/-- A field shifted above `b` and `b` do not overlap: the `|` of a header byte is a sum. -/
theorem or_eq_add (a b k : Nat) (hb : b < 2 ^ k) : (a <<< k) ||| b = a * 2 ^ k + b := by
  rw [← Nat.shiftLeft_add_eq_or_of_lt hb, Nat.shiftLeft_eq]

theorem mul_add_div_mod (a b c : Nat) (h : c < b) : (a * b + c) / b = a ∧ (a * b + c) % b = c := by
  have hb : 0 < b := Nat.lt_of_le_of_lt (Nat.zero_le _) h
  rw [Nat.mul_comm, Nat.mul_add_div hb, Nat.div_eq_of_lt h, Nat.mul_add_mod, Nat.mod_eq_of_lt h]
  exact ⟨rfl, rfl⟩

theorem beVal_concat (l : Bytes) (b : Nat) : beVal (l ++ [b]) = beVal l * 256 + b := by
  simp only [beVal, List.foldl_append, List.foldl_cons, List.foldl_nil]

theorem beVal_append (l m : Bytes) : beVal (l ++ m) = beVal l * 256 ^ m.length + beVal m := by
  induction m using List.snoc_induction with
  | nil => simp [beVal]
  | snoc m b ih =>
    rw [← List.append_assoc, beVal_concat, beVal_concat, ih, List.length_append, List.length_singleton,
      Nat.pow_succ, Nat.add_mul, Nat.mul_assoc, Nat.add_assoc]

theorem beVal_lt (l : Bytes) (h : IsBytes l) : beVal l < 256 ^ l.length := by
  induction l using List.snoc_induction with
  | nil => exact Nat.one_pos
  | snoc l b ih =>
    obtain ⟨hl, hb⟩ := isBytes_append.mp h
    have := ih hl
    have := isBytes_singleton.mp hb
    rw [beVal_concat, List.length_append, List.length_singleton, Nat.pow_succ]
    omega

theorem beVal_singleton (a : Nat) : beVal [a] = a := by simp [beVal]
theorem beVal_pair (a b : Nat) : beVal [a, b] = a * 256 + b := by simp [beVal]
theorem beVal_triple (a b c : Nat) : beVal [a, b, c] = (a * 256 + b) * 256 + c := by simp [beVal]
theorem beVal_quad (a b c d : Nat) : beVal [a, b, c, d] = ((a * 256 + b) * 256 + c) * 256 + d := by
  simp [beVal]

/-- `n.to_bytes(k, "big")` without the overflow check: the `k` low base-256 digits of `n`. -/
def beBytes : Nat → Nat → Bytes
  | 0, _ => []
  | k + 1, n => beBytes k (n / 256) ++ [n % 256]

theorem isBytes_beBytes (k n : Nat) : IsBytes (beBytes k n) := by
  induction k generalizing n with
  | zero => exact isBytes_nil
  | succ k ih => exact isBytes_append.mpr ⟨ih _, isBytes_singleton.mpr (Nat.mod_lt _ (by decide))⟩

theorem beVal_beBytes (k n : Nat) : beVal (beBytes k n) = n % 256 ^ k := by
  induction k generalizing n with
  | zero => rw [Nat.pow_zero, Nat.mod_one]; rfl
  | succ k ih =>
    rw [beBytes, beVal_concat, ih, Nat.pow_succ, Nat.mul_comm (256 ^ k), Nat.mod_mul, Nat.mul_comm, Nat.add_comm]

theorem beBytes_beVal (l : Bytes) (h : IsBytes l) : beBytes l.length (beVal l) = l := by
  induction l using List.snoc_induction with
  | nil => rfl
  | snoc l b ih =>
    obtain ⟨hl, hb⟩ := isBytes_append.mp h
    have := isBytes_singleton.mp hb
    rw [beVal_concat, List.length_append, List.length_singleton, beBytes,
      show (beVal l * 256 + b) / 256 = beVal l by omega, show (beVal l * 256 + b) % 256 = b by omega, ih hl]

/-! `u8 n` and `u16be n` unfold to `beBytes 1 n` and `beBytes 2 n`; the wider ones group their divisions differently. -/

theorem u24be_eq_beBytes (n : Nat) : u24be n = beBytes 3 n := by
  simp only [u24be, beBytes, Nat.div_div_eq_div_mul, List.nil_append, List.cons_append]
theorem u32be_eq_beBytes (n : Nat) : u32be n = beBytes 4 n := by
  simp only [u32be, beBytes, Nat.div_div_eq_div_mul, List.nil_append, List.cons_append]

theorem isBytes_u8 (n : Nat) : IsBytes (u8 n) := isBytes_beBytes 1 n
theorem isBytes_u16be (n : Nat) : IsBytes (u16be n) := isBytes_beBytes 2 n
theorem isBytes_u24be (n : Nat) : IsBytes (u24be n) := u24be_eq_beBytes n ▸ isBytes_beBytes 3 n
theorem isBytes_u32be (n : Nat) : IsBytes (u32be n) := u32be_eq_beBytes n ▸ isBytes_beBytes 4 n

@[simp] theorem length_u8 (n : Nat) : (u8 n).length = 1 := rfl
@[simp] theorem length_u16be (n : Nat) : (u16be n).length = 2 := rfl
@[simp] theorem length_u24be (n : Nat) : (u24be n).length = 3 := rfl
@[simp] theorem length_u32be (n : Nat) : (u32be n).length = 4 := rfl
@[simp] theorem length_u64be (n : Nat) : (u64be n).length = 8 := rfl

theorem length_flatMap_u32be (l : List Nat) : (l.flatMap u32be).length = 4 * l.length := by
  induction l with
  | nil => rfl
  | cons a l ih => rw [List.flatMap_cons, List.length_append, ih, length_u32be, List.length_cons]; omega

theorem beVal_u16be (n : Nat) (h : n < 65536) : beVal (u16be n) = n :=
  (beVal_beBytes 2 n).trans (Nat.mod_eq_of_lt h)
theorem beVal_u24be (n : Nat) (h : n < 16777216) : beVal (u24be n) = n := by
  rw [u24be_eq_beBytes, beVal_beBytes]; exact Nat.mod_eq_of_lt h
theorem beVal_u32be (n : Nat) (h : n < 4294967296) : beVal (u32be n) = n := by
  rw [u32be_eq_beBytes, beVal_beBytes]; exact Nat.mod_eq_of_lt h

theorem unpackU8_u8 (n : Nat) (h : n < 256) : unpackU8? (u8 n) = some n :=
  congrArg some (Nat.mod_eq_of_lt h)
theorem unpackU16_u16be (n : Nat) (h : n < 65536) : unpackU16? (u16be n) = some n :=
  congrArg some ((beVal_pair _ _).symm.trans (beVal_u16be n h))
theorem unpackU24_u24be (n : Nat) (h : n < 16777216) : unpackU24? (u24be n) = some n :=
  congrArg some ((beVal_triple _ _ _).symm.trans (beVal_u24be n h))
theorem unpackU32_u32be (n : Nat) (h : n < 4294967296) : unpackU32? (u32be n) = some n :=
  congrArg some ((beVal_quad _ _ _ _).symm.trans (beVal_u32be n h))

theorem u16_recombine (n : Nat) (h : n < 65536) : n / 256 % 256 * 256 + n % 256 = n :=
  Option.some.inj (unpackU16_u16be n h)
theorem u24_recombine (n : Nat) (h : n < 16777216) :
    (n / 65536 % 256 * 256 + n / 256 % 256) * 256 + n % 256 = n :=
  Option.some.inj (unpackU24_u24be n h)
theorem u32_recombine (n : Nat) (h : n < 4294967296) :
    ((n / 16777216 % 256 * 256 + n / 65536 % 256) * 256 + n / 256 % 256) * 256 + n % 256 = n :=
  Option.some.inj (unpackU32_u32be n h)

theorem u16be_unpack (a b : Nat) (ha : a < 256) (hb : b < 256) : u16be (a * 256 + b) = [a, b] := by
  have := beBytes_beVal [a, b] (by simp [isBytes_cons, isBytes_nil, ha, hb])
  rwa [beVal_pair] at this
theorem u24be_unpack (a b c : Nat) (ha : a < 256) (hb : b < 256) (hc : c < 256) :
    u24be ((a * 256 + b) * 256 + c) = [a, b, c] := by
  have := beBytes_beVal [a, b, c] (by simp [isBytes_cons, isBytes_nil, ha, hb, hc])
  rw [beVal_triple] at this
  rw [u24be_eq_beBytes]; exact this
theorem u32be_unpack (a b c d : Nat) (ha : a < 256) (hb : b < 256) (hc : c < 256) (hd : d < 256) :
    u32be (((a * 256 + b) * 256 + c) * 256 + d) = [a, b, c, d] := by
  have := beBytes_beVal [a, b, c, d] (by simp [isBytes_cons, isBytes_nil, ha, hb, hc, hd])
  rw [beVal_quad] at this
  rw [u32be_eq_beBytes]; exact this

theorem unpackU16_lt (l : Bytes) (h : IsBytes l) (n : Nat) (hn : unpackU16? l = some n) : n < 65536 := by
  match l, hn with
  | [a, b], hn =>
    injection hn with hn
    have : beVal [a, b] < 256 ^ 2 := beVal_lt [a, b] h
    rw [beVal_pair, hn] at this; exact this
theorem unpackU32?_eq_some {l : Bytes} {n : Nat} (hl : IsBytes l) (h : unpackU32? l = some n) :
    n < 4294967296 ∧ u32be n = l := by
  match l, h with
  | [a, b, c, d], h =>
    injection h with h
    have hlt : beVal [a, b, c, d] < 256 ^ 4 := beVal_lt _ hl
    simp only [isBytes_cons] at hl
    rw [beVal_quad, h] at hlt
    exact ⟨hlt, h ▸ u32be_unpack a b c d hl.1 hl.2.1 hl.2.2.1 hl.2.2.2.1⟩

theorem unpackU32_lt (l : Bytes) (h : IsBytes l) (n : Nat) (hn : unpackU32? l = some n) :
    n < 4294967296 :=
  (unpackU32?_eq_some h hn).1

theorem unpackU16_slice (data : Bytes) (pos : Nat) (h : pos + 2 ≤ data.length) :
    ∃ v, unpackU16? (slice data pos (pos + 2)) = some v := by
  have hl : (slice data pos (pos + 2)).length = 2 := by
    simp only [slice, List.length_drop, List.length_take]; omega
  match hs : slice data pos (pos + 2), hl with
  | [a, b], _ => exact ⟨a * 256 + b, rfl⟩

theorem slice_zero {α} (d : List α) (j : Nat) : slice d 0 j = d.take j := rfl

theorem slice_add {α} (d : List α) (i n : Nat) : slice d i (i + n) = (d.drop i).take n := by
  unfold slice
  rw [List.drop_take, Nat.add_sub_cancel_left]

theorem slice_append_right {α} (a r : List α) {i j : Nat} (h : a.length ≤ i) :
    slice (a ++ r) i j = slice r (i - a.length) (j - a.length) := by
  unfold slice
  rw [List.drop_take, List.drop_take, List.drop_append, List.drop_eq_nil_of_le h, List.nil_append]
  congr 1; omega

theorem slice_mid {α} (a b c : List α) {i j : Nat} (ha : a.length = i) (hb : i + b.length = j) :
    slice (a ++ b ++ c) i j = b := by
  rw [List.append_assoc, slice_append_right _ _ (Nat.le_of_eq ha), ha, Nat.sub_self, slice_zero]
  exact List.take_left' (by omega)

theorem length_slice {α} (d : List α) (i j : Nat) : (slice d i j).length = min j d.length - i := by
  unfold slice; rw [List.length_drop, List.length_take]

theorem slice_length_le {α} (d : List α) (i j : Nat) : (slice d i j).length ≤ j - i := by
  rw [length_slice]; omega

end Aiortc
