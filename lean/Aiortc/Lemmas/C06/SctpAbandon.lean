import Aiortc.Lemmas.SctpTx.Abandon
/-!
# `_maybe_abandon` abandons exactly one whole message (C06)
-/
namespace Aiortc.Sctp
open Aiortc.Gen

/-- what `_maybe_abandon` does to a fragment that is in the sent queue. -/
def abSent (c : SChunk) : SChunk := { c with abandoned := true, retransmit := false, inFlight := false }

/-- the bytes a queue contributes to `_flight_size`. -/
def inflightBytes (q : List SChunk) : Nat := (q.map fun c => if c.inFlight then c.bookSize else 0).sum

theorem inflightBytes_nil : inflightBytes [] = 0 := rfl

theorem inflightBytes_eq : ∀ l : List SChunk, inflightBytes l = flightSum l
  | [] => rfl
  | c :: cs => by
    have := inflightBytes_eq cs
    simp only [inflightBytes] at this ⊢
    simp [this, SChunk.w]

theorem abSent_eq_abMark : abSent = abMark := rfl

theorem abSent_flags (c : SChunk) : (abSent c).flags = c.flags := rfl
theorem abSent_idem (c : SChunk) : abSent (abSent c) = abSent c := rfl

def NoB (l : List SChunk) : Prop := ∀ c ∈ l, flagB c.flags = false
def NoE (l : List SChunk) : Prop := ∀ c ∈ l, flagE c.flags = false

/-- the first fragment, and only it, has the B flag. -/
def FirstOnlyB : List SChunk → Prop
  | [] => False
  | h :: tl => flagB h.flags = true ∧ NoB tl

/-- the last fragment, and only it, has the E flag. -/
def LastOnlyE : List SChunk → Prop
  | [] => False
  | [e] => flagE e.flags = true
  | c :: d :: r => flagE c.flags = false ∧ LastOnlyE (d :: r)

/-- The fragments of one message, as `_send` produces them. -/
def IsMsg (m : List SChunk) : Prop := FirstOnlyB m ∧ LastOnlyE m

theorem firstOnlyB_snoc (a : List SChunk) (x : SChunk) (h : FirstOnlyB (a ++ [x])) :
    ∃ hd tl, a ++ [x] = hd :: tl ∧ flagB hd.flags = true ∧ NoB tl.reverse := by
  cases hax : a ++ [x] with
  | nil => simp at hax
  | cons hd tl =>
    rw [hax] at h
    exact ⟨hd, tl, rfl, h.1, fun c hc => h.2 c (by simpa using hc)⟩

/-! ## getting the loop preconditions from "the queue holds whole messages" -/

theorem firstOnlyB_prefix (l1 l2 : List SChunk) (h : FirstOnlyB (l1 ++ l2)) (hne : l1 ≠ []) : FirstOnlyB l1 := by
  cases l1 with
  | nil => exact absurd rfl hne
  | cons c l1 => exact ⟨h.1, fun d hd => h.2 d (by simp [hd])⟩

theorem lastOnlyE_split (l1 l2 : List SChunk) (h : LastOnlyE (l1 ++ l2)) (hne : l2 ≠ []) :
    NoE l1 ∧ LastOnlyE l2 := by
  induction l1 with
  | nil => exact ⟨fun _ hc => by simp at hc, h⟩
  | cons c l1 ih =>
    cases hl : l1 ++ l2 with
    | nil => simp at hl; exact absurd hl.2 hne
    | cons d r =>
      rw [List.cons_append, hl] at h
      have := ih (hl ▸ h.2)
      refine ⟨?_, this.2⟩
      intro x hx
      rcases List.mem_cons.1 hx with rfl | hx
      · exact h.1
      · exact this.1 x hx

theorem noE_suffix (l1 l2 : List SChunk) (h : NoE (l1 ++ l2)) : NoE l2 :=
  fun c hc => h c (by simp [hc])

/-! ## where the walks of `_maybe_abandon` stop on whole messages -/

theorem lastOnlyE_snoc {l : List SChunk} (h : LastOnlyE l) : ∃ a x, l = a ++ [x] ∧ NoE a ∧ flagE x.flags = true := by
  have hne : l ≠ [] := by rintro rfl; exact h
  have := lastOnlyE_split l.dropLast [l.getLast hne] (by rwa [List.dropLast_concat_getLast]) (by simp)
  exact ⟨_, _, (List.dropLast_concat_getLast hne).symm, this.1, this.2⟩

theorem cutAt_lastOnly (l rest : List SChunk) (hl : LastOnlyE l) : cutAt (flagE ·.flags) (l ++ rest) = (l, rest) := by
  obtain ⟨a, x, rfl, ha, hx⟩ := lastOnlyE_snoc hl
  rw [List.append_assoc]; exact cutAt_of_first _ rest ha hx

theorem lastOnlyE_any (l : List SChunk) (hl : LastOnlyE l) : l.any (flagE ·.flags) = true := by
  obtain ⟨a, x, rfl, -, hx⟩ := lastOnlyE_snoc hl
  simp [hx]

/-- the backward walk from `x` over `(pre ++ a).reverse`, when `a ++ [x]` starts at the message's B fragment -/
theorem cutAt_back (pre a : List SChunk) (x : SChunk) (hB : FirstOnlyB (a ++ [x])) :
    cutAt (flagB ·.flags) (x :: (pre ++ a).reverse) = (x :: a.reverse, pre.reverse) := by
  obtain ⟨hd, tl, hax, hhd, htl⟩ := firstOnlyB_snoc a x hB
  have hr := congrArg List.reverse hax
  simp only [List.reverse_append, List.reverse_cons, List.reverse_nil, List.nil_append, List.singleton_append] at hr
  have h1 : x :: (pre ++ a).reverse = tl.reverse ++ hd :: pre.reverse := by
    rw [List.reverse_append, ← List.cons_append, hr]; simp
  rw [h1, cutAt_of_first _ _ htl hhd, hr]

theorem inflightBytes_abSent_cons (x : SChunk) (b : List SChunk) :
    inflightBytes (abSent x :: b) = inflightBytes b := by
  rw [inflightBytes_eq, inflightBytes_eq, flightSum_cons, abSent_eq_abMark, abMark_w, Nat.zero_add]

/-- Case 1: the E fragment of the message is in the sent queue. Exactly the fragments of the message
around `pos` are marked; everything before, behind, and the outbound queue are untouched. -/
theorem maybeAbandon_sent (t : Tx) (pre a b post : List SChunk) (x : SChunk) (now : Int)
    (hq : t.sentQ = pre ++ (a ++ x :: b) ++ post)
    (hx : x.abandoned = false) (hs : shouldAbandon x now = true)
    (hB : FirstOnlyB (a ++ [x])) (hE : LastOnlyE (x :: b)) :
    t.maybeAbandon (pre.length + a.length) now =
      (true, { t with flight := t.flight - inflightBytes (a ++ x :: b),
                      sentQ := pre ++ (a ++ x :: b).map abSent ++ post }) := by
  have h := maybeAbandon_eq t (pre ++ a) (b ++ post) x now (by simp [hq]) hx hs
  rw [List.length_append] at h
  have hf := cutAt_lastOnly (x :: b) post hE
  rw [List.cons_append] at hf
  rw [h, abSeg, abMoved, abBack, abFwd, cutAt_back pre a x hB, hf]
  simp [abandonSeg, inflightBytes_eq, lastOnlyE_any _ hE, abSent_eq_abMark]

/-- Case 2: only part of the message has been sent (no E fragment behind `pos` in the sent queue, so the
message is the tail of the sent queue): the unsent remainder `u` (the head of the outbound queue, up to
its E fragment) is moved to the sent queue, abandoned. -/
theorem maybeAbandon_unsent (t : Tx) (pre a b u rest : List SChunk) (x : SChunk) (now : Int)
    (hq : t.sentQ = pre ++ (a ++ x :: b)) (ho : t.outQ = u ++ rest)
    (hx : x.abandoned = false) (hs : shouldAbandon x now = true)
    (hB : FirstOnlyB (a ++ [x])) (hE : NoE (x :: b)) (hu : LastOnlyE u) :
    t.maybeAbandon (pre.length + a.length) now =
      (true, { t with flight := t.flight - inflightBytes (a ++ x :: b),
                      sentQ := pre ++ (a ++ x :: b).map abSent ++ u.map abUnsent,
                      outQ := rest }) := by
  have h := maybeAbandon_eq t (pre ++ a) b x now (by simp [hq]) hx hs
  rw [List.length_append] at h
  have hany : (x :: b).any (flagE ·.flags) = false := by simpa using fun c hc => hE c hc
  rw [h, abSeg, abMoved, abBack, abFwd, cutAt_back pre a x hB, cutAt_of_none _ hE, ho, cutAt_lastOnly u rest hu]
  simp [abandonSeg, inflightBytes_eq, hany, abSent_eq_abMark]

/-- `_flight_size` is the sum of the book sizes of the fragments in flight, and nothing in the outbound
queue is in flight. -/
def FlightOk (t : Tx) : Prop := t.flight = inflightBytes t.sentQ ∧ ∀ c ∈ t.outQ, c.inFlight = false

theorem inflightBytes_map_abUnsent (u : List SChunk) (h : ∀ c ∈ u, c.inFlight = false) :
    inflightBytes (u.map abUnsent) = 0 := by
  rw [inflightBytes_eq]
  exact flightSum_eq_zero fun _ hd => by obtain ⟨c, hc, rfl⟩ := List.mem_map.1 hd; exact h c hc

theorem abSent_toR (c : SChunk) : (abSent c).toR = c.toR := rfl
theorem abUnsent_toR (c : SChunk) : (abUnsent c).toR = c.toR := rfl

end Aiortc.Sctp
