import Aiortc.Lemmas.Util.List
import Aiortc.Lemmas.SctpRx.Pop
/-!
# Soundness of `pop_messages`: every yielded message is one run B…E of consecutive TSNs (C06)

Read off the `PopStep`s of `Lemmas/SctpRx/Pop.lean`: the run a `PopStep` removes is a `FullRun`.
Conversely (`popMessages_single_run`) a `FullRun` that is alone in the queue is delivered, by running the loop.
-/
namespace Aiortc.Sctp
open Aiortc.Gen

/-- `PRun seg exp`: `seg` is the beginning of a message being collected by `pop_messages`: it starts with a
B fragment, TSNs are consecutive, no fragment is an E fragment, and `exp` is the TSN expected next. -/
inductive PRun : List RChunk → Int → Prop
  | start (c : RChunk) : flagB c.flags = true → flagE c.flags = false → PRun [c] (tsn_plus_one c.tsn)
  | step (seg : List RChunk) (c : RChunk) (exp : Int) : PRun seg exp → c.tsn = exp →
      flagE c.flags = false → PRun (seg ++ [c]) (tsn_plus_one c.tsn)

/-- A complete run: B fragment, consecutive TSNs, the first E fragment is the last element. -/
inductive FullRun : List RChunk → Prop
  | single (c : RChunk) : flagB c.flags = true → flagE c.flags = true → FullRun [c]
  | close (seg : List RChunk) (c : RChunk) (exp : Int) : PRun seg exp → c.tsn = exp →
      flagE c.flags = true → FullRun (seg ++ [c])

theorem prun_head {seg : List RChunk} {exp : Int} (h : PRun seg exp) :
    ∃ hd tl, seg = hd :: tl ∧ flagB hd.flags = true := by
  induction h with
  | start c hB _ => exact ⟨c, [], rfl, hB⟩
  | step seg c exp _ _ _ ih =>
    obtain ⟨hd, tl, rfl, hB⟩ := ih
    exact ⟨hd, tl ++ [c], rfl, hB⟩

/-- `m` is the join of a complete run of fragments taken from `R`. -/
def GoodMsg (R : List RChunk) (m : Msg) : Prop :=
  ∃ r, FullRun r ∧ (∀ c ∈ r, c ∈ R) ∧ m.data = r.flatMap (·.data) ∧
    ∃ e, r.getLast? = some e ∧ m.sid = e.sid ∧ m.ppid = e.ppid

/-- A `Linked` list whose last chunk carries E, read from the left: `pre` is the part already seen (empty, or a
`PRun` that expects `x`). -/
theorem fullRun_of_linked (lst : RChunk) (hE : flagE lst.flags = true) :
    ∀ (rest pre : List RChunk) (x : RChunk) (exp : Int),
      (pre = [] ∧ flagB x.flags = true) ∨ (PRun pre exp ∧ x.tsn = exp) →
      Linked (x :: rest) → (x :: rest).getLast? = some lst → FullRun (pre ++ x :: rest) := by
  intro rest
  induction rest with
  | nil =>
    intro pre x exp hpre _ hl
    cases hl
    rcases hpre with ⟨rfl, hB⟩ | ⟨hp, hx⟩
    · exact FullRun.single x hB hE
    · exact FullRun.close pre x exp hp hx hE
  | cons d rest ih =>
    intro pre x exp hpre hlink hl
    obtain ⟨hxE, hd, hlink'⟩ := hlink
    have hp : PRun (pre ++ [x]) (tsn_plus_one x.tsn) := by
      rcases hpre with ⟨rfl, hB⟩ | ⟨hp, hx⟩
      · exact PRun.start x hB hxE
      · exact PRun.step pre x exp hp hx hxE
    rw [List.getLast?_cons_cons] at hl
    have := ih (pre ++ [x]) d _ (Or.inr ⟨hp, hd⟩) hlink' hl
    rwa [List.append_assoc] at this

theorem GoodMsg.mono {R R' : List RChunk} {m : Msg} (h : R.Sublist R') (hm : GoodMsg R m) : GoodMsg R' m := by
  obtain ⟨r, hr, hsub, hrest⟩ := hm
  exact ⟨r, hr, fun c hc => h.subset (hsub c hc), hrest⟩

theorem PopStep.good {reasm reasm' : List RChunk} {seq seq' : Int} {m : Msg}
    (h : PopStep reasm seq m reasm' seq') : GoodMsg reasm m ∧ reasm'.Sublist reasm := by
  obtain ⟨pre, run, post, hd, lst, rfl, rfl, hhd, hlast, hB, hlink, hE, _, rfl, _⟩ := h
  cases run with
  | nil => cases hhd
  | cons x rest =>
    cases hhd
    refine ⟨⟨hd :: rest, fullRun_of_linked lst hE rest [] hd 0 (Or.inl ⟨rfl, hB⟩) hlink hlast, ?_, rfl, lst, hlast,
      rfl, rfl⟩, (List.sublist_append_left pre _).append (List.Sublist.refl post)⟩
    intro c hc
    exact List.mem_append_left _ (List.mem_append_right _ hc)

theorem PopSteps.good {r r2 : List RChunk} {s s2 : Int} {ms : List Msg} (h : PopSteps r s ms r2 s2) :
    (∀ m ∈ ms, GoodMsg r m) ∧ r2.Sublist r := by
  induction h with
  | nil r s => exact ⟨fun _ hm => absurd hm List.not_mem_nil, List.Sublist.refl r⟩
  | cons hstep _ ih =>
    obtain ⟨hgood, hsub⟩ := hstep.good
    refine ⟨fun m hm => ?_, ih.2.trans hsub⟩
    rcases List.mem_cons.1 hm with rfl | hm
    · exact hgood
    · exact (ih.1 m hm).mono hsub

theorem popMessages_sound (s s' : InStream) (msgs : List Msg)
    (h : s.popMessages = .ok (msgs, s')) :
    (∀ m ∈ msgs, GoodMsg s.reasm m) ∧ s'.reasm.Sublist s.reasm := by
  obtain ⟨out, s1, h1, hsteps⟩ := popMessages_ok s
  cases h.symm.trans h1
  exact hsteps.good

theorem popMessages_total (s : InStream) : ∃ msgs s', s.popMessages = .ok (msgs, s') :=
  let ⟨out, s', h, _⟩ := popMessages_ok s
  ⟨out, s', h⟩

/-! ## a complete message that is alone in the queue is delivered (recovery) -/

theorem popRun_succ (fuel : Nat) (st : PopSt) :
    popRun (fuel + 1) st = match popIter st with | none => some st | some st' => popRun fuel st' := rfl

theorem prun_head?_snoc {seg : List RChunk} {exp : Int} (h : PRun seg exp) {c hd : RChunk}
    (hhd : (seg ++ [c]).head? = some hd) : seg.head? = some hd := by
  obtain ⟨a, tl, rfl, _⟩ := prun_head h
  simpa using hhd

theorem popIter_start {st : PopSt} {c : RChunk} (hc : st.reasm[st.pos]? = some c) (hs : st.start = none)
    (hB : flagB c.flags = true) (hord : flagU c.flags = true ∨ uint16_gt c.ssn st.seq = false) :
    popIter st = some (popTail { st with ordered := !flagU c.flags, expected := c.tsn, start := some st.pos } c st.pos) := by
  have : (!flagU c.flags && uint16_gt c.ssn st.seq) = false := by rcases hord with h | h <;> simp [h]
  simp [popIter, hc, hs, hB, this]

theorem popIter_next {st : PopSt} {c : RChunk} {sp : Nat} (hc : st.reasm[st.pos]? = some c) (hs : st.start = some sp)
    (he : c.tsn = st.expected) : popIter st = some (popTail st c sp) := by
  simp [popIter, hc, hs, he]

/-- collecting the beginning `seg` of a message takes `|seg|` iterations. -/
theorem popRun_prun (seg : List RChunk) (exp : Int) (h : PRun seg exp) (hd : RChunk)
    (hhd : seg.head? = some hd) (seq : Int)
    (hord : flagU hd.flags = true ∨ uint16_gt hd.ssn seq = false) (post : List RChunk) (fuel : Nat) :
    popRun (fuel + seg.length)
        { reasm := seg ++ post, seq := seq, pos := 0, start := none, expected := 0, ordered := true, out := [] }
      = popRun fuel
        { reasm := seg ++ post, seq := seq, pos := seg.length, start := some 0, expected := exp,
          ordered := !flagU hd.flags, out := [] } := by
  induction h generalizing post fuel with
  | start c hB hE =>
    simp only [List.head?_cons, Option.some.injEq] at hhd
    subst hhd
    simp only [List.length_cons, List.length_nil, Nat.zero_add, popRun_succ]
    rw [popIter_start (c := c) rfl rfl hB hord]
    simp [popTail, hE]
  | step seg c exp hp hc hE ih =>
    have ih := ih (prun_head?_snoc hp hhd) (c :: post) (fuel + 1)
    simp only [List.append_assoc, List.singleton_append, List.length_append, List.length_cons,
      List.length_nil, Nat.zero_add] at ih ⊢
    rw [show fuel + (seg.length + 1) = fuel + 1 + seg.length by omega, ih, popRun_succ,
      popIter_next (c := c) (by simp) rfl hc]
    simp [popTail, hE, hc]

/-- Run the loop: `|r| - 1` iterations collect the run (`popRun_prun`), the next delivers it and empties the queue, the
last one finds nothing and stops; the fuel `2 |r| + 2` covers them. -/
theorem popMessages_single_run (r : List RChunk) (h : FullRun r) (hd e : RChunk)
    (hhd : r.head? = some hd) (he : r.getLast? = some e) (seq : Int)
    (hord : flagU hd.flags = true ∨ uint16_gt hd.ssn seq = false) :
    ({ reasm := r, seq := seq } : InStream).popMessages =
      .ok ([{ sid := e.sid, ppid := e.ppid, data := r.flatMap (·.data) }],
           { reasm := [], seq := if (!flagU hd.flags && decide (e.ssn = seq)) = true
                                  then uint16_add seq 1 else seq }) := by
  cases h with
  | single c hB hE =>
    simp only [List.head?_cons, Option.some.injEq, List.getLast?_singleton] at hhd he
    subst hhd; subst he
    unfold InStream.popMessages
    simp only [List.length_cons, List.length_nil, Nat.zero_add]
    rw [show 2 * 1 + 2 = 2 + 1 + 1 by rfl, popRun_succ, popIter_start (c := c) rfl rfl hB hord]
    simp [popTail, hE, popRun_succ, popIter]
  | close seg c exp hp hc hE =>
    have hhd' := prun_head?_snoc hp hhd
    have he' : c = e := by simpa using he
    subst he'
    unfold InStream.popMessages
    simp only [List.length_append, List.length_cons, List.length_nil, Nat.zero_add]
    rw [show 2 * (seg.length + 1) + 2 = (seg.length + 2 + 2) + seg.length by omega,
      popRun_prun seg exp hp hd hhd' seq hord [c] _, popRun_succ, popIter_next (c := c) (by simp) rfl hc]
    simp [popTail, hE, List.take_of_length_le, List.drop_of_length_le, popRun_succ, popIter]

end Aiortc.Sctp
