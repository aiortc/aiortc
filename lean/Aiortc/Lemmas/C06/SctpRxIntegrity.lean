import Aiortc.Lemmas.C06.SctpForward
import Aiortc.Lemmas.C06.SctpIntegrity
import Aiortc.Lemmas.SctpDict
/-!
# Receiver-level integrity: arbitrary arrival lists, DATA and FORWARD TSN (C06)
-/
namespace Aiortc.Sctp
open Aiortc.Gen

/-- every fragment in every reassembly queue satisfies `P` (e.g. "was sent by the peer"). -/
def StreamsOk (P : RChunk → Prop) (ins : List (Nat × InStream)) : Prop := ∀ p ∈ ins, ∀ c ∈ p.2.reasm, P c

theorem streamsOk_dictSet (P : RChunk → Prop) (ins : List (Nat × InStream)) (k : Nat) (s : InStream)
    (h : StreamsOk P ins) (hs : ∀ c ∈ s.reasm, P c) : StreamsOk P (dictSet ins k s) := by
  intro p hp
  rcases mem_dictSet ins k s p hp with hp | rfl
  · exact h p hp
  · exact hs

theorem streamsOk_get (P : RChunk → Prop) (ins : List (Nat × InStream)) (k : Nat) (h : StreamsOk P ins) :
    StreamsOk P (registered ins k) ∧ ∀ c ∈ ((dictGet (registered ins k) k).getD ({} : InStream)).reasm, P c := by
  have h1 : StreamsOk P (registered ins k) := by
    unfold registered
    split
    · exact h
    · intro p hp
      rcases List.mem_append.1 hp with hp | hp
      · exact h p hp
      · simp only [List.mem_singleton] at hp; subst hp; intro c hc; simp at hc
  refine ⟨h1, ?_⟩
  cases hg : dictGet (registered ins k) k with
  | none => intro c hc; simp at hc
  | some s => exact h1 (k, s) (dictGet_mem _ k s hg)

theorem fwdGuard_reasm (s : InStream) (sseq : Int) : (fwdGuard s sseq).reasm = s.reasm := by
  unfold fwdGuard
  simp only
  split <;> rfl

theorem fwdPrune_ok (P : RChunk → Prop) (cum : Int) (ins : List (Nat × InStream)) (h : StreamsOk P ins) :
    StreamsOk P (fwdPrune cum ins).1 := by
  intro p hp
  simp only [fwdPrune, List.mem_map] at hp
  obtain ⟨q, hq, rfl⟩ := hp
  intro c hc
  exact h q hq c ((pruneChunks_sublist q.2 cum).subset hc)

theorem fwdAdvanceOne_ok (P : RChunk → Prop) (ins ins' : List (Nat × InStream)) (sid : Nat) (sseq : Int)
    (msgs : List Msg) (h : StreamsOk P ins) (hr : fwdAdvanceOne ins sid sseq = .ok (ins', msgs)) :
    StreamsOk P ins' ∧ MsgsOk P msgs := by
  obtain ⟨s', hp, rfl⟩ := fwdAdvanceOne_inv hr
  have hget := streamsOk_get P ins sid h
  have hs := popMessages_keeps P _ s' msgs (fun c hc => hget.2 c (fwdGuard_reasm _ sseq ▸ hc)) hp
  exact ⟨streamsOk_dictSet P _ sid s' hget.1 hs.1, hs.2⟩

theorem fwdAdvance_ok (P : RChunk → Prop) (streams : List (Nat × Int)) (ins ins' : List (Nat × InStream))
    (msgs : List Msg) (h : StreamsOk P ins) (hr : fwdAdvance ins streams = .ok (ins', msgs)) :
    StreamsOk P ins' ∧ MsgsOk P msgs := by
  induction streams generalizing ins msgs with
  | nil =>
    simp only [fwdAdvance, Outcome.ok.injEq, Prod.mk.injEq] at hr
    obtain ⟨rfl, rfl⟩ := hr
    exact ⟨h, MsgsOk.nil P⟩
  | cons p rest ih =>
    obtain ⟨sid, sseq⟩ := p
    obtain ⟨ins1, m1, m2, h1, h2, rfl⟩ := fwdAdvance_cons_inv hr
    have a := fwdAdvanceOne_ok P ins ins1 sid sseq m1 h h1
    have b := ih ins1 m2 a.1 h2
    exact ⟨b.1, a.2.append b.2⟩

theorem rxFwd_ok (P : RChunk → Prop) (rx rx' : Rx) (ins ins' : List (Nat × InStream)) (cum : Int)
    (streams : List (Nat × Int)) (freed : Nat) (msgs : List Msg) (h : StreamsOk P ins)
    (hr : rxFwd rx ins cum streams = .ok (rx', ins', freed, msgs)) :
    StreamsOk P ins' ∧ MsgsOk P msgs := by
  unfold rxFwd at hr
  split at hr
  · simp only [Outcome.ok.injEq, Prod.mk.injEq] at hr
    obtain ⟨_, rfl, _, rfl⟩ := hr
    exact ⟨h, MsgsOk.nil P⟩
  · cases h1 : fwdStreams cum streams ins <;> simp only [h1, Outcome.ok.injEq, Prod.mk.injEq, reduceCtorEq] at hr
    rename_i r
    obtain ⟨_, rfl, _, rfl⟩ := hr
    exact fwdAdvance_ok P streams _ _ _ (fwdPrune_ok P cum ins h) (fwdStreams_inv (show fwdStreams cum streams ins = .ok (r.1, r.2.1, r.2.2) from h1)).1

theorem rxData_ok (P : RChunk → Prop) (rx rx' : Rx) (ins ins' : List (Nat × InStream)) (c : RChunk)
    (msgs : List Msg) (h : StreamsOk P ins) (hc : P c)
    (hr : rxData rx ins c = .ok (rx', ins', msgs)) :
    StreamsOk P ins' ∧ MsgsOk P msgs := by
  unfold rxData at hr
  simp only at hr
  split at hr
  · simp only [Outcome.ok.injEq, Prod.mk.injEq] at hr
    obtain ⟨_, rfl, rfl⟩ := hr
    exact ⟨h, MsgsOk.nil P⟩
  · have hget := streamsOk_get P ins c.sid h
    unfold registered at hget
    generalize (if (dictGet ins c.sid).isSome then ins else ins ++ [(c.sid, ({} : InStream))]) = insX at hr hget
    by_cases hg : (((dictGet insX c.sid).getD {}).reasm.any fun x => x.tsn == c.tsn) = true
    · -- the chunk is still waiting in the reassembly queue: dropped (the stream entry may have been created)
      rw [if_pos hg] at hr
      simp only [Outcome.ok.injEq, Prod.mk.injEq] at hr
      obtain ⟨_, rfl, rfl⟩ := hr
      exact ⟨hget.1, MsgsOk.nil P⟩
    rw [if_neg hg] at hr
    split at hr
    · rename_i s1 ha
      split at hr
      · rename_i m s2 hp
        simp only [Outcome.ok.injEq, Prod.mk.injEq] at hr
        obtain ⟨_, rfl, rfl⟩ := hr
        have hs := popMessages_keeps P s1 s2 m (addChunk_keeps P _ s1 c hget.2 hc ha) hp
        exact ⟨streamsOk_dictSet P _ c.sid s2 hget.1 hs.1, hs.2⟩
      all_goals simp at hr
    all_goals simp at hr

theorem rxRun_ok (P : RChunk → Prop) (arrivals : List Arrival) (st st' : RxSt) (out : List Msg)
    (h : StreamsOk P st.2) (harr : ∀ c, Arrival.data c ∈ arrivals → P c)
    (hr : rxRun st arrivals = .ok (st', out)) : StreamsOk P st'.2 ∧ MsgsOk P out := by
  induction arrivals generalizing st out with
  | nil =>
    simp only [rxRun, Outcome.ok.injEq, Prod.mk.injEq] at hr
    obtain ⟨rfl, rfl⟩ := hr
    exact ⟨h, MsgsOk.nil P⟩
  | cons a as ih =>
    unfold rxRun at hr
    cases h1 : rxStep st a <;> simp only [h1, reduceCtorEq] at hr
    rename_i r
    obtain ⟨st1, o1⟩ := r
    cases h2 : rxRun st1 as <;> simp only [h2, Outcome.ok.injEq, Prod.mk.injEq, reduceCtorEq] at hr
    rename_i r2
    obtain ⟨rfl, rfl⟩ := hr
    have hstep : StreamsOk P st1.2 ∧ MsgsOk P o1 := by
      cases a with
      | data c =>
        simp only [rxStep] at h1
        cases h3 : rxData st.1 st.2 c <;> simp only [h3, Outcome.ok.injEq, Prod.mk.injEq, reduceCtorEq] at h1
        obtain ⟨rfl, rfl⟩ := h1
        exact rxData_ok P st.1 _ st.2 _ c _ h (harr c (by simp)) h3
      | fwd cum streams =>
        simp only [rxStep] at h1
        cases h3 : rxFwd st.1 st.2 cum streams <;>
          simp only [h3, Outcome.ok.injEq, Prod.mk.injEq, reduceCtorEq] at h1
        obtain ⟨rfl, rfl⟩ := h1
        exact rxFwd_ok P st.1 _ st.2 _ cum streams _ _ h h3
    have b := ih st1 r2.2 hstep.1 (fun c hc => harr c (by simp [hc])) h2
    exact ⟨b.1, hstep.2.append b.2⟩

end Aiortc.Sctp
