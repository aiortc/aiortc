import Aiortc.Lemmas.SctpRx.Insert
import Aiortc.Lemmas.C06.SctpSend
import Aiortc.Lemmas.SctpRx.Runs
/-!
# Whatever a stream delivers is a sent message (C06)
-/
namespace Aiortc.Sctp
open Aiortc.Gen

/-- the non-empty fragment lists of a history of sends (an empty `user_data` makes no fragment at all). -/
def sentMsgs (t : Tx) (rs : List SendReq) : List (List RChunk) := (sentWire t rs).filter (fun m => !m.isEmpty)

theorem sentMsgs_flatten (t : Tx) (rs : List SendReq) : (sentMsgs t rs).flatten = (sentWire t rs).flatten :=
  List.flatten_filter_not_isEmpty

theorem sentMsgs_shape (t : Tx) (rs : List SendReq) :
    ∀ m ∈ sentMsgs t rs, ∃ t' r, r ∈ rs ∧ m = (reqFrags t' r).map SChunk.toR ∧ reqFrags t' r ≠ [] := by
  intro m hm
  simp only [sentMsgs, sentWire, List.mem_filter, List.mem_map] at hm
  obtain ⟨⟨fs, hfs, rfl⟩, hne⟩ := hm
  obtain ⟨t', r, hr, rfl⟩ := sentFrags_mem t rs fs hfs
  refine ⟨t', r, hr, rfl, ?_⟩
  intro h; simp [h] at hne

/-- A message joined from a complete run of fragments, all of which the sender produced, is one of the
sender's messages: same stream, same ppid, same bytes. -/
theorem goodMsg_is_sent (t : Tx) (rs : List SendReq)
    (hlen : (sentWire t rs).flatten.length < 4294967296)
    (R : List RChunk) (hR : ∀ c ∈ R, c ∈ (sentWire t rs).flatten) (m : Msg) (hm : GoodMsg R m) :
    ∃ r ∈ rs, m = { sid := r.sid, ppid := r.ppid, data := r.data } := by
  obtain ⟨run, hfull, hsub, hdata, e, he, hsid, hppid⟩ := hm
  have hmem : run ∈ sentMsgs t rs := by
    apply fullRun_is_message t.localTsn (sentMsgs t rs)
    · intro m' hm'
      obtain ⟨t', r, _, rfl, hne⟩ := sentMsgs_shape t rs m' hm'
      have := reqFrags_isMsg t' r hne
      exact ⟨firstOnlyB_map _ this.1, lastOnlyE_map _ this.2⟩
    · rw [sentMsgs_flatten]; exact sentWire_tsn t rs
    · rw [sentMsgs_flatten]; exact hlen
    · exact hfull
    · intro c hc; rw [sentMsgs_flatten]; exact hR c (hsub c hc)
  obtain ⟨t', r, hr, rfl, _⟩ := sentMsgs_shape t rs run hmem
  refine ⟨r, hr, ?_⟩
  have hemem : e ∈ (reqFrags t' r).map SChunk.toR := List.mem_of_getLast? he
  obtain ⟨x, hx, rfl⟩ := List.mem_map.1 hemem
  have hf := fragments_fields hx
  cases m
  simp only [List.flatMap_map, SChunk.toR, reqFrags_data] at hdata
  simp only [SChunk.toR] at hsid hppid
  simp_all

/-! ## the operations the transport performs on an `InboundStream` -/

inductive StreamOp where
  | add (c : RChunk)          -- `add_chunk` (from `_receive_data_chunk`)
  | prune (tsn : Int)         -- `prune_chunks` (from `_receive_forward_tsn_chunk`)
  | setSeq (n : Int)          -- `sequence_number = …` (FORWARD TSN, stream reset)
  | pop                       -- `pop_messages`
  deriving Repr

def StreamOp.run (s : InStream) : StreamOp → Outcome (InStream × List Msg)
  | .add c => match s.addChunk c with
    | .ok s' => .ok (s', [])
    | .valueError => .valueError
    | .crash k => .crash k
    | .hang => .hang
  | .prune tsn => .ok ((s.pruneChunks tsn).1, [])
  | .setSeq n => .ok ({ s with seq := n }, [])
  | .pop => match s.popMessages with
    | .ok (msgs, s') => .ok (s', msgs)
    | .valueError => .valueError
    | .crash k => .crash k
    | .hang => .hang

def runOps : InStream → List StreamOp → Outcome (InStream × List Msg)
  | s, [] => .ok (s, [])
  | s, op :: ops => match op.run s with
    | .ok (s', out) => match runOps s' ops with
      | .ok (s'', out') => .ok (s'', out ++ out')
      | .valueError => .valueError
      | .crash k => .crash k
      | .hang => .hang
    | .valueError => .valueError
    | .crash k => .crash k
    | .hang => .hang

/-- all messages are joins of complete runs of `P`-fragments. -/
def MsgsOk (P : RChunk → Prop) (msgs : List Msg) : Prop := ∀ m ∈ msgs, ∃ R, (∀ c ∈ R, P c) ∧ GoodMsg R m

theorem MsgsOk.nil (P : RChunk → Prop) : MsgsOk P [] := fun _ hm => absurd hm List.not_mem_nil

theorem MsgsOk.append {P : RChunk → Prop} {a b : List Msg} (ha : MsgsOk P a) (hb : MsgsOk P b) :
    MsgsOk P (a ++ b) := fun m hm => (List.mem_append.1 hm).elim (ha m) (hb m)

theorem addChunk_keeps (P : RChunk → Prop) (s s' : InStream) (c : RChunk) (hs : ∀ x ∈ s.reasm, P x) (hc : P c)
    (h : s.addChunk c = .ok s') : ∀ x ∈ s'.reasm, P x := fun x hx =>
  ((addChunk_mem h).1 x hx).elim (fun e => e ▸ hc) (hs x)

theorem popMessages_keeps (P : RChunk → Prop) (s s' : InStream) (msgs : List Msg) (hs : ∀ x ∈ s.reasm, P x)
    (h : s.popMessages = .ok (msgs, s')) : (∀ x ∈ s'.reasm, P x) ∧ MsgsOk P msgs :=
  have hsound := popMessages_sound s s' msgs h
  ⟨fun x hx => hs x (hsound.2.subset hx), fun m hm => ⟨s.reasm, hs, hsound.1 m hm⟩⟩

/-- Whatever the transport does to a stream — adding received fragments in any order, pruning for any
FORWARD TSN, setting the expected sequence number to anything, popping at any time — everything the stream
ever contains was received and every message it yields is the join of a complete run of received
fragments. -/
theorem runOps_sound (P : RChunk → Prop) (s : InStream) (ops : List StreamOp) (s' : InStream) (out : List Msg)
    (hs : ∀ c ∈ s.reasm, P c) (hops : ∀ c, StreamOp.add c ∈ ops → P c)
    (h : runOps s ops = .ok (s', out)) :
    (∀ c ∈ s'.reasm, P c) ∧ MsgsOk P out := by
  induction ops generalizing s out with
  | nil =>
    simp only [runOps, Outcome.ok.injEq, Prod.mk.injEq] at h
    obtain ⟨rfl, rfl⟩ := h
    exact ⟨hs, MsgsOk.nil P⟩
  | cons op ops ih =>
    unfold runOps at h
    cases h1 : op.run s <;> simp only [h1, reduceCtorEq] at h
    rename_i p
    obtain ⟨s1, out1⟩ := p
    cases h2 : runOps s1 ops <;> simp only [h2, Outcome.ok.injEq, Prod.mk.injEq, reduceCtorEq] at h
    rename_i q
    obtain ⟨s2, out2⟩ := q
    obtain ⟨rfl, rfl⟩ := h
    have hstep : (∀ c ∈ s1.reasm, P c) ∧ MsgsOk P out1 := by
      cases op with
      | add c =>
        simp only [StreamOp.run] at h1
        cases ha : s.addChunk c <;> simp only [ha, Outcome.ok.injEq, Prod.mk.injEq, reduceCtorEq] at h1
        obtain ⟨rfl, rfl⟩ := h1
        exact ⟨addChunk_keeps P s _ c hs (hops c (by simp)) ha, MsgsOk.nil P⟩
      | prune tsn =>
        simp only [StreamOp.run, Outcome.ok.injEq, Prod.mk.injEq] at h1
        obtain ⟨rfl, rfl⟩ := h1
        exact ⟨fun c hc => hs c ((pruneChunks_sublist s tsn).subset hc), MsgsOk.nil P⟩
      | setSeq n =>
        simp only [StreamOp.run, Outcome.ok.injEq, Prod.mk.injEq] at h1
        obtain ⟨rfl, rfl⟩ := h1
        exact ⟨hs, MsgsOk.nil P⟩
      | pop =>
        simp only [StreamOp.run] at h1
        cases hp : s.popMessages <;> simp only [hp, Outcome.ok.injEq, Prod.mk.injEq, reduceCtorEq] at h1
        obtain ⟨rfl, rfl⟩ := h1
        exact popMessages_keeps P s _ _ hs hp
    have := ih s1 out2 hstep.1 (fun c hc => hops c (by simp [hc])) h2
    exact ⟨this.1, hstep.2.append this.2⟩

end Aiortc.Sctp
