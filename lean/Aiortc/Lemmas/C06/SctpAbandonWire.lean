import Aiortc.Lemmas.C06.SctpAbandon
/-!
# `_maybe_abandon` never loses, reorders or alters a chunk, whatever the queues look like (C06)
-/
namespace Aiortc.Sctp
open Aiortc.Gen

/-- what the peer can see of a queue. -/
def wire (q : List SChunk) : List RChunk := q.map SChunk.toR

theorem wire_append (a b : List SChunk) : wire (a ++ b) = wire a ++ wire b := by simp [wire]

theorem markAb_toR (fl : Nat) (c : SChunk) : (markAb fl c).2.toR = c.toR := by rw [markAb_eq_abMark]; rfl

theorem wire_map_abMark (l : List SChunk) : wire (l.map abMark) = wire l := by
  simp only [wire, List.map_map]; exact List.map_congr_left fun _ _ => rfl

theorem wire_map_abUnsent (l : List SChunk) : wire (l.map abUnsent) = wire l := by
  simp only [wire, List.map_map]; exact List.map_congr_left fun _ _ => rfl

theorem wire_dropLast (q : List SChunk) : wire q.dropLast = (wire q).dropLast := by
  simp [wire, List.map_dropLast]

/-- **For every state and every position**: `_maybe_abandon` leaves the sequence of chunks `sent queue ++
outbound queue`, as the peer sees them (tsn, stream, ssn, ppid, flags, payload), exactly as it was — nothing is
lost, duplicated, reordered or altered, on any channel; it only moves the boundary between the two queues
forward. -/
theorem maybeAbandon_wire (t : Tx) (pos : Nat) (now : Int) :
    wire (t.maybeAbandon pos now).2.sentQ ++ wire (t.maybeAbandon pos now).2.outQ = wire t.sentQ ++ wire t.outQ ∧
    t.sentQ.length ≤ (t.maybeAbandon pos now).2.sentQ.length := by
  refine ⟨?_, maybeAbandon_length t pos now⟩
  have h := maybeAbandon_out t pos now
  generalize t.maybeAbandon pos now = r at h ⊢
  cases h with
  | no | done => rfl
  | seg A M C U R hs ho => simp [abandonSeg, hs, ho, wire_append, wire_map_abMark, wire_map_abUnsent]

end Aiortc.Sctp
