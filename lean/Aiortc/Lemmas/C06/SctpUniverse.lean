import Aiortc.Lemmas.C06.SctpPop
/-!
# A complete run of fragments that the peer really sent is one of its messages (C06)

`W` is everything the sender ever fragmented, in TSN order: the concatenation of its messages' fragment
lists; TSNs are consecutive (`TsnSeq`).  A `FullRun` (what `pop_messages` joins) whose fragments all
come from `W` is exactly one of those fragment lists: no splice of two messages can be delivered.
-/
namespace Aiortc.Sctp
open Aiortc.Gen

/-- the first E chunk is the last chunk. -/
def UpToE : List RChunk → Prop
  | [] => False
  | [e] => flagE e.flags = true
  | c :: d :: r => flagE c.flags = false ∧ UpToE (d :: r)

/-- the head, and only the head, is a B chunk. -/
def HeadOnlyB : List RChunk → Prop
  | [] => False
  | h :: tl => flagB h.flags = true ∧ ∀ c ∈ tl, flagB c.flags = false

theorem upToE_snoc (ini : List RChunk) (e : RChunk) (h1 : ∀ c ∈ ini, flagE c.flags = false) (h2 : flagE e.flags = true) :
    UpToE (ini ++ [e]) := by
  induction ini with
  | nil => exact h2
  | cons c ini ih =>
    have ih := ih (fun d hd => h1 d (by simp [hd]))
    cases hi : ini ++ [e] with
    | nil => simp at hi
    | cons d r =>
      rw [List.cons_append, hi]
      rw [hi] at ih
      exact ⟨h1 c (by simp), ih⟩

theorem upToE_prefix_unique (r m x y : List RChunk) (hr : UpToE r) (hm : UpToE m)
    (h : r ++ x = m ++ y) : r = m := by
  induction r generalizing m with
  | nil => exact absurd hr (by simp [UpToE])
  | cons c r ih =>
    cases m with
    | nil => exact absurd hm (by simp [UpToE])
    | cons c' m =>
      simp only [List.cons_append, List.cons.injEq] at h
      obtain ⟨rfl, h⟩ := h
      cases r with
      | nil =>
        cases m with
        | nil => rfl
        | cons d m' =>
          have h1 : flagE c.flags = true := hr
          have h2 : flagE c.flags = false := hm.1
          simp [h1] at h2
      | cons d r' =>
        cases m with
        | nil =>
          have h1 : flagE c.flags = true := hm
          have h2 : flagE c.flags = false := hr.1
          simp [h1] at h2
        | cons d' m' =>
          rw [ih (d' :: m') hr.2 hm.2 h]

theorem run_mem_of_flatten (ms : List (List RChunk)) (hms : ∀ m ∈ ms, HeadOnlyB m ∧ UpToE m)
    (pre r post : List RChunk) (hr : UpToE r) (hrB : ∃ h tl, r = h :: tl ∧ flagB h.flags = true)
    (hW : ms.flatten = pre ++ (r ++ post)) : r ∈ ms := by
  induction ms generalizing pre with
  | nil =>
    obtain ⟨h, tl, rfl, _⟩ := hrB
    simp at hW
  | cons m ms ih =>
    have ih := ih (fun m' hm' => hms m' (by simp [hm']))
    rw [List.flatten_cons, List.append_eq_append_iff] at hW
    rcases hW with ⟨a', hpre, hfl⟩ | ⟨c', hm, hfl⟩
    · exact List.mem_cons_of_mem _ (ih a' hfl)
    · cases pre with
      | nil =>
        simp only [List.nil_append] at hm
        subst hm
        have := upToE_prefix_unique r m post ms.flatten hr (hms m (by simp)).2 hfl
        simp [this]
      | cons p pre' =>
        cases c' with
        | nil =>
          simp only [List.nil_append] at hfl
          exact List.mem_cons_of_mem _ (ih [] (by simpa using hfl.symm))
        | cons c0 c'' =>
          obtain ⟨h, tl, rfl, hB⟩ := hrB
          simp only [List.cons_append, List.cons.injEq] at hfl
          obtain ⟨rfl, _⟩ := hfl
          have hmB := (hms m (by simp)).1
          rw [hm] at hmB
          have : flagB h.flags = false := hmB.2 h (by simp)
          simp [hB] at this

/-! ## locating a run inside the sender's chunk sequence by its TSNs -/

/-- `W`'s chunks carry consecutive TSNs starting at `T` (mod 2^32). -/
def TsnSeq (T : Int) (W : List RChunk) : Prop :=
  ∀ j (h : j < W.length), W[j].tsn = (T + (j : Int)) % 4294967296

theorem prun_noE {seg : List RChunk} {exp : Int} (h : PRun seg exp) : ∀ c ∈ seg, flagE c.flags = false := by
  induction h with
  | start c _ hE => intro d hd; simp only [List.mem_singleton] at hd; exact hd ▸ hE
  | step seg c exp _ _ hE ih =>
    intro d hd
    rcases List.mem_append.1 hd with hd | hd
    · exact ih d hd
    · simp only [List.mem_singleton] at hd; exact hd ▸ hE

theorem next_located (T : Int) (W : List RChunk) (hW : TsnSeq T W) (hlen : W.length < 4294967296)
    (pre seg post : List RChunk) (c : RChunk) (hWeq : W = pre ++ (seg ++ post)) (hc : c ∈ W)
    (htsn : c.tsn = (T + ((pre.length + seg.length : Nat) : Int)) % 4294967296) :
    ∃ post', post = c :: post' := by
  obtain ⟨j, hj, hjc⟩ := List.getElem_of_mem hc
  have ht := hW j hj
  rw [hjc, htsn] at ht
  have hlen' : W.length = pre.length + (seg.length + post.length) := by rw [hWeq]; simp
  have hjeq : j = pre.length + seg.length := by omega
  cases post with
  | nil => simp at hlen'; omega
  | cons d post' =>
    have h1 : W[j]? = some c := by rw [List.getElem?_eq_getElem hj, hjc]
    have h2 : W[j]? = some d := by
      rw [hWeq, hjeq, ← List.append_assoc]
      have : pre.length + seg.length = (pre ++ seg).length := by simp
      rw [this, List.getElem?_append_right (Nat.le_refl _)]
      simp
    have hd : c = d := by rw [h1] at h2; exact Option.some.inj h2
    exact ⟨post', by rw [hd]⟩

theorem prun_located (T : Int) (W : List RChunk) (hW : TsnSeq T W) (hlen : W.length < 4294967296)
    (seg : List RChunk) (exp : Int) (h : PRun seg exp) (hsub : ∀ c ∈ seg, c ∈ W) :
    ∃ pre post, W = pre ++ (seg ++ post) ∧
      exp = (T + ((pre.length + seg.length : Nat) : Int)) % 4294967296 := by
  induction h with
  | start c hB hE =>
    obtain ⟨pre, post, hWeq⟩ := List.append_of_mem (hsub c (by simp))
    refine ⟨pre, post, by simpa using hWeq, ?_⟩
    have hj : pre.length < W.length := by rw [hWeq]; simp
    rw [← List.getElem_of_append hWeq rfl, hW pre.length hj]
    simp only [tsn_plus_one, List.length_cons, List.length_nil]
    push_cast
    omega
  | step seg c exp hp hc hE ih =>
    obtain ⟨pre, post, hWeq, hexp⟩ := ih (fun d hd => hsub d (by simp [hd]))
    obtain ⟨post', rfl⟩ := next_located T W hW hlen pre seg post c hWeq (hsub c (by simp)) (hc ▸ hexp)
    refine ⟨pre, post', by simpa using hWeq, ?_⟩
    rw [hc, hexp]
    simp only [tsn_plus_one, List.length_append, List.length_cons, List.length_nil]
    push_cast
    omega

theorem fullRun_located (T : Int) (W : List RChunk) (hW : TsnSeq T W) (hlen : W.length < 4294967296)
    (r : List RChunk) (h : FullRun r) (hsub : ∀ c ∈ r, c ∈ W) : ∃ pre post, W = pre ++ (r ++ post) := by
  cases h with
  | single c hB hE =>
    obtain ⟨pre, post, hWeq⟩ := List.append_of_mem (hsub c (by simp))
    exact ⟨pre, post, by simpa using hWeq⟩
  | close seg c exp hp hc hE =>
    obtain ⟨pre, post, hWeq, hexp⟩ := prun_located T W hW hlen seg exp hp (fun d hd => hsub d (by simp [hd]))
    obtain ⟨post', rfl⟩ := next_located T W hW hlen pre seg post c hWeq (hsub c (by simp)) (hc ▸ hexp)
    exact ⟨pre, post', by simpa using hWeq⟩

theorem fullRun_shape (r : List RChunk) (h : FullRun r) :
    UpToE r ∧ ∃ hd tl, r = hd :: tl ∧ flagB hd.flags = true := by
  cases h with
  | single c hB hE => exact ⟨hE, c, [], rfl, hB⟩
  | close seg c exp hp hc hE =>
    refine ⟨upToE_snoc seg c (prun_noE hp) hE, ?_⟩
    obtain ⟨hd, tl, rfl, hB⟩ := prun_head hp
    exact ⟨hd, tl ++ [c], rfl, hB⟩

/-- **No splice**: a complete run of consecutive TSNs made of fragments the sender produced is exactly the
fragment list of one of the sender's messages. -/
theorem fullRun_is_message (T : Int) (ms : List (List RChunk))
    (hms : ∀ m ∈ ms, HeadOnlyB m ∧ UpToE m)
    (hW : TsnSeq T ms.flatten) (hlen : ms.flatten.length < 4294967296)
    (r : List RChunk) (h : FullRun r) (hsub : ∀ c ∈ r, c ∈ ms.flatten) : r ∈ ms := by
  obtain ⟨pre, post, hWeq⟩ := fullRun_located T _ hW hlen r h hsub
  obtain ⟨hE, hB⟩ := fullRun_shape r h
  exact run_mem_of_flatten ms hms pre r post hE hB hWeq

end Aiortc.Sctp
