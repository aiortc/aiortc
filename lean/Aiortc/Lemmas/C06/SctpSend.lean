import Aiortc.Lemmas.C01.SctpFrag
import Aiortc.Lemmas.C06.SctpAbandon
import Aiortc.Lemmas.C06.SctpUniverse
/-!
# What `_send` puts into the outbound queue (C06)

The fragments of one message carry consecutive TSNs, the B flag on the first and only the first, the E flag
on the last and only the last, the message's stream id / ppid, and their payloads join to the user data.
-/
namespace Aiortc.Sctp
open Aiortc.Gen

theorem flag_consts : SCTP_DATA_LAST_FRAG = 1 ∧ SCTP_DATA_FIRST_FRAG = 2 ∧ SCTP_DATA_UNORDERED = 4 := by decide

section Frag
variable {tsn : Int} {sid : Nat} {ssn : Int} {ppid : Nat} {ordered : Bool} {expiry maxRtx : Option Int}
  {n : Nat} {data : Bytes}

theorem fragments_fields {k : Nat} {c : SChunk} (hc : c ∈ fragments tsn sid ssn ppid ordered expiry maxRtx n data k) :
    c.sid = sid ∧ c.ppid = ppid ∧ c.ssn = ssn ∧ c.inFlight = false ∧ c.abandoned = false ∧
      flagU c.flags = !ordered := by
  obtain ⟨j, -, rfl⟩ := mem_fragments hc
  exact ⟨rfl, rfl, rfl, rfl, rfl, flagU_fragFlags _ _ _⟩

theorem fragments_noB {k : Nat} (hk : k < n) :
    NoB (fragments tsn sid ssn ppid ordered expiry maxRtx n data k) := by
  intro c hc
  obtain ⟨j, hj, rfl⟩ := mem_fragments hc
  simp only [sfrag, flagB_fragFlags]; simp; omega

theorem fragments_lastOnlyE {k : Nat} (hk : k ≤ n) (hk1 : 1 ≤ k) :
    LastOnlyE (fragments tsn sid ssn ppid ordered expiry maxRtx n data k) := by
  induction k with
  | zero => omega
  | succ k ih =>
    cases k with
    | zero =>
      rw [fragments_succ]
      simp only [fragments, LastOnlyE, sfrag, flagE_fragFlags]
      simp
    | succ k =>
      have ih := ih (by omega) (by omega)
      rw [fragments_succ]
      rw [fragments_succ] at ih ⊢
      refine ⟨?_, ih⟩
      simp only [sfrag, flagE_fragFlags]; simp; omega

theorem fragments_isMsg (hn : 1 ≤ n) : IsMsg (fragments tsn sid ssn ppid ordered expiry maxRtx n data n) := by
  refine ⟨?_, fragments_lastOnlyE (Nat.le_refl _) hn⟩
  obtain ⟨k, rfl⟩ : ∃ k, n = k + 1 := ⟨n - 1, by omega⟩
  rw [fragments_succ]
  refine ⟨?_, fragments_noB (by omega)⟩
  simp only [sfrag, flagB_fragFlags]; simp

end Frag

/-! ## a history of `_send` calls -/

/-- one call `_send(stream_id, pp_id, user_data, expiry, max_retransmits, ordered)`. -/
structure SendReq where
  sid : Nat
  ppid : Nat
  data : Bytes
  expiry : Option Int := none
  maxRtx : Option Int := none
  ordered : Bool := true
  deriving Repr, DecidableEq

def Tx.enqueueReq (t : Tx) (r : SendReq) : Tx := t.enqueue r.sid r.ppid r.data r.expiry r.maxRtx r.ordered

/-- the fragments `_send` appends for request `r` in state `t`. -/
def reqFrags (t : Tx) (r : SendReq) : List SChunk :=
  fragments t.localTsn r.sid (if r.ordered then (dictGet t.streamSeq r.sid).getD 0 else 0) r.ppid r.ordered
    r.expiry r.maxRtx (fragCount r.data.length) r.data (fragCount r.data.length)

theorem enqueueReq_outQ (t : Tx) (r : SendReq) : (t.enqueueReq r).outQ = t.outQ ++ reqFrags t r := rfl
theorem enqueueReq_localTsn (t : Tx) (r : SendReq) :
    (t.enqueueReq r).localTsn = (t.localTsn + ((reqFrags t r).length : Int)) % 4294967296 := by
  simp [Tx.enqueueReq, Tx.enqueue, reqFrags, fragments_length]

/-- fragment lists of a history of sends, one per request, in order. -/
def sentFrags : Tx → List SendReq → List (List SChunk)
  | _, [] => []
  | t, r :: rs => reqFrags t r :: sentFrags (t.enqueueReq r) rs

theorem sendAll_outQ (t : Tx) (rs : List SendReq) :
    (rs.foldl Tx.enqueueReq t).outQ = t.outQ ++ (sentFrags t rs).flatten := by
  induction rs generalizing t with
  | nil => simp [sentFrags]
  | cons r rs ih => simp [sentFrags, ih, enqueueReq_outQ]

theorem sentFrags_mem (t : Tx) (rs : List SendReq) :
    ∀ fs ∈ sentFrags t rs, ∃ t' r, r ∈ rs ∧ fs = reqFrags t' r := by
  induction rs generalizing t with
  | nil => simp [sentFrags]
  | cons r rs ih =>
    intro fs hfs
    rcases List.mem_cons.1 hfs with rfl | hfs
    · exact ⟨t, r, by simp, rfl⟩
    · obtain ⟨t', r', hr', h⟩ := ih _ fs hfs
      exact ⟨t', r', by simp [hr'], h⟩

theorem reqFrags_data (t : Tx) (r : SendReq) : (reqFrags t r).flatMap (·.data) = r.data := by
  unfold reqFrags
  rw [fragments_data (Nat.le_refl _) (fragCount_cover _)]
  simp

theorem reqFrags_isMsg (t : Tx) (r : SendReq) (h : reqFrags t r ≠ []) : IsMsg (reqFrags t r) := by
  unfold reqFrags at h ⊢
  apply fragments_isMsg
  rcases Nat.eq_zero_or_pos (fragCount r.data.length) with h0 | h0
  · rw [h0] at h; simp [fragments] at h
  · exact h0

theorem reqFrags_tsn (t : Tx) (r : SendReq) : TsnSeq t.localTsn ((reqFrags t r).map SChunk.toR) := by
  intro j hj
  unfold reqFrags at hj ⊢
  simp only [fragments_toR (Nat.le_refl _), Nat.sub_self, ← List.range_eq_range',
    List.getElem_map, List.getElem_range]
  rfl

theorem tsnSeq_append (T : Int) (a b : List RChunk) (ha : TsnSeq T a)
    (hb : TsnSeq ((T + (a.length : Int)) % 4294967296) b) : TsnSeq T (a ++ b) := by
  intro j hj
  by_cases h : j < a.length
  · rw [List.getElem_append_left h]; exact ha j h
  · have h' : a.length ≤ j := by omega
    rw [List.getElem_append_right h']
    rw [hb (j - a.length) (by simp at hj; omega)]
    have : ((j - a.length : Nat) : Int) = (j : Int) - (a.length : Int) := by omega
    rw [this]
    omega

/-- everything a history of sends produced, as the receiver sees it. -/
def sentWire (t : Tx) (rs : List SendReq) : List (List RChunk) := (sentFrags t rs).map (·.map SChunk.toR)

theorem sentWire_tsn (t : Tx) (rs : List SendReq) : TsnSeq t.localTsn (sentWire t rs).flatten := by
  induction rs generalizing t with
  | nil => intro j hj; simp [sentWire, sentFrags] at hj
  | cons r rs ih =>
    simp only [sentWire, sentFrags, List.map_cons, List.flatten_cons]
    apply tsnSeq_append _ _ _ (reqFrags_tsn t r)
    have := ih (t.enqueueReq r)
    rw [enqueueReq_localTsn] at this
    simpa [sentWire] using this

theorem lastOnlyE_map (m : List SChunk) (h : LastOnlyE m) : UpToE (m.map SChunk.toR) := by
  induction m with
  | nil => exact h
  | cons c m ih =>
    cases m with
    | nil => exact h
    | cons d r => exact ⟨h.1, ih h.2⟩

theorem firstOnlyB_map (m : List SChunk) (h : FirstOnlyB m) : HeadOnlyB (m.map SChunk.toR) := by
  cases m with
  | nil => exact h
  | cons c m =>
    refine ⟨h.1, ?_⟩
    intro d hd
    obtain ⟨x, hx, rfl⟩ := List.mem_map.1 hd
    exact h.2 x hx

end Aiortc.Sctp
