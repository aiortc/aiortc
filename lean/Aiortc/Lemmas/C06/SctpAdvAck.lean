import Aiortc.Lemmas.SctpDict
import Aiortc.Lemmas.SctpTx.AdvAck
/-!
# The FORWARD-TSN stream list is the last popped ordered chunk per stream (C06)

`_update_advanced_peer_ack_point` itself is in closed form in `Lemmas/SctpTx/AdvAck.lean` (`updateAdvAck_eq`): the stream list is a
fold of `fwdNote` over the popped chunks.  Here: what that fold holds for a stream (`foldl_fwdNote_get`), in the words of
`Props.C06.forward_tsn_streams`.
-/
namespace Aiortc.Sctp
open Aiortc.Gen

/-- last popped ordered chunk of stream `sid`, if any. -/
def lastOrdered (popped : List SChunk) (sid : Nat) : Option SChunk :=
  (popped.filter fun c => !flagU c.flags && c.sid == sid).getLast?

theorem foldl_fwdNote_get (popped : List SChunk) (streams : List (Nat × Int)) (sid : Nat) :
    dictGet (popped.foldl fwdNote streams) sid =
      match lastOrdered popped sid with
      | some c => some c.ssn
      | none => dictGet streams sid := by
  induction popped generalizing streams with
  | nil => simp [lastOrdered]
  | cons c cs ih =>
    rw [List.foldl_cons, ih]
    unfold lastOrdered at *
    rw [List.filter_cons]
    by_cases hp : (!flagU c.flags && c.sid == sid) = true
    · simp only [hp, ↓reduceIte, List.getLast?_cons]
      cases hl : (cs.filter fun c => !flagU c.flags && c.sid == sid).getLast? with
      | some x => simp
      | none =>
        simp only [Bool.and_eq_true, Bool.not_eq_true', beq_iff_eq] at hp
        simp [fwdNote, hp.1, dictGet_dictSet, hp.2]
    · simp only [hp, Bool.false_eq_true, ↓reduceIte]
      cases hl : (cs.filter fun c => !flagU c.flags && c.sid == sid).getLast? with
      | some x => simp
      | none =>
        simp only [Bool.and_eq_true, Bool.not_eq_true', beq_iff_eq, not_and] at hp
        simp only [fwdNote]
        split
        · rename_i hu
          have : ¬ sid = c.sid := fun h => hp (by simpa using hu) h.symm
          simp [dictGet_dictSet, this]
        · rfl

end Aiortc.Sctp
