import Aiortc.Model.Sctp.Forward
import Aiortc.Lemmas.SctpRx.Runs
import Aiortc.Lemmas.SctpDict
/-!
# FORWARD TSN handling does not disturb streams it does not list (C06)
-/
namespace Aiortc.Sctp
open Aiortc.Gen

/-- no run of the stream's reassembly queue is waiting for a fragment with TSN ≤ `cum`. -/
def NotWaiting (cum : Int) (s : InStream) : Prop := ∀ g ∈ runsOf s.reasm, runDead cum g = false

theorem fwdPrune_get (cum : Int) (ins : List (Nat × InStream)) (sid : Nat) :
    dictGet (fwdPrune cum ins).1 sid = (dictGet ins sid).map fun s => (s.pruneChunks cum).1 := by
  simp only [fwdPrune]
  exact dictGet_map_val (fun s => (s.pruneChunks cum).1) ins sid

/-! ## what a successful call was made of -/

/-- the stream table with the stream `sid` registered (`_get_inbound_stream` creates it when absent) -/
def registered (ins : List (Nat × InStream)) (sid : Nat) : List (Nat × InStream) :=
  if (dictGet ins sid).isSome then ins else ins ++ [(sid, ({} : InStream))]

theorem fwdAdvanceOne_inv {ins ins' : List (Nat × InStream)} {sid : Nat} {sseq : Int} {msgs : List Msg}
    (h : fwdAdvanceOne ins sid sseq = .ok (ins', msgs)) :
    ∃ s', (fwdGuard ((dictGet (registered ins sid) sid).getD {}) sseq).popMessages = .ok (msgs, s')
      ∧ ins' = dictSet (registered ins sid) sid s' := by
  unfold fwdAdvanceOne at h
  simp only at h
  split at h
  · rename_i m s' hp
    simp only [Outcome.ok.injEq, Prod.mk.injEq] at h
    obtain ⟨rfl, rfl⟩ := h
    exact ⟨s', hp, rfl⟩
  all_goals simp at h

theorem fwdAdvance_cons_inv {ins ins'' : List (Nat × InStream)} {sid : Nat} {sseq : Int} {rest : List (Nat × Int)}
    {out : List Msg} (h : fwdAdvance ins ((sid, sseq) :: rest) = .ok (ins'', out)) :
    ∃ ins' m1 m2, fwdAdvanceOne ins sid sseq = .ok (ins', m1) ∧ fwdAdvance ins' rest = .ok (ins'', m2) ∧ out = m1 ++ m2 := by
  unfold fwdAdvance at h
  cases h1 : fwdAdvanceOne ins sid sseq <;> simp only [h1, reduceCtorEq] at h
  rename_i r
  cases h2 : fwdAdvance r.1 rest <;> simp only [h2, Outcome.ok.injEq, Prod.mk.injEq, reduceCtorEq] at h
  rename_i r2
  obtain ⟨rfl, rfl⟩ := h
  exact ⟨r.1, r.2, r2.2, rfl, h2, rfl⟩

theorem fwdStreams_inv {cum : Int} {streams : List (Nat × Int)} {ins ins' : List (Nat × InStream)} {freed : Nat}
    {msgs : List Msg} (h : fwdStreams cum streams ins = .ok (ins', freed, msgs)) :
    fwdAdvance (fwdPrune cum ins).1 streams = .ok (ins', msgs) ∧ freed = (fwdPrune cum ins).2 := by
  unfold fwdStreams at h
  simp only at h
  cases h1 : fwdAdvance (fwdPrune cum ins).1 streams <;>
    simp only [h1, Outcome.ok.injEq, Prod.mk.injEq, reduceCtorEq] at h
  obtain ⟨rfl, rfl, rfl⟩ := h
  exact ⟨rfl, rfl⟩

theorem dictGet_registered_other (ins : List (Nat × InStream)) (sid sid' : Nat) (hne : sid' ≠ sid) :
    dictGet (registered ins sid) sid' = dictGet ins sid' := by
  unfold registered
  split
  · rfl
  · exact dictGet_append_other ins sid sid' _ hne

theorem fwdAdvanceOne_other (ins ins' : List (Nat × InStream)) (sid : Nat) (sseq : Int) (msgs : List Msg)
    (h : fwdAdvanceOne ins sid sseq = .ok (ins', msgs)) (sid' : Nat) (hne : sid' ≠ sid) :
    dictGet ins' sid' = dictGet ins sid' := by
  obtain ⟨s', _, rfl⟩ := fwdAdvanceOne_inv h
  rw [dictGet_dictSet_other _ _ _ _ hne, dictGet_registered_other ins sid sid' hne]

theorem fwdAdvance_other (streams : List (Nat × Int)) (ins ins' : List (Nat × InStream)) (msgs : List Msg)
    (h : fwdAdvance ins streams = .ok (ins', msgs)) (sid' : Nat) (hne : ∀ p ∈ streams, p.1 ≠ sid') :
    dictGet ins' sid' = dictGet ins sid' := by
  induction streams generalizing ins msgs with
  | nil =>
    simp only [fwdAdvance, Outcome.ok.injEq, Prod.mk.injEq] at h
    rw [← h.1]
  | cons p rest ih =>
    obtain ⟨sid, sseq⟩ := p
    obtain ⟨ins1, m1, m2, h1, h2, -⟩ := fwdAdvance_cons_inv h
    rw [ih ins1 m2 h2 (fun q hq => hne q (by simp [hq]))]
    exact fwdAdvanceOne_other ins ins1 sid sseq m1 h1 sid' (fun h' => hne (sid, sseq) (by simp) h'.symm)

theorem fwdStreams_unlisted (cum : Int) (streams : List (Nat × Int)) (ins ins' : List (Nat × InStream))
    (freed : Nat) (msgs : List Msg) (h : fwdStreams cum streams ins = .ok (ins', freed, msgs))
    (sid : Nat) (hne : ∀ p ∈ streams, p.1 ≠ sid) :
    dictGet ins' sid = (dictGet ins sid).map fun s => (s.pruneChunks cum).1 := by
  rw [fwdAdvance_other streams _ _ msgs (fwdStreams_inv h).1 sid hne, fwdPrune_get]

end Aiortc.Sctp
