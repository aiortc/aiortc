import Aiortc.Lemmas.C08.Checksum
/-! Burst errors against the SCTP checksum: bursts entirely outside / entirely inside the checksum field
(bytes 8..11 = CRC-order bit positions 64..95) make `checksumOk` false.  Outside, the field is untouched and the
CRC of the rest changes (`crc32c_burst`); inside, the packet is `d` with another field
(`checksumOk_withChecksum`). -/
namespace Aiortc.Sctp.Wire
open Aiortc Aiortc.Gen Aiortc.Crc32c

theorem byte_zero_of_window (e : Bytes) (he : IsBytes e) (p len : Nat) (hw : InWindow (bitsOf e) p len)
    (i x : Nat) (hx : e[i]? = some x) (hout : 8 * i + 8 ≤ p ∨ p + len ≤ 8 * i) : x = 0 := by
  apply Classical.byContradiction
  intro h0
  obtain ⟨k, hk, hb⟩ := bit_of_byte_ne_zero e he hx h0
  have := hw (8 * i + k) hb
  omega

theorem slice_zero_of_window (e : Bytes) (he : IsBytes e) (p len : Nat) (hw : InWindow (bitsOf e) p len)
    (a n : Nat) (hout : 8 * (a + n) ≤ p ∨ p + len ≤ 8 * a) : ∀ x ∈ (e.drop a).take n, x = 0 := by
  intro x hx
  obtain ⟨j, hj⟩ := List.mem_iff_getElem?.1 hx
  rw [List.getElem?_take] at hj
  split at hj
  · rw [List.getElem?_drop] at hj
    exact byte_zero_of_window e he p len hw (a + j) x hj (by omega)
  · cases hj

theorem checksumField_xorBytes (d e : Bytes) :
    checksumField (xorBytes d e) = xorBytes (checksumField d) (checksumField e) := by
  simp only [checksumField, xorBytes_take, xorBytes_drop]

theorem withChecksum_xorBytes (d e v w : Bytes) (hl : e.length = d.length) (hv : w.length = v.length) :
    withChecksum (xorBytes d e) (xorBytes v w) = xorBytes (withChecksum d v) (withChecksum e w) := by
  simp only [withChecksum, xorBytes_take, xorBytes_drop]
  rw [xorBytes_append _ _ _ _ (by simp [hl]), xorBytes_append _ _ _ _ hv.symm]

theorem checksumOk_burst_outside (d e : Bytes) (he : IsBytes e) (hl : e.length = d.length)
    (hd : checksumOk d = true) (p len : Nat) (hlen : len ≤ 32) (hw : InWindow (bitsOf e) p len)
    (hne : ∃ i : Nat, (bitsOf e)[i]? = some true) (hpos : p + len ≤ 64 ∨ 96 ≤ p) :
    checksumOk (xorBytes d e) = false := by
  have h12 := length_of_checksumOk d hd
  have hz : checksumField e = [0, 0, 0, 0] :=
    List.eq_replicate_iff.2 ⟨length_checksumField e (by omega), slice_zero_of_window e he p len hw 8 4 (by omega)⟩
  -- the CRC is taken of `d` with a zeroed field XOR `e`
  have hx : withChecksum (xorBytes d e) [0, 0, 0, 0] = xorBytes (withChecksum d [0, 0, 0, 0]) e := by
    have := withChecksum_xorBytes d e [0, 0, 0, 0] [0, 0, 0, 0] hl rfl
    rw [← hz, withChecksum_self e, hz] at this
    exact this
  rw [checksumOk_eq d h12, beq_iff_eq] at hd
  rw [checksumOk_eq _ (by simp [xorBytes]; omega), checksumField_xorBytes, hz,
    (xorBytes_eq_self _ _ (by rw [length_checksumField d h12]; rfl)).2 (by simp), hx, hd]
  exact beq_false_of_ne (Ne.symm (crc32c_burst _ e (by simp [withChecksum]; omega) p len hlen hw hne))

theorem checksumOk_burst_inside (d e : Bytes) (hdb : IsBytes d) (he : IsBytes e) (hl : e.length = d.length)
    (hd : checksumOk d = true) (p len : Nat) (hw : InWindow (bitsOf e) p len)
    (hne : ∃ i : Nat, (bitsOf e)[i]? = some true) (hpos : 64 ≤ p ∧ p + len ≤ 96) :
    checksumOk (xorBytes d e) = false := by
  have h12 := length_of_checksumOk d hd
  have h8 : ∀ x ∈ e.take 8, x = 0 := slice_zero_of_window e he p len hw 0 8 (by omega)
  have h12' : ∀ x ∈ e.drop 12, x = 0 := by
    have := slice_zero_of_window e he p len hw 12 e.length (by omega)
    rwa [List.take_of_length_le (by simp)] at this
  have hx : xorBytes d e = withChecksum d (checksumField (xorBytes d e)) := by
    conv => lhs; rw [← withChecksum_self (xorBytes d e)]
    rw [withChecksum, xorBytes_take, xorBytes_drop, (xorBytes_eq_self _ _ (by simp [hl])).2 h8,
      (xorBytes_eq_self _ _ (by simp [hl])).2 h12', ← withChecksum]
  have hb := isBytes_checksumField _ (isBytes_xorBytes d e hdb he)
  rw [hx]
  refine checksumOk_withChecksum d _ (isBytes_checksumField d hdb) hd hb
    (length_checksumField _ (by simp [xorBytes]; omega)) fun heq => ?_
  -- otherwise all three parts of `e` are zero, but `e` has a set bit
  rw [checksumField_xorBytes, xorBytes_eq_self _ _
    (by rw [length_checksumField d h12, length_checksumField e (by omega)])] at heq
  obtain ⟨q, hq⟩ := hne
  obtain ⟨x, hqx, hx0⟩ := byte_ne_zero_of_bit e q hq
  have hx := List.mem_of_getElem? hqx
  rw [← withChecksum_self e, withChecksum, List.mem_append, List.mem_append] at hx
  rcases hx with h | h | h
  · exact hx0 (h8 x h)
  · exact hx0 (heq x h)
  · exact hx0 (h12' x h)

end Aiortc.Sctp.Wire
