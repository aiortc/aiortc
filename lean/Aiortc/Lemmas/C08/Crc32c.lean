import Aiortc.Model.Crc32c
import Aiortc.Lemmas.Bytes
/-!
# CRC-32C: linearity over XOR and the burst-error lemma (core `Nat.testBit` lemmas only)

* `step` is linear over XOR: `step (s ^^^ Δ) (b ^^ e) = step s b ^^^ step Δ e`; hence
  `run (s ^^^ Δ) (m ⊕ e) = run s m ^^^ run Δ e`, and `crc32c (m ⊕ e) = crc32c m ^^^ run 0 (bits e)`.
* `run 0 E ≠ 0` for every non-zero error pattern `E` whose set bits fit in a window of 32 positions:
  the first set bit loads `POLY ≥ 2^31` into the (difference) register; each of the following `j ≤ 31`
  window steps either halves it or sets bit 31 again, so it stays `≥ 2^(31-j) > 0`; steps with a zero
  error bit map non-zero to non-zero.
* `bitsOf` by position (`bitsOf_getElem?`: bit `8 * i + k` is bit `k` of byte `i`) and `xorBytes` under
  `take`/`drop`/`++`: how the users of the burst lemma speak about an error pattern given as bytes.
-/
namespace Aiortc.Crc32c

theorem POLY_lt : POLY < 2 ^ 32 := by decide
theorem POLY_bit31 : POLY.testBit 31 = true := by decide

theorem step_eq (s : Nat) (b : Bool) : step s b = s / 2 ^^^ bif (s.testBit 0 ^^ b) then POLY else 0 := by
  unfold step; cases (s.testBit 0 ^^ b) <;> simp

theorem step_xor (s d : Nat) (b e : Bool) : step (s ^^^ d) (b ^^ e) = step s b ^^^ step d e := by
  have hb : ((s ^^^ d).testBit 0 ^^ (b ^^ e)) = ((s.testBit 0 ^^ b) ^^ (d.testBit 0 ^^ e)) := by
    simp only [Nat.testBit_xor, Bool.xor_assoc, Bool.xor_left_comm]
  have hc : ∀ x y : Bool,
      (bif (x ^^ y) then POLY else 0) = (bif x then POLY else 0) ^^^ (bif y then POLY else 0) := by
    intro x y; cases x <;> cases y <;> simp
  rw [step_eq, step_eq, step_eq, hb, Nat.xor_div_two, hc]
  ac_rfl

theorem step_zero_false : step 0 false = 0 := by decide
theorem step_zero_true : step 0 true = POLY := by decide

theorem step_lt (s : Nat) (b : Bool) (h : s < 2 ^ 32) : step s b < 2 ^ 32 := by
  unfold step
  split
  · exact Nat.xor_lt_two_pow (by omega) POLY_lt
  · omega

theorem run_lt (bits : List Bool) (s : Nat) (h : s < 2 ^ 32) : run s bits < 2 ^ 32 := by
  induction bits generalizing s with
  | nil => exact h
  | cons b bits ih => exact ih _ (step_lt s b h)

theorem crc32c_lt (d : Bytes) : crc32c d < 4294967296 :=
  Nat.xor_lt_two_pow (n := 32) (run_lt _ _ (by decide)) (by decide)

def xorBits (m e : List Bool) : List Bool := List.zipWith (· ^^ ·) m e

theorem run_xor (m e : List Bool) (h : e.length = m.length) (s d : Nat) :
    run (s ^^^ d) (xorBits m e) = run s m ^^^ run d e := by
  induction m generalizing e s d with
  | nil => cases e with
    | nil => simp [run, xorBits]
    | cons _ _ => simp at h
  | cons b m ih => cases e with
    | nil => simp at h
    | cons c e =>
      simp only [List.length_cons, Nat.add_right_cancel_iff] at h
      simp only [run, xorBits, List.zipWith_cons_cons, List.foldl_cons] at ih ⊢
      rw [step_xor]; exact ih e h _ _

theorem step_ge (d : Nat) (b : Bool) (k : Nat) (hlo : 2 ^ k ≤ d) (hhi : d < 2 ^ 32)
    (hb : b = true → 0 < k) : 2 ^ (k - 1) ≤ step d b := by
  have hk : k < 32 := (Nat.pow_lt_pow_iff_right (by omega)).mp (Nat.lt_of_le_of_lt hlo hhi)
  unfold step
  split
  · -- feedback: bit 31 is set again
    have h31 : ((d / 2) ^^^ POLY).testBit 31 = true := by
      rw [Nat.testBit_xor, POLY_bit31, Nat.testBit_lt_two_pow (by omega : d / 2 < 2 ^ 31)]; rfl
    exact Nat.le_trans (Nat.pow_le_pow_right (by omega) (by omega)) (Nat.ge_two_pow_of_testBit h31)
  · rename_i hf
    cases k with
    | zero =>
      -- b = false and no feedback, so d is even and ≥ 1
      have hbf : b = false := Bool.eq_false_iff.2 fun h => Nat.lt_irrefl 0 (hb h)
      have : d % 2 = 0 := by simpa [hbf, Nat.testBit_zero] using hf
      simp only [Nat.pow_zero] at hlo ⊢
      omega
    | succ k =>
      simp only [Nat.add_sub_cancel]
      rw [Nat.pow_succ] at hlo; omega

theorem run_ne_zero_of_window (E : List Bool) (d k : Nat) (hlo : 2 ^ k ≤ d) (hhi : d < 2 ^ 32)
    (hE : ∀ i : Nat, E[i]? = some true → i < k) : run d E ≠ 0 := by
  induction E generalizing d k with
  | nil => simp only [run, List.foldl_nil]; have := Nat.two_pow_pos k; omega
  | cons b E ih =>
    simp only [run, List.foldl_cons]
    apply ih (step d b) (k - 1) (step_ge d b k hlo hhi ?_) (step_lt d b hhi)
    · intro i hi
      have := hE (i + 1) hi
      omega
    · intro hb; subst hb; exact hE 0 rfl

def InWindow (E : List Bool) (p len : Nat) : Prop := ∀ i : Nat, E[i]? = some true → p ≤ i ∧ i < p + len

theorem run_zero_burst_ne_zero (E : List Bool) (p len : Nat) (hlen : len ≤ 32)
    (hw : InWindow E p len) (hne : ∃ i : Nat, E[i]? = some true) : run 0 E ≠ 0 := by
  induction E generalizing p with
  | nil => obtain ⟨i, hi⟩ := hne; simp at hi
  | cons b E ih =>
    cases b with
    | false =>
      simp only [run, List.foldl_cons, step_zero_false]
      obtain ⟨i, hi⟩ := hne
      cases i with
      | zero => cases hi
      | succ i =>
        apply ih (p - 1)
        · intro j hj
          have := hw (j + 1) hj; omega
        · exact ⟨i, hi⟩
    | true =>
      simp only [run, List.foldl_cons, step_zero_true]
      have h0 := hw 0 rfl
      apply run_ne_zero_of_window E POLY 31 (by decide) POLY_lt
      intro i hi
      have := hw (i + 1) hi; omega

theorem byteBits_xor (a b : Nat) : byteBits (a ^^^ b) = xorBits (byteBits a) (byteBits b) := by
  simp only [byteBits, xorBits, Nat.testBit_xor, List.zipWith_cons_cons, List.zipWith_nil_left]

@[simp] theorem byteBits_length (a : Nat) : (byteBits a).length = 8 := rfl
@[simp] theorem bitsOf_length (d : Bytes) : (bitsOf d).length = 8 * d.length := by
  induction d with
  | nil => rfl
  | cons a d ih => simp [bitsOf, ih]; omega

theorem byteBits_getElem? (a k : Nat) (hk : k < 8) : (byteBits a)[k]? = some (a.testBit k) := by
  show ((List.range 8).map a.testBit)[k]? = _
  rw [List.getElem?_map, List.getElem?_range hk]; rfl

theorem bitsOf_getElem? (e : Bytes) (i k : Nat) (hk : k < 8) :
    (bitsOf e)[8 * i + k]? = (e[i]?).map (·.testBit k) := by
  induction e generalizing i with
  | nil => simp [bitsOf]
  | cons a e ih =>
    cases i with
    | zero =>
      simp only [bitsOf, Nat.mul_zero, Nat.zero_add, List.getElem?_cons_zero, Option.map_some]
      rw [List.getElem?_append_left (by simp; exact hk), byteBits_getElem? a k hk]
    | succ i =>
      simp only [bitsOf, List.getElem?_cons_succ]
      rw [List.getElem?_append_right (by simp; omega)]
      have : 8 * (i + 1) + k - (byteBits a).length = 8 * i + k := by simp; omega
      rw [this, ih]

theorem exists_testBit_of_byte (x : Nat) (hx : x < 256) (h0 : x ≠ 0) : ∃ k, k < 8 ∧ x.testBit k = true := by
  obtain ⟨k, hk⟩ := Nat.exists_testBit_of_ne_zero h0
  refine ⟨k, Nat.lt_of_not_le fun h8 => ?_, hk⟩
  rw [Nat.testBit_lt_two_pow (Nat.lt_of_lt_of_le hx (Nat.pow_le_pow_right (by omega) h8 : 2 ^ 8 ≤ 2 ^ k))] at hk
  cases hk

theorem bit_of_byte_ne_zero (e : Bytes) (he : IsBytes e) {j x : Nat} (hj : e[j]? = some x) (h0 : x ≠ 0) :
    ∃ k, k < 8 ∧ (bitsOf e)[8 * j + k]? = some true := by
  obtain ⟨k, hk, hb⟩ := exists_testBit_of_byte x (he x (List.mem_of_getElem? hj)) h0
  exact ⟨k, hk, by rw [bitsOf_getElem? e j k hk, hj, Option.map_some, hb]⟩

theorem byte_ne_zero_of_bit (e : Bytes) (q : Nat) (hq : (bitsOf e)[q]? = some true) :
    ∃ x, e[q / 8]? = some x ∧ x ≠ 0 := by
  have h := bitsOf_getElem? e (q / 8) (q % 8) (Nat.mod_lt _ (by omega))
  rw [Nat.div_add_mod, hq] at h
  cases hx : e[q / 8]? with
  | none => rw [hx] at h; cases h
  | some x =>
    refine ⟨x, rfl, ?_⟩
    rintro rfl
    simp [hx] at h

def xorBytes (d e : Bytes) : Bytes := List.zipWith (· ^^^ ·) d e

theorem xor_eq_self {a b : Nat} : a ^^^ b = a ↔ b = 0 := by
  refine ⟨fun h => ?_, fun h => by rw [h, Nat.xor_zero]⟩
  have : a ^^^ (a ^^^ b) = a ^^^ a := by rw [h]
  rwa [← Nat.xor_assoc, Nat.xor_self, Nat.zero_xor] at this

theorem xorBytes_eq_self (d e : Bytes) (hl : e.length = d.length) : xorBytes d e = d ↔ ∀ x ∈ e, x = 0 := by
  induction d generalizing e with
  | nil => cases e <;> simp_all [xorBytes]
  | cons a d ih =>
    cases e with
    | nil => simp at hl
    | cons b e =>
      simp only [xorBytes, List.zipWith_cons_cons, List.cons.injEq, List.mem_cons, forall_eq_or_imp, xor_eq_self]
      exact and_congr_right fun _ => ih e (by simpa using hl)

theorem xorBytes_take (d e : Bytes) (n : Nat) : (xorBytes d e).take n = xorBytes (d.take n) (e.take n) :=
  List.take_zipWith

theorem xorBytes_drop (d e : Bytes) (n : Nat) : (xorBytes d e).drop n = xorBytes (d.drop n) (e.drop n) :=
  List.drop_zipWith

theorem xorBytes_append (a b c d : Bytes) (h : a.length = c.length) :
    xorBytes (a ++ b) (c ++ d) = xorBytes a c ++ xorBytes b d :=
  List.zipWith_append h

theorem isBytes_xorBytes : ∀ d e : Bytes, IsBytes d → IsBytes e → IsBytes (xorBytes d e)
  | [], _, _, _ | _ :: _, [], _, _ => isBytes_nil
  | a :: d, b :: e, hd, he => by
    rw [isBytes_cons] at hd he
    exact isBytes_cons.2 ⟨Nat.xor_lt_two_pow (n := 8) hd.1 he.1, isBytes_xorBytes d e hd.2 he.2⟩

theorem xorBits_append (a b c d : List Bool) (h : a.length = c.length) :
    xorBits (a ++ b) (c ++ d) = xorBits a c ++ xorBits b d := by
  unfold xorBits; exact List.zipWith_append h

theorem bitsOf_xorBytes (d e : Bytes) (h : e.length = d.length) :
    bitsOf (xorBytes d e) = xorBits (bitsOf d) (bitsOf e) := by
  induction d generalizing e with
  | nil => cases e <;> simp_all [xorBytes, bitsOf, xorBits]
  | cons a d ih => cases e with
    | nil => simp at h
    | cons b e =>
      simp only [List.length_cons, Nat.add_right_cancel_iff] at h
      have := ih e h
      simp only [xorBytes, List.zipWith_cons_cons, bitsOf] at this ⊢
      rw [this, byteBits_xor, xorBits_append _ _ _ _ (by simp)]

theorem crc32c_xor (d e : Bytes) (h : e.length = d.length) :
    crc32c (xorBytes d e) = crc32c d ^^^ run 0 (bitsOf e) := by
  unfold crc32c
  rw [bitsOf_xorBytes d e h]
  have := run_xor (bitsOf d) (bitsOf e) (by simp [h]) 0xFFFFFFFF 0
  rw [Nat.xor_zero] at this
  rw [this, Nat.xor_assoc, Nat.xor_comm (run 0 _), ← Nat.xor_assoc]

/-- **CRC-32C detects every burst of ≤ 32 bits** (bit positions in CRC order: `8*i + k` is bit `k`,
LSB = 0, of byte `i`), for messages of any length. -/
theorem crc32c_burst (d e : Bytes) (h : e.length = d.length) (p len : Nat) (hlen : len ≤ 32)
    (hw : InWindow (bitsOf e) p len) (hne : ∃ i : Nat, (bitsOf e)[i]? = some true) :
    crc32c (xorBytes d e) ≠ crc32c d := by
  rw [crc32c_xor d e h]
  exact mt xor_eq_self.1 (run_zero_burst_ne_zero _ p len hlen hw hne)

end Aiortc.Crc32c
