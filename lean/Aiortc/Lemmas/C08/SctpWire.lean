import Aiortc.Model.Sctp.Wire
import Aiortc.Lemmas.Bytes
/-! Lemmas for the SCTP wire round trip (C08): `padl`, the `struct` readers on packed fields, parameter lists and TLV
items, every chunk as the generic framing of its body, the chunk loop on one chunk, the class constructors on `body`. -/
namespace Aiortc.Sctp.Wire
open Aiortc Aiortc.Gen

theorem padl_eq (n : Nat) : padl n = (4 - n % 4) % 4 := by
  unfold padl sctp_padl
  simp only []
  split <;> omega

theorem padl_add_four (n : Nat) : padl (n + 4) = padl n := by
  rw [padl_eq, padl_eq, Nat.add_mod_right]

theorem padl_lt (n : Nat) : padl n < 4 := by rw [padl_eq]; omega
theorem padl_mod (n : Nat) : (n + padl n) % 4 = 0 := by rw [padl_eq]; omega

theorem takeU16_u16be (n : Nat) (h : n < 65536) (r : Bytes) : takeU16 (u16be n ++ r) = some (n, r) := by
  simp only [u16be, takeU16, List.cons_append, List.nil_append, u16_recombine n h]

theorem takeU32_u32be (n : Nat) (h : n < 4294967296) (r : Bytes) : takeU32 (u32be n ++ r) = some (n, r) := by
  simp only [u32be, takeU32, List.cons_append, List.nil_append, u32_recombine n h]

theorem takeU16_u16be_nil (n : Nat) (h : n < 65536) : takeU16 (u16be n) = some (n, []) :=
  List.append_nil (u16be n) ▸ takeU16_u16be n h []

theorem takeU32_u32be_nil (n : Nat) (h : n < 4294967296) : takeU32 (u32be n) = some (n, []) :=
  List.append_nil (u32be n) ▸ takeU32_u32be n h []

@[simp] theorem zeros_zero : zeros 0 = [] := rfl

/-- Value and remainder behind a four-byte type/length head, in the shape the callers have after the head's `u8`/`u16be`
have been `simp`-ed into conses (`slice_mid` is the same fact for an appended head). -/
theorem tlv_slice {α} (a b c d : α) (v T : List α) : slice (a :: b :: c :: d :: (v ++ T)) 4 (v.length + 4) = v := by
  simp [slice]

theorem tlv_drop {α} (a b c d : α) (v T : List α) (k : Nat) :
    (a :: b :: c :: d :: (v ++ T)).drop (v.length + 4 + k) = T.drop k := by
  rw [Nat.add_right_comm]
  show (v ++ T).drop (v.length + k) = _
  rw [← List.drop_drop, List.drop_left]

theorem decodeParamsAux_cons (fixed : Bool) (fuel t0 t1 l0 l1 : Nat) (r : Bytes) :
    decodeParamsAux fixed (fuel + 1) (t0 :: t1 :: l0 :: l1 :: r) =
      if fixed && decide (l0 * 256 + l1 < 4) then .valueError
      else match decodeParamsAux fixed fuel
          ((t0 :: t1 :: l0 :: l1 :: r).drop (l0 * 256 + l1 + padl (l0 * 256 + l1))) with
        | .ok ps => .ok ((t0 * 256 + t1, slice (t0 :: t1 :: l0 :: l1 :: r) 4 (l0 * 256 + l1)) :: ps)
        | e => e := rfl

theorem encodeParamsAux_drop_pad (k : Nat) (ps : List Param) :
    (encodeParamsAux (zeros k) ps).drop k = encodeParamsAux [] ps := by
  cases ps with
  | nil => simp [encodeParamsAux]
  | cons p ps =>
    obtain ⟨t, v⟩ := p
    simp only [encodeParamsAux, List.nil_append]
    rw [List.drop_append_of_le_length (by simp)]
    simp

theorem decodeParamsAux_encode (fixed : Bool) (ps : List Param) (h : paramsInRange ps = true) (fuel : Nat)
    (hf : ps.length < fuel) : decodeParamsAux fixed fuel (encodeParamsAux [] ps) = .ok ps := by
  induction ps generalizing fuel with
  | nil =>
    cases fuel with
    | zero => omega
    | succ f => simp [encodeParamsAux, decodeParamsAux]
  | cons p ps ih =>
    obtain ⟨t, v⟩ := p
    cases fuel with
    | zero => omega
    | succ f =>
      simp only [paramsInRange, List.all_cons, Bool.and_eq_true, decide_eq_true_eq] at h
      obtain ⟨⟨ht, hv⟩, hps⟩ := h
      simp only [encodeParamsAux, List.nil_append, u16be, List.cons_append]
      rw [decodeParamsAux_cons, u16_recombine _ hv, u16_recombine t ht, tlv_drop, tlv_slice,
        encodeParamsAux_drop_pad, ih hps f (by simp at hf; omega)]
      simp [show ¬ v.length + 4 < 4 by omega]

theorem length_le_encodeParamsAux (pad : Bytes) (ps : List Param) :
    ps.length ≤ (encodeParamsAux pad ps).length := by
  induction ps generalizing pad with
  | nil => simp
  | cons p ps ih =>
    obtain ⟨t, v⟩ := p
    have := ih (zeros (padl (v.length + 4)))
    simp only [encodeParamsAux, List.length_append, List.length_cons, length_u16be]
    omega

theorem decodeParamsG_encode (fixed : Bool) (ps : List Param) (h : paramsInRange ps = true) :
    decodeParamsG fixed (encodeParams ps) = .ok ps := by
  unfold decodeParamsG encodeParams
  exact decodeParamsAux_encode fixed ps h _ (by have := length_le_encodeParamsAux [] ps; omega)

theorem encodeParams_eq_nil (ps : List Param) (h : encodeParams ps = []) : ps = [] := by
  cases ps with
  | nil => rfl
  | cons p ps => obtain ⟨t, v⟩ := p; simp [encodeParams, encodeParamsAux, u16be] at h

theorem pairsBytes_cons (g : Nat × Nat) (l : List (Nat × Nat)) :
    pairsBytes (g :: l) = u16be g.1 ++ (u16be g.2 ++ pairsBytes l) := by
  simp [pairsBytes]

theorem u32sBytes_cons (a : Nat) (l : List Nat) : u32sBytes (a :: l) = u32be a ++ u32sBytes l := by
  simp [u32sBytes]

theorem u16sBytes_cons (a : Nat) (l : List Nat) : u16sBytes (a :: l) = u16be a ++ u16sBytes l := by
  simp [u16sBytes]

@[simp] theorem pairsBytes_length (l : List (Nat × Nat)) : (pairsBytes l).length = 4 * l.length := by
  induction l with
  | nil => rfl
  | cons g l ih => rw [pairsBytes_cons]; simp [ih]; omega

@[simp] theorem u32sBytes_length (l : List Nat) : (u32sBytes l).length = 4 * l.length :=
  length_flatMap_u32be l

theorem readPairs_pairsBytes (l : List (Nat × Nat)) (h : pairsInRange l = true) (r : Bytes) :
    readPairs l.length (pairsBytes l ++ r) = some (l, r) := by
  induction l with
  | nil => rfl
  | cons g l ih =>
    simp only [pairsInRange, List.all_cons, Bool.and_eq_true, decide_eq_true_eq] at h
    obtain ⟨⟨h1, h2⟩, hl⟩ := h
    rw [pairsBytes_cons, List.length_cons, readPairs, List.append_assoc, takeU16_u16be _ h1]
    simp only []
    rw [List.append_assoc, takeU16_u16be _ h2]
    simp only []
    rw [ih hl]

theorem readU32s_u32sBytes (l : List Nat) (h : u32sInRange l = true) (r : Bytes) :
    readU32s l.length (u32sBytes l ++ r) = some (l, r) := by
  induction l with
  | nil => rfl
  | cons g l ih =>
    simp only [u32sInRange, List.all_cons, Bool.and_eq_true, decide_eq_true_eq] at h
    obtain ⟨h1, hl⟩ := h
    rw [u32sBytes_cons, List.length_cons, readU32s, List.append_assoc, takeU32_u32be _ h1]
    simp only []
    rw [ih hl]

theorem readAllPairs_pairsBytes (l : List (Nat × Nat)) (h : pairsInRange l = true) :
    readAllPairs (pairsBytes l) = some l := by
  induction l with
  | nil => rfl
  | cons g l ih =>
    simp only [pairsInRange, List.all_cons, Bool.and_eq_true, decide_eq_true_eq] at h
    obtain ⟨⟨h1, h2⟩, hl⟩ := h
    rw [pairsBytes_cons]
    simp only [u16be, List.cons_append, List.nil_append, readAllPairs]
    rw [ih hl, u16_recombine _ h1, u16_recombine _ h2]

theorem readAllU16s_u16sBytes (l : List Nat) (h : (l.all fun s => decide (s < 65536)) = true) :
    readAllU16s (u16sBytes l) = some l := by
  induction l with
  | nil => rfl
  | cons g l ih =>
    simp only [List.all_cons, Bool.and_eq_true, decide_eq_true_eq] at h
    obtain ⟨h1, hl⟩ := h
    rw [u16sBytes_cons]
    simp only [u16be, List.cons_append, List.nil_append, readAllU16s]
    rw [ih hl, u16_recombine _ h1]

theorem RcParam.parseG_bytes (fixed : Bool) (p : RcParam) (h : p.inRange = true) :
    RcParam.parseG fixed p.cls p.bytes = .ok p := by
  cases p <;> simp only [RcParam.inRange, Bool.and_eq_true, decide_eq_true_eq] at h
  case resetOut a b c streams =>
    simp only [RcParam.parseG, RcParam.cls, RcParam.bytes, takeU32_u32be _ h.1.1.1, takeU32_u32be _ h.1.1.2,
      takeU32_u32be _ h.1.2, readAllU16s_u16sBytes streams h.2, Outcome.ofStruct, structToValue]
  case addOut a n =>
    simp only [RcParam.parseG, RcParam.cls, RcParam.bytes, takeU32_u32be _ h.1, takeU16_u16be _ h.2,
      takeU16_u16be_nil 0 (by decide), Outcome.ofStruct, structToValue]
  case resetResp a r =>
    simp only [RcParam.parseG, RcParam.cls, RcParam.bytes, takeU32_u32be _ h.1, takeU32_u32be_nil _ h.2,
      Outcome.ofStruct, structToValue]

def Chunk.flags : Chunk → Nat
  | .plain _ f _ | .params _ f _ | .data f .. | .init _ f .. | .sack f .. | .shutdown f _
  | .forwardTsn f .. => f

/-- The value part of the chunk (`chunk.body`; for DATA and SACK what their `__bytes__` puts there). -/
def Chunk.body : Chunk → Bytes
  | .plain _ _ b => b
  | .params _ _ ps => encodeParams ps
  | .data _ tsn sid sseq proto ud => u32be tsn ++ (u16be sid ++ (u16be sseq ++ (u32be proto ++ ud)))
  | .init _ _ tag rwnd outs ins itsn ps => initBody tag rwnd outs ins itsn ps
  | .sack _ ctsn rwnd gaps dups =>
    u32be ctsn ++ (u32be rwnd ++ (u16be gaps.length ++ (u16be dups.length ++ (pairsBytes gaps ++ u32sBytes dups))))
  | .shutdown _ ctsn => u32be ctsn
  | .forwardTsn _ ctsn streams => forwardTsnBody ctsn streams

theorem zeros_padl_of_mod (n : Nat) : (if n % 4 ≠ 0 then zeros (padl n) else []) = zeros (padl n) := by
  split
  · rfl
  · rename_i h
    have : padl n = 0 := by rw [padl_eq]; omega
    rw [this]; rfl

/-- The generic framing with the length field computed beforehand, as DATA and SACK do. -/
theorem genericBytes_of_length (ty f : Nat) (body : Bytes) (n : Nat) (h : body.length + 4 = n) :
    genericBytes ty f body = u8 ty ++ (u8 f ++ (u16be n ++ (body ++ zeros (padl n)))) := by
  subst h; rw [padl_add_four]; rfl

theorem Chunk.bytes_eq_generic (c : Chunk) : c.bytes = genericBytes c.cls.ty c.flags c.body := by
  cases c with
  | plain k f b => rfl
  | params k f ps => rfl
  | init k f tag rwnd outs ins itsn ps => rfl
  | shutdown f ctsn => rfl
  | forwardTsn f ctsn streams => rfl
  | data f tsn sid sseq proto ud =>
    rw [genericBytes_of_length _ _ _ (16 + ud.length) (by simp [Chunk.body]; omega)]
    simp only [Chunk.bytes, Chunk.body, zeros_padl_of_mod, List.append_assoc]
    rfl
  | sack f ctsn rwnd gaps dups =>
    rw [genericBytes_of_length _ _ _ (16 + 4 * (gaps.length + dups.length)) (by simp [Chunk.body]; omega),
      show padl (16 + 4 * (gaps.length + dups.length)) = 0 by rw [padl_eq]; omega]
    simp only [Chunk.bytes, Chunk.body, zeros_zero, List.append_nil]
    rfl

theorem Cls.mem_chunkClasses (c : Cls) : c ∈ chunkClasses := by
  cases c with
  | plain k => cases k <;> decide
  | params k => cases k <;> decide
  | init k => cases k <;> decide
  | data => decide
  | sack => decide
  | shutdown => decide
  | forwardTsn => decide

/-- The type ids are distinct bytes, so the dict finds each class under its own id. -/
theorem classOf_ty_of_mem : ∀ c ∈ chunkClasses, classOf c.ty = some c ∧ c.ty < 256 := by decide +kernel

theorem Cls.ty_lt (c : Cls) : c.ty < 256 := (classOf_ty_of_mem c c.mem_chunkClasses).2

theorem classOf_ty (c : Cls) : classOf c.ty = some c := (classOf_ty_of_mem c c.mem_chunkClasses).1

theorem parseChunks_cons (fixed : Bool) (fuel ty fl l0 l1 : Nat) (r : Bytes) :
    parseChunks fixed (fuel + 1) (ty :: fl :: l0 :: l1 :: r) =
      if l0 * 256 + l1 < SCTP_CHUNK_HEADER_LENGTH ∨ l0 * 256 + l1 > (ty :: fl :: l0 :: l1 :: r).length
      then .valueError
      else
        match classOf ty with
        | none => parseChunks fixed fuel ((ty :: fl :: l0 :: l1 :: r).drop (l0 * 256 + l1 + padl (l0 * 256 + l1)))
        | some cls =>
          match structToValue fixed (parseChunkBody fixed cls fl
              (slice (ty :: fl :: l0 :: l1 :: r) SCTP_CHUNK_HEADER_LENGTH (l0 * 256 + l1))) with
          | .ok c =>
            match parseChunks fixed fuel
                ((ty :: fl :: l0 :: l1 :: r).drop (l0 * 256 + l1 + padl (l0 * 256 + l1))) with
            | .ok cs => .ok (c :: cs)
            | e => e
          | .valueError => .valueError | .crash e => .crash e | .hang => .hang := rfl

theorem parseChunks_nil (fixed : Bool) (fuel : Nat) : parseChunks fixed (fuel + 1) [] = .ok [] := rfl

theorem parseChunks_generic (fixed : Bool) (fuel ty fl : Nat) (body : Bytes)
    (hty : ty < 256) (hfl : fl < 256) (hb : body.length + 4 < 65536) :
    parseChunks fixed (fuel + 2) (genericBytes ty fl body) =
      match classOf ty with
      | none => .ok []
      | some cls =>
        match structToValue fixed (parseChunkBody fixed cls fl body) with
        | .ok c => .ok [c]
        | .valueError => .valueError | .crash e => .crash e | .hang => .hang := by
  have hcond : ¬ (body.length + 4 < SCTP_CHUNK_HEADER_LENGTH ∨
      body.length + 4 > (ty % 256 :: fl % 256 :: (body.length + 4) / 256 % 256 :: (body.length + 4) % 256 ::
        (body ++ zeros (padl body.length))).length) := by
    simp [SCTP_CHUNK_HEADER_LENGTH]
  simp only [genericBytes, u8, u16be, List.cons_append, List.nil_append]
  rw [parseChunks_cons, u16_recombine _ hb, if_neg hcond, tlv_drop, padl_add_four,
    List.drop_eq_nil_of_le (by simp), show SCTP_CHUNK_HEADER_LENGTH = 4 from rfl, tlv_slice, parseChunks_nil,
    Nat.mod_eq_of_lt hty, Nat.mod_eq_of_lt hfl]

theorem isEmpty_u32be_append (n : Nat) (r : Bytes) : (u32be n ++ r).isEmpty = false := rfl

theorem parseChunkBody_body (fixed : Bool) (c : Chunk) (h : c.inRange = true) :
    parseChunkBody fixed c.cls c.flags c.body = .ok c := by
  cases c <;> simp only [Chunk.inRange, Bool.and_eq_true, decide_eq_true_eq] at h <;>
    simp only [Chunk.cls, Chunk.flags, Chunk.body, initBody, forwardTsnBody, parseChunkBody, isEmpty_u32be_append,
      Bool.false_eq_true, if_false]
  case params k f ps =>
    by_cases he : (encodeParams ps).isEmpty = true
    · have := encodeParams_eq_nil ps (List.isEmpty_iff.mp he)
      subst this; rfl
    · simp only [if_neg he, decodeParamsG_encode fixed ps h.1.2]
  case data f tsn sid sseq proto ud =>
    obtain ⟨⟨⟨⟨⟨_, h1⟩, h2⟩, h3⟩, h4⟩, _⟩ := h
    simp only [parseDataBody, takeU32_u32be _ h1, takeU16_u16be _ h2, takeU16_u16be _ h3, takeU32_u32be _ h4,
      Outcome.ofStruct]
  case init k f tag rwnd outs ins itsn ps =>
    obtain ⟨⟨⟨⟨⟨⟨⟨_, h1⟩, h2⟩, h3⟩, h4⟩, h5⟩, hps⟩, _⟩ := h
    simp only [parseInitHead, takeU32_u32be _ h1, takeU32_u32be _ h2, takeU16_u16be _ h3, takeU16_u16be _ h4,
      takeU32_u32be _ h5, decodeParamsG_encode fixed ps hps]
  case sack f ctsn rwnd gaps dups =>
    obtain ⟨⟨⟨⟨⟨_, h1⟩, h2⟩, hl⟩, hg⟩, hd⟩ := h
    have hdd := readU32s_u32sBytes dups hd []
    rw [List.append_nil] at hdd
    simp only [parseSackBody, takeU32_u32be _ h1, takeU32_u32be _ h2, takeU16_u16be gaps.length (by omega),
      takeU16_u16be dups.length (by omega), readPairs_pairsBytes gaps hg, hdd, Outcome.ofStruct]
  case shutdown f ctsn =>
    simp only [show (u32be ctsn).isEmpty = false from rfl, takeU32_u32be_nil _ h.2, Bool.false_eq_true, if_false]
  case forwardTsn f ctsn streams =>
    simp only [takeU32_u32be _ h.1.1.2, readAllPairs_pairsBytes streams h.1.2]

theorem Chunk.framing_bounds (c : Chunk) (h : c.inRange = true) : c.flags < 256 ∧ c.body.length + 4 < 65536 := by
  cases c <;> simp only [Chunk.inRange, Bool.and_eq_true, decide_eq_true_eq] at h <;>
    simp only [Chunk.flags, Chunk.body, initBody, forwardTsnBody, List.length_append, length_u32be, length_u16be,
      pairsBytes_length, u32sBytes_length] <;> omega

theorem parseChunks_bytes (fixed : Bool) (fuel : Nat) (c : Chunk) (h : c.inRange = true) :
    parseChunks fixed (fuel + 2) c.bytes = .ok [c] := by
  rw [Chunk.bytes_eq_generic, parseChunks_generic fixed fuel _ _ _ (Cls.ty_lt _) (c.framing_bounds h).1
    (c.framing_bounds h).2, classOf_ty]
  simp only [parseChunkBody_body fixed c h, structToValue]

end Aiortc.Sctp.Wire
