import Aiortc.Lemmas.C08.SctpWire
import Aiortc.Lemmas.C08.Crc32c
/-!
# C08 — the checksum field of a packet

A packet is `d[0:8] + d[8:12] + d[12:]`; `checksumOk` compares the little-endian value of the middle part with the
CRC of the packet with that part zeroed (`checksumOk_eq`).  Everything about the field follows from this and from
`le32` being one-to-one on 4 bytes: a built packet passes, and whatever replaces the field of an accepted packet
(the byte-reversed checksum, the big-endian pack of the CRC, another algorithm's value, zero …) is rejected unless it
is byte for byte what the packet carried.
-/
namespace Aiortc.Sctp.Wire
open Aiortc Aiortc.Gen Aiortc.Crc32c

def withChecksum (d v : Bytes) : Bytes := d.take 8 ++ (v ++ d.drop 12)

def checksumField (d : Bytes) : Bytes := (d.drop 8).take 4

/-- `unpack_from("<L", …)` of the 4 bytes of the field. -/
def le32 : Bytes → Nat
  | [c0, c1, c2, c3] => c0 + c1 * 256 + c2 * 65536 + c3 * 16777216
  | _ => 0

/-! `u32le` is `u32be` read backwards, so both directions come from the big-endian round trips. -/

theorem le32_u32le (n : Nat) (h : n < 4294967296) : le32 (u32le n) = n := by
  have := u32_recombine n h
  simp only [u32le, le32]
  generalize n / 16777216 % 256 = a, n / 65536 % 256 = b, n / 256 % 256 = c, n % 256 = d at this ⊢
  omega

theorem u32le_le32 (v : Bytes) (hv : IsBytes v) (hl : v.length = 4) : u32le (le32 v) = v := by
  match v, hl, hv with
  | [c0, c1, c2, c3], _, hv =>
    simp only [isBytes_cons] at hv
    have e : le32 [c0, c1, c2, c3] = ((c3 * 256 + c2) * 256 + c1) * 256 + c0 := by simp only [le32]; omega
    show (u32be _).reverse = _
    rw [e, u32be_unpack c3 c2 c1 c0 hv.2.2.2.1 hv.2.2.1 hv.2.1 hv.1]
    rfl

theorem checksumOk_assembled (h v r : Bytes) (hh : h.length = 8) (hv : v.length = 4) :
    checksumOk (h ++ (v ++ r)) = (le32 v == crc32c (h ++ ([0, 0, 0, 0] ++ r))) := by
  match h, hh, v, hv with
  | [_, _, _, _, _, _, _, _], _, [_, _, _, _], _ => rfl

theorem withChecksum_self (d : Bytes) : withChecksum d (checksumField d) = d := by
  rw [withChecksum, checksumField, show d.drop 12 = (d.drop 8).drop 4 from (List.drop_drop (i := 4) (j := 8)).symm,
    List.take_append_drop, List.take_append_drop]

theorem length_checksumField (d : Bytes) (h : 12 ≤ d.length) : (checksumField d).length = 4 := by
  simp only [checksumField, List.length_take, List.length_drop]; omega

theorem isBytes_checksumField (d : Bytes) (hd : IsBytes d) : IsBytes (checksumField d) :=
  isBytes_take 4 (isBytes_drop 8 hd)

theorem checksumOk_eq (d : Bytes) (h : 12 ≤ d.length) :
    checksumOk d = (le32 (checksumField d) == crc32c (withChecksum d [0, 0, 0, 0])) := by
  have := checksumOk_assembled (d.take 8) (checksumField d) (d.drop 12)
    (by rw [List.length_take]; omega) (length_checksumField d h)
  rwa [← withChecksum, withChecksum_self] at this

theorem length_of_checksumOk (d : Bytes) (h : checksumOk d = true) : 12 ≤ d.length := by
  unfold checksumOk at h
  split at h
  · simp
  · simp at h

theorem parsePacketG_of_checksum_false (fixed : Bool) (d : Bytes) (h : checksumOk d = false) :
    parsePacketG fixed d = .valueError := by
  unfold parsePacketG
  split
  · rfl
  · simp [h]

/-- An accepted packet with another 4 bytes in the field is not accepted: both fields would have the value of the
same CRC. -/
theorem checksumOk_withChecksum (d v : Bytes) (hd : IsBytes (checksumField d)) (hacc : checksumOk d = true)
    (hv : IsBytes v) (hl : v.length = 4) (hne : v ≠ checksumField d) :
    checksumOk (withChecksum d v) = false := by
  have h12 := length_of_checksumOk d hacc
  rw [checksumOk_eq d h12, beq_iff_eq] at hacc
  rw [withChecksum, checksumOk_assembled _ _ _ (by rw [List.length_take]; omega) hl, ← withChecksum, ← hacc]
  apply beq_false_of_ne
  intro h
  apply hne
  rw [← u32le_le32 v hv hl, h, u32le_le32 _ hd (length_checksumField d h12)]

theorem Chunk.bytes_length_ge (c : Chunk) : 4 ≤ c.bytes.length := by
  rw [Chunk.bytes_eq_generic]; simp [genericBytes]; omega

theorem checksumOk_serialize (sp dp tag : Nat) (c : Chunk) :
    checksumOk (serializePacketRaw sp dp tag c) = true := by
  have := checksumOk_assembled (u16be sp ++ (u16be dp ++ u32be tag))
    (u32le (crc32c (u16be sp ++ (u16be dp ++ (u32be tag ++ ([0, 0, 0, 0] ++ c.bytes)))))) c.bytes rfl rfl
  rwa [List.append_assoc, List.append_assoc, List.append_assoc, List.append_assoc, le32_u32le _ (crc32c_lt _),
    beq_self_eq_true] at this

theorem parsePacketG_serialize (fixed : Bool) (sp dp tag : Nat) (c : Chunk)
    (hsp : sp < 65536) (hdp : dp < 65536) (htag : tag < 4294967296) (hc : c.inRange = true) :
    parsePacketG fixed (serializePacketRaw sp dp tag c) = .ok (sp, dp, tag, [c]) := by
  have hb := Chunk.bytes_length_ge c
  have hlen : ¬ (serializePacketRaw sp dp tag c).length < SCTP_PACKET_MINIMUM_LENGTH := by
    simp [serializePacketRaw, u32le, SCTP_PACKET_MINIMUM_LENGTH]; omega
  unfold parsePacketG
  rw [if_neg hlen, checksumOk_serialize]
  obtain ⟨n, hn⟩ : ∃ n, c.bytes.length + 1 = n + 2 := ⟨c.bytes.length - 1, by omega⟩
  simp only [serializePacketRaw, u16be, u32be, u32le, List.cons_append, List.nil_append, Bool.not_true,
    Bool.false_eq_true, if_false, hn, parseChunks_bytes fixed n c hc, u16_recombine sp hsp, u16_recombine dp hdp,
    u32_recombine tag htag]

end Aiortc.Sctp.Wire
