import Aiortc.Model.Sctp.WireOps
/-! Pool lemmas for `Props/C08Ops.lean` (slots written by `set` / by `parse_packet`). -/
namespace Aiortc.Lemmas.C08.WireOps
open Aiortc Aiortc.Sctp.Wire Aiortc.Sctp.WireOps

theorem Pool.set_same (p : Pool) (s : Nat) (v : Val) : (p.set s v) s = some v := by
  simp [Pool.set]

theorem Pool.set_other (p : Pool) (s j : Nat) (v : Val) (h : j ≠ s) : (p.set s v) j = p j := by
  simp [Pool.set, h]

theorem storeChunks_below (cs : List Chunk) : ∀ (p : Pool) (base j : Nat), j < base →
    (p.storeChunks base cs) j = p j := by
  induction cs with
  | nil => intro p base j _; rfl
  | cons c cs ih =>
    intro p base j hj
    simp only [Pool.storeChunks]
    rw [ih _ _ _ (by omega), Pool.set_other _ _ _ _ (by omega)]

theorem storeChunks_get (cs : List Chunk) : ∀ (p : Pool) (base i : Nat) (h : i < cs.length),
    (p.storeChunks base cs) (base + i) = some (.chunk cs[i]) := by
  induction cs with
  | nil => intro p base i h; simp at h
  | cons c cs ih =>
    intro p base i h
    simp only [Pool.storeChunks]
    cases i with
    | zero =>
      have h1 := storeChunks_below cs (p.set base (.chunk c)) (base + 1) base (by omega)
      simp only [Nat.add_zero, h1, Pool.set_same, List.getElem_cons_zero]
    | succ i =>
      have := ih (p.set base (.chunk c)) (base + 1) i (by simpa using h)
      rw [show base + (i + 1) = base + 1 + i by omega, this]
      rfl

theorem run_append (p : Pool) (a b : List Op) : run p (a ++ b) = run p a ++ run (exec p a) b := by
  induction a generalizing p with
  | nil => rfl
  | cons x xs ih => simp only [List.cons_append, run, exec, ih]

end Aiortc.Lemmas.C08.WireOps
