import Aiortc.Model.Rtp.Rtcp
import Aiortc.Model.Rtp.Packet
import Aiortc.Lemmas.Bytes

/-! The modelled rtp.py parsers raise nothing but `ValueError` (for C05: no datagram crashes the receive path). -/
namespace Aiortc.Rtp
open Aiortc Aiortc.Outcome

theorem unpackOneByte_safe (d : Bytes) : Safe (unpackOneByte d) := by
  induction d using unpackOneByte.induct with
  | case1 => rw [unpackOneByte]; exact safe_ok _
  | case2 rest ih => rw [unpackOneByte, if_pos rfl]; exact ih
  | case3 b rest hb hlt => rw [unpackOneByte, if_neg hb, if_pos hlt]; exact safe_ve
  | case4 b rest hb hlt ih =>
    rw [unpackOneByte, if_neg hb, if_neg hlt]; exact ih.bind fun _ => safe_ok _

theorem unpackTwoByte_safe (d : Bytes) : Safe (unpackTwoByte d) := by
  induction d using unpackTwoByte.induct with
  | case1 => unfold unpackTwoByte; exact safe_ok _
  | case2 rest ih => unfold unpackTwoByte; rw [if_pos rfl]; exact ih
  | case3 b hb => unfold unpackTwoByte; rw [if_neg hb]; exact safe_ve
  | case4 b hb l rest hlt => unfold unpackTwoByte; rw [if_neg hb]; exact safe_ite_of (fun _ => safe_ve) fun h => absurd hlt h
  | case5 b hb l rest hlt ih =>
    unfold unpackTwoByte; rw [if_neg hb]; exact safe_ite safe_ve (ih.bind fun _ => safe_ok _)

theorem getStep_safe (ids : ExtIds) (vals : HeaderExtensions) (x : Nat × Bytes) : Safe (getStep ids vals x) := by
  have str : ∀ (c : Bool) (v : HeaderExtensions), Safe (if c then ok v else valueError) :=
    fun c v => safe_ite (safe_ok _) safe_ve
  unfold getStep
  refine safe_ite (str _ _) <| safe_ite (str _ _) <| safe_ite (str _ _) <|
    safe_ite ?_ <| safe_ite ?_ <| safe_ite ?_ <| safe_ite ?_ (safe_ok _)
  -- the four fixed-width values: a `match` on the shape of the value, ValueError for any other length
  · split; exact safe_ok _; exact safe_ve
  · split; exact safe_ok _; exact safe_ve
  · split; exact safe_ok _; exact safe_ve
  · split; exact safe_ok _; exact safe_ve

theorem getFold_safe (ids : ExtIds) (xs : List (Nat × Bytes)) : ∀ vals, Safe (getFold ids vals xs) := by
  induction xs with
  | nil => intro vals; exact safe_ok _
  | cons x xs ih => intro vals; exact (getStep_safe ids vals x).bind fun v => ih v

theorem unpackHeaderExtensions_safe (profile : Nat) (value : Bytes) : Safe (unpackHeaderExtensions profile value) :=
  safe_ite (unpackOneByte_safe _) <| safe_ite (unpackTwoByte_safe _) (safe_ok _)

theorem extGet_safe (ids : ExtIds) (profile : Nat) (value : Bytes) : Safe (extGet ids profile value) :=
  (unpackHeaderExtensions_safe profile value).bind fun xs => getFold_safe ids xs _

theorem parseExtBlock_spec (ids : ExtIds) (x : Bool) (rest : Bytes) :
    (parseExtBlock ids x rest).SafeWith fun er => IsBytes rest → IsBytes er.2 := by
  unfold parseExtBlock
  refine .ite (fun _ => ?_) fun _ => .ok id
  split
  · exact .ite (fun _ => .ve) fun _ => (extGet_safe ids _ _).with.bind fun _ _ =>
      .ok fun hb => isBytes_drop _ fun b hb' => hb b (by simp [hb'])
  · exact .ve

theorem splitPadding_spec (x : Bool) (last : Nat) (body : Bytes) :
    (splitPadding x last body).SafeWith fun pp => IsBytes body → IsBytes pp.1 :=
  .ite (fun _ => .ite (fun _ => .ve) fun _ => .ok (isBytes_take _)) fun _ => .ok id

/-- `RtpPacket.parse` of the tree with the two C07 fixes applied (head of `Model/Rtp/Packet.lean`). -/
theorem parse_spec (ids : ExtIds) (data : Bytes) :
    (parse ids data).SafeWith fun p =>
      IsBytes data → p.sequenceNumber < 65536 ∧ p.ssrc < 4294967296 ∧ IsBytes p.payload := by
  unfold parse
  split
  · refine .ite (fun _ => .ve) fun _ => .ite (fun _ => .ve) fun _ =>
      (parseExtBlock_spec ids _ _).bind fun _ he => (splitPadding_spec _ _ _).bind fun _ hs => .ok fun hb => ?_
    simp only [isBytes_cons] at hb
    obtain ⟨_, _, _, _, _, _, _, _, _, _, _, _, hrest⟩ := hb
    exact ⟨by simp only; omega, by simp only; omega, hs (he (isBytes_drop _ hrest))⟩
  · exact .ve

theorem parse_safe (ids : ExtIds) (data : Bytes) : Safe (parse ids data) := (parse_spec ids data).safe

theorem unpackRemb_safe (d : Bytes) : Safe (unpackRemb d) := by
  unfold unpackRemb
  split
  · exact safe_ite safe_ve (safe_ok _)
  · exact safe_ve

theorem parseReceiverInfo_safe (d : Bytes) (h : d.length = 24) : Safe (parseReceiverInfo d) := by
  unfold parseReceiverInfo
  rw [if_neg (by simp [h])]
  have h3 : (slice d 5 8).length = 3 := by rw [length_slice, h]; rfl
  match hs : slice d 5 8, h3 with
  | [a, b, c], _ =>
    simp only [unpackLost, Outcome.bind]
    rw [if_neg (by simp [h])]
    exact safe_ok _

theorem parseReports_safe : ∀ (n : Nat) (d : Bytes), d.length = 24 * n → Safe (parseReports n d)
  | 0, _, _ => safe_ok _
  | n + 1, d, h => by
    unfold parseReports
    refine (parseReceiverInfo_safe _ (by simp [h]; omega)).bind fun r => ?_
    exact (parseReports_safe n (d.drop 24) (by simp [h]; omega)).bind fun _ => safe_ok _

theorem parseItems_safe (d : Bytes) (acc : List (Nat × Bytes)) : Safe (parseItems d acc) := by
  induction d, acc using parseItems.induct with
  | case1 acc t l rest hlt => rw [parseItems, if_pos hlt]; exact safe_ve
  | case2 acc l rest hlt => rw [parseItems, if_neg hlt, if_pos rfl]; exact safe_ok _
  | case3 acc t l rest hlt ht ih => rw [parseItems, if_neg hlt, if_neg ht]; exact ih
  | case4 d acc hd => rw [parseItems]; exact safe_ok _; exact fun t l rest h => hd t l rest h

theorem parseChunks_safe : ∀ (n : Nat) (d : Bytes), Safe (parseChunks n d)
  | 0, _ => safe_ok _
  | n + 1, _ => safe_ite safe_ve <|
      (parseItems_safe _ _).bind fun ir => (parseChunks_safe n ir.2).bind fun _ => safe_ok _

theorem parseBody_safe (pt count : Nat) (payload : Bytes) : Safe (parseBody pt count payload) := by
  unfold parseBody
  refine safe_ite (safe_ite safe_ve (safe_ok _)) <|
    safe_ite ((parseChunks_safe _ _).bind fun _ => safe_ok _) <|
    safe_ite (safe_ite_of (fun _ => safe_ve) fun hl => ?sr) <|
    safe_ite (safe_ite_of (fun _ => safe_ve) fun hl => ?rr) <|
    safe_ite (safe_ite safe_ve (safe_ok _)) <| safe_ite (safe_ite safe_ve (safe_ok _)) (safe_ok _)
  case sr =>
    have hl' : payload.length = 24 + 24 * count := Classical.not_not.mp hl
    refine Safe.bind ?_ fun si => (parseReports_safe count _ (by simp [hl'])).bind fun _ => safe_ok _
    unfold parseSenderInfo
    rw [if_neg (by simp [length_slice, hl'])]
    exact safe_ok _
  case rr =>
    have hl' : payload.length = 4 + 24 * count := Classical.not_not.mp hl
    exact (parseReports_safe count _ (by simp [hl'])).bind fun _ => safe_ok _

theorem stripPadding_safe (payload : Bytes) : Safe (stripPadding payload) := by
  unfold stripPadding
  split
  · exact safe_ve
  · exact safe_ite safe_ve (safe_ok _)

theorem parseCompound_safe (d : Bytes) : Safe (parseCompound d) := by
  induction d using parseCompound.induct with
  | case1 => rw [parseCompound]; exact safe_ok _
  | case2 b0 pt l1 l2 rest h => rw [parseCompound, if_pos h]; exact safe_ve
  | case3 b0 pt l1 l2 rest _ h1 h2 => rw [parseCompound, if_neg h1, if_pos h2]; exact safe_ve
  | case4 b0 pt l1 l2 rest _ h1 h2 ih =>
    rw [parseCompound, if_neg h1, if_neg h2]
    exact Safe.bind (Safe.bind (safe_ite (stripPadding_safe _) (safe_ok _)) fun _ => parseBody_safe _ _ _)
      fun _ => ih.bind fun _ => safe_ok _
  | case5 d h1 h2 => rw [parseCompound]; exact safe_ve; exact h1; exact h2

end Aiortc.Rtp
