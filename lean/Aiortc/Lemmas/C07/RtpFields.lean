import Aiortc.Model.Rtp.Fields
import Aiortc.Lemmas.Bytes

/-! Lemmas for the field codecs: packets_lost, REMB, NACK. -/
namespace Aiortc.Rtp
open Aiortc Aiortc.Outcome

theorem s24_eq (a b c : Nat) (ha : a < 256) (hb : b < 256) (hc : c < 256) :
    s24 a b c = if beVal [a, b, c] < 8388608 then (beVal [a, b, c] : Int) else beVal [a, b, c] - 16777216 := by
  rw [beVal_triple]; unfold s24
  have hd : a / 128 < 2 := Nat.div_lt_of_lt_mul ha
  have hle : 1 ≤ a / 128 ↔ 128 ≤ a := by rw [Nat.le_div_iff_mul_le (by decide), Nat.one_mul]
  rw [Nat.mod_eq_of_lt hd]
  generalize a / 128 = q at hd hle ⊢
  by_cases h : (a * 256 + b) * 256 + c < 8388608
  · rw [if_neg (by omega), if_pos h]
  · rw [if_pos (by omega), if_neg h]

theorem s24_u24be (c : Int) (h1 : -8388608 ≤ c) (h2 : c < 8388608) :
    s24 ((c % 16777216).toNat / 65536 % 256) ((c % 16777216).toNat / 256 % 256) ((c % 16777216).toNat % 256) = c := by
  rw [s24_eq _ _ _ (Nat.mod_lt _ (by decide)) (Nat.mod_lt _ (by decide)) (Nat.mod_lt _ (by decide))]
  rw [show ∀ t, [t / 65536 % 256, t / 256 % 256, t % 256] = u24be t from fun _ => rfl, beVal_u24be _ (by omega)]
  split <;> omega

theorem unpackLost_lostBytes (c : Int) (h1 : -8388608 ≤ c) (h2 : c < 8388608) :
    unpackLost (u24be (c % 16777216).toNat) = ok c :=
  congrArg ok (s24_u24be c h1 h2)

theorem beVal_u16be (n : Nat) (h : n < 65536) : beVal (u16be n) = n :=
  Aiortc.beVal_u16be n h

theorem beVal_u64be (n : Nat) (h : n < 18446744073709551616) : beVal (u64be n) = n := by
  rw [u64be, beVal_append, beVal_u32be _ (Nat.mod_lt _ (by decide)), beVal_u32be _ (Nat.mod_lt _ (by decide)),
    length_u32be]
  omega

theorem take4_u32be_append (n : Nat) (r : Bytes) : (u32be n ++ r).take 4 = u32be n := List.take_left' rfl

theorem drop4_u32be_append (n : Nat) (r : Bytes) : (u32be n ++ r).drop 4 = r := List.drop_left' rfl

theorem readU32s_flatMap (l : List Nat) (h : ∀ s ∈ l, s < 4294967296) (r : Bytes) :
    readU32s l.length (l.flatMap u32be ++ r) = l := by
  induction l with
  | nil => rfl
  | cons a l ih =>
    simp only [List.flatMap_cons, List.length_cons, readU32s, List.append_assoc,
      take4_u32be_append, drop4_u32be_append]
    rw [beVal_u32be a (h a (by simp)), ih (fun s hs => h s (by simp [hs]))]

theorem readU32s_flatMap_nil (l : List Nat) (h : ∀ s ∈ l, s < 4294967296) :
    readU32s l.length (l.flatMap u32be) = l := by
  simpa using readU32s_flatMap l h []

/-- Invariant of the normalisation loop. With `r = rembNorm m e`, `k = r.2 - e` shifts were made:
`r.1 = ⌊m / 2^k⌋` (as a sandwich), the mantissa fits 18 bits and has its top bit set if `k > 0`. -/
theorem rembNorm_spec (m e : Nat) :
    e ≤ (rembNorm m e).2 ∧ (rembNorm m e).1 ≤ 0x3FFFF
    ∧ (rembNorm m e).1 * 2 ^ ((rembNorm m e).2 - e) ≤ m
    ∧ m < ((rembNorm m e).1 + 1) * 2 ^ ((rembNorm m e).2 - e)
    ∧ (e < (rembNorm m e).2 → 0x20000 ≤ (rembNorm m e).1)
    ∧ (m ≤ 0x3FFFF → rembNorm m e = (m, e)) := by
  induction m, e using rembNorm.induct with
  | case1 m e h ih =>
    rw [rembNorm]; simp only [h, ↓reduceDIte]
    obtain ⟨h1, h2, h3, h4, h5, _⟩ := ih
    generalize rembNorm (m / 2) (e + 1) = r at *
    have h5' : 0x20000 ≤ r.1 := by
      by_cases hlt : e + 1 < r.2
      · exact h5 hlt
      · have : r.2 - (e + 1) = 0 := by omega
        rw [this] at h3 h4
        simp at h3 h4
        omega
    have hk : r.2 - e = (r.2 - (e + 1)) + 1 := by omega
    rw [hk, Nat.pow_succ]
    generalize 2 ^ (r.2 - (e + 1)) = X at *
    rw [Nat.add_mul] at h4 ⊢
    rw [← Nat.mul_assoc]
    generalize r.1 * X = A at *
    exact ⟨by omega, h2, by omega, by omega, fun _ => h5', by omega⟩
  | case2 m e h =>
    rw [rembNorm]; simp only [h, ↓reduceDIte]
    simp; omega

/-- What `pack_remb_fci`'s loop returns for `m`, as `r = (mantissa, exponent)`: an 18-bit mantissa that is `m` shifted
right by the exponent, with its top bit set unless the loop did not run. -/
structure RembNorm (m : Nat) (r : Nat × Nat) : Prop where
  mant_le : r.1 ≤ 0x3FFFF
  lo : r.1 * 2 ^ r.2 ≤ m
  hi : m < (r.1 + 1) * 2 ^ r.2
  top : 0 < r.2 → 0x20000 ≤ r.1
  small : m ≤ 0x3FFFF → r = (m, 0)

theorem rembNorm_zero (m : Nat) : RembNorm m (rembNorm m 0) := by
  obtain ⟨_, h2, h3, h4, h5, h6⟩ := rembNorm_spec m 0
  exact ⟨h2, h3, h4, h5, h6⟩

/-- The exponent fits its 6 bits exactly for bitrates below 2^81. -/
theorem rembNorm_exp_lt_iff (m : Nat) : (rembNorm m 0).2 < 64 ↔ m < 2 ^ 81 := by
  have sp := rembNorm_zero m
  generalize rembNorm m 0 = r at sp
  constructor
  · intro he
    have h1 : (r.1 + 1) * 2 ^ r.2 ≤ 0x40000 * 2 ^ 63 :=
      Nat.mul_le_mul (by have := sp.mant_le; omega) (Nat.pow_le_pow_right (by omega) (by omega))
    have e : (0x40000 : Nat) * 2 ^ 63 = 2 ^ 81 := by decide
    have := sp.hi
    omega
  · intro hm
    apply Classical.byContradiction
    intro hc
    have : 0x20000 * 2 ^ 64 ≤ r.1 * 2 ^ r.2 :=
      Nat.mul_le_mul (sp.top (by omega)) (Nat.pow_le_pow_right (by omega) (by omega))
    have e : (0x20000 : Nat) * 2 ^ 64 = 2 ^ 81 := by decide
    have := sp.lo
    omega

theorem unpackRemb_packRemb (b : Nat) (ss : List Nat) (h : RembWF b ss) :
    unpackRemb (packRemb b ss) = ok ((rembNorm b 0).1 <<< (rembNorm b 0).2, ss) := by
  obtain ⟨he, hn, hs⟩ := h
  have hm := (rembNorm_zero b).mant_le
  unfold packRemb
  generalize rembNorm b 0 = r at *
  have hx : r.1 / 65536 < 4 := Nat.div_lt_of_lt_mul (Nat.lt_succ_of_le hm)
  have hX : (r.2 <<< 2) ||| (r.1 >>> 16) = r.2 * 4 + r.1 / 65536 := by
    rw [Nat.shiftRight_eq_div_pow]; exact or_eq_add _ _ 2 hx
  obtain ⟨d1, d2⟩ := mul_add_div_mod r.2 4 _ hx
  have e1 : (r.2 * 4 + r.1 / 65536) / 4 % 64 = r.2 := by rw [d1]; exact Nat.mod_eq_of_lt he
  have e2 : (r.2 * 4 + r.1 / 65536) % 4 * 65536 + r.1 % 65536 / 256 % 256 * 256 + r.1 % 65536 % 256 = r.1 := by
    rw [d2, Nat.add_assoc, u16_recombine _ (Nat.mod_lt _ (by decide)), Nat.mul_comm]
    exact Nat.div_add_mod r.1 65536
  have e3 := readU32s_flatMap_nil ss hs
  dsimp only
  rw [hX]
  show unpackRemb (82 :: 69 :: 77 :: 66 :: ss.length :: (r.2 * 4 + r.1 / 65536) :: _ :: _ :: ss.flatMap u32be) = _
  rw [unpackRemb, if_neg (by rw [length_flatMap_u32be]; omega), e1, e2, e3]

theorem mem_nackBits (pid blp x : Nat) :
    x ∈ nackBits pid blp ↔ ∃ d, d < 16 ∧ blp.testBit d = true ∧ x = (pid + d + 1) % 65536 := by
  unfold nackBits
  simp only [List.mem_filterMap, List.mem_range]
  constructor
  · rintro ⟨d, hd, h⟩
    split at h
    · next hb => exact ⟨d, hd, hb, by simpa using h.symm⟩
    · cases h
  · rintro ⟨d, hd, hb, rfl⟩
    exact ⟨d, hd, by simp [hb]⟩

theorem nackBits_zero (pid : Nat) : nackBits pid 0 = [] := by
  unfold nackBits
  rw [List.filterMap_eq_nil_iff]
  intro d _; simp

theorem nackEntries_pair (pid blp : Nat) (hp : pid < 65536) (hb : blp < 65536) (rest : Bytes) :
    nackEntries (u16be pid ++ u16be blp ++ rest) = pid :: nackBits pid blp ++ nackEntries rest := by
  simp only [u16be, List.cons_append, List.nil_append, nackEntries]
  rw [u16_recombine _ hp, u16_recombine _ hb]

theorem mem_nackPack (ps : List Nat) : ∀ (pid blp : Nat) (tail : Bytes), pid < 65536 → blp < 65536 →
    (∀ p ∈ ps, p < 65536) → ∀ x,
    (x ∈ nackEntries (nackPack pid blp ps ++ tail) ↔
      x = pid ∨ x ∈ nackBits pid blp ∨ x ∈ ps ∨ x ∈ nackEntries tail) := by
  induction ps with
  | nil =>
    intro pid blp tail hp hb _ x
    simp only [nackPack, nackEntries_pair pid blp hp hb, List.mem_cons, List.mem_append, List.not_mem_nil,
      false_or, or_assoc]
  | cons p ps ih =>
    intro pid blp tail hpid hb hps x
    have hp : p < 65536 := hps p (by simp)
    have hps' : ∀ q ∈ ps, q < 65536 := fun q hq => hps q (by simp [hq])
    have hd1 : (pid + nackDist p pid + 1) % 65536 = p := by unfold nackDist; omega
    unfold nackPack
    split
    · next hlt =>
      have hb' : blp ||| 1 <<< nackDist p pid < 65536 := by
        apply Nat.or_lt_two_pow (n := 16) hb
        rw [Nat.one_shiftLeft]
        exact Nat.pow_lt_pow_right (by omega) hlt
      rw [ih pid _ tail hpid hb' hps' x]
      have : x ∈ nackBits pid (blp ||| 1 <<< nackDist p pid) ↔ x ∈ nackBits pid blp ∨ x = p := by
        simp only [mem_nackBits, Nat.testBit_or, Nat.one_shiftLeft, Nat.testBit_two_pow, Bool.or_eq_true,
          decide_eq_true_eq]
        constructor
        · rintro ⟨d, hd, hb | rfl, rfl⟩
          · exact Or.inl ⟨d, hd, hb, rfl⟩
          · exact Or.inr hd1
        · rintro (⟨d, hd, hb, rfl⟩ | hx)
          · exact ⟨d, hd, Or.inl hb, rfl⟩
          · exact ⟨nackDist p pid, hlt, Or.inr rfl, by rw [hx]; exact hd1.symm⟩
      rw [this]; simp only [List.mem_cons, or_assoc]
    · rw [List.append_assoc, nackEntries_pair pid blp hpid hb]
      simp only [List.mem_cons, List.mem_append]
      rw [ih p 0 tail hp (by omega) hps' x, nackBits_zero]
      simp only [List.not_mem_nil, false_or, or_assoc]

theorem length_nackPack (ps : List Nat) : ∀ pid blp, (nackPack pid blp ps).length % 4 = 0 := by
  induction ps with
  | nil => intro pid blp; simp [nackPack]
  | cons p ps ih =>
    intro pid blp
    unfold nackPack
    split
    · exact ih _ _
    · have := ih p 0
      simp only [List.length_append, length_u16be]; omega

theorem length_serLost (l : List Nat) : (serLost l).length % 4 = 0 := by
  cases l with
  | nil => rfl
  | cons p ps => exact length_nackPack ps p 0

end Aiortc.Rtp
