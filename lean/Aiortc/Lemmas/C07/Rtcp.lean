import Aiortc.Model.Rtp.Rtcp
import Aiortc.Lemmas.C07.RtpFields
/-! Round-trip lemmas for the RTCP packet classes and the compound parser. -/
namespace Aiortc.Rtp
open Aiortc Aiortc.Outcome

@[simp] theorem bind_ok {α β} (a : α) (f : α → Outcome β) : (Outcome.ok a).bind f = f a := Outcome.ok_bind a f

theorem parseReceiverInfo_append (a : Bytes) (f : Nat) (l h j s t : Bytes) (ha : a.length = 4) (hl : l.length = 3)
    (hh : h.length = 4) (hj : j.length = 4) (hs : s.length = 4) (ht : t.length = 4) :
    parseReceiverInfo (a ++ [f] ++ l ++ h ++ j ++ s ++ t) =
      (unpackLost l).bind fun lost => ok ⟨beVal a, f, lost, beVal h, beVal j, beVal s, beVal t⟩ := by
  have hd : (a ++ [f] ++ l ++ h ++ j ++ s ++ t).length = 24 := by
    simp only [List.length_append, List.length_singleton, ha, hl, hh, hj, hs, ht]
  unfold parseReceiverInfo
  rw [if_neg (by rw [List.length_take, hd]; decide)]
  simp only [List.length_drop, hd, Nat.reduceSub, ne_eq, not_true_eq_false, ↓reduceIte]
  simp only [List.append_assoc, slice_append_right, slice_zero, List.take_left', List.take_of_length_le, ha, hl, hh, hj,
    hs, ht, List.length_singleton, beVal_singleton, Nat.reduceSub, Nat.reduceLeDiff, Nat.le_refl]

theorem length_serReceiverInfo (r : ReceiverInfo) : (serReceiverInfo r).length = 24 := by
  simp only [serReceiverInfo, lostBytes, List.length_append, length_u32be, length_u24be, List.length_singleton]

theorem parseReceiverInfo_ser (r : ReceiverInfo) (h : r.WF) :
    parseReceiverInfo (serReceiverInfo r) = ok r := by
  obtain ⟨h1, h2, ⟨h3, h3'⟩, h4, h5, h6, h7⟩ := h
  rw [serReceiverInfo, parseReceiverInfo_append _ _ _ _ _ _ _ rfl rfl rfl rfl rfl rfl, lostBytes,
    unpackLost_lostBytes _ h3 h3', beVal_u32be _ h1, beVal_u32be _ h4, beVal_u32be _ h5, beVal_u32be _ h6,
    beVal_u32be _ h7]
  rfl

theorem length_flatMap_serReceiverInfo (rs : List ReceiverInfo) : (rs.flatMap serReceiverInfo).length = 24 * rs.length := by
  induction rs with
  | nil => rfl
  | cons a l ih => simp [List.flatMap_cons, ih, length_serReceiverInfo]; omega

theorem parseReports_ser (rs : List ReceiverInfo) (h : ∀ r ∈ rs, r.WF) (tail : Bytes) :
    parseReports rs.length (rs.flatMap serReceiverInfo ++ tail) = ok rs := by
  induction rs with
  | nil => rfl
  | cons r rs ih =>
    have hl := length_serReceiverInfo r
    simp only [List.flatMap_cons, List.length_cons, parseReports, List.append_assoc]
    rw [List.take_left' hl, List.drop_left' hl, parseReceiverInfo_ser r (h r (by simp)),
      ih (fun x hx => h x (by simp [hx]))]
    rfl

theorem parseReports_ser_nil (rs : List ReceiverInfo) (h : ∀ r ∈ rs, r.WF) :
    parseReports rs.length (rs.flatMap serReceiverInfo) = ok rs := by
  simpa using parseReports_ser rs h []

theorem parseSenderInfo_append (a b c e : Bytes) (ha : a.length = 8) (hb : b.length = 4) (hc : c.length = 4)
    (he : e.length = 4) :
    parseSenderInfo (a ++ b ++ c ++ e) = ok ⟨beVal a, beVal b, beVal c, beVal e⟩ := by
  unfold parseSenderInfo
  rw [if_neg (by simp [ha, hb, hc, he])]
  simp only [List.append_assoc, slice_append_right, slice_zero, List.take_left', List.take_of_length_le, ha, hb, hc,
    he, Nat.reduceSub, Nat.reduceLeDiff, Nat.le_refl]

theorem length_serSenderInfo (s : SenderInfo) : (serSenderInfo s).length = 20 := rfl

theorem parseSenderInfo_ser (s : SenderInfo) (h : s.WF) : parseSenderInfo (serSenderInfo s) = ok s := by
  obtain ⟨h1, h2, h3, h4⟩ := h
  rw [serSenderInfo, parseSenderInfo_append _ _ _ _ rfl rfl rfl rfl, beVal_u64be _ h1, beVal_u32be _ h2,
    beVal_u32be _ h3, beVal_u32be _ h4]

theorem parseItems_ser (items : List (Nat × Bytes)) (h : ∀ it ∈ items, ItemWF it) :
    ∀ (acc : List (Nat × Bytes)) (tail : Bytes),
    parseItems (items.flatMap serItem ++ [0, 0] ++ tail) acc = ok (acc ++ items, tail) := by
  induction items with
  | nil => intro acc tail; simp [parseItems]
  | cons it items ih =>
    intro acc tail
    obtain ⟨t, v⟩ := it
    have hw := h (t, v) (by simp)
    simp only [ItemWF] at hw
    simp only [List.flatMap_cons, serItem, List.cons_append, List.nil_append, List.append_assoc]
    rw [parseItems]
    simp only [List.length_append, List.take_left, List.drop_left]
    rw [if_neg (by omega), if_neg (by omega)]
    have := ih (fun x hx => h x (by simp [hx])) (acc ++ [(t, v)]) tail
    simp only [List.append_assoc, List.cons_append, List.nil_append] at this
    rw [this]

theorem parseChunks_ser (cs : List SourceInfo) (h : ∀ c ∈ cs, c.WF) (tail : Bytes) :
    parseChunks cs.length (cs.flatMap serChunk ++ tail) = ok cs := by
  induction cs with
  | nil => rfl
  | cons c cs ih =>
    obtain ⟨h1, h2⟩ := h c (by simp)
    simp only [List.flatMap_cons, List.length_cons, parseChunks, serChunk, List.append_assoc]
    rw [if_neg (by simp)]
    rw [take4_u32be_append, drop4_u32be_append, beVal_u32be _ h1]
    have := parseItems_ser c.items h2 [] (cs.flatMap serChunk ++ tail)
    simp only [List.append_assoc, List.nil_append] at this
    rw [this]
    simp only [Outcome.ok_bind]
    rw [ih (fun x hx => h x (by simp [hx]))]
    rfl

theorem length_pad4 (d : Bytes) : (pad4 d).length % 4 = 0 := by
  simp [pad4, zeros]; omega

theorem parseCompound_packRtcp (pt count q : Nat) (payload tail : Bytes) (hc : count < 32)
    (hq : payload.length = 4 * q) (hn : q < 65536) :
    parseCompound (packRtcp pt count payload ++ tail) =
      ((parseBody pt count payload).bind fun p =>
        (parseCompound tail).bind fun ps => ok (p.toList ++ ps)) := by
  have hb : (2 <<< 6) ||| count = 128 + count := or_eq_add 2 count 6 (Nat.lt_trans hc (by decide))
  have c1 : (128 + count) / 64 = 2 := by omega
  have c2 : ¬ (128 + count) / 32 % 2 = 1 := by omega
  have c3 : (128 + count) % 32 = count := by omega
  have e1 : (q / 256 % 256 * 256 + q % 256) * 4 = payload.length := by
    rw [u16_recombine q hn, Nat.mul_comm, hq]
  rw [packRtcp, hb, hq, Nat.mul_div_cancel_left q (by decide : 0 < 4)]
  show parseCompound ((128 + count) :: pt :: (q / 256 % 256) :: (q % 256) :: (payload ++ tail)) = _
  rw [parseCompound, e1, if_neg (not_not_intro c1), if_neg (by rw [List.length_append]; omega), if_neg c2,
    List.take_left, List.drop_left, c3]
  rfl

theorem four_mul_div (n : Nat) (h : n % 4 = 0) : n = 4 * (n / 4) :=
  (Nat.mul_div_cancel' (Nat.dvd_of_mod_eq_zero h)).symm

def nackF (pid blp : Nat) (d : Nat) : Option Nat :=
  if blp.testBit d then some ((pid + d + 1) % 65536) else none

theorem filterMap_setBit (pid blp d : Nat) (hhi : ∀ d', blp.testBit d' = true → d' < d) (n : Nat) :
    (List.range n).filterMap (nackF pid (blp ||| 2 ^ d)) =
      (List.range n).filterMap (nackF pid blp) ++ (if d < n then [(pid + d + 1) % 65536] else []) := by
  induction n with
  | zero => simp
  | succ n ih =>
    rw [List.range_succ, List.filterMap_append, List.filterMap_append, ih]
    have hf' : nackF pid (blp ||| 2 ^ d) n =
        if n = d then some ((pid + d + 1) % 65536) else nackF pid blp n := by
      unfold nackF
      simp only [Nat.testBit_or, Nat.testBit_two_pow]
      by_cases hnd : n = d
      · subst hnd; simp
      · have : ¬ d = n := fun h => hnd h.symm
        simp [hnd, this]
    have hf : d ≤ n → nackF pid blp n = none := by
      intro hle
      unfold nackF
      split
      · next hb => have := hhi n hb; omega
      · rfl
    simp only [List.filterMap_cons, List.filterMap_nil, hf']
    by_cases h1 : n = d
    · subst h1
      simp [hf (Nat.le_refl _)]
    · by_cases h2 : d < n
      · have h3 : d < n + 1 := by omega
        simp [h1, h2, h3, hf (by omega)]
      · have h3 : ¬ d < n + 1 := by omega
        simp [h1, h2, h3]

theorem nackBits_setBit (pid blp d : Nat) (hd : d < 16) (hhi : ∀ d', blp.testBit d' = true → d' < d) :
    nackBits pid (blp ||| 2 ^ d) = nackBits pid blp ++ [(pid + d + 1) % 65536] := by
  exact (filterMap_setBit pid blp d hhi 16).trans (by rw [if_pos hd]; rfl)

theorem ascending_head_lt : ∀ (a : Nat) (l : List Nat), Ascending (a :: l) → ∀ x ∈ l, a < x
  | _, [], _, x, hx => by cases hx
  | a, b :: l, h, x, hx => by
    obtain ⟨hab, hl⟩ := h
    rcases List.mem_cons.mp hx with rfl | hx'
    · exact hab
    · exact Nat.lt_trans hab (ascending_head_lt b l hl x hx')

theorem ascending_tail : ∀ (a : Nat) (l : List Nat), Ascending (a :: l) → Ascending l
  | _, [], _ => trivial
  | _, _ :: _, h => h.2

/-- List equality on ascending input: the loop invariant. -/
theorem nackEntries_nackPack_asc (ps : List Nat) : ∀ (pid blp : Nat) (tail : Bytes), pid < 65536 → blp < 65536 →
    (∀ p ∈ ps, p < 65536) → Ascending ps → (∀ p ∈ ps, pid < p) →
    (∀ d, blp.testBit d = true → ∀ p ∈ ps, pid + d + 1 < p) →
    nackEntries (nackPack pid blp ps ++ tail) = pid :: nackBits pid blp ++ ps ++ nackEntries tail := by
  induction ps with
  | nil =>
    intro pid blp tail hp hb _ _ _ _
    simp only [nackPack, nackEntries_pair pid blp hp hb, List.append_nil, List.cons_append]
  | cons p ps ih =>
    intro pid blp tail hpid hb hps hasc hgt hbits
    have hp : p < 65536 := hps p (by simp)
    have hps' : ∀ q ∈ ps, q < 65536 := fun q hq => hps q (by simp [hq])
    have hpp : pid < p := hgt p (by simp)
    have hlt := ascending_head_lt p ps hasc
    have hd : nackDist p pid = p - pid - 1 := by unfold nackDist; omega
    unfold nackPack
    split
    · next hlt16 =>
      rw [Nat.one_shiftLeft]
      have hb' : blp ||| 2 ^ nackDist p pid < 65536 :=
        Nat.or_lt_two_pow (n := 16) hb (Nat.pow_lt_pow_right (by omega) hlt16)
      have hhi : ∀ d', blp.testBit d' = true → d' < nackDist p pid := by
        intro d' hb1
        have := hbits d' hb1 p (by simp)
        omega
      rw [ih pid _ tail hpid hb' hps' (ascending_tail p ps hasc) (fun q hq => hgt q (by simp [hq])) ?_,
        nackBits_setBit pid blp _ hlt16 hhi]
      · have : (pid + nackDist p pid + 1) % 65536 = p := by omega
        rw [this]; simp
      · intro d hbd q hq
        simp only [Nat.testBit_or, Nat.testBit_two_pow, Bool.or_eq_true, decide_eq_true_eq] at hbd
        rcases hbd with hbd | rfl
        · exact hbits d hbd q (by simp [hq])
        · have := hlt q hq; omega
    · rw [List.append_assoc, nackEntries_pair pid blp hpid hb,
        ih p 0 tail hp (by omega) hps' (ascending_tail p ps hasc) hlt (by simp), nackBits_zero]
      simp

theorem nackEntries_serLost_asc (l : List Nat) (h : ∀ p ∈ l, p < 65536) (hasc : Ascending l) :
    nackEntries (serLost l) = l := by
  cases l with
  | nil => rfl
  | cons p ps =>
    have := nackEntries_nackPack_asc ps p 0 [] (h p (List.mem_cons_self ..)) (Nat.zero_lt_succ _)
      (fun q hq => h q (List.mem_cons_of_mem _ hq)) (ascending_tail p ps hasc) (ascending_head_lt p ps hasc)
      (fun d hd => by rw [Nat.zero_testBit] at hd; cases hd)
    rw [List.append_nil, nackBits_zero] at this
    simpa only [serLost, nackEntries, List.append_nil, List.cons_append, List.nil_append] using this

/-- What a packet parses back to: identical, except that a NACK list comes back in the parser's
enumeration order (same set: `Props.C07.nack_same_set`; same list if ascending). -/
def normalise : RtcpPacket → RtcpPacket
  | .rtpfb f s m lost => .rtpfb f s m (nackEntries (serLost lost))
  | p => p

theorem parseBody_sr (count : Nat) (a si rs : Bytes) (ha : a.length = 4) (hsi : si.length = 20)
    (hrs : rs.length = 24 * count) :
    parseBody Gen.RTCP_SR count (a ++ si ++ rs) =
      (parseSenderInfo si).bind fun i => (parseReports count rs).bind fun r => ok (some (.sr (beVal a) i r)) := by
  have h1 : (a ++ si ++ rs).length = 24 + 24 * count := by simp only [List.length_append, ha, hsi, hrs]
  have h2 : slice (a ++ si ++ rs) 4 24 = si := slice_mid a si rs ha (by omega)
  have h3 : (a ++ si ++ rs).drop 24 = rs := List.drop_left' (by simp only [List.length_append, ha, hsi])
  have h4 : (a ++ si ++ rs).take 4 = a := by rw [List.append_assoc]; exact List.take_left' ha
  unfold parseBody
  simp only [Gen.RTCP_SR, Gen.RTCP_BYE, Gen.RTCP_SDES, Nat.reduceEqDiff, ↓reduceIte, h1, h2, h3, h4, ne_eq,
    not_true_eq_false]

theorem parseBody_rr (count : Nat) (a rs : Bytes) (ha : a.length = 4) (hrs : rs.length = 24 * count) :
    parseBody Gen.RTCP_RR count (a ++ rs) = (parseReports count rs).bind fun r => ok (some (.rr (beVal a) r)) := by
  have h1 : (a ++ rs).length = 4 + 24 * count := by simp only [List.length_append, ha, hrs]
  unfold parseBody
  simp only [Gen.RTCP_RR, Gen.RTCP_SR, Gen.RTCP_BYE, Gen.RTCP_SDES, Nat.reduceEqDiff, ↓reduceIte, h1,
    List.take_left' ha, List.drop_left' ha, ne_eq, not_true_eq_false]

theorem feedback_fields (a b r : Bytes) (ha : a.length = 4) (hb : b.length = 4) :
    (a ++ b ++ r).length = 8 + r.length ∧ (a ++ b ++ r).take 4 = a ∧ slice (a ++ b ++ r) 4 8 = b
    ∧ (a ++ b ++ r).drop 8 = r :=
  ⟨by simp only [List.length_append, ha, hb], by rw [List.append_assoc]; exact List.take_left' ha,
    slice_mid a b r ha (by omega), List.drop_left' (by rw [List.length_append, ha, hb])⟩

theorem parseBody_rtpfb (count : Nat) (a b fci : Bytes) (ha : a.length = 4) (hb : b.length = 4)
    (hf : fci.length % 4 = 0) :
    parseBody Gen.RTCP_RTPFB count (a ++ b ++ fci) =
      ok (some (.rtpfb count (beVal a) (beVal b) (nackEntries fci))) := by
  obtain ⟨h1, h2, h3, h4⟩ := feedback_fields a b fci ha hb
  unfold parseBody
  simp only [Gen.RTCP_RTPFB, Gen.RTCP_RR, Gen.RTCP_SR, Gen.RTCP_BYE, Gen.RTCP_SDES, Nat.reduceEqDiff, ↓reduceIte,
    h1, h2, h3, h4]
  rw [if_neg (by omega)]

theorem parseBody_psfb (count : Nat) (a b fci : Bytes) (ha : a.length = 4) (hb : b.length = 4) :
    parseBody Gen.RTCP_PSFB count (a ++ b ++ fci) = ok (some (.psfb count (beVal a) (beVal b) fci)) := by
  obtain ⟨h1, h2, h3, h4⟩ := feedback_fields a b fci ha hb
  unfold parseBody
  simp only [Gen.RTCP_PSFB, Gen.RTCP_RTPFB, Gen.RTCP_RR, Gen.RTCP_SR, Gen.RTCP_BYE, Gen.RTCP_SDES,
    Nat.reduceEqDiff, ↓reduceIte, h1, h2, h3, h4]
  rw [if_neg (by omega)]

theorem parseCompound_serRtcp (p : RtcpPacket) (h : p.WF) (tail : Bytes) :
    parseCompound (serRtcp p ++ tail) = (parseCompound tail).bind fun ps => ok (normalise p :: ps) := by
  cases p with
  | bye sources =>
    obtain ⟨h1, h2⟩ := h
    have hlen := length_flatMap_u32be sources
    have := readU32s_flatMap_nil sources h2
    rw [serRtcp, parseCompound_packRtcp _ _ _ _ _ h1 hlen (Nat.lt_trans h1 (by decide)), parseBody, if_pos rfl,
      if_neg (by rw [hlen]; exact Nat.lt_irrefl _), this]
    rfl
  | psfb fmt ssrc media fci =>
    obtain ⟨h1, h2, h3, _, h5, h6⟩ := h
    have hlen := (feedback_fields (u32be ssrc) (u32be media) fci rfl rfl).1
    rw [serRtcp, parseCompound_packRtcp _ _ _ _ _ h1 (hlen.trans (four_mul_div _ (by rw [Nat.add_mod, h5]))) h6,
      parseBody_psfb _ _ _ _ rfl rfl, beVal_u32be _ h2, beVal_u32be _ h3]
    rfl
  | rr ssrc reports =>
    obtain ⟨h1, h2, h3⟩ := h
    have hr := length_flatMap_serReceiverInfo reports
    have hlen : (u32be ssrc ++ reports.flatMap serReceiverInfo).length = 4 * (1 + 6 * reports.length) := by
      rw [List.length_append, hr, length_u32be]; omega
    have := parseReports_ser_nil reports h3
    rw [serRtcp, parseCompound_packRtcp _ _ _ _ _ h2 hlen (by omega), parseBody_rr _ _ _ rfl hr, this,
      beVal_u32be _ h1]
    rfl
  | rtpfb fmt ssrc media lost =>
    obtain ⟨h1, h2, h3, _, h5⟩ := h
    have hl4 := length_serLost lost
    have hlen := (feedback_fields (u32be ssrc) (u32be media) (serLost lost) rfl rfl).1
    rw [serRtcp, parseCompound_packRtcp _ _ _ _ _ h1 (hlen.trans (four_mul_div _ (by rw [Nat.add_mod, hl4]))) h5,
      parseBody_rtpfb _ _ _ _ rfl rfl hl4, beVal_u32be _ h2, beVal_u32be _ h3]
    rfl
  | sdes chunks =>
    obtain ⟨h1, h2, h3⟩ := h
    rw [serRtcp, parseCompound_packRtcp _ _ _ _ _ h1 (four_mul_div _ (length_pad4 _)) h3, parseBody,
      if_neg (by decide), if_pos rfl, pad4, parseChunks_ser chunks h2]
    rfl
  | sr ssrc info reports =>
    obtain ⟨h1, h2, h3, h4⟩ := h
    have hr := length_flatMap_serReceiverInfo reports
    have hlen : (u32be ssrc ++ serSenderInfo info ++ reports.flatMap serReceiverInfo).length
        = 4 * (6 + 6 * reports.length) := by
      rw [List.length_append, hr, List.length_append, length_u32be, length_serSenderInfo]; omega
    have := parseReports_ser_nil reports h4
    rw [serRtcp, parseCompound_packRtcp _ _ _ _ _ h3 hlen (by omega), parseBody_sr _ _ _ _ rfl rfl hr,
      parseSenderInfo_ser info h2, this, beVal_u32be _ h1]
    rfl

theorem normalise_of_ascending (p : RtcpPacket) (h : p.WF)
    (hasc : ∀ f s m lost, p = .rtpfb f s m lost → Ascending lost) : normalise p = p := by
  cases p with
  | rtpfb f s m lost =>
    obtain ⟨_, _, _, h4, _⟩ := h
    simp only [normalise]
    rw [nackEntries_serLost_asc lost h4 (hasc f s m lost rfl)]
  | _ => rfl

end Aiortc.Rtp
