import Aiortc.Model.Rtp.Packet
import Aiortc.Lemmas.C07.RtpFields
/-! Round-trip lemmas for header extensions and `RtpPacket`. -/
namespace Aiortc.Rtp
open Aiortc Aiortc.Outcome

@[simp] theorem bind_ok' {α β} (a : α) (f : α → Outcome β) : (Outcome.ok a).bind f = f a := Outcome.ok_bind a f

theorem unpackOneByte_zeros (k : Nat) : unpackOneByte (zeros k) = ok [] := by
  induction k with
  | zero => rw [zeros, List.replicate_zero, unpackOneByte]
  | succ k ih => rw [zeros, List.replicate_succ, unpackOneByte, if_pos rfl]; exact ih

theorem unpackTwoByte_zeros (k : Nat) : unpackTwoByte (zeros k) = ok [] := by
  induction k with
  | zero => rw [zeros, List.replicate_zero]; unfold unpackTwoByte; rfl
  | succ k ih => rw [zeros, List.replicate_succ]; unfold unpackTwoByte; simp only [↓reduceIte]; exact ih

theorem unpackOneByte_ser (exts : List (Nat × Bytes))
    (h : ∀ x ∈ exts, 0 < x.1 ∧ x.1 ≤ 14 ∧ 1 ≤ x.2.length ∧ x.2.length ≤ 16) (k : Nat) :
    unpackOneByte (exts.flatMap serOneByte ++ zeros k) = ok exts := by
  induction exts with
  | nil => exact unpackOneByte_zeros k
  | cons x exts ih =>
    obtain ⟨i, v⟩ := x
    obtain ⟨h1, h2, h3, h4⟩ := h (i, v) (by simp)
    simp only at h1 h2 h3 h4
    have hb : (i <<< 4) ||| (v.length - 1) = i * 16 + (v.length - 1) := or_eq_add i _ 4 (by omega)
    simp only [List.flatMap_cons, serOneByte, hb, List.cons_append, List.nil_append, List.append_assoc]
    rw [unpackOneByte, if_neg (by omega)]
    obtain ⟨d1, d2⟩ := mul_add_div_mod i 16 (v.length - 1) (by omega)
    have e1 : (i * 16 + (v.length - 1)) % 16 + 1 = v.length := by rw [d2]; omega
    have e2 : (i * 16 + (v.length - 1)) / 16 % 16 = i := by rw [d1]; exact Nat.mod_eq_of_lt (by omega)
    rw [e1, e2, if_neg (by simp), List.take_left, List.drop_left, ih (fun y hy => h y (by simp [hy]))]
    rfl

theorem unpackTwoByte_ser (exts : List (Nat × Bytes)) (h : ∀ x ∈ exts, 0 < x.1) (k : Nat) :
    unpackTwoByte (exts.flatMap serTwoByte ++ zeros k) = ok exts := by
  induction exts with
  | nil => exact unpackTwoByte_zeros k
  | cons x exts ih =>
    obtain ⟨i, v⟩ := x
    have h1 := h (i, v) (by simp)
    simp only at h1
    simp only [List.flatMap_cons, serTwoByte, List.cons_append, List.nil_append, List.append_assoc]
    rw [unpackTwoByte, if_neg (by omega)]
    rw [if_neg (by simp), List.take_left, List.drop_left, ih (fun y hy => h y (by simp [hy]))]
    rfl

theorem padl_spec (n : Nat) : (n + padl n) % 4 = 0 ∧ padl n < 4 := by unfold padl; omega

theorem any_needsTwoByte_eq_false (exts : List (Nat × Bytes)) :
    exts.any needsTwoByte = false ↔ ∀ x ∈ exts, x.1 ≤ 14 ∧ 1 ≤ x.2.length ∧ x.2.length ≤ 16 := by
  simp only [List.any_eq_false, needsTwoByte, Bool.or_eq_true, decide_eq_true_eq, beq_iff_eq]
  exact forall_congr' fun x => imp_congr_right fun _ => by omega

theorem padded_spec (ser : Nat × Bytes → Bytes) (exts : List (Nat × Bytes)) (hne : exts ≠ [])
    (h : ∀ x ∈ exts, 0 < (ser x).length ∧ (ser x).length ≤ 257) :
    (exts.flatMap ser ++ zeros (padl (exts.flatMap ser).length)).length % 4 = 0
    ∧ exts.flatMap ser ++ zeros (padl (exts.flatMap ser).length) ≠ []
    ∧ (exts.flatMap ser ++ zeros (padl (exts.flatMap ser).length)).length ≤ 257 * exts.length + 3 := by
  have hlen := List.length_flatMap_le ser 257 exts fun x hx => (h x hx).2
  have hp := padl_spec (exts.flatMap ser).length
  have hpos : 0 < (exts.flatMap ser).length := by
    obtain ⟨x, l, rfl⟩ := List.exists_cons_of_ne_nil hne
    have := (h x (by simp)).1
    rw [List.flatMap_cons, List.length_append]; omega
  simp only [List.length_append, zeros, List.length_replicate]
  refine ⟨hp.1, fun e => ?_, by omega⟩
  rw [List.append_eq_nil_iff] at e
  rw [e.1] at hpos; exact Nat.lt_irrefl _ hpos

theorem packHeaderExtensions_profile (exts : List (Nat × Bytes)) (hne : exts ≠ []) :
    (packHeaderExtensions exts).1 = if exts.any needsTwoByte then 0x1000 else 0xBEDE := by
  unfold packHeaderExtensions
  rw [if_neg (by simpa using hne)]
  split <;> rfl

/-- What `pack_header_extensions` asserts of an entry. -/
def EntryOk (x : Nat × Bytes) : Prop := 0 < x.1 ∧ x.1 < 256 ∧ x.2.length < 256

theorem unpackHeaderExtensions_pack (exts : List (Nat × Bytes)) (hne : exts ≠ []) (h : ∀ x ∈ exts, EntryOk x) :
    unpackHeaderExtensions (packHeaderExtensions exts).1 (packHeaderExtensions exts).2 = ok exts
    ∧ (packHeaderExtensions exts).2.length % 4 = 0 ∧ (packHeaderExtensions exts).2 ≠ []
    ∧ (packHeaderExtensions exts).2.length ≤ 257 * exts.length + 3
    ∧ (packHeaderExtensions exts).1 < 65536 := by
  unfold packHeaderExtensions
  rw [if_neg (by simpa using hne)]
  split
  · obtain ⟨p1, p2, p3⟩ := padded_spec serTwoByte exts hne fun x hx => by
      have := (h x hx).2.2; simp [serTwoByte]; omega
    exact ⟨unpackTwoByte_ser exts (fun x hx => (h x hx).1) _, p1, p2, p3, (by decide : 0x1000 < 65536)⟩
  · next hall =>
    have hone := (any_needsTwoByte_eq_false exts).mp (by simpa using hall)
    obtain ⟨p1, p2, p3⟩ := padded_spec serOneByte exts hne fun x hx => by
      have := hone x hx; simp [serOneByte]; omega
    exact ⟨unpackOneByte_ser exts (fun x hx => ⟨(h x hx).1, hone x hx⟩) _, p1, p2, p3, (by decide : 0xBEDE < 65536)⟩

theorem getFold_append (ids : ExtIds) (l1 l2 : List (Nat × Bytes)) : ∀ vals,
    getFold ids vals (l1 ++ l2) = (getFold ids vals l1).bind fun v => getFold ids v l2 := by
  induction l1 with
  | nil => intro vals; rfl
  | cons x l1 ih =>
    intro vals
    simp only [List.cons_append, getFold]
    cases getStep ids vals x <;> simp [Outcome.bind, ih]

theorem ExtIds.WF.fields {ids : ExtIds} (h : ids.WF) :
    (∀ j ∈ ids.mid, 0 < j ∧ j < 256) ∧ (∀ j ∈ ids.repairedRtpStreamId, 0 < j ∧ j < 256) ∧
    (∀ j ∈ ids.rtpStreamId, 0 < j ∧ j < 256) ∧ (∀ j ∈ ids.absSendTime, 0 < j ∧ j < 256) ∧
    (∀ j ∈ ids.transmissionOffset, 0 < j ∧ j < 256) ∧ (∀ j ∈ ids.audioLevel, 0 < j ∧ j < 256) ∧
    (∀ j ∈ ids.transportSequenceNumber, 0 < j ∧ j < 256) := by
  simpa only [ExtIds.toList, List.mem_cons, List.not_mem_nil, or_false, forall_eq_or_imp, forall_eq] using h.1

theorem keep_of_configured {α} {i : Option Nat} (o : Option α) (hi : i.isSome) (hj : ∀ j ∈ i, 0 < j ∧ j < 256) :
    keep i o = o := by
  cases i with
  | none => cases hi
  | some j => have := hj j rfl; simp only [keep]; rw [if_neg (by omega)]

/-- The distinctness half of `ExtIds.WF` as `getStep` uses it: the id of the field at index `k` of `ExtIds.toList`
(mid 0, repairedRtpStreamId 1, rtpStreamId 2, absSendTime 3, transmissionOffset 4, audioLevel 5,
transportSequenceNumber 6 — the order in which `getStep` tests them) is not the id of a field tested before it. -/
theorem ExtIds.WF.earlier {ids : ExtIds} (h : ids.WF) (k : Nat) {i : Nat} (hk : ids.toList[k]? = some (some i)) :
    ∀ o ∈ ids.toList.take k, o ≠ some i := by
  intro o ho
  have hp := h.2
  rw [← List.take_append_drop k ids.toList, List.pairwise_append] at hp
  have hmem : some i ∈ ids.toList.drop k := by
    rw [List.mem_iff_getElem?]
    exact ⟨0, by rw [List.getElem?_drop]; exact hk⟩
  rcases hp.2.2 o ho (some i) hmem with h | h | h
  · simp [h]
  · cases h
  · exact h

/-- One optional extension value through `emit` and back through `getFold`, given what `getStep` does with
its entry: the value is kept iff its id is configured and non-zero. -/
theorem getFold_emit {α} (ids : ExtIds) (id : Option Nat) (v : Option α) (enc : α → Bytes)
    (set : HeaderExtensions → Option α → HeaderExtensions) (vals : HeaderExtensions) (rest : List (Nat × Bytes))
    (hnone : set vals none = vals)
    (hstep : ∀ i a, id = some i → i ≠ 0 → v = some a → getStep ids vals (i, enc a) = ok (set vals (some a))) :
    getFold ids vals (emit id v enc ++ rest) = getFold ids (set vals (keep id v)) rest := by
  cases v with
  | none => cases id <;> simp [emit, keep, hnone]
  | some a =>
    cases id with
    | none => simp [emit, keep, hnone]
    | some i =>
      by_cases h0 : i = 0
      · simp [emit, keep, h0, hnone]
      · simp [emit, keep, h0, getFold, hstep i a rfl h0 rfl]

theorem audio_byte (b : Bool) (n : Nat) (h : n < 128) :
    (((if b then 0x80 else 0) ||| (n % 128)) / 128 % 2 == 1) = b
    ∧ ((if b then 0x80 else 0) ||| (n % 128)) % 128 = n := by
  rw [Nat.mod_eq_of_lt h]
  cases b
  · simp only [Bool.false_eq_true, ↓reduceIte, Nat.zero_or]
    rw [Nat.div_eq_of_lt h, Nat.mod_eq_of_lt h]
    exact ⟨rfl, rfl⟩
  · obtain ⟨d1, d2⟩ := mul_add_div_mod 1 128 n h
    simp only [↓reduceIte]
    rw [show (0x80 : Nat) ||| n = 1 * 128 + n from or_eq_add 1 n 7 h, d1, d2]
    exact ⟨rfl, rfl⟩

theorem getStep_mid {ids : ExtIds} (vals : HeaderExtensions) {i : Nat} {a : Bytes} (hi : ids.mid = some i)
    (ha : validUtf8 a = true) : getStep ids vals (i, a) = ok { vals with mid := some a } := by
  simp [getStep, hi, ha]

section
variable {ids : ExtIds} (hids : ids.WF) (vals : HeaderExtensions) {i : Nat}
include hids

theorem getStep_rrid {a : Bytes} (hi : ids.repairedRtpStreamId = some i) (ha : validAscii a = true) :
    getStep ids vals (i, a) = ok { vals with repairedRtpStreamId := some a } := by
  have := hids.earlier 1 (congrArg some hi)
  simp [ExtIds.toList] at this
  simp [getStep, hi, this, ha]

theorem getStep_rid {a : Bytes} (hi : ids.rtpStreamId = some i) (ha : validAscii a = true) :
    getStep ids vals (i, a) = ok { vals with rtpStreamId := some a } := by
  have := hids.earlier 2 (congrArg some hi)
  simp [ExtIds.toList] at this
  simp [getStep, hi, this, ha]

theorem getStep_abs {a : Nat} (hi : ids.absSendTime = some i) (ha : a < 16777216) :
    getStep ids vals (i, u24be a) = ok { vals with absSendTime := some a } := by
  have := hids.earlier 3 (congrArg some hi)
  simp [ExtIds.toList] at this
  simp [getStep, hi, this, u24be, u24_recombine a ha]

theorem getStep_toff {a : Int} (hi : ids.transmissionOffset = some i) (ha : -8388608 ≤ a ∧ a < 8388608) :
    getStep ids vals (i, encOffset a) = ok { vals with transmissionOffset := some a } := by
  have := hids.earlier 4 (congrArg some hi)
  simp [ExtIds.toList] at this
  simp [getStep, hi, this, encOffset, u24be, s24_u24be a ha.1 ha.2]

theorem getStep_al {a : Bool × Nat} (hi : ids.audioLevel = some i) (ha : a.2 < 128) :
    getStep ids vals (i, encAudio a) = ok { vals with audioLevel := some a } := by
  have := hids.earlier 5 (congrArg some hi)
  simp [ExtIds.toList] at this
  obtain ⟨hb, hn⟩ := audio_byte a.1 a.2 ha
  simp [getStep, hi, this, encAudio, hb, hn]

theorem getStep_tsn {a : Nat} (hi : ids.transportSequenceNumber = some i) (ha : a < 65536) :
    getStep ids vals (i, u16be a) = ok { vals with transportSequenceNumber := some a } := by
  have := hids.earlier 6 (congrArg some hi)
  simp [ExtIds.toList] at this
  simp [getStep, hi, this, u16be, u16_recombine a ha]
end

theorem getFold_extList (ids : ExtIds) (hids : ids.WF) (v : HeaderExtensions) (hv : v.WF) :
    getFold ids {} (extList ids v) = ok (restrict ids v) := by
  obtain ⟨h1, h2, h3, h4, h5, h6, h7⟩ := hv
  rw [← List.append_nil (extList ids v), extList]
  simp only [List.append_assoc]
  rw [getFold_emit ids _ _ id (fun e o => { e with mid := o }) _ _ rfl
      fun i a hi _ ha => getStep_mid _ hi (h3 a ha).2.1,
    getFold_emit ids _ _ id (fun e o => { e with repairedRtpStreamId := o }) _ _ rfl
      fun i a hi _ ha => getStep_rrid hids _ hi (h4 a ha).2.1,
    getFold_emit ids _ _ id (fun e o => { e with rtpStreamId := o }) _ _ rfl
      fun i a hi _ ha => getStep_rid hids _ hi (h5 a ha).2.1,
    getFold_emit ids _ _ _ (fun e o => { e with absSendTime := o }) _ _ rfl
      fun i a hi _ ha => getStep_abs hids _ hi (h1 a ha),
    getFold_emit ids _ _ _ (fun e o => { e with transmissionOffset := o }) _ _ rfl
      fun i a hi _ ha => getStep_toff hids _ hi (h6 a ha),
    getFold_emit ids _ _ _ (fun e o => { e with audioLevel := o }) _ _ rfl
      fun i a hi _ ha => getStep_al hids _ hi (h2 a ha),
    getFold_emit ids _ _ _ (fun e o => { e with transportSequenceNumber := o }) _ _ rfl
      fun i a hi _ ha => getStep_tsn hids _ hi (h7 a ha)]
  rfl

theorem emit_wf {α} (i : Option Nat) (o : Option α) (enc : α → Bytes) (hi : ∀ j ∈ i, 0 < j ∧ j < 256)
    (ho : ∀ a ∈ o, (enc a).length < 256) : (∀ x ∈ emit i o enc, EntryOk x) ∧ (emit i o enc).length ≤ 1 := by
  cases o with
  | none => cases i <;> simp [emit]
  | some a =>
    cases i with
    | none => simp [emit]
    | some j =>
      have := hi j rfl; have := ho a rfl
      by_cases h0 : j = 0 <;> simp [emit, h0, EntryOk]
      omega

theorem entriesOk_append {l m : List (Nat × Bytes)} {a b : Nat} (hl : (∀ x ∈ l, EntryOk x) ∧ l.length ≤ a)
    (hm : (∀ x ∈ m, EntryOk x) ∧ m.length ≤ b) : (∀ x ∈ l ++ m, EntryOk x) ∧ (l ++ m).length ≤ a + b :=
  ⟨fun x hx => (List.mem_append.mp hx).elim (hl.1 x) (hm.1 x), by rw [List.length_append]; omega⟩

theorem extList_wf (ids : ExtIds) (hids : ids.WF) (v : HeaderExtensions) (hv : v.WF) :
    (∀ x ∈ extList ids v, EntryOk x) ∧ (extList ids v).length ≤ 7 := by
  obtain ⟨h1, h2, h3, h4, h5, h6, h7⟩ := hv
  obtain ⟨r1, r2, r3, r4, r5, r6, r7⟩ := hids.fields
  exact entriesOk_append (entriesOk_append (entriesOk_append (entriesOk_append (entriesOk_append (entriesOk_append
    (emit_wf _ _ id r1 fun a ha => (h3 a ha).2.2) (emit_wf _ _ id r2 fun a ha => (h4 a ha).2.2))
    (emit_wf _ _ id r3 fun a ha => (h5 a ha).2.2)) (emit_wf _ _ u24be r4 fun _ _ => (by decide : 3 < 256)))
    (emit_wf _ _ encOffset r5 fun _ _ => (by decide : 3 < 256))) (emit_wf _ _ encAudio r6 fun _ _ => (by decide : 1 < 256)))
    (emit_wf _ _ u16be r7 fun _ _ => (by decide : 2 < 256))

theorem hdr_byte_fields : ∀ (pd x : Bool) (cc : Fin 16),
    let b := (2 <<< 6) ||| (b2n pd <<< 5) ||| (b2n x <<< 4) ||| cc.val
    b / 64 = 2 ∧ b % 16 = cc.val ∧ (b / 16 % 2 == 1) = x ∧ (b / 32 % 2 == 1) = pd := by
  decide

theorem parseExtBlock_ser (ids : ExtIds) (hids : ids.WF) (v : HeaderExtensions) (hv : v.WF) (tail : Bytes) :
    parseExtBlock ids (!(extSet ids v).2.isEmpty)
      ((if (!(extSet ids v).2.isEmpty) = true then
          u16be (extSet ids v).1 ++ u16be ((extSet ids v).2.length >>> 2) ++ (extSet ids v).2 else []) ++ tail)
      = ok (restrict ids v, tail) := by
  have hfold := getFold_extList ids hids v hv
  obtain ⟨hwf, hlen7⟩ := extList_wf ids hids v hv
  unfold extSet
  by_cases hne : extList ids v = []
  · rw [hne] at hfold ⊢
    simp only [packHeaderExtensions, List.isEmpty_nil, ↓reduceIte, Bool.not_true, Bool.false_eq_true,
      parseExtBlock, List.nil_append]
    simp only [getFold] at hfold
    injection hfold with hfold
    rw [hfold]
  · obtain ⟨h1, h2, h3, h4, h5⟩ := unpackHeaderExtensions_pack (extList ids v) hne hwf
    generalize packHeaderExtensions (extList ids v) = pk at *
    obtain ⟨prof, val⟩ := pk
    simp only at h1 h2 h3 h4 h5 ⊢
    have hemp : val.isEmpty = false := by cases val with | nil => exact absurd rfl h3 | cons => rfl
    simp only [hemp, Bool.not_false, ↓reduceIte, parseExtBlock, u16be, List.cons_append, List.nil_append,
      Nat.shiftRight_eq_div_pow]
    have e1 : (val.length / 2 ^ 2 / 256 % 256 * 256 + val.length / 2 ^ 2 % 256) * 4 = val.length := by
      rw [u16_recombine _ (Nat.lt_of_le_of_lt (Nat.div_le_self _ _) (by omega))]
      exact Nat.div_mul_cancel (Nat.dvd_of_mod_eq_zero h2)
    rw [e1, u16_recombine prof h5, if_neg (by rw [List.length_append]; omega), List.take_left, List.drop_left]
    unfold extGet
    rw [h1]; simp only [Outcome.ok_bind]
    rw [hfold]; rfl

theorem splitPadding_ser (n last : Nat) (payload pad : Bytes) (hpad : 0 < n → pad.length = n - 1)
    (hlast : 0 < n → last = n) :
    splitPadding (decide (n > 0)) last
      (payload ++ (if decide (n > 0) = true then pad ++ [n] else [])) = ok (payload, n) := by
  unfold splitPadding
  by_cases h : n > 0
  · have := hpad h
    rw [hlast h]
    simp only [h, decide_true, ↓reduceIte, List.length_append, List.length_cons, List.length_nil]
    rw [if_neg (by omega)]
    have : payload.length + (pad.length + (0 + 1)) - n = payload.length := by omega
    rw [this, List.take_left]
  · have : n = 0 := by omega
    subst this; simp

end Aiortc.Rtp
