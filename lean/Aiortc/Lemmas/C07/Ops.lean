import Aiortc.Model.Rtp.Ops
/-! Helper lemmas about the history semantics `Model/Rtp/Ops.lean` (C07, `Props/C07Ops.lean`). -/
namespace Aiortc.Lemmas.C07.Ops
open Aiortc Aiortc.Rtp Aiortc.Rtp.Ops Aiortc.Outcome

theorem upd_same {α} (f : Nat → α) (i : Nat) (a : α) : upd f i a i = a := by simp [upd]

theorem run_append_singleton (pool : Pool) (ops : List Op) (o : Op) :
    run pool (ops ++ [o]) = run pool ops ++ [(step (exec pool ops) o).2] := by
  induction ops generalizing pool with
  | nil => simp [run, exec]
  | cons x xs ih => simp [run, exec, ih]

theorem configure_keeps_of {α} (g : ExtIds → α) (l : List (Uri × Nat))
    (h : ∀ e ∈ l, ∀ a, g (configure1 a e) = g a) (ids : ExtIds) : g (configure ids l) = g ids := by
  induction l generalizing ids with
  | nil => rfl
  | cons e l ih =>
    rw [configure, List.foldl_cons, ← configure, ih (fun x hx => h x (by simp [hx])), h e (by simp)]

def Quiet (m b : Nat) : Op → Prop
  | .mnew m' => m' ≠ m
  | .cfg m' _ => m' ≠ m
  | .ser _ _ b' => b' ≠ b
  | .raw b' _ => b' ≠ b
  | _ => True

theorem step_quiet (pool : Pool) (m b : Nat) (op : Op) (h : Quiet m b op) :
    (step pool op).1.maps m = pool.maps m ∧ (step pool op).1.regs b = pool.regs b := by
  cases op with
  | mnew m' => simp only [Quiet] at h; simp [step, upd, Ne.symm h]
  | cfg m' l => simp only [Quiet] at h; simp [step, upd, Ne.symm h]
  | put o v => simp [step]
  | ser o m' b' =>
    simp only [Quiet] at h
    simp only [step]
    cases (pool.objs o).bind (serVal (pool.maps m')) <;> simp [upd, Ne.symm h]
  | raw b' d => simp only [Quiet] at h; simp [step, upd, Ne.symm h]
  | parseRtp b' m' o =>
    simp only [step]
    cases parse (pool.maps m') (pool.regs b') <;> simp
  | parseRtcp b' o =>
    simp only [step]
    cases parseCompound (pool.regs b') <;> simp
  | mset m' e => simp [step]
  | mget m' p d => simp [step]

theorem exec_quiet (pool : Pool) (m b : Nat) (ops : List Op) (h : ∀ op ∈ ops, Quiet m b op) :
    (exec pool ops).maps m = pool.maps m ∧ (exec pool ops).regs b = pool.regs b := by
  induction ops generalizing pool with
  | nil => exact ⟨rfl, rfl⟩
  | cons x xs ih =>
    have hx := step_quiet pool m b x (h x (by simp))
    have := ih (step pool x).1 (fun op hop => h op (by simp [hop]))
    simp only [exec]
    exact ⟨this.1.trans hx.1, this.2.trans hx.2⟩

end Aiortc.Lemmas.C07.Ops
