/-! Facts about `List` that mention nothing of the models. They live in the `List` namespace and are used by their full names. -/
namespace List

theorem snoc_induction {α} {P : List α → Prop} (nil : P []) (snoc : ∀ l b, P l → P (l ++ [b])) (l : List α) :
    P l := by
  rw [← List.reverse_reverse l]
  induction l.reverse with
  | nil => exact nil
  | cons b r ih => rw [List.reverse_cons]; exact snoc _ _ ih

theorem forall_mem_snoc {α} {P : α → Prop} {l : List α} {a : α} (hl : ∀ x ∈ l, P x) (ha : P a) :
    ∀ x ∈ l ++ [a], P x :=
  List.forall_mem_append.2 ⟨hl, List.forall_mem_singleton.2 ha⟩

theorem not_mem_of_nodup_append {α} {l r : List α} {a : α} (h : (l ++ a :: r).Nodup) : a ∉ l :=
  fun hm => (List.nodup_append.mp h).2.2 a hm a (by simp) rfl

theorem nodup_snoc {α} {l : List α} {a : α} (h : l.Nodup) (ha : a ∉ l) : (l ++ [a]).Nodup :=
  List.nodup_append.mpr ⟨h, by simp, by intro x hx b hb; simp at hb; subst hb; intro e; subst e; exact ha hx⟩

theorem mem_append_cons_iff {α} (x c : α) (pre post : List α) : x ∈ pre ++ c :: post ↔ x = c ∨ x ∈ pre ++ post := by
  simp only [List.mem_append, List.mem_cons]; exact or_left_comm

theorem nodup_insert_mid {α} {pre post : List α} {c : α} (h : (pre ++ post).Nodup) (hc : c ∉ pre ++ post) :
    (pre ++ c :: post).Nodup :=
  (List.perm_middle.nodup_iff).2 (List.nodup_cons.2 ⟨hc, h⟩)

theorem dropWhile_head_false {α} (p : α → Bool) (l : List α) (h : ∀ a, l.head? = some a → p a = false) :
    l.dropWhile p = l := by
  cases l with
  | nil => rfl
  | cons a r => simp [List.dropWhile, h a (by simp)]

theorem dropWhile_eq_drop {α} (p : α → Bool) : ∀ l : List α, l.dropWhile p = l.drop (l.takeWhile p).length
  | [] => rfl
  | a :: l => by
    cases h : p a
    · rw [dropWhile_cons_of_neg (by simp [h]), takeWhile_cons_of_neg (by simp [h])]; rfl
    · rw [dropWhile_cons_of_pos h, takeWhile_cons_of_pos h, dropWhile_eq_drop p l]; rfl

theorem takeWhile_eq_nil_of_all_false {α} {p : α → Bool} {l : List α} (h : ∀ a ∈ l, p a = false) :
    l.takeWhile p = [] ∧ l.dropWhile p = l := by
  cases l with
  | nil => exact ⟨rfl, rfl⟩
  | cons a r => simp [h a List.mem_cons_self]

theorem countP_eq_countP_iff {α} {p q : α → Bool} (hpq : ∀ x, p x = true → q x = true) (l : List α) :
    l.countP p = l.countP q ↔ ∀ x ∈ l, q x = true → p x = true := by
  induction l with
  | nil => simp
  | cons a l ih =>
    have hle := List.countP_mono_left (l := l) (fun x _ => hpq x)
    simp only [List.countP_cons, List.mem_cons, forall_eq_or_imp, ← ih]
    cases hq : q a
    · have hp : p a = false := Bool.eq_false_iff.2 fun h => by simp [hpq a h] at hq
      simp [hp]
    · cases hp : p a <;> simp <;> omega

theorem count_map_le_range {β : Type} [DecidableEq β] (f : Nat → β) (m : β) (n : Nat) (dl : List Nat)
    (hnd : dl.Nodup) (hlt : ∀ j ∈ dl, j < n) : (dl.map f).count m ≤ ((List.range n).map f).count m := by
  simp only [List.count_eq_countP, List.countP_eq_length_filter, List.filter_map, List.length_map]
  exact List.Nodup.length_le_of_subset (hnd.filter _) fun x hx =>
    List.mem_filter.2 ⟨List.mem_range.2 (hlt x (List.mem_filter.1 hx).1), (List.mem_filter.1 hx).2⟩

theorem filter_erase_find {α : Type} [BEq α] [LawfulBEq α] (p : α → Bool) (l : List α) (r : α)
    (h : l.find? p = some r) : (l.erase r).filter p = (l.filter p).tail := by
  obtain ⟨hpr, as, bs, rfl, has⟩ := List.find?_eq_some_iff_append.1 h
  have hnot : r ∉ as := fun hm => by simpa [hpr] using has r hm
  have hfil : as.filter p = [] := List.filter_eq_nil_iff.2 fun a ha => by simpa using has a ha
  rw [List.erase_append_right _ hnot, List.erase_cons_head, List.filter_append, List.filter_append, hfil,
    List.filter_cons, if_pos hpr]
  rfl

theorem find_some_of_mem {α} {p : α → Bool} {l : List α} {x : α} (hx : x ∈ l) (hp : p x = true) : ∃ y, l.find? p = some y := by
  cases h : l.find? p with
  | some y => exact ⟨y, rfl⟩
  | none => have := List.find?_eq_none.mp h x hx; simp [hp] at this

theorem sublist_flatten {α} {L1 L2 : List (List α)} (h : L1.Sublist L2) : L1.flatten.Sublist L2.flatten := by
  induction h with
  | slnil => simp
  | cons a _ ih => simp only [List.flatten_cons]; exact ih.trans (List.sublist_append_right _ _)
  | cons_cons a _ ih => simp only [List.flatten_cons]; exact List.Sublist.append_left ih a

theorem head?_flatten_of_ne_nil {α} (L : List (List α)) (h : ∀ g ∈ L, g ≠ []) :
    L.flatten.head? = L.head?.bind List.head? := by
  cases L with
  | nil => rfl
  | cons g L =>
    cases g with
    | nil => exact absurd rfl (h [] (by simp))
    | cons a g => simp

theorem getElem?_append_cons_length {α} (a : List α) (c : α) (b : List α) : (a ++ c :: b)[a.length]? = some c := by
  simp

theorem mem_takeWhile_true {α} (p : α → Bool) (l : List α) : ∀ c ∈ l.takeWhile p, p c = true := by
  induction l with
  | nil => simp
  | cons a l ih =>
    intro c hc
    rw [List.takeWhile_cons] at hc
    split at hc
    · rcases List.mem_cons.1 hc with rfl | hc
      · assumption
      · exact ih c hc
    · simp at hc

theorem getElem?_concat_eq_some {α : Type} (l : List α) (a b : α) (j : Nat) :
    (l ++ [a])[j]? = some b ↔ l[j]? = some b ∨ (j = l.length ∧ a = b) := by
  rcases Nat.lt_trichotomy j l.length with h | h | h
  · rw [List.getElem?_append_left h]
    exact ⟨Or.inl, fun h' => h'.elim id fun h' => absurd h'.1 (Nat.ne_of_lt h)⟩
  · subst h; simp
  · rw [List.getElem?_eq_none (by simp; omega), List.getElem?_eq_none (by omega)]
    exact ⟨nofun, fun h' => h'.elim nofun fun h' => absurd h'.1 (Nat.ne_of_gt h)⟩

theorem exists_getElem?_of_lt {α} {l : List α} {i : Nat} (h : i < l.length) : ∃ c, l[i]? = some c :=
  ⟨l[i], List.getElem?_eq_getElem h⟩

theorem length_flatMap_le {α β} (f : α → List β) (c : Nat) (l : List α) (h : ∀ x ∈ l, (f x).length ≤ c) :
    (l.flatMap f).length ≤ c * l.length := by
  induction l with
  | nil => simp
  | cons x l ih =>
    have := h x (by simp)
    have := ih fun y hy => h y (by simp [hy])
    simp only [List.flatMap_cons, List.length_append, List.length_cons, Nat.mul_add]
    omega

def Adjacent {α} (R : α → α → Prop) : List α → Prop
  | c :: d :: l => R c d ∧ Adjacent R (d :: l)
  | _ => True

theorem adjacent_cons {α} {R : α → α → Prop} {c : α} {l : List α} :
    Adjacent R (c :: l) ↔ (∀ d, l.head? = some d → R c d) ∧ Adjacent R l := by
  cases l with
  | nil => exact ⟨fun _ => ⟨fun _ h => (nomatch h), trivial⟩, fun _ => trivial⟩
  | cons d ds => exact ⟨fun h => ⟨fun _ h' => by cases h'; exact h.1, h.2⟩, fun h => ⟨h.1 d rfl, h.2⟩⟩

theorem adjacent_append {α} {R : α → α → Prop} {a b : List α} :
    Adjacent R (a ++ b) ↔ Adjacent R a ∧ Adjacent R b ∧ ∀ x y, a.getLast? = some x → b.head? = some y → R x y := by
  induction a with
  | nil => exact ⟨fun h => ⟨trivial, h, fun _ _ hx => (nomatch hx)⟩, fun h => h.2.1⟩
  | cons c cs ih =>
    rw [List.cons_append, adjacent_cons, adjacent_cons, ih]
    cases cs with
    | nil => exact ⟨fun h => ⟨⟨fun _ h' => (nomatch h'), trivial⟩, h.2.2.1, fun x y hx hy => by cases hx; exact h.1 y hy⟩,
        fun h => ⟨fun d hd => h.2.2 c d rfl hd, trivial, h.2.1, fun _ _ hx => (nomatch hx)⟩⟩
    | cons c2 cs' =>
      rw [List.getLast?_cons_cons]
      exact ⟨fun h => ⟨⟨h.1, h.2.1⟩, h.2.2⟩, fun h => ⟨h.1.1, h.1.2, h.2⟩⟩

theorem Adjacent.mono {α} {R S : α → α → Prop} (h : ∀ a b, R a b → S a b) : ∀ {l : List α}, Adjacent R l → Adjacent S l
  | [], _ => trivial
  | [_], _ => trivial
  | _ :: _ :: _, hr => ⟨h _ _ hr.1, Adjacent.mono h hr.2⟩

theorem Adjacent.reverse {α} {R : α → α → Prop} : ∀ {l : List α}, Adjacent R l → Adjacent (fun a b => R b a) l.reverse
  | [], _ => trivial
  | c :: l, h => by
    rw [adjacent_cons] at h
    rw [List.reverse_cons, adjacent_append]
    refine ⟨Adjacent.reverse h.2, trivial, fun x y hx hy => ?_⟩
    cases hy
    exact h.1 x (by rwa [List.getLast?_reverse] at hx)

theorem split_at_idx {α} (l : List α) (i : Nat) (c : α) (h : l[i]? = some c) :
    l = l.take i ++ c :: l.drop (i + 1) := by
  obtain ⟨hlt, rfl⟩ := List.getElem?_eq_some_iff.mp h
  rw [← List.drop_eq_getElem_cons hlt, List.take_append_drop]

theorem modify_split {α} (l : List α) (i : Nat) (c : α) (f : α → α) (h : l[i]? = some c) :
    l.modify i f = l.take i ++ f c :: l.drop (i + 1) := by
  obtain ⟨hlt, rfl⟩ := List.getElem?_eq_some_iff.mp h
  exact List.modify_eq_take_cons_drop hlt

theorem modify_none {α} (l : List α) (i : Nat) (f : α → α) (h : l[i]? = none) : l.modify i f = l :=
  List.modify_eq_self (List.getElem?_eq_none_iff.mp h)

theorem mem_modify {α} {l : List α} {i : Nat} {f : α → α} {d : α} (h : d ∈ l.modify i f) :
    d ∈ l ∨ ∃ c, l[i]? = some c ∧ d = f c := by
  cases hc : l[i]? with
  | none => rw [modify_none l i f hc] at h; exact Or.inl h
  | some c =>
    rw [modify_split l i c f hc] at h
    simp only [List.mem_append, List.mem_cons] at h
    rcases h with h | rfl | h
    · exact Or.inl (List.mem_of_mem_take h)
    · exact Or.inr ⟨c, rfl, rfl⟩
    · exact Or.inl (List.mem_of_mem_drop h)

theorem modify_at_length {α} (pre : List α) (c : α) (rest : List α) (f : α → α) :
    (pre ++ c :: rest).modify pre.length f = pre ++ f c :: rest := by
  induction pre with
  | nil => simp
  | cons p ps ih => simp [ih]

theorem take_drop_length {α} (l : List α) (k : Nat) : (l.take k).length + (l.drop k).length = l.length := by
  rw [← List.length_append, List.take_append_drop]

theorem contains_map_inj {P : Int → Prop} {f : Int → Int}
    (hf : ∀ a b, P a → P b → (f a = f b ↔ a = b)) (a : Int) (l : List Int) (ha : P a)
    (hl : ∀ x ∈ l, P x) : (l.map f).contains (f a) = l.contains a := by
  induction l with
  | nil => rfl
  | cons x xs ih =>
    obtain ⟨hx, hxs⟩ := List.forall_mem_cons.1 hl
    simp only [List.map_cons, List.contains_cons, ih hxs]
    congr 1
    rw [Bool.eq_iff_iff, beq_iff_eq, beq_iff_eq]
    exact hf a x ha hx

theorem getLast?_getD_map {α β} (f : α → β) (l : List α) (c : α) :
    (l.map f).getLast?.getD (f c) = f (l.getLast?.getD c) := by
  rw [List.getLast?_map]; cases l.getLast? <;> rfl

theorem filter_map_shift {α} (f : α → α) (p q : α → Bool) (l : List α)
    (h : ∀ x ∈ l, q (f x) = p x) : (l.map f).filter q = (l.filter p).map f := by
  induction l with
  | nil => rfl
  | cons x xs ih =>
    obtain ⟨hx, hxs⟩ := List.forall_mem_cons.1 h
    have ih := ih hxs
    simp only [List.map_cons, List.filter_cons, hx, ih]
    split <;> simp

theorem map_modify_comm {α β} (g : α → β) (f : α → α) (f' : β → β) (h : ∀ x, f' (g x) = g (f x))
    (l : List α) (i : Nat) : (l.map g).modify i f' = (l.modify i f).map g := by
  induction l generalizing i with
  | nil => simp
  | cons x xs ih =>
    cases i with
    | zero => simp [h]
    | succ n => simp [ih]

theorem any_of_const {α} (f : α → Bool) (l : List α) (b : Bool) (h : ∀ a ∈ l, f a = b) :
    ∀ a ∈ l, f a = l.any f := by
  intro a ha
  cases b with
  | true => rw [h a ha]; symm; exact List.any_eq_true.mpr ⟨a, ha, h a ha⟩
  | false =>
    rw [h a ha]; symm
    rw [List.any_eq_false]
    intro x hx; rw [h x hx]; simp

theorem forall_set {α} {P : Nat → α → Prop} {l : List α} {i : Nat} {x : α}
    (h : ∀ j a, l[j]? = some a → P j a) (hx : P i x) : ∀ j a, (l.set i x)[j]? = some a → P j a := by
  intro j a hj
  rw [List.getElem?_set] at hj
  grind

theorem forall_append {α} {P : Nat → α → Prop} {l : List α} {x : α}
    (h : ∀ j a, l[j]? = some a → P j a) (hx : P l.length x) : ∀ j a, (l ++ [x])[j]? = some a → P j a := by
  intro j a hj
  rw [List.getElem?_append] at hj
  grind

theorem forall_set_self {α} {P : α → Prop} {l : List α} {i : Nat} {b : α} (hb : P b) :
    ∀ x, (l.set i b)[i]? = some x → P x := by
  grind

theorem exists_set_iff {α} {l : List α} {k : Nat} {t t' : α} (ht : l[k]? = some t) (j : Nat) (P : α → Prop) :
    (∃ x, (l.set k t')[j]? = some x ∧ P x) ↔ (if j = k then P t' else ∃ x, l[j]? = some x ∧ P x) := by
  by_cases hjk : j = k
  · subst hjk
    simp [List.getElem?_set_self (List.getElem?_eq_some_iff.mp ht).1]
  · have : (l.set k t')[j]? = l[j]? := by rw [List.getElem?_set]; simp [Ne.symm hjk]
    simp [hjk, this]

theorem exists_append_iff {α} {l : List α} {a : α} (j : Nat) (P : α → Prop) :
    (∃ x, (l ++ [a])[j]? = some x ∧ P x) ↔ (∃ x, l[j]? = some x ∧ P x) ∨ (j = l.length ∧ P a) := by
  rcases Nat.lt_trichotomy j l.length with h | rfl | h
  · simp [List.getElem?_append_left h, Nat.ne_of_lt h]
  · simp
  · simp [List.getElem?_eq_none (show (l ++ [a]).length ≤ j by simp; omega), List.getElem?_eq_none (Nat.le_of_lt h),
      Nat.ne_of_gt h]

theorem any_set {α} {p : α → Bool} {l : List α} {i : Nat} {a b : α} (h : l[i]? = some a) (hp : p b = p a) :
    (l.set i b).any p = l.any p := by
  induction l generalizing i with
  | nil => rfl
  | cons x xs ih =>
    cases i with
    | zero => cases h; simp [hp]
    | succ n => simp [ih (i := n) (by simpa using h)]

theorem tail_len {α} (l : List α) (h : l ≠ []) : l.tail.length + 1 = l.length := by
  cases l with
  | nil => exact absurd rfl h
  | cons a rest => simp

theorem take_succ_drop {α} (l : List α) (sp pos : Nat) (c : α) (h : l[pos]? = some c)
    (hsp : sp ≤ pos) : (l.take (pos + 1)).drop sp = (l.take pos).drop sp ++ [c] := by
  have hlen := (List.getElem?_eq_some_iff.1 h).1
  rw [List.take_add_one, h]
  simp only [Option.toList_some]
  rw [List.drop_append_of_le_length]
  rw [List.length_take]; omega

theorem split_at_run {α} (l : List α) (sp pos : Nat) (hsp : sp ≤ pos) :
    l = l.take sp ++ (l.take (pos + 1)).drop sp ++ l.drop (pos + 1) := by
  have h1 : l.take sp = (l.take (pos + 1)).take sp := by
    rw [List.take_take]; congr 1; omega
  rw [h1, List.take_append_drop, List.take_append_drop]

end List
