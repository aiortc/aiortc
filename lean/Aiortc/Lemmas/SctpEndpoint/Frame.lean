import Aiortc.Lemmas.SctpEndpoint.Wp
/-!
# The part of the endpoint automaton that does not touch data channel objects

The specifications of the data channel lifecycle are all `Framed` (`SctpEndpoint/Wp.lean`), so what is proved here for an
arbitrary framed `S` (timers, transmission, sending SACKs and RE-CONFIG requests, stream bookkeeping) is proved for all
of them at once; `SctpEndpoint/Handlers.lean` continues with the handlers that call the data channel operations.
`transmit` and `transmitReconfig` write back a state they read, which the compositional rules cannot judge for a
specification with a step relation: these two are run symbolically.
-/
namespace Aiortc.Sctp
open Aiortc.Gen Aiortc.Sctp.Wire

variable {S : Spec} [Framed S] {α : Type}

@[handler] theorem pres_queueTask (t : Task) (n : String) : Pres S (queueTask t n) := by
  unfold queueTask; pres

@[handler] theorem pres_sendChunk (c : Chunk) : Pres S (sendChunk c) := by
  unfold sendChunk; pres

@[handler] theorem pres_playTx (evs : List TxEv) : Pres S (playTx evs) := by
  unfold playTx; pres

@[handler] theorem pres_transmit : Pres S transmit := by
  constructor; intro s hI
  unfold transmit
  wp_head
  exact WP.framed_then (pres_playTx _) hI (by frame_rel)

@[handler] theorem pres_sendData (sid ppid : Nat) (data : Bytes) (expiry maxRtx : Option Int) (ordered : Bool) :
    Pres S (sendData sid ppid data expiry maxRtx ordered) := by
  unfold sendData; pres

@[handler] theorem pres_t1Cancel : Pres S t1Cancel := by unfold t1Cancel; pres
@[handler] theorem pres_t2Cancel : Pres S t2Cancel := by unfold t2Cancel; pres
@[handler] theorem pres_t3Cancel : Pres S t3Cancel := by unfold t3Cancel; pres
@[handler] theorem pres_rcCancel : Pres S rcCancel := by unfold rcCancel; pres
@[handler] theorem pres_rcStart : Pres S rcStart := by unfold rcStart; pres
@[handler] theorem pres_t1Start (c : Chunk) : Pres S (t1Start c) := by unfold t1Start; pres
@[handler] theorem pres_t2Start (c : Chunk) : Pres S (t2Start c) := by unfold t2Start; pres

@[handler] theorem pres_transmitReconfig : Pres S transmitReconfig := by
  constructor; intro s hI
  unfold transmitReconfig
  wp_head
  wp_split
  · wp_split
    · wp_head; exact Framed.done hI (by frame_rel)
    · wp_head
      wp_split
      · exact WP.framed_then (by pres) hI (by frame_rel)
      all_goals exact Framed.done hI (by frame_rel)
  · wp_head; exact Framed.done hI (by frame_rel)

@[handler] theorem pres_getInStream (sid : Nat) : Pres S (getInStream sid) := by
  unfold getInStream; pres

@[handler] theorem pres_setInStream (sid : Nat) (st : InStream) : Pres S (setInStream sid st) := by
  unfold setInStream; pres

@[handler] theorem pres_sendReconfigResponse (n : Nat) : Pres S (sendReconfigResponse n) := by
  unfold sendReconfigResponse; pres

@[handler] theorem pres_getExtensions (ps : List Param) : Pres S (getExtensions ps) := by
  unfold getExtensions; pres

@[handler] theorem pres_sendSack : Pres S sendSack := by
  unfold sendSack; pres

end Aiortc.Sctp
