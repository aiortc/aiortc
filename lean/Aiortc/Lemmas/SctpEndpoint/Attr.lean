import Lean.Meta.Tactic.Simp.RegisterCommand

/-- Specifications `Pres S (f a …)` of the endpoint's actions, looked up by `pres` at the leaves of a
compositional proof. -/
register_simp_attr handler
