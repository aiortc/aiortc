import Aiortc.Model.Sctp.Endpoint
namespace Aiortc.Sctp

/-- The state the handler monad `M` runs on: the endpoint and the outputs emitted so far. -/
abbrev St := Ep × List Out

end Aiortc.Sctp
