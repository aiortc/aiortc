import Aiortc.Lemmas.SctpEndpoint.Wp
/-!
# What `react`, `setReady`, `addBufferedCore` and one iteration of the flush loop do, exactly

Characterisations of `WP` by cases on the state, with the call of the application's handler left as it is.
The specifications of the data channel lifecycle are proved from these.
-/
namespace Aiortc.Sctp
open Aiortc.Gen Aiortc.Sctp.Wire

/-- the armed reaction a handler of kind `k` on channel `i` consumes (kind 4, `datachannel`, matches any channel) -/
def armed (e : Ep) (k i : Nat) : Option (Nat × Nat × Bool × Bytes) :=
  e.reactions.find? (fun r => r.1 == k && (k == 4 || r.2.1 == i))

theorem armed_erase_length {e : Ep} {k i : Nat} {r : Nat × Nat × Bool × Bytes} (h : armed e k i = some r) :
    (e.reactions.erase r).length + 1 = e.reactions.length := by
  have hm : r ∈ e.reactions := List.mem_of_find?_eq_some h
  have := List.length_pos_of_mem hm
  rw [List.length_erase_of_mem hm]
  omega

/-- `react k i`, exactly (`Props.C13.react_sends_only_when_open` is this statement). -/
theorem react_spec (k i : Nat) (s : St) (Q : Except String Unit → St → Prop) :
    WP (react k i) Q s ↔
      match armed s.1 k i with
      | none => Q (.ok ()) s
      | some r =>
        match s.1.chans[i]? with
        | none => Q (.error "IndexError") ({ s.1 with reactions := s.1.reactions.erase r }, s.2)
        | some c =>
          if c.ready ≠ 1 then
            Q (.ok ()) ({ s.1 with reactions := s.1.reactions.erase r }, s.2 ++ [.rexc i "InvalidStateError"])
          else WP (dcSend i r.2.2.1 r.2.2.2) Q ({ s.1 with reactions := s.1.reactions.erase r }, s.2) := by
  unfold react armed
  wp_head
  cases s.1.reactions.find? (fun r => r.1 == k && (k == 4 || r.2.1 == i)) with
  | none => simp only; wp_head
  | some r =>
    simp only
    wp_head
    cases s.1.chans[i]? with
    | none => simp only
    | some c =>
      simp only
      split
      · wp_head
      · rfl

/-- `l2` in `herase` is what `react` logs before `dcSend` runs: nothing, or `[.rexc i "InvalidStateError"]`. -/
theorem pres_react {S : Spec} (k i : Nat) (hsend : ∀ i isStr d, Pres S (dcSend i isStr d))
    (herase : ∀ (s : St) r (l2 : List Out), S.I s.1 → (∀ o ∈ l2, o.isChanEvOrCrash = false) →
      S.I { s.1 with reactions := s.1.reactions.erase r } ∧
      S.R s ({ s.1 with reactions := s.1.reactions.erase r }, s.2 ++ l2)) : Pres S (react k i) := by
  constructor; intro s hI
  rw [react_spec]
  cases armed s.1 k i with
  | none => exact fun _ => ⟨hI, S.refl s⟩
  | some r =>
    simp only
    have h0 := herase s r [] hI (by simp)
    rw [List.append_nil] at h0
    cases s.1.chans[i]? with
    | none => exact fun _ => h0
    | some c =>
      simp only
      split
      · exact fun _ => herase s r [.rexc i "InvalidStateError"] hI (by simp [Out.isChanEvOrCrash])
      · exact WP.pres_after (hsend _ _ _) h0.1 h0.2

/-- **`setReady i st`, exactly** (`_setReadyState`): nothing happens to a channel that is in state `st` already;
otherwise the state is stored, and a channel with listeners emits `open` / `close` on reaching 1 / 3, followed by the
application's handler for that event. -/
theorem setReady_spec (i st : Nat) (s : St) (Q : Except String Unit → St → Prop) :
    WP (setReady i st) Q s ↔
      match s.1.chans[i]? with
      | none => Q (.error "IndexError") s
      | some c =>
        if c.ready = st then Q (.ok ()) s
        else if c.silent = false ∧ st = 1 then
          WP (react 0 i) Q ({ s.1 with chans := s.1.chans.set i { c with ready := st } }, s.2 ++ [.evOpen i])
        else if c.silent = false ∧ st = 3 then
          WP (react 1 i) Q ({ s.1 with chans := s.1.chans.set i { c with ready := st } }, s.2 ++ [.evClose i])
        else Q (.ok ()) ({ s.1 with chans := s.1.chans.set i { c with ready := st } }, s.2) := by
  unfold setReady
  wp_head
  cases s.1.chans[i]? with
  | none => simp only
  | some c =>
    simp only
    by_cases h : c.ready = st
    · simp only [h, ne_eq, not_true_eq_false, if_false, if_true]; wp_head
    · simp only [ne_eq, h, not_false_eq_true, if_true, if_false]
      wp_head
      cases c.silent <;> by_cases h1 : st = 1 <;> by_cases h3 : st = 3 <;>
        simp only [h1, h3, Bool.not_true, Bool.not_false, if_true, if_false, and_self, and_false,
          Bool.false_eq_true, Bool.true_eq_false, false_and, Nat.reduceEqDiff] <;>
        first | wp_head | rfl

/-- The rest of an iteration of `_data_channel_flush` once the stream id `sid` of the popped entry is known: the entry goes
to `_send`, the bytes of a user message leave `bufferedAmount`, and the loop goes on. -/
def flushSend (fuel i ppid : Nat) (data : Bytes) (c : Chan) (sid : Nat) : M Unit := do
  if ppid = WEBRTC_DCEP then sendData sid ppid data none none true
  else
    let e ← getE
    let expiry : Option Int := match c.maxPacketLifeTime with
      | some l => if l ≠ 0 then some (1000 * e.now + 1024 * (l : Int)) else none
      | none => none
    sendData sid ppid data expiry (c.maxRetransmits.map fun m => (m : Int)) c.ordered
    addBuffered i (-(data.length : Int))
  flushLoop fuel

/-- **One iteration of `_data_channel_flush`, exactly**: nothing to do (queue empty, or the outbound queue is not);
else the entry is popped and, once its channel has a stream id (its own, or the first free one of the local parity, which is
registered), handed to `flushSend`; a channel that cannot get an id ≤ 65535 is closed and the loop goes on. -/
theorem flushLoop_succ (fuel : Nat) (s : St) (Q : Except String Unit → St → Prop) :
    WP (flushLoop (fuel + 1)) Q s ↔
      match s.1.dcQueue with
      | [] => Q (.ok ()) s
      | (i, ppid, data) :: rest =>
        if s.1.tx.outQ.isEmpty = false then Q (.ok ()) s
        else
          match s.1.chans[i]? with
          | none => Q (.error "IndexError") ({ s.1 with dcQueue := rest }, s.2)
          | some c =>
            match c.id, s.1.dcId with
            | some sid, _ => WP (flushSend fuel i ppid data c sid) Q ({ s.1 with dcQueue := rest }, s.2)
            | none, none => Q (.error "TypeError") ({ s.1 with dcQueue := rest }, s.2)
            | none, some start =>
              if flushLoop.pick s.1 (s.1.dataChannels.length + 1) start > 65535 then
                WP (setReady i 3 >>= fun _ => flushLoop fuel) Q ({ s.1 with dcQueue := rest }, s.2)
              else
                WP (flushSend fuel i ppid data c (flushLoop.pick s.1 (s.1.dataChannels.length + 1) start)) Q
                  ({ s.1 with dcQueue := rest
                              dataChannels := s.1.dataChannels ++
                                [(flushLoop.pick s.1 (s.1.dataChannels.length + 1) start, i)]
                              chans := s.1.chans.set i
                                { c with id := some (flushLoop.pick s.1 (s.1.dataChannels.length + 1) start) } }, s.2) := by
  conv => lhs; unfold flushLoop
  rw [WPh_getE]
  cases hq : s.1.dcQueue with
  | nil => simp only; rw [WP_pure]
  | cons x rest =>
    obtain ⟨i, ppid, data⟩ := x
    simp only
    cases ho : s.1.tx.outQ.isEmpty with
    | false => simp only [Bool.not_false, if_true]; rw [WP_pure]
    | true =>
      simp only [Bool.not_true, Bool.false_eq_true, if_false, Bool.true_eq_false]
      rw [WPh_setE, WPh_chanGet]
      cases hc : s.1.chans[i]? with
      | none => simp only
      | some c =>
        simp only
        cases hid : c.id with
        | some sid => simp only; rw [WPh_pure]; rfl
        | none =>
          simp only
          cases hd : s.1.dcId with
          | none => simp only; rw [WPh_crash]
          | some start =>
            simp only
            rw [WPh_pure]
            split
            · simp only [pure_bind]
            · rw [WPh_modE, WPh_chanSet, WPh_pure]; rfl

/-- **`addBufferedCore i amount`, exactly** (`_addBufferedAmount` without the application's handler), with what follows
it: the amount is added; `bufferedamountlow` is logged, and `true` returned, iff the amount was above the threshold and
is not any more, on a channel with listeners that is not closed.  A head rule in `>>=` form that is not in `wp_head`: use `rw`. -/
theorem WPh_addBufferedCore {β : Type} (i : Nat) (amount : Int) (f : Bool → M β) (Q) (s : St) :
    WP (addBufferedCore i amount >>= f) Q s ↔
      match s.1.chans[i]? with
      | none => Q (.error "IndexError") s
      | some c =>
        WP (f (decide ((c.buffered > c.threshold ∧ c.buffered + amount ≤ c.threshold) ∧ c.silent = false ∧ c.ready ≠ 3))) Q
          ({ s.1 with chans := s.1.chans.set i { c with buffered := c.buffered + amount } },
           s.2 ++ (if (c.buffered > c.threshold ∧ c.buffered + amount ≤ c.threshold) ∧ c.silent = false ∧ c.ready ≠ 3
                   then [Out.evLow i] else [])) := by
  unfold addBufferedCore
  wp_head
  cases s.1.chans[i]? with
  | none => simp only
  | some c =>
    simp only
    by_cases hg : (c.buffered > c.threshold ∧ c.buffered + amount ≤ c.threshold) ∧ c.silent = false ∧ c.ready ≠ 3
    · rw [if_pos (by simp [hg.1.1, hg.1.2, hg.2.1, hg.2.2]), if_pos hg, decide_eq_true hg]
      wp_head
    · rw [if_neg (by simpa [and_assoc] using hg), if_neg hg, decide_eq_false hg, List.append_nil]
      wp_head

end Aiortc.Sctp
