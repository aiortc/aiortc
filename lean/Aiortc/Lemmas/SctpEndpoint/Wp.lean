import Aiortc.Lemmas.SctpEndpoint.St
import Aiortc.Lemmas.SctpEndpoint.Attr
/-!
# A small weakest-precondition calculus for the endpoint monad `M`

`M = ExceptT String (StateM (Ep × List Out))`.  `run x s` is the outcome and final state of an action,
`WP x Q s` says the outcome/final state of `x` started in `s` satisfy `Q`.  The `WP_*` simp lemmas
execute the primitive operations of `Model/Sctp/Endpoint.lean` symbolically; calls to functions that
already have a specification are discharged with `WP.call`.

`Spec`/`Pres` package an invariant `I` and a reflexive-transitive step relation `R`; `Pres S x` is the
compositional judgement "started in a state satisfying `I`, the action `x` ends (normally or by an
exception) in a state satisfying `I` that is `R`-related to the start".  It is closed under
`pure`, `bind`, `throw`, `if`/`match` (by case split) and `for … in` over lists; a state read with `getE`
satisfies `I` (`pres_getE_bind`).  The tactic `pres` applies these rules; at a call it looks the callee's
specification up among the lemmas tagged `@[handler]`.  `WP.step` and `Pres.step_inv` carry a fact about `handle inp` over to
the automaton's `step`.  The section `Framed specifications` singles out the specifications that only look at the data channel
objects (`Framed`): most of the automaton satisfies all of them at once.

For `pres` to pass `setE`/`modE` leaves, a `Spec` must keep its facts in `I` (closed by `assumption` up to projection) and have
`R` of the form `P s.2 → P s'.2` (as `boundSpec`); a `Spec` whose `R` relates the two STATES needs the symbolic route (`wp_head`,
`WP.framed_then`), as `fwdSpec`, `bufSpec` do.
-/
namespace Aiortc.Sctp

def run {α} (x : M α) (s : St) : Except String α × St := x.run.run s

def WP {α} (x : M α) (Q : Except String α → St → Prop) (s : St) : Prop :=
  Q (run x s).1 (run x s).2

section prim
variable {α β : Type}

theorem run_pure (a : α) (s : St) : run (pure a : M α) s = (.ok a, s) := rfl

theorem run_bind (x : M α) (f : α → M β) (s : St) :
    run (x >>= f) s = match run x s with
      | (.ok a, s') => run (f a) s'
      | (.error k, s') => (.error k, s') := by
  show (ExceptT.run (x >>= f)).run s = _
  rw [ExceptT.run_bind]
  show (do let r ← ExceptT.run x; _ : StateM St _).run s = _
  simp only [StateT.run_bind, run]
  cases h : (ExceptT.run x).run s with
  | mk r s' =>
    cases r <;> rfl

theorem run_throw (k : String) (s : St) : run (throw k : M α) s = (.error k, s) := rfl
theorem run_crash (k : String) (s : St) : run (crash k : M α) s = (.error k, s) := rfl
theorem run_getE (s : St) : run getE s = (.ok s.1, s) := rfl
theorem run_setE (e : Ep) (s : St) : run (setE e) s = (.ok (), (e, s.2)) := rfl
theorem run_modE (f : Ep → Ep) (s : St) : run (modE f) s = (.ok (), (f s.1, s.2)) := rfl
theorem run_emit (o : Out) (s : St) : run (emit o) s = (.ok (), (s.1, s.2 ++ [o])) := rfl
theorem run_now1000 (s : St) : run now1000 s = (.ok (1000 * s.1.now), s) := rfl

theorem run_liftO (o : Outcome α) (s : St) :
    run (liftO o) s = match o with
      | .ok a => (.ok a, s)
      | .valueError => (.error "ValueError", s)
      | .crash k => (.error k, s)
      | .hang => (.error "hang", s) := by
  cases o <;> rfl

@[simp] theorem WP_pure (a : α) (Q) (s : St) : WP (pure a : M α) Q s ↔ Q (.ok a) s := Iff.rfl

@[simp] theorem WP_bind (x : M α) (f : α → M β) (Q) (s : St) :
    WP (x >>= f) Q s ↔
      WP x (fun r s' => match r with
        | .ok a => WP (f a) Q s'
        | .error k => Q (.error k) s') s := by
  unfold WP
  rw [run_bind]
  cases h : run x s with
  | mk r s' => cases r <;> simp

@[simp] theorem WP_throw (k : String) (Q) (s : St) : WP (throw k : M α) Q s ↔ Q (.error k) s := Iff.rfl
@[simp] theorem WP_crash (k : String) (Q) (s : St) : WP (crash k : M α) Q s ↔ Q (.error k) s := Iff.rfl
@[simp] theorem WP_getE (Q) (s : St) : WP getE Q s ↔ Q (.ok s.1) s := Iff.rfl
@[simp] theorem WP_setE (e : Ep) (Q) (s : St) : WP (setE e) Q s ↔ Q (.ok ()) (e, s.2) := Iff.rfl
@[simp] theorem WP_modE (f : Ep → Ep) (Q) (s : St) : WP (modE f) Q s ↔ Q (.ok ()) (f s.1, s.2) := Iff.rfl
@[simp] theorem WP_emit (o : Out) (Q) (s : St) : WP (emit o) Q s ↔ Q (.ok ()) (s.1, s.2 ++ [o]) := Iff.rfl
@[simp] theorem WP_now1000 (Q) (s : St) : WP now1000 Q s ↔ Q (.ok (1000 * s.1.now)) s := Iff.rfl

@[simp] theorem WP_liftO (o : Outcome α) (Q) (s : St) :
    WP (liftO o) Q s ↔ match o with
      | .ok a => Q (.ok a) s
      | .valueError => Q (.error "ValueError") s
      | .crash k => Q (.error k) s
      | .hang => Q (.error "hang") s := by
  unfold WP; rw [run_liftO]; cases o <;> rfl

theorem WP_ite (c : Prop) [Decidable c] (x y : M α) (Q) (s : St) :
    WP (if c then x else y) Q s ↔ if c then WP x Q s else WP y Q s := by
  split <;> rfl

theorem WP.mono {x : M α} {Q Q' : Except String α → St → Prop} {s : St}
    (h : WP x Q s) (hq : ∀ r s', Q r s' → Q' r s') : WP x Q' s := hq _ _ h

@[simp] theorem WP_chanGet (i : Nat) (Q) (s : St) :
    WP (chanGet i) Q s ↔ match s.1.chans[i]? with
      | some c => Q (.ok c) s
      | none => Q (.error "IndexError") s := by
  unfold chanGet
  simp only [WP_bind, WP_getE]
  cases s.1.chans[i]? <;> simp

@[simp] theorem WP_chanSet (i : Nat) (c : Chan) (Q) (s : St) :
    WP (chanSet i c) Q s ↔ Q (.ok ()) ({ s.1 with chans := s.1.chans.set i c }, s.2) := Iff.rfl

@[simp] theorem WP_queueTask (t : Task) (n : String) (Q) (s : St) :
    WP (queueTask t n) Q s ↔ Q (.ok ()) ({ s.1 with tasks := s.1.tasks ++ [t] }, s.2 ++ [.task n]) := by
  unfold queueTask; simp

end prim

/-! ## Specifications -/

def IsOk {α} : Except String α → Prop
  | .ok _ => True
  | .error _ => False

@[simp] theorem isOk_ok {α} (a : α) : IsOk (Except.ok a : Except String α) = True := rfl
@[simp] theorem isOk_error {α} (k : String) : IsOk (Except.error k : Except String α) = False := rfl

structure Spec where
  I : Ep → Prop
  R : St → St → Prop
  /-- `True`: nothing is claimed about runs that end in an exception -/
  okOnly : Prop
  refl : ∀ s, R s s
  trans : ∀ a b c, R a b → R b c → R a c

structure Pres (S : Spec) {α} (x : M α) : Prop where
  out : ∀ s, S.I s.1 → WP x (fun r s' => (S.okOnly → IsOk r) → S.I s'.1 ∧ S.R s s') s

variable {S : Spec} {α β : Type}

theorem WP.call {x : M α} (h : Pres S x) {Q} {s : St} (hI : S.I s.1)
    (k : ∀ r s', ((S.okOnly → IsOk r) → S.I s'.1 ∧ S.R s s') → Q r s') : WP x Q s :=
  k _ _ (h.out s hI)

theorem pres_pure (a : α) : Pres S (pure a : M α) := ⟨fun s hI _ => ⟨hI, S.refl s⟩⟩
theorem pres_throw (k : String) : Pres S (throw k : M α) := ⟨fun s hI _ => ⟨hI, S.refl s⟩⟩
theorem pres_crash (k : String) : Pres S (crash k : M α) := ⟨fun s hI _ => ⟨hI, S.refl s⟩⟩
theorem pres_getE : Pres S getE := ⟨fun s hI _ => ⟨hI, S.refl s⟩⟩
theorem pres_now1000 : Pres S now1000 := ⟨fun s hI _ => ⟨hI, S.refl s⟩⟩
theorem pres_liftO (o : Outcome α) : Pres S (liftO o) := by
  constructor; intro s hI; cases o <;> exact fun _ => ⟨hI, S.refl s⟩

theorem pres_bind {x : M α} {f : α → M β} (hx : Pres S x) (hf : ∀ a, Pres S (f a)) :
    Pres S (x >>= f) := by
  constructor
  intro s hI
  rw [WP_bind]
  apply WP.call hx hI
  intro r s1 h1
  cases r with
  | error k =>
    intro hk
    exact h1 hk
  | ok a =>
    obtain ⟨hI1, hR1⟩ := h1 (fun _ => trivial)
    apply WP.call (hf a) hI1
    intro r2 s2 h2 hk
    obtain ⟨hI2, hR2⟩ := h2 hk
    exact ⟨hI2, S.trans _ _ _ hR1 hR2⟩

/-- The state read by `getE` satisfies the invariant: what an action later writes back from this snapshot can be
judged without knowing what happened in between. -/
theorem pres_getE_bind {f : Ep → M β} (hf : ∀ e, S.I e → Pres S (f e)) : Pres S (getE >>= f) := by
  constructor
  intro s hI
  rw [WP_bind, WP_getE]
  exact (hf s.1 hI).out s hI

/-- Writing back a state that satisfies the invariant, e.g. one read with `getE` with fields replaced that the
invariant does not look at. -/
theorem pres_setE (e : Ep) (hI : S.I e) (hR : ∀ s, S.R s (e, s.2)) : Pres S (setE e) :=
  ⟨fun s _ => by rw [WP_setE]; exact fun _ => ⟨hI, hR s⟩⟩

theorem pres_ite {c : Prop} [Decidable c] {x y : M α} (hx : c → Pres S x) (hy : ¬c → Pres S y) :
    Pres S (if c then x else y) := by
  split
  · exact hx ‹_›
  · exact hy ‹_›

/-- `jp` is the continuation a `do` block shares between its branches, under the name `extract_lets` gives it (see `pres_step`). -/
theorem pres_cut {γ δ : Type} {x : M α} (jp : γ → M δ) (h1 : ∀ a, Pres S (jp a))
    (h2 : (∀ a, Pres S (jp a)) → Pres S x) : Pres S x := h2 h1

theorem pres_forIn {γ : Type} (l : List γ) (b : β) (f : γ → β → M (ForInStep β))
    (hf : ∀ a b, Pres S (f a b)) : Pres S (forIn l b f) := by
  induction l generalizing b with
  | nil => exact pres_pure b
  | cons a l ih =>
    rw [List.forIn_cons]
    apply pres_bind (hf a b)
    intro r
    cases r with
    | done b' => exact pres_pure b'
    | yield b' => exact ih b'

theorem forall_getElem?_of {γ : Type} {l : List γ} {i : Nat} {c : γ} {P : γ → Prop} (hc : l[i]? = some c) (h : P c) :
    ∀ c', l[i]? = some c' → P c' :=
  fun _ hc' => Option.some.inj (hc.symm.trans hc') ▸ h

theorem getElem?_set_cases {γ : Type} {l : List γ} {i j : Nat} {c' x : γ} (h : (l.set i c')[j]? = some x) :
    j = i ∧ x = c' ∨ j ≠ i ∧ l[j]? = some x := by
  by_cases hj : i = j
  · subst hj
    have hlt : i < l.length := by simpa using (List.getElem?_eq_some_iff.1 h).1
    rw [List.getElem?_set_self hlt] at h
    exact .inl ⟨rfl, (Option.some.inj h).symm⟩
  · rw [List.getElem?_set_ne hj] at h
    exact .inr ⟨Ne.symm hj, h⟩

theorem pres_chanGet (i : Nat) : Pres S (chanGet i) := by
  constructor; intro s hI
  rw [WP_chanGet]
  cases s.1.chans[i]? <;> exact fun _ => ⟨hI, S.refl s⟩

/-! ### head-only symbolic execution: primitives at the head of a `bind` chain are executed, the first
call of a non-primitive function stops the rewriting (so that the rest can be handled compositionally) -/

theorem WPh_assoc {γ : Type} (x : M α) (g : α → M β) (f : β → M γ) (Q) (s : St) :
    WP ((x >>= g) >>= f) Q s ↔ WP (x >>= fun a => g a >>= f) Q s := by
  rw [bind_assoc]
theorem WPh_pure (a : α) (f : α → M β) (Q) (s : St) : WP (pure a >>= f) Q s ↔ WP (f a) Q s := by
  rw [pure_bind]
theorem WPh_getE (f : Ep → M β) (Q) (s : St) : WP (getE >>= f) Q s ↔ WP (f s.1) Q s := by
  rw [WP_bind, WP_getE]
theorem WPh_setE (e : Ep) (f : Unit → M β) (Q) (s : St) :
    WP (setE e >>= f) Q s ↔ WP (f ()) Q (e, s.2) := by
  rw [WP_bind, WP_setE]
theorem WPh_modE (g : Ep → Ep) (f : Unit → M β) (Q) (s : St) :
    WP (modE g >>= f) Q s ↔ WP (f ()) Q (g s.1, s.2) := by
  rw [WP_bind, WP_modE]
theorem WPh_emit (o : Out) (f : Unit → M β) (Q) (s : St) :
    WP (emit o >>= f) Q s ↔ WP (f ()) Q (s.1, s.2 ++ [o]) := by
  rw [WP_bind, WP_emit]
theorem WPh_now1000 (f : Int → M β) (Q) (s : St) :
    WP (now1000 >>= f) Q s ↔ WP (f (1000 * s.1.now)) Q s := by
  rw [WP_bind, WP_now1000]
theorem WPh_throw (k : String) (f : α → M β) (Q) (s : St) :
    WP ((throw k : M α) >>= f) Q s ↔ Q (.error k) s := by
  rw [WP_bind, WP_throw]
theorem WPh_crash (k : String) (f : α → M β) (Q) (s : St) :
    WP ((crash k : M α) >>= f) Q s ↔ Q (.error k) s := by
  rw [WP_bind, WP_crash]
theorem WPh_chanGet (i : Nat) (f : Chan → M β) (Q) (s : St) :
    WP (chanGet i >>= f) Q s ↔ match s.1.chans[i]? with
      | some c => WP (f c) Q s
      | none => Q (.error "IndexError") s := by
  rw [WP_bind, WP_chanGet]
theorem WPh_chanSet (i : Nat) (c : Chan) (f : Unit → M β) (Q) (s : St) :
    WP (chanSet i c >>= f) Q s ↔ WP (f ()) Q ({ s.1 with chans := s.1.chans.set i c }, s.2) := by
  rw [WP_bind, WP_chanSet]
theorem WPh_queueTask (t : Task) (n : String) (f : Unit → M β) (Q) (s : St) :
    WP (queueTask t n >>= f) Q s ↔
      WP (f ()) Q ({ s.1 with tasks := s.1.tasks ++ [t] }, s.2 ++ [.task n]) := by
  rw [WP_bind, WP_queueTask]
theorem WPh_liftO (o : Outcome α) (f : α → M β) (Q) (s : St) :
    WP (liftO o >>= f) Q s ↔ match o with
      | .ok a => WP (f a) Q s
      | .valueError => Q (.error "ValueError") s
      | .crash k => Q (.error k) s
      | .hang => Q (.error "hang") s := by
  rw [WP_bind, WP_liftO]

macro "wp_head" : tactic =>
  `(tactic| simp only [WPh_assoc, WPh_pure, WPh_getE, WPh_setE, WPh_modE, WPh_emit, WPh_now1000, WPh_throw,
      WPh_crash, WPh_chanGet, WPh_chanSet, WPh_queueTask, WPh_liftO,
      WP_pure, WP_getE, WP_setE, WP_modE, WP_emit, WP_throw, WP_crash, WP_liftO,
      WP_chanGet, WP_chanSet, WP_queueTask, WP_now1000])

theorem WP.ite {c : Prop} [Decidable c] {x y : M α} {Q} {s : St} (hx : c → WP x Q s) (hy : ¬c → WP y Q s) :
    WP (if c then x else y) Q s := by
  split
  · exact hx ‹_›
  · exact hy ‹_›

/-- case split in a symbolic execution: on the conditional at the head of the action if there is one (a rule, which
does not have to search the goal), else `split` -/
macro "wp_split" : tactic =>
  `(tactic| first | (with_reducible refine WP.ite (fun _ => ?_) (fun _ => ?_)) | split)

/-- hand the rest of a symbolic execution over to a compositional proof -/
theorem WP.pres_after {x : M α} (h : Pres S x) {s s1 : St} (hI1 : S.I s1.1) (hR : S.R s s1) :
    WP x (fun r s' => (S.okOnly → IsOk r) → S.I s'.1 ∧ S.R s s') s1 :=
  WP.call h hI1 (fun _ _ h2 hk => ⟨(h2 hk).1, S.trans _ _ _ hR (h2 hk).2⟩)

/-- the same in the middle of a `bind` chain -/
theorem WP.call_bind {x : M α} {f : α → M β} (h : Pres S x) {Q} {s : St} (hI : S.I s.1)
    (k : ∀ r s', ((S.okOnly → IsOk r) → S.I s'.1 ∧ S.R s s') →
      match r with
      | .ok a => WP (f a) Q s'
      | .error k => Q (.error k) s') : WP (x >>= f) Q s := by
  rw [WP_bind]; exact WP.call h hI k

/-- `WP` of a call whose postcondition is known, in the middle of a `bind` chain -/
theorem WP.bind_of {x : M α} {f : α → M β} {P Q} {s : St} (hx : WP x P s)
    (k : ∀ r s', P r s' → match r with
      | .ok a => WP (f a) Q s'
      | .error e => Q (.error e) s') : WP (x >>= f) Q s := by
  rw [WP_bind]; exact WP.mono hx k

theorem WP.and {x : M α} {P Q} {s : St} (h1 : WP x P s) (h2 : WP x Q s) :
    WP x (fun r s' => P r s' ∧ Q r s') s := ⟨h1, h2⟩

/-- `WP` is irreducible from here on: it is opened by this equation and executed by the lemmas above. -/
theorem WP.def {x : M α} {Q} {s : St} : WP x Q s ↔ Q (run x s).1 (run x s).2 := Iff.rfl

attribute [irreducible] WP

/-! ## From the handlers to the automaton -/

/-- no exception escaped a handler -/
def NoCrash (outs : List Out) : Prop := ∀ k, Out.crash k ∉ outs

/-- `step` read through `WP (handle inp)`: an escaping exception `k` is logged as `.crash k`. -/
theorem WP.step {e : Ep} {now : Int} {inp : Input} {P : Ep × List Out → Prop}
    (h : WP (handle inp) (fun r s' => match r with
      | .ok _ => P s'
      | .error k => P (s'.1, s'.2 ++ [.crash k])) ({ e with now := now }, [])) : P (step e now inp) := by
  rw [WP.def] at h
  unfold Sctp.step
  unfold run at h
  simp only
  cases hr : (handle inp).run.run ({ e with now := now }, []) with
  | mk r s' =>
    rw [hr] at h
    obtain ⟨e', outs⟩ := s'
    cases r <;> exact h

/-- The invariant of a specification survives a step (if the specification speaks of normal returns only: a step in
which no exception escaped). -/
theorem Pres.step_inv {inp : Input} (h : Pres S (handle inp)) (e : Ep) (now : Int) (hI : S.I { e with now := now })
    (hok : S.okOnly → NoCrash (step e now inp).2) : S.I (step e now inp).1 := by
  revert hok
  refine WP.step (P := fun r => (S.okOnly → NoCrash r.2) → S.I r.1) ((h.out _ hI).mono ?_)
  intro r s' h1
  cases r with
  | ok u => exact fun _ => (h1 fun _ => trivial).1
  | error k => exact fun hok => (h1 fun hk => absurd (by simp) (hok hk k)).1

/-! ## Framed specifications

`FrameRel s s'`: `chans`, `dcQueue`, `dataChannels`, `dcId`, `isServer`, `reactions` (`Ep.chanView`) are the same in `s'` as in
`s`, and the log has only grown by outputs that are neither channel events (`evOpen/evClose/evLow/evChannel`) nor
the marker `crash`, which only `step` writes.
A specification is `Framed` when every such step preserves its invariant and is one of its steps: it looks at the
data channel objects only. -/

def Out.isChanEvOrCrash : Out → Bool
  | .evOpen _ | .evClose _ | .evLow _ | .evChannel _ | .crash _ => true
  | _ => false

/-- what the data channel specifications read of an endpoint -/
def Ep.chanView (e : Ep) := (e.chans, e.dcQueue, e.dataChannels, e.dcId, e.isServer, e.reactions)

def FrameRel (s s' : St) : Prop :=
  s'.1.chanView = s.1.chanView ∧ ∃ l2, s'.2 = s.2 ++ l2 ∧ ∀ o ∈ l2, o.isChanEvOrCrash = false

theorem FrameRel.chans {s s' : St} (h : FrameRel s s') : s'.1.chans = s.1.chans := congrArg (·.1) h.1
theorem FrameRel.dcQueue {s s' : St} (h : FrameRel s s') : s'.1.dcQueue = s.1.dcQueue := congrArg (·.2.1) h.1
theorem FrameRel.dataChannels {s s' : St} (h : FrameRel s s') : s'.1.dataChannels = s.1.dataChannels :=
  congrArg (·.2.2.1) h.1
theorem FrameRel.dcId {s s' : St} (h : FrameRel s s') : s'.1.dcId = s.1.dcId := congrArg (·.2.2.2.1) h.1
theorem FrameRel.isServer {s s' : St} (h : FrameRel s s') : s'.1.isServer = s.1.isServer := congrArg (·.2.2.2.2.1) h.1
theorem FrameRel.reactions {s s' : St} (h : FrameRel s s') : s'.1.reactions = s.1.reactions :=
  congrArg (·.2.2.2.2.2) h.1

theorem FrameRel.refl (s : St) : FrameRel s s := ⟨rfl, [], by simp, by simp⟩

theorem FrameRel.trans (a b c : St) (h1 : FrameRel a b) (h2 : FrameRel b c) : FrameRel a c := by
  obtain ⟨a1, l1, a6, a7⟩ := h1
  obtain ⟨b1, l2, b6, b7⟩ := h2
  refine ⟨b1.trans a1, l1 ++ l2, ?_, ?_⟩
  · rw [b6, a6, List.append_assoc]
  · intro o ho
    rcases List.mem_append.1 ho with h | h
    · exact a7 o h
    · exact b7 o h

class Framed (S : Spec) : Prop where
  frame : ∀ s s', FrameRel s s' → S.I s.1 → S.I s'.1 ∧ S.R s s'

/-- The weakest framed specification: nothing but `FrameRel`. -/
def frameSpec : Spec :=
  { I := fun _ => True, R := FrameRel, okOnly := False, refl := FrameRel.refl, trans := FrameRel.trans }

instance : Framed frameSpec := ⟨fun _ _ h _ => ⟨trivial, h⟩⟩

section framed
variable [Framed S]

/-- the end of an action whose updates were all framed -/
theorem Framed.done {s : St} {e' : Ep} {l' : List Out} (hI : S.I s.1) (h : FrameRel s (e', l'))
    {r : Except String α} : (S.okOnly → IsOk r) → S.I e' ∧ S.R s (e', l') :=
  fun _ => Framed.frame _ _ h hI

/-- the rest of an action, compositionally, after a prefix of framed updates -/
theorem WP.framed_then {x : M α} (hx : Pres S x) {s s1 : St} (hI : S.I s.1) (h : FrameRel s s1) :
    WP x (fun r s' => (S.okOnly → IsOk r) → S.I s'.1 ∧ S.R s s') s1 :=
  WP.pres_after hx (Framed.frame _ _ h hI).1 (Framed.frame _ _ h hI).2

/-- One more call that satisfies every framed specification, in a chain whose exceptions end the proof. -/
theorem WP.frame_bind {α β} {x : M α} {f : α → M β} (h : Pres frameSpec x) {Q : Except String β → St → Prop}
    {s0 s : St} (hfr : FrameRel s0 s) (hk : ∀ e s', Q (.error e) s')
    (k : ∀ a s', FrameRel s0 s' → WP (f a) Q s') : WP (x >>= f) Q s := by
  refine WP.call_bind h trivial ?_
  intro r s' h'
  have hfr' := FrameRel.trans _ _ _ hfr (h' (fun h => h.elim)).2
  cases r with
  | error e => exact hk e s'
  | ok a => exact k a s' hfr'

/-- closing a goal `FrameRel s (e', s.2 ++ …)` where `e'` is a record update of `s.1` -/
macro "frame_rel" : tactic =>
  `(tactic| first
    | exact FrameRel.refl _
    | (refine ⟨rfl, _, rfl, ?_⟩; simp [Out.isChanEvOrCrash]; done)
    | (refine ⟨rfl, [], ?_, ?_⟩ <;> simp <;> done))

theorem pres_modE (f : Ep → Ep) (h : ∀ e, (f e).chanView = e.chanView) : Pres S (modE f) := by
  constructor; intro s hI
  wp_head
  exact Framed.done hI ⟨h _, [], by simp, by simp⟩

theorem pres_emit (o : Out) (h : o.isChanEvOrCrash = false) : Pres S (emit o) := by
  constructor; intro s hI
  wp_head
  refine Framed.done hI ?_
  exact ⟨rfl, [o], rfl, by simpa using h⟩

end framed

/-- `pres` proves `Pres S x` by the rules above, following the syntax of `x`. -/
syntax "pres" : tactic

/-- One step of `pres`, in this order: `bind` (after `getE` with the invariant of the state read as a hypothesis), the
primitives that read, `for … in`, `if`, `match`; at a call, the callee's specification among the lemmas tagged
`@[handler]` and the hypotheses (an induction hypothesis, or a fact put there with `have`); `setE`; `emit`/`modE` that every
framed specification allows; a continuation that the `do` block shares between its branches (`have jp := fun a => …`) is
proved once, for every argument (`pres_cut`), and then used like a callee; finally unfolding of other `let`/`have`.
The side conditions of a `@[handler]` lemma are discharged by `simp only` projecting record updates: they must be EQUATIONS
between projections (`(f e).reactions = e.reactions`), or the lemma is silently never applied.
The `setE` alternative asks that the new state satisfies the invariant by `assumption` and closes the step relation with
`fun _ => id`: it fits a specification whose `R` is an implication between facts about the two logs (`boundSpec`) and no other.
The structural alternatives are tried up to reducible unfolding only, so that one that does not apply fails at once.
`pres` works on the main goal only: when a leaf is stuck the remaining goals are untouched, so a leaf rule is supplied as
`repeat (first | pres_step | (refine pres_setE (S := S₀) _ ?_ ?_; …))` (without `(S := …)` the `fun _ => id` does not
elaborate), not by `pres; all_goals …`. -/
macro "pres_step" : tactic =>
  `(tactic| first
    | with_reducible first
      | (apply pres_getE_bind; intro _ _)
      | apply pres_bind
      | intro _
      | exact pres_pure _ | exact pres_throw _ | exact pres_crash _ | exact pres_getE
      | exact pres_liftO _ | exact pres_now1000 | exact pres_chanGet _
      | apply pres_forIn
    | (extract_lets jp
       refine pres_cut jp (by intro a; simp only [jp]; pres) ?_
       intro _
       clear_value jp)
    | with_reducible first
      | (apply pres_ite <;> intro _)
      | split
    | (solve | simp only [handler, implies_true, *])
    | ((with_reducible refine pres_setE _ ?_ ?_); assumption; exact fun _ => id)
    | ((with_reducible refine pres_emit _ ?_); rfl)
    | ((with_reducible refine pres_modE _ ?_); exact fun _ => rfl)
    | dsimp only)

macro_rules | `(tactic| pres) => `(tactic| repeat pres_step)

end Aiortc.Sctp
