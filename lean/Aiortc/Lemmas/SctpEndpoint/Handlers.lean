import Aiortc.Lemmas.SctpEndpoint.Frame
/-!
# From the data channel operations to every handler

`ChanOps S`: the framed specification `S` holds of the actions through which the automaton reaches the data
channel objects (`setState`, the flush loop, `dcReceive`, `dcClose`, `dcClosed`, `dcSend`, `createChannel`, and
the two application calls that write such a field directly: `start` sets the id allocator `dcId`, `threshold` a
channel's threshold). Everything above them in the call graph - the receive path from `handleData` down, tasks,
timers, the other application calls - touches the channel objects only through these actions and is otherwise framed,
so `Pres S` carries over to it: `pres_handle`.  `pres_x (h : callee)` is the rule for `x`; `ChanOps.x` the rule closed under the class.

The smallest instance of `ChanOps` is `boundSpec` in `C13/SctpReact.lean`: copy it to start a new specification.  A new instance
needs `flush` as a `@[handler]` fact BEFORE the instance exists (`dcReceive` calls it): `pres_flush h` is there for that
(`bound_flush`).  Where `pres` stalls — a leaf inside a continuation shared between branches, as in `createChannel` — run the
action symbolically as `C13/SctpLifeHandle.fwd_createChannel` does.
-/
namespace Aiortc.Sctp
open Aiortc.Gen Aiortc.Sctp.Wire

variable {S : Spec}

theorem pres_flush [Framed S] (h : ∀ fuel, Pres S (flushLoop fuel)) : Pres S flush := by
  unfold flush; pres

theorem pres_deliver [Framed S] (h : ∀ sid ppid d, Pres S (dcReceive sid ppid d)) (msgs : List Msg) :
    Pres S (deliver msgs) := by
  unfold deliver; pres

class ChanOps (S : Spec) : Prop extends Framed S where
  setState : ∀ st, Pres S (setState st)
  flushLoop : ∀ fuel, Pres S (flushLoop fuel)
  dcReceive : ∀ sid ppid d, Pres S (dcReceive sid ppid d)
  dcClose : ∀ i, Pres S (dcClose i)
  dcClosed : ∀ sid, Pres S (dcClosed sid)
  dcSend : ∀ i isStr d, Pres S (dcSend i isStr d)
  createChannel : ∀ p, Pres S (createChannel p)
  start : ∀ rp, Pres S (handle (.start rp))
  threshold : ∀ i v, Pres S (handle (.threshold i v))

attribute [handler] ChanOps.setState ChanOps.flushLoop ChanOps.dcReceive ChanOps.dcClose ChanOps.dcClosed
  ChanOps.dcSend ChanOps.createChannel

variable [ChanOps S]

@[handler] theorem ChanOps.flush : Pres S flush := pres_flush ChanOps.flushLoop

@[handler] theorem ChanOps.deliver (msgs : List Msg) : Pres S (deliver msgs) := pres_deliver ChanOps.dcReceive msgs

@[handler] theorem pres_receiveData (c : RChunk) : Pres S (receiveData c) := by
  constructor; intro s hI
  unfold receiveData
  wp_head
  wp_split
  · wp_head
    wp_split
    · wp_head; exact Framed.done hI (by frame_rel)
    · exact WP.framed_then (by pres) hI (by frame_rel)
  · wp_head; exact Framed.done hI (by frame_rel)

@[handler] theorem pres_receiveForwardTsn (cum : Int) (streams : List (Nat × Nat)) :
    Pres S (receiveForwardTsn cum streams) := by
  constructor; intro s hI
  unfold receiveForwardTsn
  wp_head
  wp_split
  · wp_head
    wp_split
    · wp_head; exact Framed.done hI (by frame_rel)
    · wp_head; exact WP.framed_then (by pres) hI (by frame_rel)
  · wp_head; exact Framed.done hI (by frame_rel)

@[handler] theorem pres_receiveSack (cum : Nat) (gaps : List (Nat × Nat)) : Pres S (receiveSack cum gaps) := by
  constructor; intro s hI
  unfold receiveSack
  wp_head
  wp_split
  · wp_head; exact Framed.done hI (by frame_rel)
  · simp only [ite_self]
    wp_head
    split
    · -- the pure part of the SACK processing returned: nothing to do, or a new send side to write back
      split
      · wp_head; exact Framed.done hI (by frame_rel)
      · wp_head; exact WP.framed_then (by pres) hI (by frame_rel)
    -- it failed (`ValueError`, crash, hang)
    all_goals exact Framed.done hI (by frame_rel)

@[handler] theorem pres_receiveReconfigParam (p : RcParam) : Pres S (receiveReconfigParam p) := by
  unfold receiveReconfigParam; pres

@[handler] theorem pres_receiveChunk (cookie : Bytes) (c : Chunk) : Pres S (receiveChunk cookie c) := by
  unfold receiveChunk; pres

@[handler] theorem pres_handleData (data cookie : Bytes) : Pres S (handleData data cookie) := by
  unfold handleData; pres

@[handler] theorem pres_runTask : Pres S runTask := by
  constructor; intro s hI
  unfold runTask
  wp_head
  wp_split
  · wp_head; exact Framed.done hI (by frame_rel)
  · wp_head; exact WP.framed_then (by pres) hI (by frame_rel)

/-- Every input but the arming of a handler: `reactions` is one of the framed fields and `.react` is the one input
that makes it longer, so that case is left to the specification. -/
theorem pres_handle (inp : Input) (hr : ∀ k i isStr data, inp = .react k i isStr data → Pres S (handle inp)) :
    Pres S (handle inp) := by
  cases inp with
  | react k i isStr data => exact hr k i isStr data rfl
  | start rp => exact ChanOps.start rp
  | threshold i v => exact ChanOps.threshold i v
  | fire t =>
    unfold handle
    wp_split
    all_goals try (rename_i h; exact Input.noConfusion h)
    -- T1, T2 and the reconfig timer are compositional; T3 (any other name) writes back the state it read
    · pres
    · pres
    · pres
    · constructor; intro s hI
      wp_head
      exact Framed.done hI (by frame_rel)
  | stop => simp only [handle]; pres
  | rx d cookie => exact pres_handleData d cookie
  | task => exact pres_runTask
  | create p => exact ChanOps.createChannel p
  | send i isStr data => simp only [handle]; pres
  | close i => exact ChanOps.dcClose i

end Aiortc.Sctp
