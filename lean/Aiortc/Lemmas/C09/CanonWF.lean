import Aiortc.Lemmas.C09.ParsedSession
/-! C09, whole-text idempotence: the normal form of a parsed value is structurally valid
(`WFMedia (normM m)`, `WFSession (normS s)`), so the round-trip theorems of `Lemmas/C09/Sdp*.lean` apply to it. -/
namespace Aiortc.Lemmas.C09
open Aiortc Aiortc.Model.Sdp

theorem normMime_parsed (kind name : Str) (c : Codec) (hm : c.mimeType = kind ++ '/' :: name) (hns : '/' ∉ name) :
    ∃ n, normMime kind c = kind ++ '/' :: n ∧ codecName { c with mimeType := kind ++ '/' :: n } = .ok n ∧ '/' ∉ n := by
  have hc : codecName c = codecName { c with mimeType := kind ++ '/' :: name } := by
    simp only [codecName, hm]
  have hnk := splitOn_nosep '/' kind
  have hne := splitOn_ne_nil '/' kind
  cases hP : splitOn '/' kind with
  | nil => exact absurd hP hne
  | cons p0 r =>
    cases r with
    | nil =>
      have h1 : codecName c = .ok name := by
        rw [hc]; simp only [codecName, splitOn_append_sep, hP, splitOn_single '/' name hns]; rfl
      refine ⟨name, ?_, by rw [← hc]; exact h1, hns⟩
      unfold normMime
      rw [h1]
      simp only
      rw [← hc, h1]; simp
    | cons p1 r' =>
      -- the kind contains "/": the name of `kind/x` is the second piece of the kind, whatever `x` is
      have h1 : ∀ x, codecName { c with mimeType := kind ++ '/' :: x } = .ok p1 := by
        intro x; simp only [codecName, splitOn_append_sep, hP]; rfl
      have h0 : codecName c = .ok p1 := by rw [hc]; exact h1 name
      refine ⟨p1, ?_, h1 p1, hnk p1 (by rw [hP]; simp)⟩
      unfold normMime
      rw [h0]
      simp only
      rw [h1 p1]; simp

theorem truthy_some (o : Option Str) (s : Str) (h : truthy o = some s) : s ≠ [] := by
  cases o with
  | none => cases h
  | some v =>
    simp only [truthy] at h
    split at h
    · cases h
    · rename_i hv; cases h; simpa using hv

theorem wfCodec_norm (kind : Str) (c : Codec) (hp : ParsedCodec kind c) :
    WFCodecFull kind (normC kind c) := by
  obtain ⟨name, hm, hns, _⟩ := hp.mime
  obtain ⟨n, hn1, hn2, hn3⟩ := normMime_parsed kind name c hm hns
  have hcn : codecName (strip (normC kind c)) = .ok n := by
    show codecName { c with mimeType := normMime kind c } = .ok n
    rw [hn1]; exact hn2
  refine ⟨⟨n, ⟨hn1, hcn, hn3, ?_, rfl, rfl⟩⟩, ?_, ?_⟩
  · have hch := hp.chan
    by_cases ha : kind = lit "audio"
    · subst ha
      have e0 : lit "audio" = "audio".toList := rfl
      rw [if_pos e0]
      have e : (strip (normC (lit "audio") c)).channels = if c.channels = some 2 then some 2 else some 1 := by
        show (if lit "audio" = lit "audio" then (if c.channels = some 2 then some 2 else some 1) else c.channels) = _
        rw [if_pos rfl]
      rw [e]
      split
      · exact Or.inr rfl
      · exact Or.inl rfl
    · have ha' : ¬ kind = "audio".toList := ha
      simp only [ha, if_false] at hch
      simp only [ha', if_false]
      simp only [strip, normC, ha, if_false]
      exact hch
  · intro f hf
    simp only [normC, List.mem_map] at hf
    obtain ⟨f0, hf0, rfl⟩ := hf
    exact ⟨(hp.fb f0 hf0).1, fun p hp' => truthy_some _ p hp'⟩
  · by_cases he : (parametersToSdp c.parameters).isEmpty
    · left; simp [normC, he]
    · right
      have hpar : (normC kind c).parameters = c.parameters := by simp [normC, he]
      rw [hpar]
      rcases hp.params with h0 | h0
      · rw [h0] at he; exact absurd (by decide) he
      · exact ⟨h0, by simpa using he⟩

theorem pts_normC (k : Str) (cs : List Codec) : pts (cs.map (normC k)) = pts cs := by
  simp only [pts, List.map_map]; rfl

/-- `WFSsrc` (SdpMedia, a `Prop`) and `ssrcHas` (Canon, the filter of `normM`) are one notion. -/
theorem wfSsrc_iff_ssrcHas (s : Ssrc) : WFSsrc s ↔ ssrcHas s = true := by
  simp only [ssrcHas, WFSsrc, Bool.or_eq_true, Option.isSome_iff_ne_none, or_assoc]

theorem wfMedia_norm (m : Media) (hp : ParsedMedia m) (hr : DtlsRole m) : WFMedia (normM m) := by
  refine ⟨⟨hp.hkind, hp.hport, hp.hprofile, hp.hfmt⟩, ?_, ?_, ?_⟩
  · exact {
      host := fun h hh => (hp.host h hh).1
      direction := hp.direction
      ext := hp.ext
      mid := ⟨_, rfl⟩
      msid := fun s hs => truthy_some _ s hs
      rtcp_none := by
        intro hn
        have hn' : m.rtcpPort = none := hn
        exact ⟨hp.rtcp_none hn', by simp [normM, hn']⟩
      rtcp_host := fun h hh => (hp.rtcp_host h hh).1
      ssrcGroup := hp.ssrcGroup
      ssrc := by
        intro s hs
        simp only [normM, List.mem_filter] at hs
        exact (wfSsrc_iff_ssrcHas s).mpr hs.2
      ssrc_nodup := by
        have : ((m.ssrc.filter ssrcHas).map (·.ssrc)).Sublist (m.ssrc.map (·.ssrc)) :=
          List.Sublist.map _ List.filter_sublist
        exact List.Nodup.sublist this hp.ssrc_nodup
      sctpmap_nodup := hp.sctpmap_nodup
      cands := hp.cands
      dtls := by
        intro d hd
        have hd' : m.dtls = some d := hd
        obtain ⟨i1, i2⟩ := hp.dtls d hd'
        obtain ⟨r, hr'⟩ := hr d hd'
        obtain ⟨su, h1, h2⟩ := i2 r hr'
        exact ⟨i1, r, su, hr', h1, h2⟩ }
  · intro c hc
    simp only [normM, List.mem_map] at hc
    obtain ⟨c0, hc0, rfl⟩ := hc
    exact wfCodec_norm m.kind c0 (hp.codecs c0 hc0)
  · have : pts (normM m).codecs = pts m.codecs := pts_normC m.kind m.codecs
    rw [this]; exact hp.codecs_nodup

theorem noTrail_None : NoTrail (lit "None") := by
  intro c h; simp [lit] at h; subst h; decide

theorem wfSession_norm (s : Session) (hp : ParsedSession s) : WFSession (normS s) := by
  obtain ⟨b, hb⟩ := hp.lite
  exact {
    origin := by
      cases ho : s.origin with
      | none => exact ⟨lit "None", by simp [normS, ho], noTrail_None⟩
      | some o => exact ⟨o, by simp [normS, ho], (hp.hdr.origin o ho).1⟩
    name := hp.hdr.name.1
    time := hp.hdr.time.1
    host := fun h hh => (hp.hdr.host h hh).1
    group := hp.hdr.group
    msidSemantic := hp.hdr.msid
    media := by
      intro m hm
      simp only [normS, List.mem_map] at hm
      obtain ⟨m0, hm0, rfl⟩ := hm
      exact wfMedia_norm m0 (hp.media m0 hm0).1 (hp.media m0 hm0).2
    lite := by
      have : ∀ m ∈ (normS s).media, m.ice.iceLite = b := by
        intro m hm
        simp only [normS, List.mem_map] at hm
        obtain ⟨m0, hm0, rfl⟩ := hm
        exact hb m0 hm0
      exact List.any_of_const (fun m : Media => m.ice.iceLite) _ b this }

end Aiortc.Lemmas.C09
