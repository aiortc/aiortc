import Aiortc.Lemmas.C09.CanonWF
/-! C09, whole-text idempotence: no line of `MediaDescription.__str__` / `SessionDescription.__str__` printed
for a parsed value contains a line-break character (so `splitlines` of the printed text gives back exactly the
printed lines). -/
namespace Aiortc.Lemmas.C09
open Aiortc Aiortc.Model.Sdp

/-- Close `NoBreak (a ++ b ++ c :: d …)` goals: the parts are integers, hypotheses, single characters and
literals; what is left about characters and literals is evaluated. -/
macro "nbtac" : tactic => `(tactic|
  (simp only [nb_append, nb_cons, nb_nil, nb_showInt, nb_showNat, nb_lit, nb_toList, and_true, true_and, *]
   <;> lit_toList <;> decide))

theorem nb_ipaddressToSdp (h : Str) (hh : NoBreak h) : NoBreak (ipaddressToSdp h) := by
  unfold ipaddressToSdp
  nbtac

theorem optNB_truthy (o : Option Str) (h : OptNB o) : OptNB (truthy o) := by
  intro v hv
  cases o with
  | none => cases hv
  | some w =>
    simp only [truthy] at hv
    split at hv
    · cases hv
    · cases hv; exact h _ rfl

theorem optNB_showInt (o : Option Int) : OptNB (o.map showInt) := by
  intro v hv
  cases o with
  | none => cases hv
  | some i => cases hv; exact nb_showInt i

theorem nb_candidate (c : Candidate) (h : WFCand c) : NoBreak (candidateToSdp c) :=
  nb_unwords _ (fun t ht => nb_tok t (candToks_tok c h t ht))

theorem codecName_mem (c : Codec) (n : Str) (h : codecName c = .ok n) : n ∈ splitOn '/' c.mimeType := by
  unfold codecName at h
  split at h
  · rename_i a n' r he; cases h; rw [he]; simp
  · cases h

theorem ssrcNB_get (s : Ssrc) (hs : SsrcNB s) : ∀ a ∈ ssrcInfoAttrs, ∀ v, s.get a = some v → NoBreak v := by
  obtain ⟨g1, g2, g3, g4⟩ := get_names s
  simp only [ssrc_attrs_const, List.map_cons, List.map_nil, List.forall_mem_cons, g1, g2, g3, g4, List.not_mem_nil, false_imp_iff, implies_true, and_true]
  exact hs

theorem ssrcAttrs_nb : ∀ a ∈ ssrcInfoAttrs, a.all (fun c => !isLineBreak c) = true := by
  simp only [ssrc_attrs_const, List.map_cons, List.map_nil]
  lit_toList
  decide

theorem ssrcValues_nb (s : Ssrc) (hs : SsrcNB s) : ∀ l ∈ ssrcValues s, NoBreak l := by
  intro l hl
  simp only [ssrcValues, List.mem_filterMap] at hl
  obtain ⟨a, ha, hl⟩ := hl
  split at hl
  · rename_i v hv
    injection hl with hl; subst hl
    have h1 := ssrcNB_get s hs a ha v hv
    have h2 := nb_lit_chars a (ssrcAttrs_nb a ha)
    nbtac
  · cases hl

theorem nb_mime (kind : Str) (c : Codec) (hp : ParsedCodec kind c) (hk : NoBreak kind) : NoBreak c.mimeType := by
  obtain ⟨name, hm, _, hn⟩ := hp.mime
  rw [hm]; nbtac

theorem nb_fbValue (pt : Int) (f : Feedback) (hf : FbOk f) : NoBreak (fbValue pt f) := by
  obtain ⟨_, h1, h2⟩ := hf
  unfold fbValue
  cases hpar : f.parameter with
  | none => simp only; nbtac
  | some p =>
    have := h2 p hpar
    simp only
    split <;> nbtac

theorem nb_params (p : Params) (h : ∀ kv ∈ p, NoBreak (paramToStr kv)) : NoBreak (parametersToSdp p) := by
  unfold parametersToSdp
  refine nb_join _ (by nbtac) _ ?_
  intro t ht
  simp only [List.mem_map] at ht
  obtain ⟨kv, hkv, rfl⟩ := ht
  exact h kv hkv

theorem codecLines_nb (kind : Str) (c : Codec) (hp : ParsedCodec kind c) (hk : NoBreak kind) (ls : List Str)
    (h : codecLines c = .ok ls) : ∀ l ∈ ls, NoBreak l := by
  unfold codecLines at h
  split at h
  · rename_i cs hcs
    cases h
    have hcsnb : NoBreak cs := by
      unfold codecStr at hcs
      split at hcs
      · rename_i n hn
        cases hcs
        have hn' := splitOn_nb '/' c.mimeType (nb_mime kind c hp hk) n (codecName_mem c n hn)
        split <;> nbtac
      · rename_i e he; exact absurd hcs (he _)
    intro l hl
    simp only [List.mem_append, List.mem_singleton, List.mem_map] at hl
    rcases hl with (hl | ⟨f, hf, hl⟩) | hl
    · subst hl; nbtac
    · subst hl
      have := nb_fbValue c.payloadType f (hp.fb f hf)
      nbtac
    · split at hl
      · cases hl
      · simp only [List.mem_singleton] at hl
        subst hl
        have := nb_params c.parameters hp.params_nb
        nbtac
  · cases h
  · cases h
  · cases h

theorem setupTable_nb : ∀ p ∈ Gen.DTLS_ROLE_SETUP, p.2.toList.all (fun c => !isLineBreak c) = true := by decide

theorem nb_setupOfRole (r su : Str) (h : setupOfRole r = .ok su) : NoBreak su := by
  unfold setupOfRole lookupS at h
  cases hf : Gen.DTLS_ROLE_SETUP.find? (fun p => p.1.toList = r) with
  | none => simp [hf] at h
  | some p =>
    simp only [hf] at h
    cases h
    exact nb_lit_chars _ (setupTable_nb p (List.mem_of_find?_eq_some hf))

theorem dtlsLines_nb (d : Option Dtls) (hfp : ∀ x, d = some x → FpsOk x.fingerprints) (ls : List Str)
    (h : dtlsLines d = .ok ls) : ∀ l ∈ ls, NoBreak l := by
  cases d with
  | none => simp only [dtlsLines] at h; cases h; intro l hl; cases hl
  | some x =>
    simp only [dtlsLines] at h
    split at h
    · rename_i su hsu
      cases h
      have hsunb := nb_setupOfRole _ su hsu
      intro l hl
      simp only [List.mem_append, List.mem_singleton, List.mem_map] at hl
      rcases hl with ⟨f, hf, hl⟩ | hl
      · subst hl
        obtain ⟨t1, t2⟩ := hfp x rfl f hf
        have := nb_tok _ t1
        have := nb_tok _ t2
        unfold fingerprintValue
        nbtac
      · subst hl; nbtac
    · cases h
    · cases h
    · cases h

theorem nb_hdrLine (m : Media) (hp : ParsedMedia m) : NoBreak (hdrLine m) := by
  unfold hdrLine
  have h1 := hp.kind_nb
  have h2 : NoBreak m.profile := nb_profile m.profile (List.all_eq_true.mpr hp.hprofile.2)
  have h3 : NoBreak (unwords (fmtToks m.fmt)) :=
    nb_unwords _ (fun t ht => nb_tok t ((fmtToks_tok m hp.header).2 t ht))
  nbtac

theorem nb_groupToStr {α} (sh : α → Str) (g : Group α) (hs : NoBreak g.semantic) (hi : ∀ a ∈ g.items, NoBreak (sh a)) :
    NoBreak (groupToStr sh g) := by
  unfold groupToStr
  have : NoBreak (unwords (g.items.map sh)) := nb_unwords _ (by
    intro t ht; simp only [List.mem_map] at ht; obtain ⟨a, ha, rfl⟩ := ht; exact hi a ha)
  nbtac

theorem directions_nb : ∀ d ∈ directions, NoBreak d := by
  rw [directions_lit]
  simp only [Gen.DIRECTIONS, List.map_cons, List.map_nil, List.forall_mem_cons, nb_lit, List.not_mem_nil, false_imp_iff,
    implies_true, and_true]
  lit_toList
  decide

theorem preLines_nb (m : Media) (hp : ParsedMedia m) : ∀ l ∈ preLines m, NoBreak l := by
  simp only [preLines, rtcpLines, List.forall_mem_append, forall_mem_optLine, forall_mem_hostLine, List.forall_mem_map,
    List.forall_mem_flatMap, and_assoc]
  refine ⟨?_, ?_, ?_, ?_, ?_, ?_, ?_, ?_⟩
  · intro h hh; have := nb_ipaddressToSdp h (hp.host h hh).2; nbtac
  · intro d hd; have := directions_nb d (hp.direction d hd); nbtac
  · intro h hh; have := nb_tok _ (hp.ext h hh); unfold extmapValue; nbtac
  · intro v hv; have := optNB_truthy _ hp.mid_nb v hv; nbtac
  · intro v hv; have := optNB_truthy _ hp.msid_nb v hv; nbtac
  · cases m.rtcpPort with
    | none => simp
    | some p =>
      simp only [List.forall_mem_append, List.forall_mem_singleton, forall_mem_flag]
      refine ⟨?_, fun _ => by nbtac⟩
      cases hh : m.rtcpHost with
      | none => simp only; nbtac
      | some h => have := nb_ipaddressToSdp h (hp.rtcp_host h hh).2; simp only; nbtac
  · intro g hg
    have := nb_groupToStr showInt g (nb_tok _ (hp.ssrcGroup g hg)) (fun a _ => nb_showInt a)
    nbtac
  · intro s hs v hv; have := ssrcValues_nb s (hp.ssrc_nb s hs) v hv; nbtac

theorem postLines_nb (m : Media) (hp : ParsedMedia m) : ∀ l ∈ postLines m, NoBreak l := by
  simp only [postLines, List.forall_mem_append, forall_mem_optLine, forall_mem_flag, List.forall_mem_map, and_assoc]
  refine ⟨?_, ?_, ?_, ?_, ?_, ?_, ?_, ?_⟩
  · intro kv hkv; have := hp.sctpmap_nb kv hkv; nbtac
  · intro v hv; have := optNB_showInt _ v hv; nbtac
  · intro v hv; have := optNB_showInt _ v hv; nbtac
  · intro c hc; have := nb_candidate c (hp.cands c hc); nbtac
  · intro _; nbtac
  · intro v hv; have := hp.ufrag_nb v hv; nbtac
  · intro v hv; have := hp.pwd_nb v hv; nbtac
  · intro v hv; have := hp.opts_nb v hv; nbtac

theorem mediaLines_nb (m : Media) (hp : ParsedMedia m) (ls : List Str) (h : mediaLines m = .ok ls) :
    ∀ l ∈ ls, NoBreak l := by
  have h' := h
  simp only [mediaLines, Outcome.bind_do_eq_ok] at h'
  obtain ⟨codecL, hcl, dl, hdl, _⟩ := h'
  rw [mediaLines_eq m codecL dl hcl hdl] at h
  cases h
  intro l hl
  simp only [List.mem_cons, List.mem_append] at hl
  rcases hl with hl | hl | hl | hl | hl
  · subst hl; exact nb_hdrLine m hp
  · exact preLines_nb m hp l hl
  · exact allLines_all codecLines NoBreak _ _ hcl
      (fun c hc lc h1 => codecLines_nb m.kind c (hp.codecs c hc) hp.kind_nb lc h1) l hl
  · exact postLines_nb m hp l hl
  · exact dtlsLines_nb m.dtls (fun x hx => (hp.dtls x hx).1) dl hdl l hl

theorem sessionHdr_nb (s : Session) (hp : ParsedHdr s) : ∀ l ∈ sessionHdr s, NoBreak l := by
  simp only [sessionHdr, List.forall_mem_append, List.forall_mem_cons, forall_mem_hostLine, forall_mem_flag,
    List.forall_mem_map, and_assoc]
  refine ⟨?_, ?_, ?_, by simp, ?_, ?_, by simp, ?_, ?_, ?_⟩
  · nbtac
  · cases ho : s.origin with
    | none => simp only [Option.getD_none]; nbtac
    | some o => have := (hp.origin o ho).2; simp only [Option.getD_some]; nbtac
  · have := hp.name.2; nbtac
  · intro h hh; have := nb_ipaddressToSdp h (hp.host h hh).2; nbtac
  · have := hp.time.2; nbtac
  · intro _; nbtac
  · intro g hg
    have := nb_groupToStr id g (nb_tok _ (hp.group g hg).1) (fun a ha => nb_tok _ ((hp.group g hg).2 a ha))
    nbtac
  · intro g hg
    have := nb_groupToStr id g (nb_tok _ (hp.msid g hg).1) (fun a ha => nb_tok _ ((hp.msid g hg).2 a ha))
    nbtac

theorem printed_nb (s : Session) (hp : ParsedSession s) (ml : List Str)
    (h : allLines mediaLines s.media = .ok ml) : ∀ l ∈ sessionHdr s ++ ml, NoBreak l := by
  rw [List.forall_mem_append]
  exact ⟨sessionHdr_nb s hp.hdr,
    allLines_all mediaLines NoBreak _ _ h (fun m hm lm h1 => mediaLines_nb m (hp.media m hm).1 lm h1)⟩

end Aiortc.Lemmas.C09
