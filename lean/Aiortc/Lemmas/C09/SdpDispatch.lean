import Aiortc.Lemmas.C09.SdpAttr
import Aiortc.Lemmas.C09.SdpFold
/-! C09 lemmas, layer L3: a printed line is known by its attribute name.  `AttrPre` ties the prefix the printer writes
(`a=mid:`) to the name the parser cuts out (`mid`); on such a line `mediaLine` / `mediaLine2` are `mediaAttr` / `mediaAttr2`
at that name; the first pass skips the two names of the second (`mediaAttr_other`), the second pass skips every name but
those two (`mediaAttr2_other`); a name neither pass knows has no lemma here.  `Passive`: a printed line that the second
pass skips and that does not open a media section (every body line but the codec lines). -/
namespace Aiortc.Lemmas.C09
open Aiortc Aiortc.Model.Sdp

@[simp] theorem ok_bind {α β} (a : α) (f : α → Outcome β) : (Outcome.ok a >>= f) = f a := rfl
@[simp] theorem pure_ok {α} (a : α) : (pure a : Outcome α) = .ok a := rfl

theorem mediaLine_attr (m : Media) (name value : Str) (hn : ':' ∉ name) :
    mediaLine m ('a' :: '=' :: (name ++ ':' :: value)) = mediaAttr m name (some value) := by
  simp [mediaLine, startsWith, lit, List.isPrefixOf, parseAttr_value name value hn]

theorem mediaLine_flag (m : Media) (name : Str) (hn : ':' ∉ name) :
    mediaLine m ('a' :: '=' :: name) = mediaAttr m name none := by
  simp [mediaLine, startsWith, lit, List.isPrefixOf, parseAttr_flag name hn]

theorem mediaLine2_attr (m : Media) (name value : Str) (hn : ':' ∉ name) :
    mediaLine2 m ('a' :: '=' :: (name ++ ':' :: value)) = mediaAttr2 m name (some value) := by
  simp [mediaLine2, startsWith, lit, List.isPrefixOf, parseAttr_value name value hn]

theorem mediaLine2_flag (m : Media) (name : Str) (hn : ':' ∉ name) :
    mediaLine2 m ('a' :: '=' :: name) = mediaAttr2 m name none := by
  simp [mediaLine2, startsWith, lit, List.isPrefixOf, parseAttr_flag name hn]

theorem mediaLine2_c (m : Media) (r : Str) : mediaLine2 m ('c' :: '=' :: r) = .ok m := by
  simp [mediaLine2, startsWith, lit, List.isPrefixOf]

/-! The printer writes `lit "a=mid:" ++ value`, the parser compares the name it cuts out with `lit "mid"`. Names are
compared as string literals (`lit_inj`), never character by character; what links the two literals of one attribute
is recorded once per attribute (`AttrPre`). -/

theorem lit_inj {a b : String} : lit a = lit b ↔ a = b := String.toList_inj

theorem directions_lit : directions = Gen.DIRECTIONS.map lit := rfl

structure AttrPre (pre key : String) : Prop where
  eq : lit pre = 'a' :: '=' :: (lit key ++ [':'])
  colon : ':' ∉ lit key

theorem AttrPre.line {pre key : String} (h : AttrPre pre key) (v : Str) :
    lit pre ++ v = 'a' :: '=' :: (lit key ++ ':' :: v) := by
  simp [h.eq]

theorem AttrPre.mediaLine {pre key : String} (h : AttrPre pre key) (m : Media) (v : Str) :
    mediaLine m (lit pre ++ v) = mediaAttr m (lit key) (some v) := by
  rw [h.line, mediaLine_attr m _ v h.colon]

theorem AttrPre.mediaLine2 {pre key : String} (h : AttrPre pre key) (m : Media) (v : Str) :
    mediaLine2 m (lit pre ++ v) = mediaAttr2 m (lit key) (some v) := by
  rw [h.line, mediaLine2_attr m _ v h.colon]

theorem pre_extmap : AttrPre "a=extmap:" "extmap" := by constructor <;> lit_toList <;> decide
theorem pre_mid : AttrPre "a=mid:" "mid" := by constructor <;> lit_toList <;> decide
theorem pre_msid : AttrPre "a=msid:" "msid" := by constructor <;> lit_toList <;> decide
theorem pre_rtcp : AttrPre "a=rtcp:" "rtcp" := by constructor <;> lit_toList <;> decide
theorem pre_ssrc_group : AttrPre "a=ssrc-group:" "ssrc-group" := by constructor <;> lit_toList <;> decide
theorem pre_ssrc : AttrPre "a=ssrc:" "ssrc" := by constructor <;> lit_toList <;> decide
theorem pre_rtpmap : AttrPre "a=rtpmap:" "rtpmap" := by constructor <;> lit_toList <;> decide
theorem pre_rtcpfb : AttrPre "a=rtcp-fb:" "rtcp-fb" := by constructor <;> lit_toList <;> decide
theorem pre_fmtp : AttrPre "a=fmtp:" "fmtp" := by constructor <;> lit_toList <;> decide
theorem pre_sctpmap : AttrPre "a=sctpmap:" "sctpmap" := by constructor <;> lit_toList <;> decide
theorem pre_sctp_port : AttrPre "a=sctp-port:" "sctp-port" := by constructor <;> lit_toList <;> decide
theorem pre_mms : AttrPre "a=max-message-size:" "max-message-size" := by constructor <;> lit_toList <;> decide
theorem pre_candidate : AttrPre "a=candidate:" "candidate" := by constructor <;> lit_toList <;> decide
theorem pre_ufrag : AttrPre "a=ice-ufrag:" "ice-ufrag" := by constructor <;> lit_toList <;> decide
theorem pre_pwd : AttrPre "a=ice-pwd:" "ice-pwd" := by constructor <;> lit_toList <;> decide
theorem pre_ice_options : AttrPre "a=ice-options:" "ice-options" := by constructor <;> lit_toList <;> decide
theorem pre_fingerprint : AttrPre "a=fingerprint:" "fingerprint" := by constructor <;> lit_toList <;> decide
theorem pre_setup : AttrPre "a=setup:" "setup" := by constructor <;> lit_toList <;> decide

theorem mediaAttr2_other (m : Media) (name : Str) (v : Option Str) (h1 : name ≠ lit "fmtp") (h2 : name ≠ lit "rtcp-fb") :
    mediaAttr2 m name v = .ok m := by
  simp [mediaAttr2, h1, h2]

theorem mediaAttr_other (m : Media) (key : String) (v : Option Str) (h : key = "fmtp" ∨ key = "rtcp-fb") :
    mediaAttr m (lit key) v = .ok m := by
  rcases h with rfl | rfl <;> simp [mediaAttr, lit_inj, directions_lit, Gen.DIRECTIONS]

/-- The second pass leaves every state as it is on `l` (the first pass may well act on it). -/
def Pass2Ignores (l : Str) : Prop := ∀ s, mediaLine2 s l = .ok s

/-- Lines that `grouplines` keeps in the current group. -/
def NotM (l : Str) : Prop := startsWith (lit "m=") l = false

theorem notM_a (r : Str) : NotM ('a' :: r) := by simp [NotM, startsWith, lit, List.isPrefixOf]
theorem notM_c (r : Str) : NotM ('c' :: r) := by simp [NotM, startsWith, lit, List.isPrefixOf]

theorem AttrPre.notM {pre key : String} (h : AttrPre pre key) (v : Str) : NotM (lit pre ++ v) :=
  h.line v ▸ notM_a _

structure Passive (l : Str) : Prop where
  ign : Pass2Ignores l
  notM : NotM l

theorem passive_flag (name : Str) (hn : ':' ∉ name) (h1 : name ≠ lit "fmtp") (h2 : name ≠ lit "rtcp-fb") :
    Passive ('a' :: '=' :: name) :=
  ⟨fun s => by rw [mediaLine2_flag s name hn, mediaAttr2_other s name _ h1 h2], notM_a _⟩

/-- A flag attribute: the line the printer writes for it (`a=rtcp-mux`) and its name. -/
structure FlagPre (line key : String) : Prop where
  eq : lit line = 'a' :: '=' :: lit key
  colon : ':' ∉ lit key

theorem FlagPre.mediaLine {line key : String} (h : FlagPre line key) (m : Media) :
    mediaLine m (lit line) = mediaAttr m (lit key) none := by
  rw [h.eq, mediaLine_flag m _ h.colon]

theorem FlagPre.passive {line key : String} (h : FlagPre line key)
    (h1 : key ≠ "fmtp" := by decide) (h2 : key ≠ "rtcp-fb" := by decide) : Passive (lit line) := by
  rw [h.eq]; exact passive_flag _ h.colon (by simpa [lit_inj] using h1) (by simpa [lit_inj] using h2)

theorem flag_rtcp_mux : FlagPre "a=rtcp-mux" "rtcp-mux" := by constructor <;> lit_toList <;> decide
theorem flag_eoc : FlagPre "a=end-of-candidates" "end-of-candidates" := by constructor <;> lit_toList <;> decide
theorem flag_ice_lite : FlagPre "a=ice-lite" "ice-lite" := by constructor <;> lit_toList <;> decide

theorem AttrPre.passive {pre key : String} (h : AttrPre pre key) (v : Str)
    (h1 : key ≠ "fmtp" := by decide) (h2 : key ≠ "rtcp-fb" := by decide) : Passive (lit pre ++ v) := by
  refine ⟨fun s => ?_, h.notM v⟩
  rw [h.mediaLine2, mediaAttr2_other s _ _ (by simpa [lit_inj] using h1) (by simpa [lit_inj] using h2)]

end Aiortc.Lemmas.C09
