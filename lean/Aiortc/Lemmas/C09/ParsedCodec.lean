import Aiortc.Lemmas.C09.ParsedAttr
/-! C09, whole-text idempotence: what the parser can put into `codecs` (rtpmap in the first pass,
rtcp-fb / fmtp in the second). -/
namespace Aiortc.Lemmas.C09
open Aiortc Aiortc.Model.Sdp

def FbOk (f : Feedback) : Prop := ' ' ∉ f.typ ∧ NoBreak f.typ ∧ ∀ p, f.parameter = some p → NoBreak p

/-- A codec as the parser builds it for a media section of kind `kind`. -/
structure ParsedCodec (kind : Str) (c : Codec) : Prop where
  mime : ∃ name, c.mimeType = kind ++ '/' :: name ∧ '/' ∉ name ∧ NoBreak name
  chan : if kind = lit "audio" then ∃ i, c.channels = some i else c.channels = none
  fb : ∀ f ∈ c.rtcpFeedback, FbOk f
  params : c.parameters = [] ∨ WFParams c.parameters
  params_nb : ∀ kv ∈ c.parameters, NoBreak (paramToStr kv)

theorem chan_shape (kind : Str) (bits : List Str) (channels : Option Int)
    (h : (if kind = "audio".toList then
            (match bits with
             | _ :: _ :: ch :: _ => match pyInt ch with
               | some i => Outcome.ok (some i)
               | none => .valueError
             | _ => .ok (some 1))
          else .ok none) = Outcome.ok channels) :
    if kind = lit "audio" then ∃ i, channels = some i else channels = none := by
  by_cases hk : kind = lit "audio"
  · have hk' : kind = "audio".toList := hk
    simp only [hk', if_true] at h
    simp only [hk, if_true]
    split at h
    · split at h
      · injection h with h; exact ⟨_, h.symm⟩
      · cases h
    · injection h with h; exact ⟨_, h.symm⟩
  · have hk' : ¬ kind = "audio".toList := hk
    simp only [hk', if_false] at h
    simp only [hk, if_false]
    injection h with h; exact h.symm

theorem rtpmap_accepted (kind : Str) (value : Option Str) (c : Codec) (h : parseRtpmap kind value = .ok c)
    (hv : ∀ x, value = some x → NoBreak x) : ParsedCodec kind c ∧ c.rtcpFeedback = [] ∧ c.parameters = [] := by
  unfold parseRtpmap at h
  cases value with
  | none => cases h
  | some x =>
    have hx := hv x rfl
    simp only at h
    split at h
    · cases h
    · rename_i formatId desc he
      have hd := (nb_split1_pair hx he).2 desc rfl
      have hns := splitOn_nosep '/' desc
      have hnb := splitOn_nb '/' desc hd
      generalize splitOn '/' desc = bits at *
      split at h
      · rename_i channels hch
        have hc := chan_shape kind bits channels hch
        split at h
        · rename_i name clock rest
          split at h
          · rename_i cr pt _ _
            cases h
            refine ⟨⟨⟨name, rfl, hns name (by simp), hnb name (by simp)⟩, hc, ?_, Or.inl rfl, ?_⟩, rfl, rfl⟩
            · intro f hf; cases hf
            · intro kv hkv; cases hkv
          · cases h
        · cases h
      · cases h
      · cases h
      · cases h

theorem splitFb_ok (v : Str) (hv : NoBreak v) :
    ∀ ty par, (splitFb v).2 = some (ty, par) → FbOk ⟨ty, par⟩ := by
  intro ty par h
  unfold splitFb at h
  split at h
  · cases h
  · rename_i b0 r he
    have hr := (nb_split1_pair hv he).2 r rfl
    simp only [Option.some.injEq] at h
    have h1 := split1_fst_nosep ' ' r
    have h2 := nb_split1 ' ' r hr
    rw [h] at h1 h2
    exact ⟨h1, h2.1, h2.2⟩

theorem addFeedback_inv (kind : Str) (bits : Str × Option (Str × Option Str))
    (hb : ∀ ty par, bits.2 = some (ty, par) → FbOk ⟨ty, par⟩) :
    ∀ (cs cs' : List Codec), addFeedback bits cs = .ok cs' → (∀ c ∈ cs, ParsedCodec kind c) →
      (∀ c ∈ cs', ParsedCodec kind c) ∧ pts cs' = pts cs := by
  intro cs
  induction cs with
  | nil => intro cs' h _; simp only [addFeedback] at h; cases h; exact ⟨by simp, rfl⟩
  | cons c r ih =>
    intro cs' h hp
    have hpr : ∀ c ∈ r, ParsedCodec kind c := fun x hx => hp x (List.mem_cons_of_mem _ hx)
    have hpc := hp c List.mem_cons_self
    simp only [addFeedback] at h
    split at h
    · split at h
      · cases h
      · rename_i ty par hbits
        split at h
        · rename_i r' hr'
          cases h
          obtain ⟨i1, i2⟩ := ih r' hr' hpr
          refine ⟨?_, by simp [pts] at i2 ⊢; exact i2⟩
          intro x hx
          simp only [List.mem_cons] at hx
          rcases hx with hx | hx
          · subst hx
            exact { hpc with fb := List.forall_mem_snoc hpc.fb (hb ty par hbits) }
          · exact i1 x hx
        · rename_i e he; exact absurd h (he _)
    · split at h
      · rename_i r' hr'
        cases h
        obtain ⟨i1, i2⟩ := ih r' hr' hpr
        refine ⟨?_, by simp [pts] at i2 ⊢; exact i2⟩
        intro x hx
        simp only [List.mem_cons] at hx
        rcases hx with hx | hx
        · subst hx; exact hpc
        · exact i1 x hx
      · rename_i e he; exact absurd h (he _)

theorem setParams_inv (kind : Str) (pt : Int) (p : Params) (hp1 : p = [] ∨ WFParams p)
    (hp2 : ∀ kv ∈ p, NoBreak (paramToStr kv)) :
    ∀ (cs cs' : List Codec), setParams cs pt p = some cs' → (∀ c ∈ cs, ParsedCodec kind c) →
      (∀ c ∈ cs', ParsedCodec kind c) ∧ pts cs' = pts cs := by
  intro cs
  induction cs with
  | nil => intro cs' h _; simp [setParams] at h
  | cons c r ih =>
    intro cs' h hp
    have hpr : ∀ c ∈ r, ParsedCodec kind c := fun x hx => hp x (List.mem_cons_of_mem _ hx)
    have hpc := hp c List.mem_cons_self
    simp only [setParams] at h
    split at h
    · cases h
      refine ⟨?_, by simp [pts]⟩
      intro x hx
      simp only [List.mem_cons] at hx
      rcases hx with hx | hx
      · subst hx; exact { hpc with params := hp1, params_nb := hp2 }
      · exact hpr x hx
    · simp only [Option.map_eq_some_iff] at h
      obtain ⟨r', hr', rfl⟩ := h
      obtain ⟨i1, i2⟩ := ih r' hr' hpr
      refine ⟨?_, by simp [pts] at i2 ⊢; exact i2⟩
      intro x hx
      simp only [List.mem_cons] at hx
      rcases hx with hx | hx
      · subst hx; exact hpc
      · exact i1 x hx

theorem nb_eq : NoBreak ['='] := by intro c hc; simp at hc; subst hc; decide

theorem paramsFold_nb : ∀ (parts : List Str) (acc p : Params), (∀ s ∈ parts, NoBreak s) →
    (∀ kv ∈ acc, NoBreak (paramToStr kv)) → paramsFold parts acc = .ok p → ∀ kv ∈ p, NoBreak (paramToStr kv) := by
  intro parts
  induction parts with
  | nil => intro acc p _ ha h; simp only [paramsFold] at h; cases h; exact ha
  | cons s ps ih =>
    intro acc p hs ha h
    have hps : ∀ s ∈ ps, NoBreak s := fun x hx => hs x (List.mem_cons_of_mem _ hx)
    have hs0 := hs s List.mem_cons_self
    have hset : ∀ k v, NoBreak (paramToStr (k, v)) → ∀ kv ∈ dictSet acc k v, NoBreak (paramToStr kv) := by
      intro k v hkv kv hm
      rcases dictSet_mem acc k v kv hm with h' | h'
      · exact ha kv h'
      · subst h'; exact hkv
    simp only [paramsFold] at h
    split at h
    · rename_i k v he
      have hkv := nb_split1_pair hs0 he
      split at h
      · split at h
        · rename_i i _
          refine ih _ p hps (hset k (.int i) ?_) h
          simp only [paramToStr]
          rw [nb_append, nb_cons]; exact ⟨hkv.1, by decide, nb_showInt i⟩
        · cases h
      · refine ih _ p hps (hset k (.str v) ?_) h
        simp only [paramToStr]
        rw [nb_append, nb_cons]; exact ⟨hkv.1, by decide, hkv.2 v rfl⟩
    · exact ih _ p hps (hset s .none (by simpa [paramToStr] using hs0)) h

theorem params_accepted_nb (s : Str) (p : Params) (hs : NoBreak s) (h : parametersFromSdp s = .ok p) :
    ∀ kv ∈ p, NoBreak (paramToStr kv) :=
  paramsFold_nb _ [] p (splitOn_nb ';' s hs) (by simp) h

end Aiortc.Lemmas.C09
