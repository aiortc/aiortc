import Aiortc.Model.Sdp.Session
/-! C09 lemmas: the two generic loops of the SDP model, `foldO` (a fold that stops at the first failure; the line parsers
are instances) and `allLines` (concatenated lines of a list of printers).  Nothing here mentions a particular line. -/
namespace Aiortc.Lemmas.C09
open Aiortc Aiortc.Model.Sdp

theorem foldO_single {σ α} {f : σ → α → Outcome σ} {s s' : σ} {x : α} (h : f s x = .ok s') :
    foldO f s [x] = .ok s' := by simp [foldO, h]

theorem foldO_append {σ α} {f : σ → α → Outcome σ} {s s' : σ} {a : List α} (b : List α) (h : foldO f s a = .ok s') :
    foldO f s (a ++ b) = foldO f s' b := by
  induction a generalizing s with
  | nil => simp [foldO] at h; subst h; rfl
  | cons x r ih =>
    simp only [List.cons_append, foldO] at h ⊢
    cases hx : f s x with
    | ok s1 => rw [hx] at h; exact ih h
    | valueError => rw [hx] at h; simp at h
    | crash k => rw [hx] at h; simp at h
    | hang => rw [hx] at h; simp at h

theorem foldO_step {σ α} {f : σ → α → Outcome σ} {s s' : σ} {a b : List α} {t : Outcome σ}
    (h : foldO f s a = .ok s') (h2 : foldO f s' b = t) : foldO f s (a ++ b) = t := by
  rw [foldO_append b h]; exact h2

theorem foldO_map {σ α β} {f : σ → α → Outcome σ} {g : β → α} {upd : σ → β → σ} {xs : List β}
    (h : ∀ s x, x ∈ xs → f s (g x) = .ok (upd s x)) (s : σ) :
    foldO f s (xs.map g) = .ok (xs.foldl upd s) := by
  induction xs generalizing s with
  | nil => rfl
  | cons x r ih =>
    simp only [List.map_cons, foldO, h s x (by simp), List.foldl_cons]
    exact ih (fun s y hy => h s y (by simp [hy])) _

theorem foldO_ignore {σ α} (f : σ → α → Outcome σ) (xs : List α) (s : σ) (h : ∀ x ∈ xs, ∀ s, f s x = .ok s) :
    foldO f s xs = .ok s := by
  induction xs with
  | nil => rfl
  | cons x r ih => simp [foldO, h x (by simp) s, ih (fun y hy => h y (by simp [hy]))]

theorem foldO_opt {σ} (f : σ → Str → Outcome σ) (pre : Str) (upd : σ → Str → σ)
    (h : ∀ s v, f s (pre ++ v) = .ok (upd s v)) (s : σ) (o : Option Str) :
    foldO f s (optLine pre o) = .ok (match o with | some v => upd s v | none => s) := by
  cases o <;> simp [optLine, foldO, h]

theorem opt_block {σ} (f : σ → Str → Outcome σ) (pre : Str) (upd : σ → Option Str → σ)
    (h : ∀ s v, f s (pre ++ v) = .ok (upd s (some v))) (s : σ) (hs : upd s none = s) (o : Option Str) :
    foldO f s (optLine pre o) = .ok (upd s o) := by
  rw [foldO_opt f pre (fun s v => upd s (some v)) h]
  cases o <;> simp [hs]

theorem foldO_inv {σ α} (f : σ → α → Outcome σ) (P : σ → Prop) (Q : α → Prop)
    (step : ∀ s s' a, Q a → P s → f s a = .ok s' → P s') :
    ∀ (l : List α) (s s' : σ), (∀ a ∈ l, Q a) → P s → foldO f s l = .ok s' → P s' := by
  intro l
  induction l with
  | nil => intro s s' _ hs h; simp only [foldO] at h; cases h; exact hs
  | cons a r ih =>
    intro s s' hq hs h
    simp only [foldO] at h
    split at h
    · rename_i s1 h1
      exact ih s1 s' (fun x hx => hq x (List.mem_cons_of_mem _ hx)) (step s s1 a (hq a List.mem_cons_self) hs h1) h
    · rename_i e he; exact absurd h (he _)

theorem allLines_congr {α} (f g : α → Outcome (List Str)) (l : List α) (h : ∀ a ∈ l, f a = g a) :
    allLines f l = allLines g l := by
  induction l with
  | nil => rfl
  | cons a r ih =>
    simp only [allLines, h a (by simp), ih (fun x hx => h x (by simp [hx]))]

theorem allLines_map {α β} (f : α → Outcome (List Str)) (g : β → α) (l : List β) :
    allLines f (l.map g) = allLines (fun b => f (g b)) l := by
  induction l with
  | nil => rfl
  | cons a r ih => simp only [List.map_cons, allLines, ih]

theorem allLines_all {α} (f : α → Outcome (List Str)) (P : Str → Prop) : ∀ (l : List α) (ls : List Str),
    allLines f l = .ok ls → (∀ a ∈ l, ∀ la, f a = .ok la → ∀ x ∈ la, P x) → ∀ x ∈ ls, P x := by
  intro l
  induction l with
  | nil => intro ls h _; simp only [allLines] at h; cases h; simp
  | cons a r ih =>
    intro ls h hp
    simp only [allLines] at h
    split at h
    · rename_i la hla
      split at h
      · rename_i lr hlr
        cases h
        rw [List.forall_mem_append]
        exact ⟨hp a List.mem_cons_self la hla, ih lr hlr (fun a' ha' => hp a' (List.mem_cons_of_mem _ ha'))⟩
      · rename_i e he; exact absurd h (he _)
    · rename_i e he; exact absurd h (he _)

end Aiortc.Lemmas.C09
