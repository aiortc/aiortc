import Aiortc.Lemmas.C09.PrintNB
/-! C09, whole-text idempotence: assembly.  `parse t = ok s`, `print s = ok t1`  ⟹
`parse t1 = ok (normS s)` and `print (normS s) = ok t1`. -/
namespace Aiortc.Lemmas.C09
open Aiortc Aiortc.Model.Sdp

theorem sessionToStr_lines (s : Session) (t : Str) (h : sessionToStr s = .ok t) :
    ∃ ml, allLines mediaLines s.media = .ok ml ∧ t = unlines (sessionHdr s ++ ml) := by
  have h' := h
  simp only [sessionToStr, Outcome.bind_do_eq_ok] at h'
  obtain ⟨ml, hml, _⟩ := h'
  refine ⟨ml, hml, ?_⟩
  rw [sessionToStr_eq s ml hml] at h
  injection h with h
  exact h.symm

theorem canon_fixed_point (s : Session) (t1 : Str) (hp : ParsedSession s)
    (h : sessionToStr s = .ok t1) : parse t1 = .ok (normS s) ∧ sessionToStr (normS s) = .ok t1 := by
  obtain ⟨ml, hml, rfl⟩ := sessionToStr_lines s t1 h
  have hw := wfSession_norm s hp
  have hml' : allLines mediaLines (normS s).media = .ok ml := by
    have : (normS s).media = s.media.map normM := rfl
    rw [this, allMedia_norm]; exact hml
  refine ⟨?_, by rw [sessionToStr_normS]; exact h⟩
  rw [parse_eq, splitlines_unlines _ (printed_nb s hp ml hml), ← sessionHdr_normS s]
  exact parseLines_printed (normS s) hw ml hml'

/-- **Whole-text idempotence**: for ANY text the parser accepts and whose parse result can be serialised,
the serialised text is accepted again and is a fixed point of parse-then-serialise. -/
theorem text_idempotent (t t1 : Str) (h : roundTrip t = .ok t1) : roundTrip t1 = .ok t1 := by
  have h' := h
  simp only [roundTrip, Outcome.bind_do_eq_ok] at h'
  obtain ⟨s, hs, hpr⟩ := h'
  obtain ⟨h1, h2⟩ := canon_fixed_point s t1 (parse_parsed t s hs) hpr
  simp only [roundTrip, h1, ok_bind, h2]

end Aiortc.Lemmas.C09
