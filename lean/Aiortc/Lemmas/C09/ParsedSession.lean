import Aiortc.Lemmas.C09.ParsedPass
/-! C09, whole-text idempotence: the session-level lines, and `parse` as a whole: whatever
`SessionDescription.parse` returns is a `ParsedSession`. -/
namespace Aiortc.Lemmas.C09
open Aiortc Aiortc.Model.Sdp

theorem noTrail_strip_drop (line : Str) (n : Nat) : NoTrail ((Model.Sdp.strip line).drop n) := by
  intro c hc
  rw [List.getLast?_drop] at hc
  split at hc
  · cases hc
  · unfold Model.Sdp.strip at hc
    rw [List.getLast?_reverse] at hc
    have := List.head?_dropWhile_not isPySpace (stripLeft line).reverse
    unfold stripLeft at hc this
    rw [hc] at this
    exact this

structure ParsedHdr (s : Session) : Prop where
  origin : ∀ o, s.origin = some o → NoTrail o ∧ NoBreak o
  name : NoTrail s.name ∧ NoBreak s.name
  time : NoTrail s.time ∧ NoBreak s.time
  host : ∀ h, s.host = some h → HostOk h ∧ NoBreak h
  group : GroupsOk s.group
  msid : GroupsOk s.msidSemantic

theorem parsedHdr_init : ParsedHdr {} :=
  { origin := by intro o h; cases h
    name := ⟨by intro c h; simp at h; subst h; decide, nb_lit_chars _ (by decide)⟩
    time := ⟨by intro c h; simp at h; subst h; decide, nb_lit_chars _ (by decide)⟩
    host := by intro o h; cases h
    group := by intro g h; cases h
    msid := by intro g h; cases h }

theorem defaultsOk_init : DefaultsOk {} :=
  { fps := by intro g h; cases h
    role := by intro g h; cases h
    opts := by intro g h; cases h
    pwd := by intro g h; cases h
    ufrag := by intro g h; cases h }

theorem sessionLine_inv (s s' : Session) (d d' : Defaults) (line : Str) (hl : NoBreak line)
    (hs : ParsedHdr s) (hd : DefaultsOk d) (h : sessionLine (s, d) line = .ok (s', d')) :
    ParsedHdr s' ∧ DefaultsOk d' := by
  unfold sessionLine at h
  simp only at h
  have hsd : ∀ n, NoTrail ((Model.Sdp.strip line).drop n) ∧ NoBreak ((Model.Sdp.strip line).drop n) :=
    fun n => ⟨noTrail_strip_drop line n, nb_drop n _ (nb_strip line hl)⟩
  replace h := ite_ok h
  rcases h with ⟨hc, h⟩ | ⟨hc, h⟩
  · simp only [Outcome.bind_do_eq_ok, pure_ok] at h
    obtain ⟨v, _, h⟩ := h; cases h
    exact ⟨{ hs with }, hd⟩
  replace h := ite_ok h
  rcases h with ⟨hc, h⟩ | ⟨hc, h⟩
  · cases h
    exact ⟨{ hs with origin := (by intro o ho; cases ho; exact hsd 2) }, hd⟩
  replace h := ite_ok h
  rcases h with ⟨hc, h⟩ | ⟨hc, h⟩
  · cases h
    exact ⟨{ hs with name := hsd 2 }, hd⟩
  replace h := ite_ok h
  rcases h with ⟨hc, h⟩ | ⟨hc, h⟩
  · simp only [Outcome.bind_do_eq_ok, pure_ok] at h
    obtain ⟨a, ha, h⟩ := h; cases h
    have ha' := ipaddress_accepted _ a ha
    exact ⟨{ hs with host := (by intro x hx; cases hx; exact ⟨ha'.1, ha'.2 (nb_drop 2 _ hl)⟩) }, hd⟩
  replace h := ite_ok h
  rcases h with ⟨hc, h⟩ | ⟨hc, h⟩
  · cases h
    exact ⟨{ hs with time := hsd 2 }, hd⟩
  replace h := ite_ok h
  rcases h with ⟨hc, h⟩ | ⟨hc, h⟩
  · have hv : OptNB (parseAttr line).2 := (nb_parseAttr line hl).2
    generalize (parseAttr line).2 = value at h hv
    generalize (parseAttr line).1 = attr at h
    replace h := ite_ok h
    rcases h with ⟨hc, h⟩ | ⟨hc, h⟩
    · simp only [Outcome.bind_do_eq_ok, pure_ok] at h
      obtain ⟨f, hf, h⟩ := h; cases h
      have hf' := fingerprint_accepted value f hf
      exact ⟨hs, { hd with fps := List.forall_mem_snoc hd.fps hf' }⟩
    replace h := ite_ok h
    rcases h with ⟨hc, h⟩ | ⟨hc, h⟩
    · cases h; exact ⟨hs, { hd with }⟩
    replace h := ite_ok h
    rcases h with ⟨hc, h⟩ | ⟨hc, h⟩
    · cases h; exact ⟨hs, { hd with opts := hv }⟩
    replace h := ite_ok h
    rcases h with ⟨hc, h⟩ | ⟨hc, h⟩
    · cases h; exact ⟨hs, { hd with pwd := hv }⟩
    replace h := ite_ok h
    rcases h with ⟨hc, h⟩ | ⟨hc, h⟩
    · cases h; exact ⟨hs, { hd with ufrag := hv }⟩
    replace h := ite_ok h
    rcases h with ⟨hc, h⟩ | ⟨hc, h⟩
    · simp only [Outcome.bind_do_eq_ok, pure_ok] at h
      obtain ⟨g, hg, h⟩ := h; cases h
      exact ⟨{ hs with group := groupStr_accepted _ _ value hg hs.group }, hd⟩
    replace h := ite_ok h
    rcases h with ⟨hc, h⟩ | ⟨hc, h⟩
    · simp only [Outcome.bind_do_eq_ok, pure_ok] at h
      obtain ⟨g, hg, h⟩ := h; cases h
      exact ⟨{ hs with msid := groupStr_accepted _ _ value hg hs.msid }, hd⟩
    replace h := ite_ok h
    rcases h with ⟨hc, h⟩ | ⟨hc, h⟩
    · simp only [Outcome.bind_do_eq_ok, pure_ok] at h
      obtain ⟨r, hr, h⟩ := h; cases h
      have hr' := setup_accepted value r hr
      exact ⟨hs, { hd with role := (by intro x hx; cases hx; exact hr') }⟩
    · cases h; exact ⟨hs, hd⟩
  · cases h; exact ⟨hs, hd⟩

/-- `grouplines` only moves lines around: what holds of every line it is given holds of every line it returns. -/
theorem grouplinesAux_all (P : Str → Prop) : ∀ (ls sess : List Str) (media : List (List Str)),
    (∀ l ∈ ls, P l) → (∀ l ∈ sess, P l) → (∀ g ∈ media, ∀ l ∈ g, P l) →
    (∀ l ∈ (grouplinesAux ls sess media).1, P l) ∧ (∀ g ∈ (grouplinesAux ls sess media).2, ∀ l ∈ g, P l) := by
  intro ls
  induction ls with
  | nil =>
    intro sess media _ hs hm
    simp only [grouplinesAux, List.mem_reverse, List.mem_map]
    refine ⟨hs, ?_⟩
    rintro _ ⟨g, hg, rfl⟩ l hl
    exact hm g hg l (List.mem_reverse.mp hl)
  | cons x r ih =>
    intro sess media hls hs hm
    rw [List.forall_mem_cons] at hls
    simp only [grouplinesAux]
    split
    · exact ih sess _ hls.2 hs (List.forall_mem_cons.2 ⟨by simpa using hls.1, hm⟩)
    · split
      · rw [List.forall_mem_cons] at hm
        exact ih sess _ hls.2 hs (List.forall_mem_cons.2 ⟨List.forall_mem_cons.2 ⟨hls.1, hm.1⟩, hm.2⟩)
      · exact ih _ [] hls.2 (List.forall_mem_cons.2 ⟨hls.1, hs⟩) (by simp)

/-- What `SessionDescription.parse` guarantees about its result. -/
structure ParsedSession (s : Session) : Prop where
  hdr : ParsedHdr s
  media : ∀ m ∈ s.media, ParsedMedia m ∧ DtlsRole m
  lite : ∃ b, ∀ m ∈ s.media, m.ice.iceLite = b

theorem foldO_sessionLine_inv (ls : List Str) (s s' : Session) (d d' : Defaults) (hl : ∀ l ∈ ls, NoBreak l)
    (hs : ParsedHdr s) (hd : DefaultsOk d) (h : foldO sessionLine (s, d) ls = .ok (s', d')) : ParsedHdr s' ∧ DefaultsOk d' :=
  foldO_inv sessionLine (fun st => ParsedHdr st.1 ∧ DefaultsOk st.2) NoBreak
    (fun st st' a ha hst hf => sessionLine_inv st.1 st'.1 st.2 st'.2 a ha hst.1 hst.2 hf)
    ls (s, d) (s', d') hl ⟨hs, hd⟩ h

theorem parse_parsed (t : Str) (s : Session) (h : parse t = .ok s) : ParsedSession s := by
  unfold parse grouplines at h
  have hnb := splitlines_nb t
  obtain ⟨hsl, hgl⟩ := grouplinesAux_all NoBreak (splitlines t) [] [] hnb (by simp) (by simp)
  generalize grouplinesAux (splitlines t) [] [] = gl at h hsl hgl
  obtain ⟨sessLines, groups⟩ := gl
  simp only [Outcome.bind_do_eq_ok, pure_ok] at h
  obtain ⟨⟨s0, d⟩, h0, ms, hms, h⟩ := h
  cases h
  obtain ⟨i1, i2⟩ := foldO_sessionLine_inv sessLines {} s0 {} d hsl parsedHdr_init defaultsOk_init h0
  have i3 := parseMedias_inv d i2 groups ms hgl hms
  exact { hdr := { i1 with }
          media := fun m hm => ⟨(i3 m hm).1, (i3 m hm).2.1⟩
          lite := ⟨d.iceLite, fun m hm => (i3 m hm).2.2⟩ }

end Aiortc.Lemmas.C09
