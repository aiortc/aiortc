import Aiortc.Lemmas.C09.SdpSession
/-! C09, whole-text idempotence: the normal form `normS` of a session description — the value that
`parse (print d)` returns — and the fact that printing does not see the difference (`print (norm d) = print d`).

What normalisation does (each item is a way in which `parse` can return a value that `print` does not
re-serialise one-to-one): `origin = None` prints `o=None`; `mid = None` / `msid = ""` print nothing;
`rtcp_mux` without an rtcp port prints nothing; a codec of a media kind containing "/" prints the second piece of
the kind as its name; an ssrc entry without any known attribute prints nothing;
an audio codec with a channel count other than 2 prints no channel suffix; an rtcp-fb parameter `""` prints
nothing; an fmtp dictionary that serialises to `""` prints no fmtp line. -/
namespace Aiortc.Lemmas.C09
open Aiortc Aiortc.Model.Sdp

def ssrcHas (s : Ssrc) : Bool := s.cname.isSome || s.msid.isSome || s.mslabel.isSome || s.label.isSome

def normF (f : Feedback) : Feedback := { f with parameter := truthy f.parameter }

/-- `kind/<RTCRtpCodecParameters.name>`: what the reparsed rtpmap line gives.  Differs from `mimeType` only when the
kind itself contains "/" (`m=a/b …` + `a=rtpmap:96 opus/48000`: `mimeType = a/b/opus`, `.name = b`, printed
`a=rtpmap:96 b/48000`, reparsed `a/b/b`).  The guard makes `codecName` invariant by construction. -/
def normMime (kind : Str) (c : Codec) : Str :=
  match codecName c with
  | .ok n => if codecName { c with mimeType := kind ++ '/' :: n } = .ok n then kind ++ '/' :: n else c.mimeType
  | _ => c.mimeType

def normC (kind : Str) (c : Codec) : Codec :=
  { c with
    mimeType := normMime kind c
    channels := if kind = lit "audio" then (if c.channels = some 2 then some 2 else some 1) else c.channels
    rtcpFeedback := c.rtcpFeedback.map normF
    parameters := if (parametersToSdp c.parameters).isEmpty then [] else c.parameters }

def normM (m : Media) : Media :=
  { m with
    muxId := some (m.muxId.getD [])
    msid := truthy m.msid
    rtcpMux := m.rtcpPort.isSome && m.rtcpMux
    ssrc := m.ssrc.filter ssrcHas
    codecs := m.codecs.map (normC m.kind) }

def normS (s : Session) : Session :=
  { s with origin := some (s.origin.getD (lit "None")), media := s.media.map normM }

theorem truthy_truthy (o : Option Str) : truthy (truthy o) = truthy o := by
  cases o with
  | none => rfl
  | some v => by_cases h : v.isEmpty <;> simp [truthy, h]

theorem truthy_getD (o : Option Str) : truthy (some (o.getD [])) = truthy o := by
  cases o with
  | none => rfl
  | some v => rfl

theorem fbValue_normF (pt : Int) (f : Feedback) : fbValue pt (normF f) = fbValue pt f := by
  obtain ⟨t, p⟩ := f
  cases p with
  | none => rfl
  | some v => by_cases h : v.isEmpty <;> simp [fbValue, normF, truthy, h]

theorem codecName_normC (k : Str) (c : Codec) : codecName (normC k c) = codecName c := by
  show codecName { c with mimeType := normMime k c } = codecName c
  unfold normMime
  cases hcn : codecName c with
  | ok n =>
    simp only
    split
    · rename_i hg; exact hg
    · exact hcn
  | valueError => exact hcn
  | crash s => exact hcn
  | hang => exact hcn

theorem codecStr_normC (k : Str) (c : Codec) : codecStr (normC k c) = codecStr c := by
  have hn := codecName_normC k c
  have hcl : (normC k c).clockRate = c.clockRate := rfl
  have hc : ((normC k c).channels = some 2) ↔ (c.channels = some 2) := by
    simp only [normC]
    by_cases hk : k = lit "audio"
    · by_cases h2 : c.channels = some 2 <;> simp [hk, h2]
    · simp [hk]
  simp only [codecStr, hn, hcl, hc]

theorem codecLines_normC (k : Str) (c : Codec) : codecLines (normC k c) = codecLines c := by
  simp only [codecLines, codecStr_normC]
  cases codecStr c with
  | ok cs =>
    have h1 : (normC k c).payloadType = c.payloadType := rfl
    have h2 : (normC k c).rtcpFeedback.map (fun f => lit "a=rtcp-fb:" ++ fbValue (normC k c).payloadType f) =
        c.rtcpFeedback.map (fun f => lit "a=rtcp-fb:" ++ fbValue c.payloadType f) := by
      simp [normC, List.map_map, Function.comp_def, fbValue_normF]
    rw [h2, h1]
    by_cases he : (parametersToSdp c.parameters).isEmpty
    · have : (normC k c).parameters = [] := by simp [normC, he]
      have he' : parametersToSdp c.parameters = [] := by simpa using he
      rw [this, he']; simp [parametersToSdp, join]
    · have : (normC k c).parameters = c.parameters := by simp [normC, he]
      simp [this]
  | valueError => rfl
  | crash s => rfl
  | hang => rfl

theorem ssrcValues_none (s : Ssrc) (h : ssrcHas s = false) : ssrcValues s = [] := by
  obtain ⟨h1, h2, h3, h4⟩ := get_names s
  simp only [ssrcHas, Bool.or_eq_false_iff, Option.isSome_eq_false_iff, Option.isNone_iff_eq_none] at h
  obtain ⟨⟨⟨e1, e2⟩, e3⟩, e4⟩ := h
  simp only [ssrcValues, ssrc_attrs_const, List.map_cons, List.map_nil, List.filterMap_cons, List.filterMap_nil, h1, h2, h3, h4, e1, e2, e3, e4]

theorem ssrc_lines_filter (l : List Ssrc) :
    ((l.filter ssrcHas).flatMap fun s => (ssrcValues s).map (lit "a=ssrc:" ++ ·)) =
      (l.flatMap fun s => (ssrcValues s).map (lit "a=ssrc:" ++ ·)) := by
  induction l with
  | nil => rfl
  | cons s r ih =>
    by_cases h : ssrcHas s = true
    · simp [List.filter, h, ih]
    · simp only [Bool.not_eq_true] at h
      simp [List.filter, h, ih, ssrcValues_none s h]

theorem rtcpLines_normM (m : Media) : rtcpLines (normM m) = rtcpLines m := by
  have h1 : (normM m).rtcpPort = m.rtcpPort := rfl
  have h2 : (normM m).rtcpHost = m.rtcpHost := rfl
  have h3 : (normM m).rtcpMux = (m.rtcpPort.isSome && m.rtcpMux) := rfl
  simp only [rtcpLines, h1, h2, h3]
  cases m.rtcpPort <;> simp

theorem mediaLines_normM (m : Media) : mediaLines (normM m) = mediaLines m := by
  have hc : allLines codecLines (normM m).codecs = allLines codecLines m.codecs := by
    simp only [normM, allLines_map]
    exact allLines_congr _ _ _ (fun a _ => codecLines_normC _ a)
  have hr := rtcpLines_normM m
  have hs := ssrc_lines_filter m.ssrc
  simp only [mediaLines, hc, hr]
  simp only [normM, truthy_truthy, truthy_getD, hs]
  rfl

theorem allMedia_norm (ms : List Media) : allLines mediaLines (ms.map normM) = allLines mediaLines ms := by
  rw [allLines_map]; exact allLines_congr _ _ _ (fun a _ => mediaLines_normM a)

theorem any_lite_norm (ms : List Media) : (ms.map normM).any (·.ice.iceLite) = ms.any (·.ice.iceLite) := by
  rw [List.any_map]; rfl

theorem sessionToStr_normS (s : Session) : sessionToStr (normS s) = sessionToStr s := by
  simp only [sessionToStr, normS, allMedia_norm, any_lite_norm, Option.getD_some]

theorem sessionHdr_normS (s : Session) : sessionHdr (normS s) = sessionHdr s := by
  simp only [sessionHdr, normS, any_lite_norm, Option.getD_some]

theorem normF_idem (f : Feedback) : normF (normF f) = normF f := by
  simp only [normF, truthy_truthy]

theorem normMime_idem (k : Str) (c : Codec) : normMime k (normC k c) = normMime k c := by
  have hm : ∀ x, codecName { normC k c with mimeType := x } = codecName { c with mimeType := x } := fun _ => rfl
  have hmime : (normC k c).mimeType = normMime k c := rfl
  unfold normMime
  rw [codecName_normC]
  cases hcn : codecName c with
  | ok n =>
    simp only [hm, hmime]
    by_cases hg : codecName { c with mimeType := k ++ '/' :: n } = .ok n <;> simp [hg, normMime, hcn]
  | valueError => simp only [hmime, normMime, hcn]
  | crash s => simp only [hmime, normMime, hcn]
  | hang => simp only [hmime, normMime, hcn]

theorem normC_idem (k : Str) (c : Codec) : normC k (normC k c) = normC k c := by
  have h1 := normMime_idem k c
  obtain ⟨mime, clock, ch, pt, fb, params⟩ := c
  simp only [normC, Codec.mk.injEq, true_and] at h1 ⊢
  refine ⟨h1, ?_, ?_, ?_⟩
  · by_cases hk : k = lit "audio"
    · by_cases h2 : ch = some 2 <;> simp [hk, h2]
    · simp [hk]
  · simp [List.map_map, Function.comp_def, normF_idem]
  · by_cases he : (parametersToSdp params).isEmpty = true
    · simp only [he, if_true]; rfl
    · simp [he]

theorem normM_idem (m : Media) : normM (normM m) = normM m := by
  have hk : (normM m).kind = m.kind := rfl
  obtain ⟨kind, port, profile, fmt, host, dir, msid, rp, rh, rm, ssrc, sg, he, mux, cod, mms, smap, sport, dtls, ice, cands, cc, io⟩ := m
  simp only [normM, Media.mk.injEq, true_and, truthy_truthy, List.filter_filter, Bool.and_self, List.map_map, Function.comp_def,
    normC_idem, Option.getD_some, and_true]
  cases rp <;> simp

theorem normS_idem (s : Session) : normS (normS s) = normS s := by
  simp only [normS, Option.getD_some, List.map_map, Function.comp_def, normM_idem]

end Aiortc.Lemmas.C09
