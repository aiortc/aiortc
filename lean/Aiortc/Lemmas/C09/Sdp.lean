import Aiortc.Model.Sdp.Lex
import Aiortc.Lemmas.Util.List
/-! C09 helper lemmas, layer L1: decimal printing/parsing round trip, and what the splitters do on
separator-free tokens (`split()`, `split(c, 1)`, `split(c)` against `join`). -/
namespace Aiortc.Model.Sdp

theorem digitChar_toNat : ∀ d, d < 10 → (digitChar d).toNat = d + 48 := by decide

/-- Value of a digit string read least significant digit first. -/
def valRev : Str → Nat
  | [] => 0
  | c :: r => digitVal c + 10 * valRev r

theorem digitsRev_spec : ∀ f n, n < f →
    digitsRev f n ≠ [] ∧ (∀ c ∈ digitsRev f n, isDigit c = true) ∧ valRev (digitsRev f n) = n := by
  intro f
  induction f with
  | zero => intro n h; omega
  | succ f ih =>
    intro n h
    unfold digitsRev
    by_cases h10 : n < 10
    · simp only [h10, if_true]
      have := digitChar_toNat n h10
      refine ⟨by simp, ?_, ?_⟩
      · intro c hc
        simp only [List.mem_singleton] at hc
        subst hc
        simp only [isDigit, this]
        simp; omega
      · simp only [valRev, digitVal, this]; omega
    · simp only [h10, if_false]
      have hd : n / 10 < f := by omega
      obtain ⟨_, h2, h3⟩ := ih (n / 10) hd
      have := digitChar_toNat (n % 10) (by omega)
      refine ⟨by simp, ?_, ?_⟩
      · intro c hc
        simp only [List.mem_cons] at hc
        rcases hc with hc | hc
        · subst hc; simp only [isDigit, this]; simp; omega
        · exact h2 c hc
      · simp only [valRev, digitVal, this, h3]; omega

/-- One step of `int()`: the digit `c` appended to the value `a`. -/
def stepD (a : Nat) (c : Char) : Nat := a * 10 + digitVal c

theorem parseDigits_digits : ∀ (ds : Str) (acc : Nat) (pd : Bool), ds ≠ [] → (∀ c ∈ ds, isDigit c = true) →
    parseDigits ds acc pd = some (ds.foldl stepD acc) := by
  intro ds
  induction ds with
  | nil => intro _ _ h; exact absurd rfl h
  | cons c cs ih =>
    intro acc pd _ hall
    have hc : isDigit c = true := hall c (by simp)
    unfold parseDigits
    simp only [hc, if_true]
    cases cs with
    | nil => simp [parseDigits, stepD]
    | cons d ds =>
      rw [ih _ _ (by simp) (fun x hx => hall x (by simp [hx]))]
      simp [List.foldl, stepD]

theorem foldl_rev_valRev (l : Str) : l.reverse.foldl stepD 0 = valRev l := by
  induction l with
  | nil => rfl
  | cons c r ih => simp [List.foldl_append, ih, valRev, stepD]; omega

theorem showNat_digits (n : Nat) : showNat n ≠ [] ∧ (∀ c ∈ showNat n, isDigit c = true) := by
  obtain ⟨h1, h2, _⟩ := digitsRev_spec (n + 1) n (by omega)
  unfold showNat
  exact ⟨by simpa using h1, fun c hc => h2 c (by simpa using hc)⟩

theorem parseDigits_showNat (n : Nat) : parseDigits (showNat n) 0 false = some n := by
  obtain ⟨h1, h2⟩ := showNat_digits n
  rw [parseDigits_digits _ _ _ h1 h2]
  obtain ⟨_, _, h3⟩ := digitsRev_spec (n + 1) n (by omega)
  unfold showNat
  rw [foldl_rev_valRev, h3]

theorem isDigit_not_space {c : Char} (h : isDigit c = true) : isPySpace c = false := by
  simp only [isDigit, Bool.and_eq_true, decide_eq_true_eq] at h
  simp only [isPySpace]
  simp; omega

theorem isDigit_not_intSpace {c : Char} (h : isDigit c = true) : isIntSpace c = false := by
  simp [isIntSpace, isDigit_not_space h]

theorem stripInt_self (s : Str) (h : ∀ c ∈ s, isIntSpace c = false) : stripInt s = s := by
  unfold stripInt
  rw [List.dropWhile_head_false _ s (fun a ha => h a (List.mem_of_mem_head? ha))]
  rw [List.dropWhile_head_false _ s.reverse (fun a ha => h a (by simpa using List.mem_of_mem_head? ha))]
  simp

theorem pyInt_showNat (n : Nat) : pyInt (showNat n) = some (Int.ofNat n) := by
  obtain ⟨h1, h2⟩ := showNat_digits n
  unfold pyInt
  rw [stripInt_self _ (fun c hc => isDigit_not_intSpace (h2 c hc))]
  have hp := parseDigits_showNat n
  generalize showNat n = s at *
  match s, h1, h2 with
  | d :: rest, _, h2 =>
    have hd : isDigit d = true := h2 d (by simp)
    have hm : d ≠ '-' := by intro h; subst h; simp [isDigit] at hd
    have hpl : d ≠ '+' := by intro h; subst h; simp [isDigit] at hd
    split
    · rename_i heq; simp at heq; exact absurd heq.1 hm
    · rename_i heq; simp at heq; exact absurd heq.1 hpl
    · simp [hp]

theorem pyInt_showInt (i : Int) : pyInt (showInt i) = some i := by
  cases i with
  | ofNat n => exact pyInt_showNat n
  | negSucc n =>
    obtain ⟨_, h2⟩ := showNat_digits (n + 1)
    unfold pyInt showInt
    rw [stripInt_self]
    · simp [parseDigits_showNat, Int.negSucc_eq]
    · intro c hc
      simp only [List.mem_cons] at hc
      rcases hc with hc | hc
      · subst hc; decide
      · exact isDigit_not_intSpace (h2 c hc)

/-- A piece that `str.split()` can return; `" ".join` followed by `split()` gives such pieces back. -/
def Tok (t : Str) : Prop := t ≠ [] ∧ ∀ c ∈ t, isPySpace c = false

def Brk (rest : Str) : Prop := ∀ d, rest.head? = some d → isPySpace d = true

theorem splitWs_tok_append (t : Str) (ht : Tok t) (rest : Str) (hr : Brk rest) :
    splitWs (t ++ rest) = t :: splitWs rest := by
  obtain ⟨hne, hns⟩ := ht
  induction t with
  | nil => exact absurd rfl hne
  | cons c cs ih =>
    have hc : isPySpace c = false := hns c (by simp)
    cases cs with
    | nil =>
      cases rest with
      | nil => simp [splitWs, hc]
      | cons d r =>
        have hd : isPySpace d = true := hr d (by simp)
        simp [splitWs, hc, hd]
    | cons c' cs' =>
      have hc' : isPySpace c' = false := hns c' (by simp)
      have := ih (by simp) (fun x hx => hns x (by simp [hx]))
      simp only [List.cons_append] at this ⊢
      rw [splitWs]
      simp only [hc, hc', Bool.false_eq_true, if_false, this]

theorem splitWs_space_cons (c : Char) (h : isPySpace c = true) (s : Str) : splitWs (c :: s) = splitWs s := by
  simp [splitWs, h]

theorem splitWs_unwords : ∀ toks : List Str, (∀ t ∈ toks, Tok t) → splitWs (unwords toks) = toks := by
  intro toks
  induction toks with
  | nil => intro _; rfl
  | cons a r ih =>
    intro h
    have ha := h a (by simp)
    cases r with
    | nil =>
      have := splitWs_tok_append a ha [] (by intro d hd; simp at hd)
      simpa [unwords, join, splitWs] using this
    | cons b r' =>
      have hr := ih (fun t ht => h t (by simp [ht]))
      show splitWs (a ++ [' '] ++ unwords (b :: r')) = _
      rw [List.append_assoc, splitWs_tok_append a ha _ (by intro d hd; simp at hd; subst hd; decide)]
      simp only [List.singleton_append]
      rw [splitWs_space_cons _ (by decide), hr]

theorem split1_prefix (sep : Char) (a r : Str) (h : sep ∉ a) :
    split1 sep (a ++ r) = (a ++ (split1 sep r).1, (split1 sep r).2) := by
  induction a with
  | nil => rfl
  | cons c cs ih =>
    have hc : c ≠ sep := fun e => h (by simp [e])
    simp [split1, hc, ih (fun e => h (by simp [e]))]

theorem split1_append (sep : Char) (a b : Str) (h : sep ∉ a) : split1 sep (a ++ sep :: b) = (a, some b) := by
  simp [split1_prefix sep a _ h, split1]

theorem split1_none (sep : Char) (a : Str) (h : sep ∉ a) : split1 sep a = (a, none) := by
  simpa [split1] using split1_prefix sep a [] h

theorem splitOn_ne_nil (sep : Char) (s : Str) : splitOn sep s ≠ [] := by
  cases s with
  | nil => simp [splitOn]
  | cons c cs =>
    by_cases h : c = sep
    · simp [splitOn, h]
    · simp only [splitOn, h, if_false]; cases splitOn sep cs <;> simp

theorem splitOn_append_sep (sep : Char) (a b : Str) :
    splitOn sep (a ++ sep :: b) = splitOn sep a ++ splitOn sep b := by
  induction a with
  | nil => simp [splitOn]
  | cons c cs ih =>
    by_cases hc : c = sep
    · simp [splitOn, hc, ih]
    · simp only [List.cons_append, splitOn, hc, if_false, ih]
      have := splitOn_ne_nil sep cs
      cases h : splitOn sep cs with
      | nil => exact absurd h this
      | cons x r => simp

theorem splitOn_single (sep : Char) (a : Str) (h : sep ∉ a) : splitOn sep a = [a] := by
  induction a with
  | nil => simp [splitOn]
  | cons c cs ih =>
    have hc : c ≠ sep := fun e => h (by simp [e])
    have := ih (fun e => h (by simp [e]))
    simp [splitOn, hc, this]

theorem splitOn_cons_of_not_mem (sep : Char) (a b : Str) (h : sep ∉ a) :
    splitOn sep (a ++ sep :: b) = a :: splitOn sep b := by
  rw [splitOn_append_sep, splitOn_single sep a h]; rfl

theorem splitOn_join (sep : Char) : ∀ parts : List Str, parts ≠ [] → (∀ p ∈ parts, sep ∉ p) →
    splitOn sep (join [sep] parts) = parts := by
  intro parts
  induction parts with
  | nil => intro h; exact absurd rfl h
  | cons a r ih =>
    intro _ h
    cases r with
    | nil => simpa [join] using splitOn_single sep a (h a (by simp))
    | cons b r' =>
      show splitOn sep (a ++ [sep] ++ join [sep] (b :: r')) = _
      rw [List.append_assoc, List.singleton_append, splitOn_cons_of_not_mem sep a _ (h a (by simp)),
        ih (by simp) (fun p hp => h p (by simp [hp]))]

theorem tok_single {c : Char} (hc : ¬isPySpace c = true) : Tok [c] :=
  ⟨by simp, by intro x hx; simp at hx; subst hx; simpa using hc⟩

theorem splitWs_all_tok (s : Str) : ∀ t ∈ splitWs s, Tok t := by
  fun_induction splitWs s with
  | case1 => intro t h; simp at h
  | case2 c cs hc ih => exact ih
  | case3 c hc => intro t h; simp at h; subst h; exact tok_single hc
  | case4 c hc d r hd ih =>
    intro t h; simp at h
    rcases h with h | h
    · subst h; exact tok_single hc
    · exact ih t h
  | case5 c hc d r hd hnil ih => intro t h; rw [hnil] at h; simp at h; subst h; exact tok_single hc
  | case6 c hc d r hd h t' heq ih =>
    intro t ht; rw [heq] at ht; simp at ht
    rcases ht with ht | ht
    · subst ht
      have := ih h (by simp [heq])
      refine ⟨by simp, ?_⟩
      intro x hx; simp at hx
      rcases hx with hx | hx
      · subst hx; simpa using hc
      · exact this.2 x hx
    · exact ih t (by simp [heq, ht])

theorem split1_spec (sep : Char) (s : Str) :
    sep ∉ (split1 sep s).1 ∧ s = (split1 sep s).1 ++ (match (split1 sep s).2 with | some v => sep :: v | none => []) := by
  induction s with
  | nil => simp [split1]
  | cons c cs ih =>
    by_cases h : c = sep
    · simp [split1, h]
    · simp only [split1, h, if_false, List.mem_cons, not_or, List.cons_append, List.cons.injEq, true_and]
      exact ⟨⟨fun e => h e.symm, ih.1⟩, ih.2⟩

theorem split1_fst_nosep (sep : Char) (s : Str) : sep ∉ (split1 sep s).1 := (split1_spec sep s).1

theorem split1_some_eq (sep : Char) (s : Str) (k v : Str) (h : split1 sep s = (k, some v)) :
    s = k ++ sep :: v := by
  have := (split1_spec sep s).2
  rwa [h] at this

theorem split1_none_eq (sep : Char) (s : Str) (k : Str) (h : split1 sep s = (k, none)) :
    s = k ∧ sep ∉ s := by
  have := split1_spec sep s
  rw [h] at this
  simp only [List.append_nil] at this
  exact ⟨this.2, this.2 ▸ this.1⟩

theorem splitOn_nosep (sep : Char) (s : Str) : ∀ p ∈ splitOn sep s, sep ∉ p := by
  induction s with
  | nil => simp [splitOn]
  | cons c cs ih =>
    by_cases h : c = sep
    · simp [splitOn, h]; exact ih
    · simp only [splitOn, h, if_false]
      cases hs : splitOn sep cs with
      | nil => simp; exact fun e => h e.symm
      | cons a r =>
        rw [hs] at ih
        intro p hp; simp at hp
        rcases hp with hp | hp
        · subst hp; simp; exact ⟨fun e => h e.symm, ih a (by simp)⟩
        · exact ih p (by simp [hp])

theorem unwords_ne_nil (toks : List Str) (hne : toks ≠ []) (ht : ∀ t ∈ toks, Tok t) : unwords toks ≠ [] := by
  cases toks with
  | nil => exact absurd rfl hne
  | cons a r =>
    have := (ht a (by simp)).1
    cases r with
    | nil => simpa [unwords, join] using this
    | cons b r' => cases a <;> simp [unwords, join] at this ⊢

theorem unwords_no_nl (toks : List Str) (ht : ∀ t ∈ toks, Tok t) : '\n' ∉ unwords toks := by
  induction toks with
  | nil => simp [unwords, join]
  | cons a r ih =>
    have ha : '\n' ∉ a := by
      intro h; have := (ht a (by simp)).2 _ h; revert this; decide
    cases r with
    | nil => simpa [unwords, join] using ha
    | cons b r' =>
      have := ih (fun t h => ht t (by simp [h]))
      simp only [unwords, join, List.mem_append, List.mem_cons, List.not_mem_nil, or_false, not_or] at this ⊢
      exact ⟨⟨ha, by decide⟩, this⟩

theorem showInt_nonneg_digits (i : Int) (h : 0 ≤ i) : (showInt i).all isDigit = true := by
  cases i with
  | ofNat n => simp only [showInt, List.all_eq_true]; exact (showNat_digits n).2
  | negSucc n => omega

end Aiortc.Model.Sdp
