import Aiortc.Lemmas.C09.SdpAttr
/-! C09: line-break freedom.  Lines without line-break characters come back from `splitlines ∘ unlines`
(`splitlines_unlines`); `splitlines` returns such lines; every piece the parser cuts out of such a line (split, strip,
drop) is again free of them; tokens and printed integers are free of them. -/
namespace Aiortc.Lemmas.C09
open Aiortc Aiortc.Model.Sdp

def NoBreak (l : Str) : Prop := ∀ c ∈ l, isLineBreak c = false

theorem splitlines_line (l rest cur : Str) (h : NoBreak l) :
    splitlinesAux (l ++ rest) cur false = splitlinesAux rest (l.reverse ++ cur) false := by
  induction l generalizing cur with
  | nil => rfl
  | cons c r ih =>
    have hc : isLineBreak c = false := h c (by simp)
    simp only [List.cons_append, splitlinesAux, Bool.false_and, Bool.false_eq_true, if_false, hc]
    rw [ih _ (fun x hx => h x (by simp [hx]))]
    simp

theorem splitlines_crlf (rest cur : Str) :
    splitlinesAux ('\r' :: '\n' :: rest) cur false = cur.reverse :: splitlinesAux rest [] false := by
  have h1 : isLineBreak '\r' = true := by decide
  simp [splitlinesAux, h1]

theorem splitlines_unlines (ls : List Str) (h : ∀ l ∈ ls, NoBreak l) : splitlines (unlines ls) = ls := by
  unfold splitlines
  induction ls with
  | nil => rfl
  | cons l r ih =>
    have : unlines (l :: r) = l ++ ('\r' :: '\n' :: unlines r) := by simp [unlines, crlf]
    rw [this, splitlines_line _ _ _ (h l (by simp)), splitlines_crlf, ih (fun x hx => h x (by simp [hx]))]
    simp

/-- One step down an `if` chain in a hypothesis. It is used as `replace h := ite_ok h`, so that the part of the chain
already examined leaves the context: every later `cases h` would have to traverse it again. -/
theorem ite_ok {α} {c : Prop} [Decidable c] {a b r : α} (h : (if c then a else b) = r) :
    (c ∧ a = r) ∨ (¬c ∧ b = r) := by
  by_cases hc : c
  · rw [if_pos hc] at h; exact Or.inl ⟨hc, h⟩
  · rw [if_neg hc] at h; exact Or.inr ⟨hc, h⟩

theorem nb_nil : NoBreak [] := by intro c h; cases h

theorem nb_append (a b : Str) : NoBreak (a ++ b) ↔ NoBreak a ∧ NoBreak b := by
  simp only [NoBreak, List.mem_append]
  constructor
  · intro h; exact ⟨fun c hc => h c (Or.inl hc), fun c hc => h c (Or.inr hc)⟩
  · rintro ⟨h1, h2⟩ c (hc | hc); exact h1 c hc; exact h2 c hc

theorem nb_cons (c : Char) (s : Str) : NoBreak (c :: s) ↔ isLineBreak c = false ∧ NoBreak s := by
  simp only [NoBreak, List.mem_cons]
  constructor
  · intro h; exact ⟨h c (Or.inl rfl), fun x hx => h x (Or.inr hx)⟩
  · rintro ⟨h1, h2⟩ x (hx | hx); subst hx; exact h1; exact h2 x hx

theorem nb_sub (s p : Str) (h : NoBreak s) (hs : ∀ c ∈ p, c ∈ s) : NoBreak p := fun c hc => h c (hs c hc)

theorem break_is_space (c : Char) (h : isLineBreak c = true) : isPySpace c = true := by
  unfold isLineBreak at h
  unfold isPySpace
  generalize c.toNat = n at h ⊢
  simp only [Bool.or_eq_true, Bool.and_eq_true, decide_eq_true_eq] at h ⊢
  rcases h with (((h | h) | h) | h) | h <;> omega

theorem nb_tok (t : Str) (h : Tok t) : NoBreak t := by
  intro c hc
  cases hb : isLineBreak c with
  | false => rfl
  | true => have := break_is_space c hb; rw [h.2 c hc] at this; cases this

theorem nb_showInt (i : Int) : NoBreak (showInt i) := nb_tok _ (tok_showInt i)

theorem nb_showNat (n : Nat) : NoBreak (showNat n) := nb_showInt (Int.ofNat n)

theorem nb_drop (n : Nat) (s : Str) (h : NoBreak s) : NoBreak (s.drop n) :=
  nb_sub s _ h (fun _ hc => List.mem_of_mem_drop hc)

theorem nb_dropWhile (p : Char → Bool) (s : Str) (h : NoBreak s) : NoBreak (s.dropWhile p) :=
  nb_sub s _ h (fun _ hc => (List.dropWhile_sublist p).subset hc)

theorem nb_reverse (s : Str) (h : NoBreak s) : NoBreak s.reverse :=
  nb_sub s _ h (fun _ hc => List.mem_reverse.mp hc)

theorem nb_strip (s : Str) (h : NoBreak s) : NoBreak (Model.Sdp.strip s) := by
  unfold Model.Sdp.strip stripLeft
  exact nb_reverse _ (nb_dropWhile _ _ (nb_reverse _ (nb_dropWhile _ _ h)))

theorem nb_split1 (sep : Char) (s : Str) (h : NoBreak s) :
    NoBreak (split1 sep s).1 ∧ ∀ v, (split1 sep s).2 = some v → NoBreak v := by
  cases hs : (split1 sep s).2 with
  | none =>
    have := split1_none_eq sep s (split1 sep s).1 (by rw [← hs])
    rw [← this.1]; exact ⟨h, by intro v hv; cases hv⟩
  | some v =>
    have := split1_some_eq sep s (split1 sep s).1 v (by rw [← hs])
    rw [this, nb_append, nb_cons] at h
    exact ⟨h.1, by intro v' hv'; cases hv'; exact h.2.2⟩

theorem nb_split1_pair {sep : Char} {s k : Str} {o : Option Str} (h : NoBreak s) (e : split1 sep s = (k, o)) :
    NoBreak k ∧ ∀ v, o = some v → NoBreak v := by
  have := nb_split1 sep s h
  rw [e] at this; exact this

theorem splitOn_nb (sep : Char) (s : Str) (h : NoBreak s) : ∀ p ∈ splitOn sep s, NoBreak p := by
  induction s with
  | nil => intro p hp; simp [splitOn] at hp; subst hp; exact nb_nil
  | cons c cs ih =>
    rw [nb_cons] at h
    have ih := ih h.2
    by_cases hc : c = sep
    · intro p hp; simp [splitOn, hc] at hp
      rcases hp with hp | hp
      · subst hp; exact nb_nil
      · exact ih p hp
    · simp only [splitOn, hc, if_false]
      cases hs : splitOn sep cs with
      | nil => intro p hp; simp at hp; subst hp; rw [nb_cons]; exact ⟨h.1, nb_nil⟩
      | cons a r =>
        rw [hs] at ih
        intro p hp; simp at hp
        rcases hp with hp | hp
        · subst hp; rw [nb_cons]; exact ⟨h.1, ih a (by simp)⟩
        · exact ih p (by simp [hp])

theorem nb_parseAttr (line : Str) (h : NoBreak line) :
    NoBreak (parseAttr line).1 ∧ ∀ v, (parseAttr line).2 = some v → NoBreak v := by
  unfold parseAttr
  split
  · exact nb_split1 ':' _ (nb_drop 2 _ h)
  · exact ⟨nb_drop 2 _ h, by intro v hv; cases hv⟩

theorem nb_lit_chars (s : Str) (h : s.all (fun c => !isLineBreak c) = true) : NoBreak s := by
  intro c hc
  have := List.all_eq_true.mp h c hc
  simpa using this

theorem nb_toList (s : String) : NoBreak s.toList ↔ s.toList.all (fun c => !isLineBreak c) = true := by
  simp [NoBreak]

theorem nb_lit (s : String) : NoBreak (lit s) ↔ s.toList.all (fun c => !isLineBreak c) = true := nb_toList s

theorem nb_join (sep : Str) (hsep : NoBreak sep) (parts : List Str) (h : ∀ t ∈ parts, NoBreak t) :
    NoBreak (join sep parts) := by
  induction parts with
  | nil => exact nb_nil
  | cons a r ih =>
    cases r with
    | nil => simpa [join] using h a (by simp)
    | cons b r' =>
      simp only [join]
      rw [nb_append, nb_append]
      exact ⟨⟨h a (by simp), hsep⟩, ih (fun t ht => h t (by simp [ht]))⟩

theorem nb_unwords (toks : List Str) (h : ∀ t ∈ toks, NoBreak t) : NoBreak (unwords toks) :=
  nb_join [' '] (by rw [nb_cons]; exact ⟨by decide, nb_nil⟩) toks h

theorem splitlinesAux_nb (s : Str) : ∀ (cur : Str) (cr : Bool), NoBreak cur →
    ∀ l ∈ splitlinesAux s cur cr, NoBreak l := by
  induction s with
  | nil =>
    intro cur cr hcur l hl
    simp only [splitlinesAux] at hl
    split at hl
    · cases hl
    · simp at hl; subst hl; exact nb_reverse _ hcur
  | cons c cs ih =>
    intro cur cr hcur l hl
    simp only [splitlinesAux] at hl
    split at hl
    · exact ih cur false hcur l hl
    · split at hl
      · simp only [List.mem_cons] at hl
        rcases hl with hl | hl
        · subst hl; exact nb_reverse _ hcur
        · exact ih [] _ nb_nil l hl
      · rename_i _ hb
        exact ih (c :: cur) false (by rw [nb_cons]; exact ⟨by simpa using hb, hcur⟩) l hl

theorem splitlines_nb (s : Str) : ∀ l ∈ splitlines s, NoBreak l :=
  splitlinesAux_nb s [] false nb_nil

end Aiortc.Lemmas.C09
