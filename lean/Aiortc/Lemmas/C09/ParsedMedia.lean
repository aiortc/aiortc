import Aiortc.Lemmas.C09.ParsedCodec
/-! C09, whole-text idempotence: the invariant `ParsedMedia` of the media-section parser; the "m=" line establishes it
(`mediaHeader_accepted`), that both passes preserve it is in `ParsedPass.lean`. -/
namespace Aiortc.Lemmas.C09
open Aiortc Aiortc.Model.Sdp

def OptNB (o : Option Str) : Prop := ∀ v, o = some v → NoBreak v

def RoleOk (r : Str) : Prop := ∃ su, setupOfRole r = .ok su ∧ parseSetup (some su) = .ok r

def FpsOk (l : List Fingerprint) : Prop := ∀ f ∈ l, Tok f.algorithm ∧ Tok f.value

/-- What the session-level lines can leave in the defaults that are folded into every media section. -/
structure DefaultsOk (d : Defaults) : Prop where
  fps : FpsOk d.fingerprints
  role : ∀ r, d.role = some r → RoleOk r
  opts : OptNB d.iceOptions
  pwd : OptNB d.icePwd
  ufrag : OptNB d.iceUfrag

/-- Everything the media-section parser guarantees about its result (weaker than `WFMedia`: `mid`/`msid` may be
`None`/empty, `rtcp_mux` may be set without an rtcp port, ssrc entries may carry no attribute, audio channel counts
are arbitrary, feedback parameters may be empty, fmtp dictionaries may serialise to nothing, the kind may contain "/";
stronger in one respect: no string field contains a line-break character). -/
structure ParsedMedia (m : Media) : Prop where
  hkind : m.kind ≠ [] ∧ ' ' ∉ m.kind
  hport : 0 ≤ m.port
  hprofile : m.profile ≠ [] ∧ ∀ c ∈ m.profile, profileChar c = true
  hfmt : match m.fmt with
    | .ints l => (m.kind = lit "audio" ∨ m.kind = lit "video") ∧ l ≠ [] ∧
        ∀ pt ∈ l, (0 ≤ pt && pt < 256 && !forbiddenPt pt) = true
    | .strs l => m.kind ≠ lit "audio" ∧ m.kind ≠ lit "video" ∧ l ≠ [] ∧ ∀ t ∈ l, Tok t
  kind_nb : NoBreak m.kind
  host : ∀ h, m.host = some h → HostOk h ∧ NoBreak h
  direction : ∀ d, m.direction = some d → d ∈ directions
  ext : ∀ h ∈ m.headerExtensions, Tok h.uri
  mid_nb : OptNB m.muxId
  msid_nb : OptNB m.msid
  rtcp_none : m.rtcpPort = none → m.rtcpHost = none
  rtcp_host : ∀ h, m.rtcpHost = some h → HostOk h ∧ NoBreak h
  ssrcGroup : ∀ g ∈ m.ssrcGroup, Tok g.semantic
  ssrc_nb : ∀ s ∈ m.ssrc, SsrcNB s
  ssrc_nodup : (m.ssrc.map (·.ssrc)).Nodup
  sctpmap_nodup : (m.sctpmap.map Prod.fst).Nodup
  sctpmap_nb : ∀ kv ∈ m.sctpmap, NoBreak kv.2
  cands : ∀ c ∈ m.candidates, WFCand c
  dtls : ∀ d, m.dtls = some d → FpsOk d.fingerprints ∧ ∀ r, d.role = some r → RoleOk r
  ufrag_nb : OptNB m.ice.usernameFragment
  pwd_nb : OptNB m.ice.password
  opts_nb : OptNB m.iceOptions
  codecs : ∀ c ∈ m.codecs, ParsedCodec m.kind c
  codecs_nodup : (pts m.codecs).Nodup

theorem ParsedMedia.header {m : Media} (h : ParsedMedia m) : WFHeader m := ⟨h.hkind, h.hport, h.hprofile, h.hfmt⟩

theorem pyInt_digits_nonneg (s : Str) (p : Int) (hd : s.all isDigit = true) (h : pyInt s = some p) :
    0 ≤ p := by
  have hall : ∀ c ∈ s, isDigit c = true := List.all_eq_true.mp hd
  unfold pyInt at h
  rw [stripInt_self s (fun c hc => isDigit_not_intSpace (hall c hc))] at h
  cases s with
  | nil => simp [parseDigits] at h
  | cons c r =>
    have hc := hall c (by simp)
    have h1 : c ≠ '-' := by intro e; subst e; revert hc; decide
    have h2 : c ≠ '+' := by intro e; subst e; revert hc; decide
    split at h
    · rename_i ds e; simp at e; exact absurd e.1 h1
    · rename_i ds e; simp at e; exact absurd e.1 h2
    · simp only [Option.map_eq_some_iff] at h
      obtain ⟨n, _, rfl⟩ := h
      exact Int.natCast_nonneg n

theorem nb_profile (p : Str) (h : p.all (fun c => ('A' ≤ c && c ≤ 'Z') || c = '/') = true) : NoBreak p := by
  intro c hc
  have := List.all_eq_true.mp h c hc
  simp only [Bool.or_eq_true, Bool.and_eq_true, decide_eq_true_eq] at this
  rcases this with h | h
  · have h1 : 65 ≤ c.toNat := by
      have := h.1; rw [Char.le_def, UInt32.le_iff_toNat_le] at this; exact this
    have h2 : c.toNat ≤ 90 := by
      have := h.2; rw [Char.le_def, UInt32.le_iff_toNat_le] at this; exact this
    simp only [isLineBreak, Bool.or_eq_false_iff, Bool.and_eq_false_iff, decide_eq_false_iff_not]
    omega
  · subst h; decide

theorem mapInt_length : ∀ (toks : List Str) (l : List Int), mapInt toks = .ok l → l.length = toks.length := by
  intro toks
  induction toks with
  | nil => intro l h; simp only [mapInt] at h; cases h; rfl
  | cons t r ih =>
    intro l h
    simp only [mapInt] at h
    split at h
    · split at h
      · rename_i l' hl'; cases h; simp [ih l' hl']
      · rename_i e he; exact absurd h (he _)
    · cases h

theorem fmt_shape (kind fmtStr : Str) (f : Fmt) (hfmt : ¬(splitWs fmtStr).isEmpty = true)
    (hfo : (if (decide (kind = lit "audio") || decide (kind = lit "video")) = true then
        match mapInt (splitWs fmtStr) with
        | Outcome.ok l =>
          if (l.all fun pt => decide (0 ≤ pt) && decide (pt < 256) && !forbiddenPt pt) = true then Outcome.ok (Fmt.ints l)
          else Outcome.crash "AssertionError"
        | Outcome.valueError => Outcome.valueError
        | Outcome.crash k => Outcome.crash k
        | Outcome.hang => Outcome.hang
      else Outcome.ok (Fmt.strs (splitWs fmtStr))) = Outcome.ok f) :
    (∀ l, f = .ints l → (kind = lit "audio" ∨ kind = lit "video") ∧ l ≠ [] ∧
        ∀ pt ∈ l, (0 ≤ pt && pt < 256 && !forbiddenPt pt) = true) ∧
    (∀ l, f = .strs l → kind ≠ lit "audio" ∧ kind ≠ lit "video" ∧ l ≠ [] ∧ ∀ t ∈ l, Tok t) := by
  have hne : splitWs fmtStr ≠ [] := by simpa using hfmt
  by_cases hav : (decide (kind = lit "audio") || decide (kind = lit "video")) = true
  · simp only [hav, if_true] at hfo
    generalize hm : mapInt (splitWs fmtStr) = r at hfo
    cases r with
    | ok l =>
      simp only at hfo
      split at hfo
      · rename_i hall
        injection hfo with hfo; subst hfo
        refine ⟨?_, (by intro l' h'; cases h')⟩
        intro l' h'; cases h'
        refine ⟨by simpa using hav, ?_, List.all_eq_true.mp hall⟩
        intro e; subst e
        have := mapInt_length _ _ hm
        simp at this; exact hne (List.length_eq_zero_iff.mp this.symm)
      · cases hfo
    | valueError => cases hfo
    | crash k => cases hfo
    | hang => cases hfo
  · simp only [hav] at hfo
    injection hfo with hfo; subst hfo
    simp only [Bool.or_eq_true, decide_eq_true_eq, not_or] at hav
    refine ⟨(by intro l' h'; cases h'), ?_⟩
    intro l' h'; cases h'
    exact ⟨hav.1, hav.2, hne, splitWs_all_tok fmtStr⟩

theorem mediaHeader_accepted (d : Defaults) (line : Str) (m : Media) (hd : DefaultsOk d) (hl : NoBreak line)
    (h : mediaHeader d line = .ok m) :
    ParsedMedia m ∧ m.dtls = some { fingerprints := d.fingerprints, role := d.role } ∧ m.ice.iceLite = d.iceLite := by
  unfold mediaHeader at h
  replace h := ite_ok h
  rcases h with ⟨_, h⟩ | ⟨_, h⟩
  · cases h
  rcases he1 : split1 ' ' (List.drop 2 line) with ⟨kind, _ | r1⟩
  · rw [he1] at h; cases h
  rcases he2 : split1 ' ' r1 with ⟨port, _ | r2⟩
  · rw [he1] at h; simp only [he2] at h; cases h
  rcases he3 : split1 ' ' r2 with ⟨profile, _ | fmtStr⟩
  · rw [he1] at h; simp only [he2, he3] at h; cases h
  rw [he1] at h
  simp only [he2, he3] at h
  replace h := ite_ok h
  rcases h with ⟨_, h⟩ | ⟨hcond, h⟩
  · cases h
  replace h := ite_ok h
  rcases h with ⟨_, h⟩ | ⟨hfmt, h⟩
  · cases h
  simp only [Bool.or_eq_true, not_or, Bool.not_eq_true, Bool.not_eq_false, Bool.not_eq_true', List.isEmpty_eq_false_iff] at hcond
  obtain ⟨⟨⟨⟨⟨⟨hk, _⟩, hpd⟩, hprne⟩, hprc⟩, hfne⟩, _⟩ := hcond
  have hl2 := nb_drop 2 _ hl
  have n1 := nb_split1_pair hl2 he1
  have n2 := nb_split1_pair (n1.2 _ rfl) he2
  have n3 := nb_split1_pair (n2.2 _ rfl) he3
  have hksp : ' ' ∉ kind := by have := split1_fst_nosep ' ' (List.drop 2 line); rw [he1] at this; exact this
  split at h
  · rename_i f p hfo hp
    cases h
    refine ⟨?_, rfl, rfl⟩
    have hfmtW := fmt_shape kind fmtStr f hfmt hfo
    exact {
      hkind := ⟨hk, hksp⟩
      hport := pyInt_digits_nonneg port p hpd hp
      hprofile := ⟨hprne, List.all_eq_true.mp hprc⟩
      hfmt := by
        cases f with
        | ints l => exact hfmtW.1 _ rfl
        | strs l => exact hfmtW.2 _ rfl
      kind_nb := n1.1
      host := by intro x hx; cases hx
      direction := by intro x hx; cases hx
      ext := by intro x hx; cases hx
      mid_nb := by intro x hx; cases hx; exact nb_nil
      msid_nb := by intro x hx; cases hx
      rtcp_none := fun _ => rfl
      rtcp_host := by intro x hx; cases hx
      ssrcGroup := by intro x hx; cases hx
      ssrc_nb := by intro x hx; cases hx
      ssrc_nodup := List.nodup_nil
      sctpmap_nodup := List.nodup_nil
      sctpmap_nb := by intro x hx; cases hx
      cands := by intro x hx; cases hx
      dtls := by intro x hx; cases hx; exact ⟨hd.fps, hd.role⟩
      ufrag_nb := hd.ufrag
      pwd_nb := hd.pwd
      opts_nb := hd.opts
      codecs := by intro x hx; cases hx
      codecs_nodup := List.nodup_nil }
  · cases h
  · cases h
  · cases h
  · cases h

end Aiortc.Lemmas.C09
