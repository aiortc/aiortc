import Aiortc.Lemmas.C09.SdpMedia
/-! C09 lemmas, layer L3: the "m=" line, both passes over the printed body of a section, and the structured round trip
of a whole media section (`media_roundtrip`). -/
namespace Aiortc.Lemmas.C09
open Aiortc Aiortc.Model.Sdp

def profileChar (c : Char) : Bool := ('A' ≤ c && c ≤ 'Z') || c = '/'

structure WFHeader (m : Media) : Prop where
  kind : m.kind ≠ [] ∧ ' ' ∉ m.kind
  port : 0 ≤ m.port
  profile : m.profile ≠ [] ∧ ∀ c ∈ m.profile, profileChar c = true
  fmt : match m.fmt with
    | .ints l => (m.kind = lit "audio" ∨ m.kind = lit "video") ∧ l ≠ [] ∧
        ∀ pt ∈ l, (0 ≤ pt && pt < 256 && !forbiddenPt pt) = true
    | .strs l => m.kind ≠ lit "audio" ∧ m.kind ≠ lit "video" ∧ l ≠ [] ∧ ∀ t ∈ l, Tok t

def hdrLine (m : Media) : Str :=
  lit "m=" ++ m.kind ++ ' ' :: showInt m.port ++ ' ' :: m.profile ++ ' ' :: unwords (fmtToks m.fmt)

theorem fmtToks_tok (m : Media) (hw : WFHeader m) : fmtToks m.fmt ≠ [] ∧ ∀ t ∈ fmtToks m.fmt, Tok t := by
  have := hw.fmt
  cases hf : m.fmt with
  | ints l =>
    rw [hf] at this
    refine ⟨by simpa [fmtToks] using this.2.1, ?_⟩
    intro t ht; simp only [fmtToks, List.mem_map] at ht; obtain ⟨i, _, rfl⟩ := ht; exact tok_showInt i
  | strs l =>
    rw [hf] at this
    exact ⟨by simpa [fmtToks] using this.2.2.1, by simpa [fmtToks] using this.2.2.2⟩

theorem mediaHeader_hdr (d : Defaults) (m : Media) (hw : WFHeader m) :
    mediaHeader d (hdrLine m) = .ok
      { kind := m.kind, port := m.port, profile := m.profile, fmt := m.fmt,
        dtls := some { fingerprints := d.fingerprints, role := d.role },
        ice := { iceLite := d.iceLite, usernameFragment := d.iceUfrag, password := d.icePwd },
        iceOptions := d.iceOptions } := by
  obtain ⟨hk1, hk2⟩ := hw.kind
  obtain ⟨hp1, hp2⟩ := hw.profile
  obtain ⟨ht1, ht2⟩ := fmtToks_tok m hw
  have hpsp : ' ' ∉ m.profile := by intro h; have := hp2 _ h; revert this; decide
  have hportsp : ' ' ∉ showInt m.port := showInt_no _ ' '
  have hstart : startsWith (lit "m=") (hdrLine m) = true := by simp [startsWith, hdrLine, lit, List.isPrefixOf]
  have hdrop : (hdrLine m).drop 2 =
      m.kind ++ ' ' :: (showInt m.port ++ ' ' :: (m.profile ++ ' ' :: unwords (fmtToks m.fmt))) := by
    simp [hdrLine, lit]
  have hke : m.kind.isEmpty = false := List.isEmpty_eq_false_iff.2 hk1
  have hpe : m.profile.isEmpty = false := List.isEmpty_eq_false_iff.2 hp1
  have hse : (showInt m.port).isEmpty = false := List.isEmpty_eq_false_iff.2 (tok_showInt m.port).1
  have hue : (unwords (fmtToks m.fmt)).isEmpty = false := List.isEmpty_eq_false_iff.2 (unwords_ne_nil _ ht1 ht2)
  have hfe : (fmtToks m.fmt).isEmpty = false := List.isEmpty_eq_false_iff.2 ht1
  have hnl : (unwords (fmtToks m.fmt)).contains '\n' = false := by simpa using unwords_no_nl _ ht2
  have hpall : m.profile.all (fun c => ('A' ≤ c && c ≤ 'Z') || c = '/') = true := by
    simp only [List.all_eq_true]; intro c hc; have := hp2 c hc; simpa [profileChar] using this
  unfold mediaHeader
  simp only [hstart, hdrop, split1_append ' ' _ _ hk2, split1_append ' ' _ _ hportsp, split1_append ' ' _ _ hpsp,
    hke, hpe, hse, hue, hnl, hpall, showInt_nonneg_digits _ hw.port, splitWs_unwords _ ht2, hfe, pyInt_showInt]
  have hf := hw.fmt
  cases hfm : m.fmt with
  | ints l =>
    rw [hfm] at hf
    obtain ⟨hkind, _, hall⟩ := hf
    have hall' : l.all (fun pt => 0 ≤ pt && pt < 256 && !forbiddenPt pt) = true := by
      simp only [List.all_eq_true]; exact hall
    rcases hkind with hkind | hkind <;> simp [hkind, fmtToks, mapInt_showInt, hall', lit_inj]
  | strs l =>
    rw [hfm] at hf
    simp [hf.1, hf.2.1, fmtToks]

theorem dir_props : ∀ d ∈ directions, d ≠ lit "fmtp" ∧ d ≠ lit "rtcp-fb" := by
  simp [directions_lit, Gen.DIRECTIONS, lit_inj]

theorem passive_pre (m : Media) (hw : WFBody m) : ∀ l ∈ preLines m, Passive l := by
  simp only [preLines, rtcpLines, List.forall_mem_append, forall_mem_optLine, forall_mem_hostLine, List.forall_mem_map,
    List.forall_mem_flatMap, and_assoc]
  refine ⟨?_, ?_, ?_, ?_, ?_, ?_, ?_, ?_⟩
  · intro h _; exact ⟨fun s => mediaLine2_c s _, notM_c _⟩
  · intro d hd
    obtain ⟨b, c⟩ := dir_props d (hw.direction d hd)
    rw [show lit "a=" = ['a', '='] by lit_toList; rfl]
    exact passive_flag d (directions_colon d (hw.direction d hd)) b c
  · intro h _; exact pre_extmap.passive _
  · intro v _; exact pre_mid.passive v
  · intro v _; exact pre_msid.passive v
  · cases m.rtcpPort with
    | none => simp
    | some p =>
      simp only [List.forall_mem_append, List.forall_mem_singleton, forall_mem_flag]
      refine ⟨?_, fun _ => flag_rtcp_mux.passive⟩
      rw [List.append_assoc]
      exact pre_rtcp.passive _
  · intro g _; exact pre_ssrc_group.passive _
  · intro s _ v _; exact pre_ssrc.passive _

theorem passive_post (m : Media) : ∀ l ∈ postLines m, Passive l := by
  simp only [postLines, List.forall_mem_append, forall_mem_optLine, forall_mem_flag, List.forall_mem_map, and_assoc]
  refine ⟨?_, ?_, ?_, ?_, ?_, ?_, ?_, ?_⟩
  · intro kv _; rw [List.append_assoc]; exact pre_sctpmap.passive _
  · intro v _; exact pre_sctp_port.passive v
  · intro v _; exact pre_mms.passive v
  · intro c _; exact pre_candidate.passive _
  · intro _
    exact flag_eoc.passive
  · intro v _; exact pre_ufrag.passive v
  · intro v _; exact pre_pwd.passive v
  · intro v _; exact pre_ice_options.passive v

theorem foldO_passive (ls : List Str) (h : ∀ l ∈ ls, Passive l) (s : Media) : foldO mediaLine2 s ls = .ok s :=
  foldO_ignore mediaLine2 ls s (fun x hx s' => (h x hx).ign s')

/-- Structurally valid media section (the "generated field values" of the property). -/
structure WFMedia (m : Media) : Prop where
  header : WFHeader m
  body : WFBody m
  codecs : ∀ c ∈ m.codecs, WFCodecFull m.kind c
  codecs_nodup : (pts m.codecs).Nodup

theorem allLines_codecs (kind : Str) (cs : List Codec) (hw : ∀ c ∈ cs, WFCodecFull kind c) :
    allLines codecLines cs = .ok (cs.flatMap codecLinesOk) := by
  induction cs with
  | nil => rfl
  | cons c r ih =>
    simp [allLines, codecLines_eq c _ (codecStr_ok kind c (hw c (by simp))), ih (fun x hx => hw x (by simp [hx]))]

def setupText (d : Dtls) : Str :=
  match setupOfRole (d.role.getD (lit "None")) with
  | .ok su => su
  | _ => []

def dtlsLinesOk (d : Option Dtls) : List Str :=
  match d with
  | none => []
  | some d => d.fingerprints.map (fun f => lit "a=fingerprint:" ++ fingerprintValue f) ++ [lit "a=setup:" ++ setupText d]

/-- The lines of a media section after its "m=" line, for a value that prints. -/
def bodyLines (m : Media) : List Str :=
  preLines m ++ ((m.codecs.flatMap codecLinesOk) ++ (postLines m ++ dtlsLinesOk m.dtls))

theorem passive_dtls (d : Option Dtls) : ∀ l ∈ dtlsLinesOk d, Passive l := by
  cases d with
  | none => simp [dtlsLinesOk]
  | some d =>
    simp only [dtlsLinesOk, List.forall_mem_append, List.forall_mem_map, List.forall_mem_singleton]
    exact ⟨fun f _ => pre_fingerprint.passive _, pre_setup.passive _⟩

theorem dtlsLines_wf (m : Media) (hw : WFBody m) : dtlsLines m.dtls = .ok (dtlsLinesOk m.dtls) := by
  cases hd : m.dtls with
  | none => rfl
  | some d =>
    obtain ⟨_, role, su, hr, hsu, _⟩ := hw.dtls d hd
    simp [dtlsLines, hr, hsu, dtlsLinesOk, setupText]

theorem mediaLines_eq (m : Media) (codecL dl : List Str) (h1 : allLines codecLines m.codecs = .ok codecL)
    (h2 : dtlsLines m.dtls = .ok dl) :
    mediaLines m = .ok (hdrLine m :: (preLines m ++ (codecL ++ (postLines m ++ dl)))) := by
  simp [mediaLines, h1, h2, hdrLine, preLines, postLines, List.append_assoc]

/-- First pass over the printed body, from the section the "m=" line opens: one step per block of the printer. -/
theorem pass1_all (m : Media) (hw : WFMedia m) :
    foldO mediaLine
      { kind := m.kind, port := m.port, profile := m.profile, fmt := m.fmt,
        dtls := some { fingerprints := [], role := none },
        ice := { iceLite := m.ice.iceLite, usernameFragment := none, password := none },
        iceOptions := none }
      (bodyLines m) =
    .ok { m with codecs := m.codecs.map strip, dtls := m.dtls.or (some { fingerprints := [], role := none }) } := by
  have hb := hw.body
  obtain ⟨mid, hmid⟩ := hb.mid
  unfold bodyLines preLines postLines
  simp only [List.append_assoc, hmid]
  refine foldO_step (host_block _ _ hb.host rfl) ?_
  refine foldO_step (dir_block _ _ hb.direction rfl) ?_
  refine foldO_step (foldO_map (fun s x hx => line_extmap s x (hb.ext x hx)) _) ?_
  rw [foldl_ext]
  refine foldO_step (mid_block _ mid rfl) ?_
  refine foldO_step (msid_block _ _ hb.msid rfl) ?_
  refine foldO_step (rtcp_block _ m hb rfl rfl rfl) ?_
  refine foldO_step (foldO_map (fun s x hx => line_ssrc_group s x (hb.ssrcGroup x hx)) _) ?_
  rw [foldl_ssrcGroup]
  refine foldO_step (ssrcs_block m.ssrc _ hb.ssrc (by simpa using hb.ssrc_nodup)) ?_
  refine foldO_step (codecs_pass1 m.kind m.codecs _ rfl hw.codecs (by simpa [pts] using hw.codecs_nodup)) ?_
  -- `dsimp only`, here and twice below, flattens the record updates nested so far: the `rfl` side conditions and the
  -- closing `simp` are slow to check against the unreduced state (without it the ice steps reach the `isDefEq` limit)
  dsimp only
  refine foldO_step (foldO_map
    (fun s x _ => by have := line_sctpmap s x.1 x.2; simpa [List.append_assoc] using this) _) ?_
  rw [foldl_sctpmap, dictSet_all_new m.sctpmap [] (by simpa using hb.sctpmap_nodup)]
  refine foldO_step (intopt_set _ (fun s o => { s with sctpPort := o }) line_sctp_port _ rfl _) ?_
  refine foldO_step (intopt_set _ (fun s o => { s with maxMessageSize := o }) line_mms _ rfl _) ?_
  refine foldO_step (foldO_map (fun s x hx => candidate_line_in_media s x (hb.cands x hx)) _) ?_
  rw [foldl_cands]
  refine foldO_step (eoc_block _ _ rfl) ?_
  dsimp only
  refine foldO_step (opt_block mediaLine _ (fun s o => { s with ice := { s.ice with usernameFragment := o } })
    line_ufrag _ rfl _) ?_
  refine foldO_step (opt_block mediaLine _ (fun s o => { s with ice := { s.ice with password := o } }) line_pwd _ rfl _) ?_
  refine foldO_step (opt_block mediaLine _ (fun s o => { s with iceOptions := o }) line_ice_options _ rfl _) ?_
  dsimp only
  cases hd : m.dtls with
  | none => simp [dtlsLinesOk, foldO]
  | some d =>
    obtain ⟨hf, role, su, hr, hsu, hps⟩ := hb.dtls d hd
    have e : setupText d = su := by simp [setupText, hr, hsu]
    simp only [dtlsLinesOk, e]
    rw [dtls_block _ d su role rfl hf hr hps]
    simp

theorem pass2_all (m : Media) (hw : WFMedia m) :
    foldO mediaLine2 { m with codecs := m.codecs.map strip }
      (bodyLines m) = .ok m := by
  refine foldO_step (foldO_passive _ (passive_pre m hw.body) _) ?_
  refine foldO_step (codecs_pass2 m.kind m.codecs [] _ hw.codecs rfl (by simpa [pts] using hw.codecs_nodup)) ?_
  refine foldO_step (foldO_passive _ (passive_post m) _) ?_
  rw [foldO_passive _ (passive_dtls m.dtls)]
  simp

/-- `parseMedia` as its four steps: the "m=" line, the first pass, the `dtls = None` fix-up, the second pass. -/
theorem parseMedia_passes {d : Defaults} {hd : Str} {ls : List Str} {m0 m1 : Media}
    (h0 : mediaHeader d hd = .ok m0) (h1 : foldO mediaLine m0 ls = .ok m1) :
    parseMedia d (hd :: ls) = foldO mediaLine2
      (match m1.dtls with
        | some dt => if dt.role.isNone then { m1 with dtls := none } else m1
        | none => m1) ls := by
  simp only [parseMedia, h0, ok_bind, h1]
  rfl

theorem media_form (m : Media) (hw : WFMedia m) :
    mediaLines m = .ok (hdrLine m :: bodyLines m) ∧ parseMedia { iceLite := m.ice.iceLite } (hdrLine m :: bodyLines m) = .ok m := by
  refine ⟨mediaLines_eq m _ _ (allLines_codecs m.kind m.codecs hw.codecs) (dtlsLines_wf m hw.body), ?_⟩
  have h0 := mediaHeader_hdr { iceLite := m.ice.iceLite } m hw.header
  -- reduce the projections of the defaults, so that the opened section is literally the one `pass1_all` starts from
  -- (unifying the two record literals unreduced is slow to check)
  dsimp only at h0
  refine (parseMedia_passes h0 (pass1_all m hw)).trans ?_
  dsimp only
  -- a section that prints DTLS parameters prints a role, so the fix-up only undoes the parameters the "m=" line opened
  have hfix : ∀ d, m.dtls = some d → d.role.isNone = false := fun d hd => by
    obtain ⟨_, role, _, hr, _⟩ := hw.body.dtls d hd
    simp [hr]
  have h2 := pass2_all m hw
  cases hd : m.dtls with
  | none => simpa [hd] using h2
  | some d => simpa [hd, hfix d hd] using h2

/-- **Structured round trip, media level.**  For EVERY structurally valid media section `m`:
`MediaDescription.__str__` succeeds, and feeding its lines to the media part of
`SessionDescription.parse` (header, first pass, DTLS fix-up, second pass) gives back exactly `m` —
every field: kind, port, profile, formats, host, direction, header extensions, mid, msid, rtcp,
SSRCs and SSRC groups, codecs with parameters and feedback, sctpmap / sctp-port / max-message-size,
candidates, end-of-candidates, ICE credentials and options, DTLS fingerprints and role. -/
theorem media_roundtrip (m : Media) (hw : WFMedia m) :
    ∃ lines, mediaLines m = .ok lines ∧ parseMedia { iceLite := m.ice.iceLite } lines = .ok m :=
  ⟨_, (media_form m hw).1, (media_form m hw).2⟩

end Aiortc.Lemmas.C09
