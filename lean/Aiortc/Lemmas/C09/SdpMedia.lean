import Aiortc.Lemmas.C09.SdpDispatch
/-! C09 lemmas, layer L3: every line `MediaDescription.__str__` prints, fed back to the media-level line
parser of `SessionDescription.parse` (first pass, second pass), block by block. -/
namespace Aiortc.Lemmas.C09
open Aiortc Aiortc.Model.Sdp

theorem attr_extmap (m : Media) (h : HeaderExt) (hu : Tok h.uri) :
    mediaAttr m (lit "extmap") (some (extmapValue h)) = .ok { m with headerExtensions := m.headerExtensions ++ [h] } := by
  simp [mediaAttr, lit_inj, extmap_roundtrip h hu]

theorem attr_mid (m : Media) (v : Str) : mediaAttr m (lit "mid") (some v) = .ok { m with muxId := some v } := by
  simp [mediaAttr, lit_inj]

theorem attr_msid (m : Media) (v : Str) : mediaAttr m (lit "msid") (some v) = .ok { m with msid := some v } := by
  simp [mediaAttr, lit_inj]

theorem intOf_showInt (i : Int) : intOf (showInt i) = .ok i := by simp [intOf, pyInt_showInt]

theorem line_host (m : Media) (h : Str) (hne : h ≠ []) (hsp : ' ' ∉ h) :
    mediaLine m (lit "c=" ++ ipaddressToSdp h) = .ok { m with host := some h } := by
  simp [mediaLine, startsWith, lit, List.isPrefixOf, ipaddress_roundtrip h hne hsp]

theorem directions_colon : ∀ d ∈ directions, ':' ∉ d := by
  unfold directions Gen.DIRECTIONS
  simp only [List.map_cons, List.map_nil]
  lit_toList
  decide

theorem line_direction (m : Media) (d : Str) (hd : d ∈ directions) :
    mediaLine m (lit "a=" ++ d) = .ok { m with direction := some d } := by
  rw [show lit "a=" = ['a', '='] by lit_toList; rfl, List.cons_append, List.cons_append, List.nil_append,
    mediaLine_flag m d (directions_colon d hd)]
  rw [directions_lit] at hd
  obtain ⟨k, hk, rfl⟩ := List.mem_map.mp hd
  simp only [Gen.DIRECTIONS, List.mem_cons, List.not_mem_nil, or_false] at hk
  rcases hk with rfl | rfl | rfl | rfl <;> simp [mediaAttr, lit_inj, directions_lit, Gen.DIRECTIONS]

theorem line_mid (m : Media) (v : Str) : mediaLine m (lit "a=mid:" ++ v) = .ok { m with muxId := some v } := by
  rw [pre_mid.mediaLine, attr_mid]

theorem line_msid (m : Media) (v : Str) : mediaLine m (lit "a=msid:" ++ v) = .ok { m with msid := some v } := by
  rw [pre_msid.mediaLine, attr_msid]

theorem line_extmap (m : Media) (h : HeaderExt) (hu : Tok h.uri) :
    mediaLine m (lit "a=extmap:" ++ extmapValue h) = .ok { m with headerExtensions := m.headerExtensions ++ [h] } := by
  rw [pre_extmap.mediaLine, attr_extmap m h hu]

theorem line_rtcp (m : Media) (p : Int) :
    mediaLine m (lit "a=rtcp:" ++ showInt p) = .ok { m with rtcpPort := some p } := by
  simp [pre_rtcp.mediaLine, mediaAttr, lit_inj, split1_none ' ' _ (showInt_no p ' '), intOf_showInt]

theorem line_rtcp_host (m : Media) (p : Int) (h : Str) (hne : h ≠ []) (hsp : ' ' ∉ h) :
    mediaLine m (lit "a=rtcp:" ++ showInt p ++ ' ' :: ipaddressToSdp h) =
      .ok { m with rtcpPort := some p, rtcpHost := some h } := by
  simp [List.append_assoc, pre_rtcp.mediaLine, mediaAttr, lit_inj, split1_showInt_space, intOf_showInt, ipaddress_roundtrip h hne hsp]

theorem line_rtcp_mux (m : Media) : mediaLine m (lit "a=rtcp-mux") = .ok { m with rtcpMux := true } := by
  rw [flag_rtcp_mux.mediaLine]
  simp [mediaAttr, lit_inj]

theorem line_eoc (m : Media) : mediaLine m (lit "a=end-of-candidates") = .ok { m with candidatesComplete := true } := by
  rw [flag_eoc.mediaLine]
  simp [mediaAttr, lit_inj]

theorem line_ssrc_group (m : Media) (g : Group Int) (hs : Tok g.semantic) :
    mediaLine m (lit "a=ssrc-group:" ++ groupToStr showInt g) = .ok { m with ssrcGroup := m.ssrcGroup ++ [g] } := by
  simp [pre_ssrc_group.mediaLine, mediaAttr, lit_inj, directions_lit, Gen.DIRECTIONS, ssrc_group_roundtrip m.ssrcGroup g hs]

theorem line_sctpmap (m : Media) (k : Int) (v : Str) :
    mediaLine m (lit "a=sctpmap:" ++ showInt k ++ ' ' :: v) = .ok { m with sctpmap := dictSet m.sctpmap k v } := by
  simp [List.append_assoc, pre_sctpmap.mediaLine, mediaAttr, lit_inj, directions_lit, Gen.DIRECTIONS, sctpmap_roundtrip]

theorem line_sctp_port (m : Media) (p : Int) :
    mediaLine m (lit "a=sctp-port:" ++ showInt p) = .ok { m with sctpPort := some p } := by
  simp [pre_sctp_port.mediaLine, mediaAttr, lit_inj, directions_lit, Gen.DIRECTIONS, intOfOpt, intOf_showInt]

theorem line_mms (m : Media) (p : Int) :
    mediaLine m (lit "a=max-message-size:" ++ showInt p) = .ok { m with maxMessageSize := some p } := by
  simp [pre_mms.mediaLine, mediaAttr, lit_inj, intOfOpt, intOf_showInt]

theorem line_ufrag (m : Media) (v : Str) :
    mediaLine m (lit "a=ice-ufrag:" ++ v) = .ok { m with ice := { m.ice with usernameFragment := some v } } := by
  simp [pre_ufrag.mediaLine, mediaAttr, lit_inj]

theorem line_pwd (m : Media) (v : Str) :
    mediaLine m (lit "a=ice-pwd:" ++ v) = .ok { m with ice := { m.ice with password := some v } } := by
  simp [pre_pwd.mediaLine, mediaAttr, lit_inj]

theorem line_ice_options (m : Media) (v : Str) :
    mediaLine m (lit "a=ice-options:" ++ v) = .ok { m with iceOptions := some v } := by
  simp [pre_ice_options.mediaLine, mediaAttr, lit_inj]

theorem line_fingerprint (m : Media) (f : Fingerprint) (ha : Tok f.algorithm) (hv : Tok f.value) :
    mediaLine m (lit "a=fingerprint:" ++ fingerprintValue f) =
      .ok (m.updDtls fun d => { d with fingerprints := d.fingerprints ++ [f] }) := by
  simp [pre_fingerprint.mediaLine, mediaAttr, lit_inj, fingerprint_roundtrip f ha hv]

theorem line_setup (m : Media) (role su : Str) (h : parseSetup (some su) = .ok role) :
    mediaLine m (lit "a=setup:" ++ su) = .ok (m.updDtls fun d => { d with role := some role }) := by
  simp [pre_setup.mediaLine, mediaAttr, lit_inj, h]

theorem candidate_line_in_media (m : Media) (c : Candidate) (h : WFCand c) :
    mediaLine m (lit "a=candidate:" ++ candidateToSdp c) = .ok { m with candidates := m.candidates ++ [c] } := by
  simp [pre_candidate.mediaLine, mediaAttr, candidate_roundtrip c h]

theorem line_rtpmap (m : Media) (name : Str) (c : Codec) (h : WFCodec m.kind name c) (s : Str) (hs : codecStr c = .ok s) :
    mediaLine m (lit "a=rtpmap:" ++ showInt c.payloadType ++ ' ' :: s) =
      .ok (if m.codecs.all (·.payloadType != c.payloadType) then { m with codecs := m.codecs ++ [c] } else m) := by
  obtain ⟨s', hs', hp⟩ := rtpmap_roundtrip m.kind name c h
  rw [hs] at hs'; cases hs'
  simp [List.append_assoc, pre_rtpmap.mediaLine, mediaAttr, lit_inj, directions_lit, Gen.DIRECTIONS, hp]

theorem line_fb_first (m : Media) (v : Str) : mediaLine m (lit "a=rtcp-fb:" ++ v) = .ok m := by
  rw [pre_rtcpfb.mediaLine, mediaAttr_other m _ _ (.inr rfl)]

theorem line_fmtp_first (m : Media) (v : Str) : mediaLine m (lit "a=fmtp:" ++ v) = .ok m := by
  rw [pre_fmtp.mediaLine, mediaAttr_other m _ _ (.inl rfl)]

theorem line_ssrc (m : Media) (id : Int) (attr v : Str) (h : ':' ∉ attr) :
    mediaLine m (lit "a=ssrc:" ++ (showInt id ++ ' ' :: (attr ++ ':' :: v))) =
      .ok { m with ssrc := ssrcUpdate m.ssrc id attr v } := by
  simp [pre_ssrc.mediaLine, mediaAttr, lit_inj, directions_lit, Gen.DIRECTIONS, ssrc_line_roundtrip id attr v h]

theorem ssrcUpdate_new (acc : List Ssrc) (id : Int) (a v : Str) (h : id ∉ acc.map (·.ssrc)) :
    ssrcUpdate acc id a v = acc ++ [({ ssrc := id } : Ssrc).set a v] := by
  induction acc with
  | nil => rfl
  | cons s r ih =>
    simp only [List.map_cons, List.mem_cons, not_or] at h
    have : ¬ s.ssrc = id := fun e => h.1 e.symm
    simp [ssrcUpdate, this, ih h.2]

theorem ssrcUpdate_last (acc : List Ssrc) (s' : Ssrc) (a v : Str) (h : s'.ssrc ∉ acc.map (·.ssrc)) :
    ssrcUpdate (acc ++ [s']) s'.ssrc a v = acc ++ [s'.set a v] := by
  induction acc with
  | nil => simp [ssrcUpdate]
  | cons s r ih =>
    simp only [List.map_cons, List.mem_cons, not_or] at h
    have : ¬ s.ssrc = s'.ssrc := fun e => h.1 e.symm
    simp [ssrcUpdate, this, ih h.2]

theorem set_ssrc (s : Ssrc) (a v : Str) : (s.set a v).ssrc = s.ssrc := by
  simp only [Ssrc.set, apply_ite Ssrc.ssrc, ite_self]

def ssrcPairLines (id : Int) (ps : List (Str × Str)) : List Str :=
  ps.map fun p => lit "a=ssrc:" ++ (showInt id ++ ' ' :: (p.1 ++ ':' :: p.2))

/-- The ssrc lines of one id rewrite the `ssrc` list and nothing else; what they do to the list is a matter of lists. -/
theorem ssrc_pairs (m : Media) (id : Int) (ps : List (Str × Str)) (hc : ∀ p ∈ ps, ':' ∉ p.1) :
    foldO mediaLine m (ssrcPairLines id ps) =
      .ok { m with ssrc := ps.foldl (fun acc p => ssrcUpdate acc id p.1 p.2) m.ssrc } := by
  induction ps generalizing m with
  | nil => rfl
  | cons p r ih =>
    simp only [ssrcPairLines, List.map_cons, foldO, line_ssrc m _ _ _ (hc p (by simp))]
    exact ih _ fun q hq => hc q (by simp [hq])

theorem ssrcUpdate_pairs_last (acc : List Ssrc) (s' : Ssrc) (ps : List (Str × Str)) (hid : s'.ssrc ∉ acc.map (·.ssrc)) :
    ps.foldl (fun acc p => ssrcUpdate acc s'.ssrc p.1 p.2) (acc ++ [s']) =
      acc ++ [ps.foldl (fun s p => s.set p.1 p.2) s'] := by
  induction ps generalizing s' with
  | nil => rfl
  | cons p r ih =>
    rw [List.foldl_cons, List.foldl_cons, ssrcUpdate_last acc s' _ _ hid]
    have := ih (s'.set p.1 p.2) (by rw [set_ssrc]; exact hid)
    rwa [set_ssrc] at this

/-- Well-formed `SsrcDescription`: at least one of cname/msid/mslabel/label is present
(an ssrc without any known attribute prints no line at all). -/
def WFSsrc (s : Ssrc) : Prop := s.cname ≠ none ∨ s.msid ≠ none ∨ s.mslabel ≠ none ∨ s.label ≠ none

def ssrcPairs (s : Ssrc) : List (Str × Str) :=
  ssrcInfoAttrs.filterMap fun a => (s.get a).map fun v => (a, v)

theorem ssrcValues_pairs (s : Ssrc) :
    (ssrcValues s).map (lit "a=ssrc:" ++ ·) = ssrcPairLines s.ssrc (ssrcPairs s) := by
  unfold ssrcValues ssrcPairs ssrcPairLines
  generalize ssrcInfoAttrs = l
  induction l with
  | nil => rfl
  | cons a r ih =>
    simp only [List.filterMap_cons]
    cases s.get a <;> simp [← ih]

theorem ssrcAttrs_colon : ∀ a ∈ ssrcInfoAttrs, ':' ∉ a := by
  simp only [ssrc_attrs_const, List.map_cons, List.map_nil]
  lit_toList
  decide

theorem ssrcPairs_colon (s : Ssrc) : ∀ q ∈ ssrcPairs s, ':' ∉ q.1 := by
  intro q hq
  simp only [ssrcPairs, List.mem_filterMap, Option.map_eq_some_iff] at hq
  obtain ⟨a, ha, v, _, rfl⟩ := hq
  exact ssrcAttrs_colon a ha

theorem set_names (s : Ssrc) (v : Str) : s.set "cname".toList v = { s with cname := some v } ∧
    s.set "msid".toList v = { s with msid := some v } ∧ s.set "mslabel".toList v = { s with mslabel := some v } ∧
    s.set "label".toList v = { s with label := some v } := by
  simp [Ssrc.set, ssrc_attrs_const]

theorem get_names (s : Ssrc) : s.get "cname".toList = s.cname ∧ s.get "msid".toList = s.msid ∧
    s.get "mslabel".toList = s.mslabel ∧ s.get "label".toList = s.label := by
  simp [Ssrc.get]

/-- The names stay string literals throughout (`-String.reduceToList`), so that they are compared as such. -/
theorem ssrcPairs_fold (s : Ssrc) :
    (ssrcPairs s).foldl (fun s p => s.set p.1 p.2) ({ ssrc := s.ssrc } : Ssrc) = s := by
  obtain ⟨h1, h2, h3, h4⟩ := get_names s
  simp only [ssrcPairs, ssrc_attrs_const, List.map_cons, List.map_nil, List.filterMap_cons, List.filterMap_nil, h1, h2, h3, h4]
  obtain ⟨id, cn, ms, ml, lb⟩ := s
  cases cn <;> cases ms <;> cases ml <;> cases lb <;>
    simp [set_names, -String.reduceToList]

theorem ssrcUpdate_pairs_new (s : Ssrc) (hw : WFSsrc s) (acc : List Ssrc) (hid : s.ssrc ∉ acc.map (·.ssrc)) :
    (ssrcPairs s).foldl (fun acc p => ssrcUpdate acc s.ssrc p.1 p.2) acc = acc ++ [s] := by
  have hf := ssrcPairs_fold s
  cases hp : ssrcPairs s with
  | nil =>
    rw [hp] at hf
    rw [← hf] at hw
    simp [WFSsrc] at hw
  | cons p ps =>
    rw [hp] at hf
    rw [List.foldl_cons, ssrcUpdate_new _ _ _ _ hid]
    have := ssrcUpdate_pairs_last acc (({ ssrc := s.ssrc } : Ssrc).set p.1 p.2) ps (by rw [set_ssrc]; exact hid)
    rw [set_ssrc] at this
    rw [this]
    exact congrArg (acc ++ [·]) hf

theorem ssrc_block (m : Media) (s : Ssrc) (hw : WFSsrc s) (hid : s.ssrc ∉ m.ssrc.map (·.ssrc)) :
    foldO mediaLine m ((ssrcValues s).map (lit "a=ssrc:" ++ ·)) = .ok { m with ssrc := m.ssrc ++ [s] } := by
  rw [ssrcValues_pairs, ssrc_pairs m _ _ (ssrcPairs_colon s), ssrcUpdate_pairs_new s hw _ hid]

theorem showInt_inj (a b : Int) (h : showInt a = showInt b) : a = b := by
  have := pyInt_showInt a
  rw [h, pyInt_showInt] at this
  exact (Option.some.inj this).symm

theorem showInt_ne_star (a : Int) : showInt a ≠ ['*'] := by
  intro h
  have := showInt_no a '*'
  rw [h] at this; simp at this

def pts (cs : List Codec) : List Int := cs.map (·.payloadType)

theorem addFeedback_other (pt : Int) (ty : Str) (par : Option Str) (cs : List Codec) (h : pt ∉ pts cs) :
    addFeedback (showInt pt, some (ty, par)) cs = .ok cs := by
  induction cs with
  | nil => rfl
  | cons c r ih =>
    simp only [pts, List.map_cons, List.mem_cons, not_or] at h
    have h1 : ¬ showInt pt = showInt c.payloadType := fun e => h.1 (showInt_inj _ _ e)
    simp [addFeedback, showInt_ne_star, h1, ih h.2]

theorem addFeedback_at (pt : Int) (ty : Str) (par : Option Str) (pre post : List Codec) (c0 : Codec)
    (hc : c0.payloadType = pt) (h1 : pt ∉ pts pre) (h2 : pt ∉ pts post) :
    addFeedback (showInt pt, some (ty, par)) (pre ++ c0 :: post) =
      .ok (pre ++ { c0 with rtcpFeedback := c0.rtcpFeedback ++ [⟨ty, par⟩] } :: post) := by
  induction pre with
  | nil => simp [addFeedback, hc, addFeedback_other pt ty par post h2]
  | cons c r ih =>
    simp only [pts, List.map_cons, List.mem_cons, not_or] at h1
    have h3 : ¬ showInt pt = showInt c.payloadType := fun e => h1.1 (showInt_inj _ _ e)
    simp [addFeedback, showInt_ne_star, h3, ih h1.2]

theorem setParams_at (pt : Int) (p : Params) (pre post : List Codec) (c0 : Codec)
    (hc : c0.payloadType = pt) (h1 : pt ∉ pts pre) :
    setParams (pre ++ c0 :: post) pt p = some (pre ++ { c0 with parameters := p } :: post) := by
  induction pre with
  | nil => simp [setParams, hc]
  | cons c r ih =>
    simp only [pts, List.map_cons, List.mem_cons, not_or] at h1
    have h3 : ¬ c.payloadType = pt := fun e => h1.1 e.symm
    simp [setParams, h3, ih h1.2]

theorem line2_fb (m : Media) (pt : Int) (f : Feedback) (hf : WFFeedback f) (pre post : List Codec) (c0 : Codec)
    (hm : m.codecs = pre ++ c0 :: post) (hc : c0.payloadType = pt) (h1 : pt ∉ pts pre) (h2 : pt ∉ pts post) :
    mediaLine2 m (lit "a=rtcp-fb:" ++ fbValue pt f) =
      .ok { m with codecs := pre ++ { c0 with rtcpFeedback := c0.rtcpFeedback ++ [f] } :: post } := by
  rw [pre_rtcpfb.mediaLine2]
  simp [mediaAttr2, lit_inj, rtcpfb_roundtrip pt f hf, hm, addFeedback_at pt f.typ f.parameter pre post c0 hc h1 h2]

theorem line2_fmtp (m : Media) (pt : Int) (p : Params) (hp : WFParams p) (pre post : List Codec) (c0 : Codec)
    (hm : m.codecs = pre ++ c0 :: post) (hc : c0.payloadType = pt) (h1 : pt ∉ pts pre) :
    mediaLine2 m (lit "a=fmtp:" ++ showInt pt ++ ' ' :: parametersToSdp p) =
      .ok { m with codecs := pre ++ { c0 with parameters := p } :: post } := by
  obtain ⟨c, hfind⟩ := Option.isSome_iff_exists.1
    (show ((pre ++ c0 :: post).find? (·.payloadType = pt)).isSome by simp [hc])
  simp only [List.find?_append] at hfind
  rw [List.append_assoc, pre_fmtp.mediaLine2]
  simp [mediaAttr2, split1_showInt_space, intOf_showInt, hm, hfind, params_roundtrip p hp,
    setParams_at pt p pre post c0 hc h1]

/-- A codec without its feedback and parameters: what the first pass (rtpmap) builds.  Not `Model.Sdp.strip`
(`str.strip()`), which is in scope here too and has to be written with its namespace. -/
def strip (c : Codec) : Codec := { c with rtcpFeedback := [], parameters := [] }

structure WFCodecFull (kind : Str) (c : Codec) : Prop where
  base : ∃ name, WFCodec kind name (strip c)
  fb : ∀ f ∈ c.rtcpFeedback, WFFeedback f
  params : c.parameters = [] ∨ (WFParams c.parameters ∧ parametersToSdp c.parameters ≠ [])

def codecText (c : Codec) : Str :=
  match codecStr c with
  | .ok s => s
  | _ => []

/-- The lines `MediaDescription.__str__` prints for one codec. -/
def codecLinesOk (c : Codec) : List Str :=
  [lit "a=rtpmap:" ++ showInt c.payloadType ++ ' ' :: codecText c] ++
  c.rtcpFeedback.map (fun f => lit "a=rtcp-fb:" ++ fbValue c.payloadType f) ++
  (if (parametersToSdp c.parameters).isEmpty then [] else [lit "a=fmtp:" ++ showInt c.payloadType ++ ' ' :: parametersToSdp c.parameters])

theorem codecLines_eq (c : Codec) (s : Str) (h : codecStr c = .ok s) : codecLines c = .ok (codecLinesOk c) := by
  simp [codecLines, h, codecLinesOk, codecText]

theorem codecStr_ok (kind : Str) (c : Codec) (h : WFCodecFull kind c) : codecStr c = .ok (codecText c) := by
  obtain ⟨name, hb⟩ := h.base
  have := codecStr_wf kind name (strip c) hb
  unfold codecText
  rw [show codecStr c = codecStr (strip c) from rfl, this]

theorem codec_block1 (m : Media) (c : Codec) (hw : WFCodecFull m.kind c) (hpt : c.payloadType ∉ pts m.codecs) :
    foldO mediaLine m (codecLinesOk c) = .ok { m with codecs := m.codecs ++ [strip c] } := by
  obtain ⟨name, hb⟩ := hw.base
  have h1 := line_rtpmap m name (strip c) hb _ (codecStr_ok m.kind c hw)
  have hall : m.codecs.all (·.payloadType != c.payloadType) = true := by simpa [pts] using hpt
  simp only [show (strip c).payloadType = c.payloadType from rfl, hall, if_true] at h1
  unfold codecLinesOk
  rw [List.append_assoc, foldO_append _ (foldO_single h1)]
  rw [foldO_append _ (foldO_ignore _ _ _ (by
    intro x hx s'; simp only [List.mem_map] at hx; obtain ⟨f, _, rfl⟩ := hx; exact line_fb_first s' _))]
  split
  · rfl
  · exact foldO_single (by rw [List.append_assoc]; exact line_fmtp_first _ _)

theorem line2_rtpmap (m : Media) (v : Str) : mediaLine2 m (lit "a=rtpmap:" ++ v) = .ok m := by
  rw [pre_rtpmap.mediaLine2, mediaAttr2_other m _ _ (by simp [lit_inj]) (by simp [lit_inj])]

theorem fb_fold (pt : Int) (pre post : List Codec) (todo : List Feedback) (hf : ∀ f ∈ todo, WFFeedback f)
    (h1 : pt ∉ pts pre) (h2 : pt ∉ pts post) (m : Media) (c0 : Codec)
    (hm : m.codecs = pre ++ c0 :: post) (hc : c0.payloadType = pt) :
    foldO mediaLine2 m (todo.map (fun f => lit "a=rtcp-fb:" ++ fbValue pt f)) =
      .ok { m with codecs := pre ++ { c0 with rtcpFeedback := c0.rtcpFeedback ++ todo } :: post } := by
  induction todo generalizing m c0 with
  | nil => simp [foldO, ← hm]
  | cons f r ih =>
    simp only [List.map_cons, foldO, line2_fb m pt f (hf f (by simp)) pre post c0 hm hc h1 h2]
    have := ih (fun g hg => hf g (by simp [hg])) { m with codecs := pre ++ { c0 with rtcpFeedback := c0.rtcpFeedback ++ [f] } :: post }
      { c0 with rtcpFeedback := c0.rtcpFeedback ++ [f] } rfl hc
    simpa using this

theorem codec_block2 (m : Media) (kind : Str) (c : Codec) (hw : WFCodecFull kind c) (pre post : List Codec)
    (hm : m.codecs = pre ++ strip c :: post) (h1 : c.payloadType ∉ pts pre) (h2 : c.payloadType ∉ pts post) :
    foldO mediaLine2 m (codecLinesOk c) = .ok { m with codecs := pre ++ c :: post } := by
  unfold codecLinesOk
  have hr := line2_rtpmap m (showInt c.payloadType ++ ' ' :: codecText c)
  simp only [← List.append_assoc] at hr
  rw [List.append_assoc, foldO_append _ (foldO_single hr)]
  have hfb := fb_fold c.payloadType pre post c.rtcpFeedback hw.fb h1 h2 m (strip c) hm rfl
  rw [foldO_append _ hfb]
  obtain ⟨mime, clock, ch, pt, fb, params⟩ := c
  rcases hw.params with hp | ⟨hp, hne⟩
  · simp only at hp; subst hp
    simp [parametersToSdp, join, foldO, strip]
  · simp only at hp hne
    have hne' : (parametersToSdp params).isEmpty = false := List.isEmpty_eq_false_iff.2 hne
    simp only [hne', Bool.false_eq_true, if_false]
    have := line2_fmtp { m with codecs := pre ++ { strip ⟨mime, clock, ch, pt, fb, params⟩ with rtcpFeedback := [] ++ fb } :: post }
      pt params hp pre post { strip ⟨mime, clock, ch, pt, fb, params⟩ with rtcpFeedback := [] ++ fb } rfl rfl h1
    simp [foldO, strip] at this ⊢
    simp [this]

theorem pts_strip (cs : List Codec) : pts (cs.map strip) = pts cs := by
  simp [pts, strip]

theorem codecs_pass1 (kind : Str) (cs : List Codec) (m : Media) (hk : m.kind = kind)
    (hw : ∀ c ∈ cs, WFCodecFull kind c) (hnd : (pts m.codecs ++ pts cs).Nodup) :
    foldO mediaLine m (cs.flatMap codecLinesOk) =
      .ok { m with codecs := m.codecs ++ cs.map strip } := by
  induction cs generalizing m with
  | nil => simp [foldO]
  | cons c r ih =>
    have hc := hw c (by simp)
    rw [List.flatMap_cons, foldO_append _ (codec_block1 m c (hk ▸ hc) (List.not_mem_of_nodup_append hnd))]
    have := ih { m with codecs := m.codecs ++ [strip c] } hk (fun x hx => hw x (by simp [hx]))
      (by simpa [pts, strip, List.append_assoc] using hnd)
    simpa using this

theorem codecs_pass2 (kind : Str) (todo done : List Codec) (m : Media)
    (hw : ∀ c ∈ todo, WFCodecFull kind c)
    (hm : m.codecs = done ++ todo.map strip) (hnd : (pts done ++ pts todo).Nodup) :
    foldO mediaLine2 m (todo.flatMap codecLinesOk) =
      .ok { m with codecs := done ++ todo } := by
  induction todo generalizing done m with
  | nil =>
    simp only [List.map_nil, List.append_nil] at hm
    simp [foldO, ← hm]
  | cons c r ih =>
    have h2 : c.payloadType ∉ pts (r.map strip) := by
      rw [pts_strip]
      have := (List.nodup_append.mp hnd).2.1
      simp only [pts, List.map_cons, List.nodup_cons] at this
      exact this.1
    rw [List.flatMap_cons, foldO_append _ (codec_block2 m kind c (hw c (by simp)) done (r.map strip)
      (by simpa using hm) (List.not_mem_of_nodup_append hnd) h2)]
    have := ih (done ++ [c]) { m with codecs := done ++ c :: r.map strip } (fun x hx => hw x (by simp [hx]))
      (by simp) (by simpa [pts, List.append_assoc] using hnd)
    simpa using this

theorem foldl_ext (hs : List HeaderExt) (m : Media) :
    hs.foldl (fun m h => { m with headerExtensions := m.headerExtensions ++ [h] }) m =
      { m with headerExtensions := m.headerExtensions ++ hs } := by
  induction hs generalizing m with
  | nil => simp
  | cons h r ih => simp [ih]

theorem foldl_ssrcGroup (gs : List (Group Int)) (m : Media) :
    gs.foldl (fun m g => { m with ssrcGroup := m.ssrcGroup ++ [g] }) m =
      { m with ssrcGroup := m.ssrcGroup ++ gs } := by
  induction gs generalizing m with
  | nil => simp
  | cons h r ih => simp [ih]

theorem foldl_cands (cs : List Candidate) (m : Media) :
    cs.foldl (fun m c => { m with candidates := m.candidates ++ [c] }) m =
      { m with candidates := m.candidates ++ cs } := by
  induction cs generalizing m with
  | nil => simp
  | cons h r ih => simp [ih]

theorem foldl_fps (fs : List Fingerprint) (m : Media) (d : Dtls) (hd : m.dtls = some d) :
    fs.foldl (fun m f => m.updDtls fun d => { d with fingerprints := d.fingerprints ++ [f] }) m =
      { m with dtls := some { d with fingerprints := d.fingerprints ++ fs } } := by
  induction fs generalizing m d with
  | nil => simp [← hd]
  | cons h r ih =>
    simp only [List.foldl_cons]
    rw [ih _ { d with fingerprints := d.fingerprints ++ [h] } (by simp [Media.updDtls, hd])]
    simp [Media.updDtls]

theorem dictSet_all_new {β} (kvs : List (Int × β)) (acc : List (Int × β))
    (h : ((acc ++ kvs).map Prod.fst).Nodup) :
    kvs.foldl (fun a kv => dictSet a kv.1 kv.2) acc = acc ++ kvs := by
  induction kvs generalizing acc with
  | nil => simp
  | cons kv r ih =>
    obtain ⟨k, v⟩ := kv
    have hk : k ∉ acc.map Prod.fst := by
      rw [List.map_append] at h; exact List.not_mem_of_nodup_append h
    simp only [List.foldl_cons, dictSet_append acc k v hk]
    rw [ih (acc ++ [(k, v)]) (by simpa using h)]
    simp

theorem foldl_sctpmap (kvs : List (Int × Str)) (m : Media) :
    kvs.foldl (fun m kv => { m with sctpmap := dictSet m.sctpmap kv.1 kv.2 }) m =
      { m with sctpmap := kvs.foldl (fun a kv => dictSet a kv.1 kv.2) m.sctpmap } := by
  induction kvs generalizing m with
  | nil => simp
  | cons h r ih => simp [ih]

theorem ssrcs_block (ss : List Ssrc) (m : Media) (hw : ∀ s ∈ ss, WFSsrc s)
    (hnd : (m.ssrc.map (·.ssrc) ++ ss.map (·.ssrc)).Nodup) :
    foldO mediaLine m (ss.flatMap fun s => (ssrcValues s).map (lit "a=ssrc:" ++ ·)) =
      .ok { m with ssrc := m.ssrc ++ ss } := by
  induction ss generalizing m with
  | nil => simp [foldO]
  | cons s r ih =>
    simp only [List.flatMap_cons]
    have hid : s.ssrc ∉ m.ssrc.map (·.ssrc) := List.not_mem_of_nodup_append hnd
    rw [foldO_append _ (ssrc_block m s (hw s (by simp)) hid)]
    have := ih { m with ssrc := m.ssrc ++ [s] } (fun x hx => hw x (by simp [hx])) (by simpa [List.append_assoc] using hnd)
    simpa using this

def HostOk (h : Str) : Prop := h ≠ [] ∧ ' ' ∉ h

/-- Well-formedness of everything in a media section except the "m=" line and the codecs. -/
structure WFBody (m : Media) : Prop where
  host : ∀ h, m.host = some h → HostOk h
  direction : ∀ d, m.direction = some d → d ∈ directions
  ext : ∀ h ∈ m.headerExtensions, Tok h.uri
  mid : ∃ s, m.muxId = some s
  msid : ∀ s, m.msid = some s → s ≠ []
  rtcp_none : m.rtcpPort = none → m.rtcpHost = none ∧ m.rtcpMux = false
  rtcp_host : ∀ h, m.rtcpHost = some h → HostOk h
  ssrcGroup : ∀ g ∈ m.ssrcGroup, Tok g.semantic
  ssrc : ∀ s ∈ m.ssrc, WFSsrc s
  ssrc_nodup : (m.ssrc.map (·.ssrc)).Nodup
  sctpmap_nodup : (m.sctpmap.map Prod.fst).Nodup
  cands : ∀ c ∈ m.candidates, WFCand c
  dtls : ∀ d, m.dtls = some d → (∀ f ∈ d.fingerprints, Tok f.algorithm ∧ Tok f.value) ∧
    ∃ role su, d.role = some role ∧ setupOfRole role = .ok su ∧ parseSetup (some su) = .ok role

def preLines (m : Media) : List Str :=
  hostLine (lit "c=") m.host ++
  optLine (lit "a=") m.direction ++
  m.headerExtensions.map (fun h => lit "a=extmap:" ++ extmapValue h) ++
  optLine (lit "a=mid:") (truthy m.muxId) ++
  optLine (lit "a=msid:") (truthy m.msid) ++
  rtcpLines m ++
  m.ssrcGroup.map (fun g => lit "a=ssrc-group:" ++ groupToStr showInt g) ++
  (m.ssrc.flatMap fun s => (ssrcValues s).map (lit "a=ssrc:" ++ ·))

/-- Lines printed after the codec lines, except the DTLS lines. -/
def postLines (m : Media) : List Str :=
  m.sctpmap.map (fun kv => lit "a=sctpmap:" ++ showInt kv.1 ++ ' ' :: kv.2) ++
  optLine (lit "a=sctp-port:") (m.sctpPort.map showInt) ++
  optLine (lit "a=max-message-size:") (m.maxMessageSize.map showInt) ++
  m.candidates.map (fun c => lit "a=candidate:" ++ candidateToSdp c) ++
  (if m.candidatesComplete then [lit "a=end-of-candidates"] else []) ++
  optLine (lit "a=ice-ufrag:") m.ice.usernameFragment ++
  optLine (lit "a=ice-pwd:") m.ice.password ++
  optLine (lit "a=ice-options:") m.iceOptions

/-! Statements about all lines of a block come apart into one statement per kind of line: `List.forall_mem_append`,
`List.forall_mem_map` and the three lemmas below, used as `simp only` rules. -/

theorem forall_mem_optLine (P : Str → Prop) (pre : Str) (o : Option Str) :
    (∀ l ∈ optLine pre o, P l) ↔ ∀ v, o = some v → P (pre ++ v) := by
  cases o <;> simp [optLine]

theorem forall_mem_hostLine (P : Str → Prop) (pre : Str) (o : Option Str) :
    (∀ l ∈ hostLine pre o, P l) ↔ ∀ h, o = some h → P (pre ++ ipaddressToSdp h) := by
  cases o <;> simp [hostLine]

theorem forall_mem_flag (P : Str → Prop) (b : Bool) (x : Str) :
    (∀ l ∈ (if b = true then [x] else []), P l) ↔ (b = true → P x) := by
  cases b <;> simp

theorem rtcp_block (s m : Media) (hw : WFBody m) (h1 : s.rtcpPort = none) (h2 : s.rtcpHost = none) (h3 : s.rtcpMux = false) :
    foldO mediaLine s (rtcpLines m) =
      .ok { s with rtcpPort := m.rtcpPort, rtcpHost := m.rtcpHost, rtcpMux := m.rtcpMux } := by
  obtain ⟨kind, port, profile, fmt, host, dir, msid, rp, rh, rm, ssrc, sg, he, mux, cod, mms, smap, sport, dtls, ice, cands, cc, io⟩ := s
  subst h1 h2 h3
  unfold rtcpLines
  cases hp : m.rtcpPort with
  | none =>
    obtain ⟨a, b⟩ := hw.rtcp_none hp
    rw [a, b]; rfl
  | some p =>
    have hmux : ∀ s : Media, foldO mediaLine s (if m.rtcpMux = true then [lit "a=rtcp-mux"] else []) =
        .ok { s with rtcpMux := s.rtcpMux || m.rtcpMux } := by
      intro s; cases m.rtcpMux
      · simp [foldO]
      · rw [if_pos rfl, foldO_single (line_rtcp_mux s)]; simp
    cases hh : m.rtcpHost with
    | none =>
      simp only [List.append_nil]
      rw [foldO_step (foldO_single (line_rtcp _ p)) (hmux _)]
      rfl
    | some h =>
      obtain ⟨hne, hsp⟩ := hw.rtcp_host h hh
      rw [foldO_step (foldO_single (line_rtcp_host _ p h hne hsp)) (hmux _)]
      rfl

theorem host_block (s : Media) (o : Option Str) (hw : ∀ h, o = some h → HostOk h) (hs : s.host = none) :
    foldO mediaLine s (hostLine (lit "c=") o) = .ok { s with host := o } := by
  cases o with
  | none => simp [hostLine, foldO, ← hs]
  | some h =>
    obtain ⟨a, b⟩ := hw h rfl
    simp [hostLine, foldO, line_host s h a b]

theorem dir_block (s : Media) (o : Option Str) (hw : ∀ d, o = some d → d ∈ directions) (hs : s.direction = none) :
    foldO mediaLine s (optLine (lit "a=") o) = .ok { s with direction := o } := by
  cases o with
  | none => simp [optLine, foldO, ← hs]
  | some d => simp [optLine, foldO, line_direction s d (hw d rfl)]

/-- `RTCRtpParameters.muxId` starts at `""` (rtcrtpparameters.py:157), not at `None`: an empty `mid` prints no line and stays. -/
theorem mid_block (s : Media) (mid : Str) (hs : s.muxId = some []) :
    foldO mediaLine s (optLine (lit "a=mid:") (truthy (some mid))) = .ok { s with muxId := some mid } := by
  cases mid with
  | nil => simp [truthy, optLine, foldO, ← hs]
  | cons c r => simp [truthy, optLine, foldO, line_mid]

theorem msid_block (s : Media) (o : Option Str) (hw : ∀ v, o = some v → v ≠ []) (hs : s.msid = none) :
    foldO mediaLine s (optLine (lit "a=msid:") (truthy o)) = .ok { s with msid := o } := by
  cases o with
  | none =>
    have : s = { s with msid := none } := by rw [← hs]
    simp [truthy, optLine, foldO]; exact this
  | some v =>
    have := hw v rfl
    cases v with
    | nil => exact absurd rfl this
    | cons c r => simp [truthy, optLine, foldO, line_msid]

theorem intopt_block (s : Media) (pre : Str) (upd : Media → Int → Media) (o : Option Int)
    (hl : ∀ s p, mediaLine s (pre ++ showInt p) = .ok (upd s p)) :
    foldO mediaLine s (optLine pre (o.map showInt)) = .ok (match o with | some p => upd s p | none => s) := by
  cases o <;> simp [optLine, foldO, hl]

theorem intopt_set (pre : Str) (upd : Media → Option Int → Media)
    (h : ∀ s p, mediaLine s (pre ++ showInt p) = .ok (upd s (some p))) (s : Media) (hs : upd s none = s) (o : Option Int) :
    foldO mediaLine s (optLine pre (o.map showInt)) = .ok (upd s o) := by
  rw [intopt_block s pre (fun s p => upd s (some p)) o h]
  cases o <;> simp [hs]

theorem eoc_block (s : Media) (b : Bool) (hs : s.candidatesComplete = false) :
    foldO mediaLine s (if b then [lit "a=end-of-candidates"] else []) = .ok { s with candidatesComplete := b } := by
  cases b with
  | false => have : s = { s with candidatesComplete := false } := by rw [← hs]
             simp [foldO]; exact this
  | true => simp [foldO, line_eoc]

theorem dtls_block (s : Media) (d : Dtls) (su role : Str) (hs : s.dtls = some { fingerprints := [], role := none })
    (hf : ∀ f ∈ d.fingerprints, Tok f.algorithm ∧ Tok f.value) (hr : d.role = some role)
    (hsu : parseSetup (some su) = .ok role) :
    foldO mediaLine s (d.fingerprints.map (fun f => lit "a=fingerprint:" ++ fingerprintValue f) ++ [lit "a=setup:" ++ su]) =
      .ok { s with dtls := some d } := by
  refine foldO_step (foldO_map (fun s x hx => line_fingerprint s x (hf x hx).1 (hf x hx).2) _) ?_
  rw [foldl_fps d.fingerprints s _ hs]
  obtain ⟨fps, r⟩ := d
  simp only at hr; subst hr
  rw [foldO_single (line_setup _ role su hsu)]
  rfl

end Aiortc.Lemmas.C09
