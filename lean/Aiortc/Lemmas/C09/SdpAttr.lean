import Aiortc.Model.Sdp.Session
import Aiortc.Lemmas.C09.Sdp
import Aiortc.Lemmas.Dict
/-! C09 lemmas, layer L2: well-formedness predicates and the round-trip / idempotence proofs of every
attribute codec of `sdp.py` (the headline statements are re-exported in `Props/C09.lean`). -/
namespace Aiortc.Lemmas.C09
open Aiortc Aiortc.Model.Sdp

/-- Turns every `lit "…"` and `"…".toList` on a string literal in the goal into the list of its characters. A literal
is `String.ofList` of its characters by definition, so `String.toList_ofList` applies; evaluating `String.toList`
instead would make the kernel decode UTF-8, at a cost that grows faster than the length. The rewrite is at reducible
transparency so that a literal compared with the characters of another one is rejected at the first difference. -/
macro "lit_toList" : tactic =>
  `(tactic| ((try unfold lit); repeat rewrite (transparency := .reducible) [String.toList_ofList]))

theorem showInt_chars (i : Int) : ∀ c ∈ showInt i, isDigit c = true ∨ c = '-' := by
  cases i with
  | ofNat n => intro c hc; exact Or.inl ((showNat_digits n).2 c hc)
  | negSucc n =>
    intro c hc
    simp only [showInt, List.mem_cons] at hc
    rcases hc with hc | hc
    · exact Or.inr hc
    · exact Or.inl ((showNat_digits (n + 1)).2 c hc)

theorem tok_showInt (i : Int) : Tok (showInt i) := by
  refine ⟨?_, fun c hc => ?_⟩
  · cases i with
    | ofNat n => exact (showNat_digits n).1
    | negSucc n => simp [showInt]
  · rcases showInt_chars i c hc with h | rfl
    · exact isDigit_not_space h
    · decide

theorem tok_lit_raddr : Tok "raddr".toList := ⟨by decide, by decide⟩
theorem tok_lit_rport : Tok "rport".toList := ⟨by decide, by decide⟩
theorem tok_lit_tcptype : Tok "tcptype".toList := ⟨by decide, by decide⟩
theorem tok_lit_typ : Tok "typ".toList := ⟨by decide, by decide⟩

/-- Well-formed candidate: every string field is a non-empty token without whitespace
(host/srflx/relay, udp/tcp, … are just tokens; raddr/rport/tcptype are optional). -/
structure WFCand (c : Candidate) : Prop where
  foundation : Tok c.foundation
  protocol : Tok c.protocol
  ip : Tok c.ip
  typ : Tok c.typ
  raddr : ∀ a, c.relatedAddress = some a → Tok a
  tcptype : ∀ t, c.tcpType = some t → Tok t

theorem candToks_tok (c : Candidate) (h : WFCand c) : ∀ t ∈ candToks c, Tok t := by
  simp only [candToks, candExtToks, List.forall_mem_append, List.forall_mem_cons]
  refine ⟨⟨h.foundation, tok_showInt _, h.protocol, tok_showInt _, h.ip, tok_showInt _, tok_lit_typ, h.typ, by simp⟩,
    ⟨?_, ?_⟩, ?_⟩
  · cases hra : c.relatedAddress with
    | none => simp
    | some a => simp [-String.reduceToList, tok_lit_raddr, h.raddr a hra]
  · cases c.relatedPort with
    | none => simp
    | some p => simp [-String.reduceToList, tok_lit_rport, tok_showInt]
  · cases htt : c.tcpType with
    | none => simp
    | some a => simp [-String.reduceToList, tok_lit_tcptype, h.tcptype a htt]

/-- Clause "ICE candidate lines round-trip exactly", direction value → line → value, for EVERY
well-formed candidate. -/
theorem candidate_roundtrip (c : Candidate) (h : WFCand c) :
    candidateFromSdp (candidateToSdp c) = .ok c := by
  unfold candidateFromSdp candidateToSdp
  rw [splitWs_unwords _ (candToks_tok c h)]
  obtain ⟨f, comp, proto, prio, ip, port, ty, ra, rp, tt⟩ := c
  simp only [candToks, List.cons_append, List.nil_append, pyInt_showInt]
  cases ra <;> cases rp <;> cases tt <;> simp [candExtToks, candExt, pyInt_showInt]

theorem candExt_wf (ext : List Str) (c0 : Candidate) : ∀ c, (∀ t ∈ ext, Tok t) → WFCand c0 →
    candExt ext c0 = .ok c → WFCand c := by
  fun_induction candExt ext c0 with
  | case1 v rest c0 ih =>
    intro c ht h0 h
    exact ih c (fun t h' => ht t (by simp [h'])) { h0 with raddr := by intro a ha; simp at ha; subst ha; exact ht _ (by simp) } h
  | case2 v rest c0 p hp _ ih =>
    intro c ht h0 h
    exact ih c (fun t h' => ht t (by simp [h'])) { h0 with } h
  | case3 v rest c0 hp _ =>
    intro c ht h0 h; simp at h
  | case4 v rest c0 _ _ ih =>
    intro c ht h0 h
    exact ih c (fun t h' => ht t (by simp [h'])) { h0 with tcptype := by intro a ha; simp at ha; subst ha; exact ht _ (by simp) } h
  | case5 k v rest c0 hk1 hk2 hk3 ih =>
    intro c ht h0 h
    exact ih c (fun t h' => ht t (by simp [h'])) h0 h
  | case6 l c0 hl =>
    intro c ht h0 h; simp at h; subst h; exact h0

theorem candidate_accepted_wf (l : Str) (c : Candidate) (h : candidateFromSdp l = .ok c) : WFCand c := by
  unfold candidateFromSdp at h
  have htok := splitWs_all_tok l
  generalize splitWs l = toks at *
  match toks, htok, h with
  | f :: comp :: proto :: prio :: ip :: port :: _ :: ty :: ext, htok, h =>
    simp only at h
    split at h
    · rename_i c1 p1 pr1 _ _ _
      refine candExt_wf ext _ c (fun t ht => htok t (by simp [ht])) ?_ h
      exact { foundation := htok _ (by simp), protocol := htok _ (by simp), ip := htok _ (by simp),
              typ := htok _ (by simp), raddr := by intro a ha; simp at ha, tcptype := by intro a ha; simp at ha }
    · simp at h

theorem showInt_no (i : Int) (x : Char) (hx : isDigit x = false := by decide) (hm : x ≠ '-' := by decide) :
    x ∉ showInt i := by
  intro h
  rcases showInt_chars i x h with h | h
  · simp [hx] at h
  · exact hm h

/-- Well-formed fmtp entry: the key contains neither ";" nor "="; the value is an int exactly for the
keys of `FMTP_INT_PARAMETERS` (or absent), a string without ";" otherwise. -/
structure WFEntry (kv : Str × PVal) : Prop where
  key_semi : ';' ∉ kv.1
  key_eq : '=' ∉ kv.1
  val : match kv.2 with
    | .none => True
    | .int _ => kv.1 ∈ fmtpIntParams
    | .str s => kv.1 ∉ fmtpIntParams ∧ ';' ∉ s

structure WFParams (p : Params) : Prop where
  nonempty : p ≠ []
  nodup : (p.map Prod.fst).Nodup
  entries : ∀ kv ∈ p, WFEntry kv

theorem paramToStr_nosemi (kv : Str × PVal) (h : WFEntry kv) : ';' ∉ paramToStr kv := by
  obtain ⟨k, v⟩ := kv
  have h1 := h.key_semi
  have h3 := h.val
  cases v with
  | none => simpa [paramToStr] using h1
  | int i =>
    simp only [paramToStr, List.mem_append, List.mem_cons, not_or]
    exact ⟨h1, by decide, showInt_no i ';'⟩
  | str s =>
    simp only [paramToStr, List.mem_append, List.mem_cons, not_or]
    exact ⟨h1, by decide, h3.2⟩

theorem dictSet_append {α β} [DecidableEq α] (acc : List (α × β)) (k : α) (v : β) (h : k ∉ acc.map Prod.fst) :
    dictSet acc k v = acc ++ [(k, v)] := by
  induction acc with
  | nil => rfl
  | cons a r ih =>
    obtain ⟨k', v'⟩ := a
    simp only [List.map_cons, List.mem_cons, not_or] at h
    have : ¬ k' = k := fun e => h.1 e.symm
    simp [dictSet, this, ih h.2]

theorem paramsFold_wf : ∀ (p acc : Params), (∀ kv ∈ p, WFEntry kv) → ((acc ++ p).map Prod.fst).Nodup →
    paramsFold (p.map paramToStr) acc = .ok (acc ++ p) := by
  intro p
  induction p with
  | nil => intro acc _ _; simp [paramsFold]
  | cons kv r ih =>
    intro acc hwf hnd
    obtain ⟨k, v⟩ := kv
    have he := hwf (k, v) (by simp)
    have hk : k ∉ acc.map Prod.fst := by
      rw [List.map_append] at hnd; exact List.not_mem_of_nodup_append hnd
    have hrec : ∀ v', paramsFold (r.map paramToStr) (dictSet acc k v') = .ok (acc ++ (k, v') :: r) := by
      intro v'
      have := ih (acc ++ [(k, v')]) (fun kv h => hwf kv (by simp [h])) (by simpa using hnd)
      simpa [dictSet_append _ _ _ hk] using this
    have h3 := he.val
    cases v with
    | none =>
      simp only [List.map_cons, paramToStr, paramsFold, split1_none '=' k he.key_eq]
      exact hrec _
    | int i =>
      simp only [List.map_cons, paramToStr, paramsFold, split1_append '=' k _ he.key_eq]
      have hin : k ∈ fmtpIntParams := h3
      simp only [hin, if_true, pyInt_showInt]
      exact hrec _
    | str s =>
      simp only [List.map_cons, paramToStr, paramsFold, split1_append '=' k _ he.key_eq]
      have hin : k ∉ fmtpIntParams := h3.1
      simp only [hin, if_false]
      exact hrec _

theorem params_roundtrip (p : Params) (h : WFParams p) :
    parametersFromSdp (parametersToSdp p) = .ok p := by
  unfold parametersFromSdp parametersToSdp
  rw [splitOn_join ';' _ (by simpa using h.nonempty)
    (by intro s hs; simp only [List.mem_map] at hs; obtain ⟨kv, hkv, rfl⟩ := hs; exact paramToStr_nosemi kv (h.entries kv hkv))]
  simpa using paramsFold_wf p [] h.entries (by simpa using h.nodup)

/-- `d[k] = v` of `sdp.py` is the insertion-ordered dict of `Model/Router.lean`; its facts are those of `Lemmas/Dict`. -/
theorem dictSet_eq_dset {α β : Type} [DecidableEq α] (acc : List (α × β)) (k : α) (v : β) :
    dictSet acc k v = Model.Router.dset k v acc := by
  induction acc with
  | nil => rfl
  | cons a r ih =>
    obtain ⟨k', v'⟩ := a
    by_cases e : k' = k
    · subst e; simp [dictSet, Model.Router.dset]
    · simp [dictSet, Model.Router.dset, e, ih]

theorem dictSet_mem {α β : Type} [DecidableEq α] (acc : List (α × β)) (k : α) (v : β) :
    ∀ kv ∈ dictSet acc k v, kv ∈ acc ∨ kv = (k, v) :=
  fun _ h => (Model.Router.mem_dset (dictSet_eq_dset acc k v ▸ h)).symm

theorem dictSet_nodup {α β : Type} [DecidableEq α] (acc : List (α × β)) (k : α) (v : β) (h : (acc.map Prod.fst).Nodup) :
    ((dictSet acc k v).map Prod.fst).Nodup :=
  dictSet_eq_dset acc k v ▸ Model.Router.nodup_dkeys_dset k v h

theorem dictSet_ne_nil {β} (acc : List (Str × β)) (k : Str) (v : β) : dictSet acc k v ≠ [] := by
  cases acc with
  | nil => simp [dictSet]
  | cons a r => obtain ⟨k', v'⟩ := a; simp only [dictSet]; split <;> simp

/-- Invariant of the fmtp fold: `WFParams` without `nonempty`. -/
def ParamsInv (acc : Params) : Prop := (acc.map Prod.fst).Nodup ∧ ∀ kv ∈ acc, WFEntry kv

theorem ParamsInv.set (acc : Params) (k : Str) (v : PVal) (h : ParamsInv acc) (he : WFEntry (k, v)) : ParamsInv (dictSet acc k v) :=
  ⟨dictSet_nodup acc k v h.1, fun kv hkv => by
    rcases dictSet_mem acc k v kv hkv with h' | h'
    · exact h.2 kv h'
    · subst h'; exact he⟩

theorem paramsFold_inv : ∀ (parts : List Str) (acc p : Params), (∀ s ∈ parts, ';' ∉ s) → ParamsInv acc →
    (parts ≠ [] ∨ acc ≠ []) → paramsFold parts acc = .ok p → ParamsInv p ∧ p ≠ [] := by
  intro parts
  induction parts with
  | nil =>
    intro acc p _ hi hne h
    simp [paramsFold] at h; subst h
    exact ⟨hi, by simpa using hne⟩
  | cons s r ih =>
    intro acc p hs hi _ h
    have hsemi : ';' ∉ s := hs s (by simp)
    have hr : ∀ x ∈ r, ';' ∉ x := fun x hx => hs x (by simp [hx])
    unfold paramsFold at h
    split at h
    · rename_i k v hsp
      have heq := split1_some_eq '=' s k v hsp
      have hk_eq : '=' ∉ k := by have := split1_fst_nosep '=' s; rw [hsp] at this; exact this
      have hk_semi : ';' ∉ k := by intro hm; apply hsemi; rw [heq]; simp [hm]
      have hv_semi : ';' ∉ v := by intro hm; apply hsemi; rw [heq]; simp [hm]
      split at h
      · rename_i hin
        split at h
        · exact ih _ p hr (ParamsInv.set acc k _ hi ⟨hk_semi, hk_eq, hin⟩) (Or.inr (dictSet_ne_nil _ _ _)) h
        · simp at h
      · rename_i hin
        exact ih _ p hr (ParamsInv.set acc k (.str v) hi ⟨hk_semi, hk_eq, ⟨hin, hv_semi⟩⟩) (Or.inr (dictSet_ne_nil _ _ _)) h
    · rename_i k hsp
      have := split1_none_eq '=' s k hsp
      exact ih _ p hr (ParamsInv.set acc s _ hi ⟨hsemi, this.2, trivial⟩) (Or.inr (dictSet_ne_nil _ _ _)) h

theorem params_accepted_wf (s : Str) (p : Params) (h : parametersFromSdp s = .ok p) : WFParams p := by
  unfold parametersFromSdp at h
  have := paramsFold_inv (splitOn ';' s) [] p (splitOn_nosep ';' s) ⟨by simp, by simp⟩
    (Or.inl (splitOn_ne_nil ';' s)) h
  exact ⟨this.2, this.1.1, this.1.2⟩

theorem brk_space (r : Str) : Brk (' ' :: r) := by intro d hd; simp at hd; subst hd; decide

theorem splitWs_head_unwords (sem : Str) (items : List Str) (hs : Tok sem) (hi : ∀ t ∈ items, Tok t) :
    splitWs (sem ++ ' ' :: unwords items) = sem :: items := by
  rw [splitWs_tok_append sem hs _ (brk_space _), splitWs_space_cons _ (by decide), splitWs_unwords _ hi]

theorem splitWs_pair (a b : Str) (ha : Tok a) (hb : Tok b) : splitWs (a ++ ' ' :: b) = [a, b] := by
  simpa [unwords, join] using splitWs_head_unwords a [b] ha (by simpa using hb)

/-- `a=group:` / `a=msid-semantic:` values: parse ∘ print appends exactly the printed group. -/
theorem group_roundtrip (dest : List (Group Str)) (g : Group Str) (hs : Tok g.semantic) (hi : ∀ t ∈ g.items, Tok t) :
    parseGroupStr dest (some (groupToStr id g)) = .ok (dest ++ [g]) := by
  simp only [parseGroupStr, groupToStr, List.map_id_fun, id_eq]
  rw [splitWs_head_unwords _ _ hs hi]

theorem mapInt_showInt (l : List Int) : mapInt (l.map showInt) = .ok l := by
  induction l with
  | nil => rfl
  | cons a r ih => simp [mapInt, pyInt_showInt, ih]

/-- `a=ssrc-group:` values (integer items). -/
theorem ssrc_group_roundtrip (dest : List (Group Int)) (g : Group Int) (hs : Tok g.semantic) :
    parseGroupInt dest (some (groupToStr showInt g)) = .ok (dest ++ [g]) := by
  simp only [parseGroupInt, groupToStr]
  rw [splitWs_head_unwords _ _ hs (by intro t ht; simp only [List.mem_map] at ht; obtain ⟨i, _, rfl⟩ := ht; exact tok_showInt i)]
  simp [mapInt_showInt]

def GroupsOk (gs : List (Group Str)) : Prop := ∀ g ∈ gs, Tok g.semantic ∧ ∀ t ∈ g.items, Tok t

theorem groupStr_accepted (dest gs : List (Group Str)) (value : Option Str) (h : parseGroupStr dest value = .ok gs)
    (hd : GroupsOk dest) : GroupsOk gs := by
  unfold parseGroupStr at h
  cases value with
  | none => cases h
  | some v =>
    simp only at h
    have ht := splitWs_all_tok v
    split at h
    · cases h; exact hd
    · rename_i s items he
      rw [he] at ht
      cases h
      exact List.forall_mem_snoc hd ⟨ht s (by simp), fun t h' => ht t (by simp [h'])⟩

/-- Whatever `parse_group` accepts consists of tokens, hence round-trips. -/
theorem group_idempotent (v : Str) (gs : List (Group Str)) (h : parseGroupStr [] (some v) = .ok gs) :
    ∀ g ∈ gs, parseGroupStr [] (some (groupToStr id g)) = .ok [g] := fun g hg => by
  have := groupStr_accepted [] gs (some v) h (by intro g hg; cases hg) g hg
  simpa using group_roundtrip [] g this.1 this.2

theorem split1_showInt_space (i : Int) (r : Str) : split1 ' ' (showInt i ++ ' ' :: r) = (showInt i, some r) :=
  split1_append ' ' _ _ (showInt_no i ' ')

/-- `a=sctpmap:<port> <description>`: no side condition at all. -/
theorem sctpmap_roundtrip (k : Int) (v : Str) : parseSctpmap (some (showInt k ++ ' ' :: v)) = .ok (k, v) := by
  simp [parseSctpmap, split1_showInt_space, pyInt_showInt]

/-- `a=ssrc:<id> <attr>:<value>`. -/
theorem ssrc_line_roundtrip (id : Int) (attr v : Str) (h : ':' ∉ attr) :
    parseSsrcLine (some (showInt id ++ ' ' :: (attr ++ ':' :: v))) = .ok (id, attr, v) := by
  simp [parseSsrcLine, split1_showInt_space, pyInt_showInt, split1_append ':' attr v h]

/-- `a=fingerprint:<algorithm> <value>`. -/
theorem fingerprint_roundtrip (f : Fingerprint) (ha : Tok f.algorithm) (hv : Tok f.value) :
    parseFingerprint (some (fingerprintValue f)) = .ok f := by
  simp [parseFingerprint, fingerprintValue, splitWs_pair _ _ ha hv]

/-- `a=extmap:<id> <uri>`. -/
theorem extmap_roundtrip (h : HeaderExt) (hu : Tok h.uri) : parseExtmap (some (extmapValue h)) = .ok h := by
  have := splitWs_pair _ _ (tok_showInt h.id) hu
  have hs : '/' ∉ showInt h.id := showInt_no h.id '/'
  simp [parseExtmap, extmapValue, this, hs, pyInt_showInt]

/-- `c=` / `a=rtcp:` connection data. -/
theorem ipaddress_roundtrip (a : Str) (hne : a ≠ []) (hsp : ' ' ∉ a) :
    ipaddressFromSdp (ipaddressToSdp a) = .ok a := by
  have hv : (ipVersion a).getD 4 = 4 ∨ (ipVersion a).getD 4 = 6 := by
    unfold ipVersion
    by_cases h4 : isIPv4 a = true
    · simp [h4]
    · by_cases h6 : isIPv6 a = true <;> simp [h4, h6]
  have he : a.isEmpty = false := by cases a <;> simp at hne ⊢
  rcases hv with hv | hv <;> simp [ipaddressToSdp, hv, ipaddressFromSdp, showNat, digitsRev, digitChar, hsp, he]

/-- Well-formed codec of a media section of kind `kind`: `mimeType = kind/name`, `name` without "/" and equal to
what `RTCRtpCodecParameters.name` returns (the second "/"-piece of `mimeType`; automatic when `kind` has no "/",
see `codecName_of_noslash`), audio codecs have 1 or 2 channels, other kinds none (what the parser itself produces). -/
structure WFCodec (kind name : Str) (c : Codec) : Prop where
  mime : c.mimeType = kind ++ '/' :: name
  cname : codecName c = .ok name
  name_slash : '/' ∉ name
  chan : if kind = "audio".toList then (c.channels = some 1 ∨ c.channels = some 2) else c.channels = none
  fb : c.rtcpFeedback = []
  params : c.parameters = []

theorem codecStr_wf (kind name : Str) (c : Codec) (h : WFCodec kind name c) :
    codecStr c = .ok (name ++ '/' :: showInt c.clockRate ++ (if c.channels = some 2 then "/2".toList else [])) := by
  unfold codecStr; rw [h.cname]

/-- For a kind without "/", `RTCRtpCodecParameters.name` of `kind/name` is `name`. -/
theorem codecName_of_noslash (kind name : Str) (c : Codec) (hm : c.mimeType = kind ++ '/' :: name)
    (hk : '/' ∉ kind) (hn : '/' ∉ name) : codecName c = .ok name := by
  simp [codecName, hm, splitOn_cons_of_not_mem '/' kind name hk, splitOn_single '/' name hn]

/-- `a=rtpmap:<pt> <name>/<clock>[/2]`: the line printed for a well-formed codec parses back to it. -/
theorem rtpmap_roundtrip (kind name : Str) (c : Codec) (h : WFCodec kind name c) :
    ∃ s, codecStr c = .ok s ∧ parseRtpmap kind (some (showInt c.payloadType ++ ' ' :: s)) = .ok c := by
  refine ⟨_, codecStr_wf kind name c h, ?_⟩
  obtain ⟨mime, clock, ch, pt, fb, params⟩ := c
  have hm := h.mime; have hf := h.fb; have hp := h.params; have hc := h.chan
  subst hm hf hp
  have hclk : '/' ∉ showInt clock := showInt_no clock '/'
  simp only [parseRtpmap, split1_showInt_space]
  by_cases ha : kind = "audio".toList
  · simp only [ha, if_true] at hc ⊢
    rcases hc with hc | hc <;> subst hc
    · simp [splitOn_cons_of_not_mem '/' name _ h.name_slash, splitOn_single '/' _ hclk, pyInt_showInt]
    · simp [splitOn_cons_of_not_mem '/' name _ h.name_slash, splitOn_cons_of_not_mem '/' _ _ hclk, splitOn, pyInt_showInt, show pyInt ['2'] = some 2 from pyInt_showInt 2]
  · simp only [ha, if_false] at hc ⊢
    subst hc
    simp [splitOn_cons_of_not_mem '/' name _ h.name_slash, splitOn_single '/' _ hclk, pyInt_showInt]

/-- Well-formed feedback: the type has no space; the parameter is absent or non-empty. -/
structure WFFeedback (f : Feedback) : Prop where
  typ : ' ' ∉ f.typ
  par : ∀ p, f.parameter = some p → p ≠ []

/-- `a=rtcp-fb:<pt> <type>[ <parameter>]`: `value.split(" ", 2)` recovers the three parts. -/
theorem rtcpfb_roundtrip (pt : Int) (f : Feedback) (h : WFFeedback f) :
    splitFb (fbValue pt f) = (showInt pt, some (f.typ, f.parameter)) := by
  obtain ⟨ty, par⟩ := f
  have h1 := h.typ; have h2 := h.par
  cases par with
  | none => simp [splitFb, fbValue, split1_showInt_space, split1_none ' ' ty h1]
  | some p =>
    have : p.isEmpty = false := by cases p <;> simp at h2 ⊢
    simp [splitFb, fbValue, split1_showInt_space, this, split1_append ' ' ty p h1]

theorem parseAttr_value (name value : Str) (h : ':' ∉ name) :
    parseAttr ('a' :: '=' :: (name ++ ':' :: value)) = (name, some value) := by
  simp [parseAttr, split1_append ':' name value h]

theorem parseAttr_flag (name : Str) (h : ':' ∉ name) : parseAttr ('a' :: '=' :: name) = (name, none) := by
  simp [parseAttr, h]

theorem fmtp_int_const : fmtpIntParams =
    ["apt", "max-fr", "max-fs", "maxplaybackrate", "minptime", "stereo", "useinbandfec"].map String.toList := rfl

theorem forbidden_pt_const : (Gen.FORBIDDEN_PT_LO, Gen.FORBIDDEN_PT_HI) = (72, 77) := rfl

theorem ssrc_attrs_const : ssrcInfoAttrs = ["cname", "msid", "mslabel", "label"].map String.toList := rfl

end Aiortc.Lemmas.C09
