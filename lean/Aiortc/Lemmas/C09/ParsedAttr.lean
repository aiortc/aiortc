import Aiortc.Lemmas.C09.Canon
/-! C09, whole-text idempotence: what the attribute-level parsers can return.
For every attribute codec: "accepted ⇒ the value has the shape the printer can carry" (tokens are tokens, hosts
have no blank, roles are in the table, nothing contains a line break). -/
namespace Aiortc.Lemmas.C09
open Aiortc Aiortc.Model.Sdp

theorem ipaddress_accepted (s a : Str) (h : ipaddressFromSdp s = .ok a) : HostOk a ∧ (NoBreak s → NoBreak a) := by
  unfold ipaddressFromSdp at h
  split at h
  · simp only at h
    split at h
    · rename_i hc
      cases h
      simp only [Bool.and_eq_true, Bool.not_eq_true', List.isEmpty_eq_false_iff] at hc
      refine ⟨⟨hc.1, ?_⟩, fun hs => nb_drop 7 s hs⟩
      intro hm; have := hc.2; simp [hm] at this
    · cases h
  · cases h

theorem extmap_accepted (value : Option Str) (x : HeaderExt) (h : parseExtmap value = .ok x) : Tok x.uri := by
  unfold parseExtmap at h
  cases value with
  | none => cases h
  | some v =>
    simp only at h
    have ht := splitWs_all_tok v
    split at h
    · rename_i extId uri he
      rw [he] at ht
      have hu : Tok uri := ht uri (by simp)
      split at h
      · split at h
        · cases h; exact hu
        · cases h
      · cases h
      · cases h
      · cases h
    · cases h

theorem fingerprint_accepted (value : Option Str) (f : Fingerprint) (h : parseFingerprint value = .ok f) :
    Tok f.algorithm ∧ Tok f.value := by
  unfold parseFingerprint at h
  cases value with
  | none => cases h
  | some v =>
    simp only at h
    have ht := splitWs_all_tok v
    split at h
    · rename_i a b he
      rw [he] at ht
      cases h
      exact ⟨ht a (by simp), ht b (by simp)⟩
    · cases h

/-- Both DTLS tables, as far as the parser can reach them: every role `DTLS_SETUP_ROLE` yields is printable and
prints to a value that parses to the same role. -/
theorem setup_table_dec : ∀ p ∈ Gen.DTLS_SETUP_ROLE,
    (setupOfRole p.2.toList).bind (fun su => parseSetup (some su)) = .ok p.2.toList := by
  decide

theorem setup_table : ∀ p ∈ Gen.DTLS_SETUP_ROLE,
    ∃ su, setupOfRole p.2.toList = .ok su ∧ parseSetup (some su) = .ok p.2.toList := by
  intro p hp
  have := setup_table_dec p hp
  cases hs : setupOfRole p.2.toList with
  | ok su => rw [hs] at this; exact ⟨su, rfl, this⟩
  | valueError => rw [hs] at this; cases this
  | crash k => rw [hs] at this; cases this
  | hang => rw [hs] at this; cases this

theorem setup_accepted (value : Option Str) (r : Str) (h : parseSetup value = .ok r) :
    ∃ su, setupOfRole r = .ok su ∧ parseSetup (some su) = .ok r := by
  unfold parseSetup at h
  cases value with
  | none => cases h
  | some v =>
    simp only [lookupS] at h
    cases hf : Gen.DTLS_SETUP_ROLE.find? (fun p => p.1.toList = v) with
    | none => simp [hf] at h
    | some p =>
      simp only [hf] at h
      cases h
      exact setup_table p (List.mem_of_find?_eq_some hf)

theorem groupInt_accepted (dest gs : List (Group Int)) (value : Option Str) (h : parseGroupInt dest value = .ok gs)
    (hd : ∀ g ∈ dest, Tok g.semantic) : ∀ g ∈ gs, Tok g.semantic := by
  unfold parseGroupInt at h
  cases value with
  | none => cases h
  | some v =>
    simp only at h
    have ht := splitWs_all_tok v
    split at h
    · cases h; exact hd
    · rename_i s items he
      rw [he] at ht
      split at h
      · cases h; exact List.forall_mem_snoc hd (ht s (by simp))
      · cases h
      · cases h
      · cases h

theorem ssrcLine_accepted (value : Option Str) (id : Int) (attr v : Str) (h : parseSsrcLine value = .ok (id, attr, v))
    (hv : ∀ x, value = some x → NoBreak x) : NoBreak v := by
  unfold parseSsrcLine at h
  cases value with
  | none => cases h
  | some x =>
    have hx := hv x rfl
    simp only at h
    split at h
    · cases h
    · rename_i idStr desc he
      have hd := (nb_split1_pair hx he).2 desc rfl
      split at h
      · cases h
      · split at h
        · cases h
        · rename_i a w he2
          cases h
          exact (nb_split1_pair hd he2).2 _ rfl

theorem sctpmap_accepted (value : Option Str) (k : Int) (v : Str) (h : parseSctpmap value = .ok (k, v))
    (hv : ∀ x, value = some x → NoBreak x) : NoBreak v := by
  unfold parseSctpmap at h
  cases value with
  | none => cases h
  | some x =>
    have hx := hv x rfl
    simp only at h
    split at h
    · cases h
    · rename_i idStr desc he
      have hd := (nb_split1_pair hx he).2 desc rfl
      split at h
      · cases h; exact hd
      · cases h

def SsrcNB (s : Ssrc) : Prop :=
  (∀ v, s.cname = some v → NoBreak v) ∧ (∀ v, s.msid = some v → NoBreak v) ∧
  (∀ v, s.mslabel = some v → NoBreak v) ∧ (∀ v, s.label = some v → NoBreak v)

theorem ssrcNB_new (id : Int) : SsrcNB { ssrc := id } := by
  refine ⟨?_, ?_, ?_, ?_⟩ <;> intro v hv <;> cases hv

theorem ssrcNB_ite {c : Prop} [Decidable c] {x y : Ssrc} (hx : SsrcNB x) (hy : SsrcNB y) :
    SsrcNB (if c then x else y) := by
  split <;> assumption

theorem ssrcNB_set (s : Ssrc) (a v : Str) (hs : SsrcNB s) (hv : NoBreak v) : SsrcNB (s.set a v) := by
  obtain ⟨h1, h2, h3, h4⟩ := hs
  have hv' : ∀ w, some v = some w → NoBreak w := fun w hw => by cases hw; exact hv
  unfold Ssrc.set
  exact ssrcNB_ite ⟨h1, h2, h3, h4⟩ (ssrcNB_ite ⟨hv', h2, h3, h4⟩ (ssrcNB_ite ⟨h1, hv', h3, h4⟩
    (ssrcNB_ite ⟨h1, h2, hv', h4⟩ (ssrcNB_ite ⟨h1, h2, h3, hv'⟩ ⟨h1, h2, h3, h4⟩))))

theorem ssrcUpdate_nb (l : List Ssrc) (id : Int) (a v : Str) (hv : NoBreak v)
    (h1 : ∀ s ∈ l, SsrcNB s) : ∀ s ∈ ssrcUpdate l id a v, SsrcNB s := by
  induction l with
  | nil =>
    intro s hs
    simp only [ssrcUpdate, List.mem_singleton] at hs
    subst hs; exact ssrcNB_set _ _ _ (ssrcNB_new id) hv
  | cons s r ih =>
    have ih := ih (fun x hx => h1 x (List.mem_cons_of_mem _ hx))
    intro x hx
    by_cases e : s.ssrc = id
    · simp only [ssrcUpdate, e, if_true, List.mem_cons] at hx
      rcases hx with hx | hx
      · subst hx; exact ssrcNB_set _ _ _ (h1 s List.mem_cons_self) hv
      · exact h1 x (List.mem_cons_of_mem _ hx)
    · simp only [ssrcUpdate, e, if_false, List.mem_cons] at hx
      rcases hx with hx | hx
      · subst hx; exact h1 _ List.mem_cons_self
      · exact ih x hx

theorem ssrcUpdate_keys (l : List Ssrc) (id : Int) (a v : Str) :
    ((ssrcUpdate l id a v).map (·.ssrc)) =
      (if id ∈ l.map (·.ssrc) then l.map (·.ssrc) else l.map (·.ssrc) ++ [id]) := by
  induction l with
  | nil => simp [ssrcUpdate, set_ssrc]
  | cons s r ih =>
    by_cases e : s.ssrc = id
    · simp [ssrcUpdate, e, set_ssrc]
    · have e' : ¬ id = s.ssrc := fun h => e h.symm
      simp only [ssrcUpdate, e, if_false, List.map_cons, List.mem_cons, e', false_or, ih]
      split <;> simp

theorem ssrcUpdate_nodup (l : List Ssrc) (id : Int) (a v : Str) (h : (l.map (·.ssrc)).Nodup) :
    ((ssrcUpdate l id a v).map (·.ssrc)).Nodup := by
  rw [ssrcUpdate_keys]
  split
  · exact h
  · rename_i hk
    exact List.nodup_snoc h hk

end Aiortc.Lemmas.C09
