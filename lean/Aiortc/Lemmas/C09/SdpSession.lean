import Aiortc.Lemmas.C09.SdpMediaAll
import Aiortc.Lemmas.C09.NoBreak
/-! C09 lemmas, layer L3, session level: the session lines, `grouplines`, and the structured round trip of a whole
`SessionDescription` on lists of lines (`session_roundtrip`) and on the text. -/
namespace Aiortc.Lemmas.C09
open Aiortc Aiortc.Model.Sdp

def parseLines (ls : List Str) : Outcome Session := do
  let (sessLines, groups) := grouplinesAux ls [] []
  let (s, d) ← foldO sessionLine (({} : Session), ({} : Defaults)) sessLines
  let ms ← parseMedias d groups
  pure { s with media := ms }

theorem parse_eq (sdp : Str) : parse sdp = parseLines (splitlines sdp) := rfl

/-- The session-level lines of `SessionDescription.__str__`. -/
def sessionHdr (s : Session) : List Str :=
  [lit "v=" ++ showInt s.version, lit "o=" ++ s.origin.getD (lit "None"), lit "s=" ++ s.name] ++
  hostLine (lit "c=") s.host ++ [lit "t=" ++ s.time] ++
  (if s.media.any (·.ice.iceLite) then [lit "a=ice-lite"] else []) ++
  s.group.map (fun g => lit "a=group:" ++ groupToStr id g) ++
  s.msidSemantic.map (fun g => lit "a=msid-semantic:" ++ groupToStr id g)

theorem sessionToStr_eq (s : Session) (ml : List Str) (h : allLines mediaLines s.media = .ok ml) :
    sessionToStr s = .ok (unlines (sessionHdr s ++ ml)) := by
  simp [sessionToStr, h, sessionHdr, List.append_assoc]

/-- No trailing blank (a leading one is protected by the "x=" prefix of the line). -/
def NoTrail (v : Str) : Prop := ∀ c, v.getLast? = some c → isPySpace c = false

theorem strip_prefixed (a b : Char) (v : Str) (hv : NoTrail v) (ha : isPySpace a = false := by decide)
    (hb : isPySpace b = false := by decide) :
    Model.Sdp.strip (a :: b :: v) = a :: b :: v := by
  unfold Model.Sdp.strip stripLeft
  rw [List.dropWhile_head_false _ (a :: b :: v) (by intro x hx; simp at hx; subst hx; exact ha)]
  rw [List.dropWhile_head_false _ (a :: b :: v).reverse (by
    intro x hx
    rw [List.head?_reverse] at hx
    cases v with
    | nil => simp at hx; subst hx; exact hb
    | cons c r =>
      have : (a :: b :: c :: r).getLast? = (c :: r).getLast? := by simp [List.getLast?_cons_cons]
      rw [this] at hx; exact hv x hx)]
  simp

theorem sline_v (st : Session × Defaults) (v : Int) :
    sessionLine st (lit "v=" ++ showInt v) = .ok ({ st.1 with version := v }, st.2) := by
  have hs := strip_prefixed 'v' '=' (showInt v) (fun c hc => (tok_showInt v).2 c (List.mem_of_getLast? hc))
  obtain ⟨s, d⟩ := st
  simp [sessionLine, startsWith, lit, List.isPrefixOf, hs, intOf_showInt]

theorem sline_o (st : Session × Defaults) (o : Str) (h : NoTrail o) :
    sessionLine st (lit "o=" ++ o) = .ok ({ st.1 with origin := some o }, st.2) := by
  obtain ⟨s, d⟩ := st
  simp [sessionLine, startsWith, lit, List.isPrefixOf, strip_prefixed 'o' '=' o h]

theorem sline_s (st : Session × Defaults) (name : Str) (h : NoTrail name) :
    sessionLine st (lit "s=" ++ name) = .ok ({ st.1 with name := name }, st.2) := by
  obtain ⟨s, d⟩ := st
  simp [sessionLine, startsWith, lit, List.isPrefixOf, strip_prefixed 's' '=' name h]

theorem sline_t (st : Session × Defaults) (time : Str) (h : NoTrail time) :
    sessionLine st (lit "t=" ++ time) = .ok ({ st.1 with time := time }, st.2) := by
  obtain ⟨s, d⟩ := st
  simp [sessionLine, startsWith, lit, List.isPrefixOf, strip_prefixed 't' '=' time h]

theorem sline_c (st : Session × Defaults) (h : Str) (hh : HostOk h) :
    sessionLine st (lit "c=" ++ ipaddressToSdp h) = .ok ({ st.1 with host := some h }, st.2) := by
  obtain ⟨s, d⟩ := st
  simp [sessionLine, startsWith, lit, List.isPrefixOf, ipaddress_roundtrip h hh.1 hh.2]

theorem pre_group : AttrPre "a=group:" "group" := by constructor <;> lit_toList <;> decide
theorem pre_msidsem : AttrPre "a=msid-semantic:" "msid-semantic" := by constructor <;> lit_toList <;> decide

theorem startsWith_a (r : Str) :
    startsWith (lit "v=") ('a' :: r) = false ∧ startsWith (lit "o=") ('a' :: r) = false ∧
    startsWith (lit "s=") ('a' :: r) = false ∧ startsWith (lit "c=") ('a' :: r) = false ∧
    startsWith (lit "t=") ('a' :: r) = false ∧ startsWith (lit "a=") ('a' :: '=' :: r) = true := by
  lit_toList
  simp [startsWith, List.isPrefixOf]

theorem sline_msidsem (st : Session × Defaults) (g : Group Str) (hs : Tok g.semantic) (hi : ∀ t ∈ g.items, Tok t) :
    sessionLine st (lit "a=msid-semantic:" ++ groupToStr id g) =
      .ok ({ st.1 with msidSemantic := st.1.msidSemantic ++ [g] }, st.2) := by
  obtain ⟨s, d⟩ := st
  rw [pre_msidsem.line]
  simp [sessionLine, startsWith_a, parseAttr_value _ _ pre_msidsem.colon, lit_inj, group_roundtrip s.msidSemantic g hs hi]
theorem sline_group (st : Session × Defaults) (g : Group Str) (hs : Tok g.semantic) (hi : ∀ t ∈ g.items, Tok t) :
    sessionLine st (lit "a=group:" ++ groupToStr id g) = .ok ({ st.1 with group := st.1.group ++ [g] }, st.2) := by
  obtain ⟨s, d⟩ := st
  rw [pre_group.line]
  simp [sessionLine, startsWith_a, parseAttr_value _ _ pre_group.colon, lit_inj, group_roundtrip s.group g hs hi]
theorem sline_icelite (st : Session × Defaults) :
    sessionLine st (lit "a=ice-lite") = .ok (st.1, { st.2 with iceLite := true }) := by
  obtain ⟨s, d⟩ := st
  rw [flag_ice_lite.eq]
  simp [sessionLine, startsWith_a, parseAttr_flag _ flag_ice_lite.colon, lit_inj]

theorem foldl_groups (gs : List (Group Str)) (st : Session × Defaults) :
    gs.foldl (fun st g => ({ st.1 with group := st.1.group ++ [g] }, st.2)) st =
      ({ st.1 with group := st.1.group ++ gs }, st.2) := by
  induction gs generalizing st with
  | nil => simp
  | cons g r ih => simp [ih]

theorem foldl_msidsem (gs : List (Group Str)) (st : Session × Defaults) :
    gs.foldl (fun st g => ({ st.1 with msidSemantic := st.1.msidSemantic ++ [g] }, st.2)) st =
      ({ st.1 with msidSemantic := st.1.msidSemantic ++ gs }, st.2) := by
  induction gs generalizing st with
  | nil => simp
  | cons g r ih => simp [ih]

structure WFSession (s : Session) : Prop where
  origin : ∃ o, s.origin = some o ∧ NoTrail o
  name : NoTrail s.name
  time : NoTrail s.time
  host : ∀ h, s.host = some h → HostOk h
  group : ∀ g ∈ s.group, Tok g.semantic ∧ ∀ t ∈ g.items, Tok t
  msidSemantic : ∀ g ∈ s.msidSemantic, Tok g.semantic ∧ ∀ t ∈ g.items, Tok t
  media : ∀ m ∈ s.media, WFMedia m
  lite : ∀ m ∈ s.media, m.ice.iceLite = s.media.any (·.ice.iceLite)

theorem session_hdr (s : Session) (hw : WFSession s) :
    foldO sessionLine (({} : Session), ({} : Defaults)) (sessionHdr s) =
      .ok ({ s with media := [] }, { iceLite := s.media.any (·.ice.iceLite) }) := by
  obtain ⟨o, ho, hot⟩ := hw.origin
  unfold sessionHdr
  simp only [List.append_assoc, List.cons_append, List.nil_append, ho, Option.getD_some]
  simp only [foldO, sline_v, sline_o _ o hot, sline_s _ _ hw.name]
  have hhost : ∀ st : Session × Defaults, st.1.host = none →
      foldO sessionLine st (hostLine (lit "c=") s.host) = .ok ({ st.1 with host := s.host }, st.2) := by
    intro st hst
    cases hh : s.host with
    | none =>
      obtain ⟨⟨ver, ori, nm, tm, hs', grp, ms, med⟩, b⟩ := st
      simp only at hst; subst hst; simp [hostLine, foldO]
    | some h => simp [hostLine, foldO, sline_c st h (hw.host h hh)]
  refine foldO_step (hhost _ rfl) ?_
  simp only [foldO, sline_t _ _ hw.time]
  have hlite : ∀ st : Session × Defaults, st.2.iceLite = false → ∀ b : Bool,
      foldO sessionLine st (if b then [lit "a=ice-lite"] else []) = .ok (st.1, { st.2 with iceLite := b }) := by
    intro st hst b
    cases b with
    | false =>
      obtain ⟨a, ⟨f, r, l, io, ip, iu⟩⟩ := st
      simp only at hst; subst hst; simp [foldO]
    | true => simp [foldO, sline_icelite]
  refine foldO_step (hlite _ rfl _) ?_
  refine foldO_step (foldO_map (fun st g hg => sline_group st g (hw.group g hg).1 (hw.group g hg).2) _) ?_
  rw [foldl_groups]
  rw [foldO_map (fun st g hg => sline_msidsem st g (hw.msidSemantic g hg).1 (hw.msidSemantic g hg).2) _, foldl_msidsem]
  obtain ⟨ver, ori, nm, tm, hst, grp, ms, med⟩ := s
  subst ho
  simp

theorem notM_codecs (cs : List Codec) : ∀ l ∈ cs.flatMap codecLinesOk, NotM l := by
  simp only [List.forall_mem_flatMap, codecLinesOk, List.forall_mem_append, List.forall_mem_singleton, List.forall_mem_map]
  intro p _
  refine ⟨⟨?_, fun f _ => pre_rtcpfb.notM _⟩, ?_⟩
  · rw [List.append_assoc]; exact pre_rtpmap.notM _
  · split
    · simp
    · rw [List.forall_mem_singleton, List.append_assoc]; exact pre_fmtp.notM _

theorem grouplines_sess (hdr rest sess : List Str) (h : ∀ l ∈ hdr, NotM l) :
    grouplinesAux (hdr ++ rest) sess [] = grouplinesAux rest (hdr.reverse ++ sess) [] := by
  induction hdr generalizing sess with
  | nil => rfl
  | cons l r ih =>
    have hl : startsWith (lit "m=") l = false := h l (by simp)
    simp only [List.cons_append, grouplinesAux, hl, Bool.false_eq_true, if_false]
    rw [ih _ (fun x hx => h x (by simp [hx]))]
    simp

theorem grouplines_body (body rest sess cur : List Str) (media : List (List Str)) (h : ∀ l ∈ body, NotM l) :
    grouplinesAux (body ++ rest) sess (cur :: media) = grouplinesAux rest sess ((body.reverse ++ cur) :: media) := by
  induction body generalizing cur with
  | nil => rfl
  | cons l r ih =>
    have hl : startsWith (lit "m=") l = false := h l (by simp)
    simp only [List.cons_append, grouplinesAux, hl, Bool.false_eq_true, if_false]
    rw [ih _ (fun x hx => h x (by simp [hx]))]
    simp

theorem grouplines_blocks (blocks : List (Str × List Str)) (sess : List Str) (media : List (List Str))
    (h : ∀ b ∈ blocks, startsWith (lit "m=") b.1 = true ∧ ∀ l ∈ b.2, NotM l) :
    grouplinesAux (blocks.flatMap fun b => b.1 :: b.2) sess media =
      (sess.reverse, (media.map List.reverse).reverse ++ blocks.map fun b => b.1 :: b.2) := by
  induction blocks generalizing media with
  | nil => simp [grouplinesAux]
  | cons b r ih =>
    obtain ⟨hb1, hb2⟩ := h b (by simp)
    simp only [List.flatMap_cons, List.cons_append, grouplinesAux, hb1, if_true]
    rw [grouplines_body _ _ _ _ _ hb2, ih _ (fun x hx => h x (by simp [hx]))]
    simp

theorem media_block (m : Media) (hw : WFMedia m) :
    ∃ body, mediaLines m = .ok (hdrLine m :: body) ∧
      parseMedia { iceLite := m.ice.iceLite } (hdrLine m :: body) = .ok m ∧ ∀ l ∈ body, NotM l := by
  obtain ⟨h1, h2⟩ := media_form m hw
  refine ⟨_, h1, h2, ?_⟩
  intro l hl
  simp only [bodyLines, List.mem_append] at hl
  rcases hl with hl | hl | hl | hl
  · exact (passive_pre m hw.body l hl).notM
  · exact notM_codecs _ l hl
  · exact (passive_post m l hl).notM
  · exact (passive_dtls _ l hl).notM

theorem medias_form (ms : List Media) (b : Bool) (hw : ∀ m ∈ ms, WFMedia m) (hl : ∀ m ∈ ms, m.ice.iceLite = b) :
    ∃ blocks : List (Str × List Str),
      allLines mediaLines ms = .ok (blocks.flatMap fun b => b.1 :: b.2) ∧
      parseMedias { iceLite := b } (blocks.map fun b => b.1 :: b.2) = .ok ms ∧
      ∀ b ∈ blocks, startsWith (lit "m=") b.1 = true ∧ ∀ l ∈ b.2, NotM l := by
  induction ms with
  | nil => exact ⟨[], rfl, rfl, by simp⟩
  | cons m r ih =>
    obtain ⟨blocks, h1, h2, h3⟩ := ih (fun x hx => hw x (by simp [hx])) (fun x hx => hl x (by simp [hx]))
    obtain ⟨body, hb1, hb2, hb3⟩ := media_block m (hw m (by simp))
    rw [hl m (by simp)] at hb2
    refine ⟨(hdrLine m, body) :: blocks, ?_, ?_, ?_⟩
    · simp [allLines, hb1, h1]
    · simp [parseMedias, hb2, h2]
    · intro x hx
      simp only [List.mem_cons] at hx
      rcases hx with hx | hx
      · subst hx; exact ⟨by unfold hdrLine; lit_toList; rfl, hb3⟩
      · exact h3 x hx

theorem notM_hdr (s : Session) : ∀ l ∈ sessionHdr s, NotM l := by
  simp only [sessionHdr, List.forall_mem_append, List.forall_mem_cons, forall_mem_hostLine, forall_mem_flag,
    List.forall_mem_map, and_assoc, NotM]
  lit_toList
  refine ⟨rfl, rfl, rfl, by simp, fun _ _ => rfl, rfl, by simp, fun _ => rfl, fun _ _ => rfl, fun _ _ => rfl⟩

theorem parseLines_printed (s : Session) (hw : WFSession s) (ml : List Str)
    (h : allLines mediaLines s.media = .ok ml) : parseLines (sessionHdr s ++ ml) = .ok s := by
  obtain ⟨blocks, h1, h2, h3⟩ := medias_form s.media _ hw.media hw.lite
  rw [h] at h1
  injection h1 with h1
  subst h1
  simp only [parseLines]
  rw [grouplines_sess _ _ _ (notM_hdr s), grouplines_blocks _ _ _ h3]
  simp only [List.append_nil, List.reverse_reverse, List.map_nil, List.reverse_nil, List.nil_append]
  rw [session_hdr s hw]
  simp only [ok_bind, h2]
  simp

/-- **Structured round trip, session level, on lists of lines**: for EVERY structurally valid
`SessionDescription`, `__str__` succeeds with text `"\r\n".join(lines) + "\r\n"`, and parsing those lines
(`grouplines`, session lines, defaults folded into the media sections, every media section) gives back the
description, every field. -/
theorem session_roundtrip (s : Session) (hw : WFSession s) :
    ∃ ls, sessionToStr s = .ok (unlines ls) ∧ parseLines ls = .ok s := by
  obtain ⟨blocks, h1, _, _⟩ := medias_form s.media _ hw.media hw.lite
  exact ⟨_, sessionToStr_eq s _ h1, parseLines_printed s hw _ h1⟩

/-- **Clause 1 of C09 on the text**, for every structurally valid `SessionDescription` `d`: `str(d)` is its session lines
followed by the lines of its media sections, each ended by "\r\n"; when none of these printed lines contains a line-break
character, `SessionDescription.parse(str(d))` recovers `d` — every field — and `str(parse(str(d))) = str(d)`. -/
theorem printed_session_roundtrip (s : Session) (hw : WFSession s) (ml : List Str)
    (hml : allLines mediaLines s.media = .ok ml) (hnb : ∀ l ∈ sessionHdr s ++ ml, NoBreak l) :
    sessionToStr s = .ok (unlines (sessionHdr s ++ ml)) ∧ parse (unlines (sessionHdr s ++ ml)) = .ok s ∧
      roundTrip (unlines (sessionHdr s ++ ml)) = .ok (unlines (sessionHdr s ++ ml)) := by
  have h1 := sessionToStr_eq s ml hml
  have hp : parse (unlines (sessionHdr s ++ ml)) = .ok s := by
    rw [parse_eq, splitlines_unlines _ hnb]; exact parseLines_printed s hw ml hml
  exact ⟨h1, hp, by simp [roundTrip, hp, h1]⟩

/-- **Clause 1 of C09 for structurally valid descriptions**: `str(d)` succeeds; if no printed line contains a
line-break character, parsing the text recovers `d` — every field — and the text is a fixed point
of parse-then-serialise. -/
theorem generated_fixed_point (s : Session) (hw : WFSession s) :
    ∃ ls, sessionToStr s = .ok (unlines ls) ∧
      ((∀ l ∈ ls, NoBreak l) → parse (unlines ls) = .ok s ∧ roundTrip (unlines ls) = .ok (unlines ls)) := by
  obtain ⟨blocks, h1, _, _⟩ := medias_form s.media _ hw.media hw.lite
  exact ⟨_, sessionToStr_eq s _ h1, fun hnb => (printed_session_roundtrip s hw _ h1 hnb).2⟩

end Aiortc.Lemmas.C09
