import Aiortc.Lemmas.C09.ParsedMedia
import Aiortc.Lemmas.Outcome
/-! C09, whole-text idempotence: every line of the first pass over a media section preserves `ParsedMedia`,
so does the second pass (fmtp, rtcp-fb); a whole media section: `parseMedia` returns a `ParsedMedia` whose DTLS
parameters, if any, have a role. -/
namespace Aiortc.Lemmas.C09
open Aiortc Aiortc.Model.Sdp

theorem intOf_ok (s : Str) (i : Int) (h : intOf s = .ok i) : pyInt s = some i := by
  unfold intOf at h
  split at h
  · injection h with h; subst h; assumption
  · cases h

theorem pts_append_nodup (cs : List Codec) (c : Codec) (h : (pts cs).Nodup)
    (hall : cs.all (·.payloadType != c.payloadType) = true) : (pts (cs ++ [c])).Nodup := by
  simp only [pts, List.map_append, List.map_cons, List.map_nil]
  refine List.nodup_snoc h ?_
  simp only [List.mem_map, not_exists, not_and]
  intro x hx
  exact bne_iff_ne.mp (List.all_eq_true.mp hall x hx)

theorem mediaAttr_inv (m m' : Media) (attr : Str) (value : Option Str)
    (hv : OptNB value) (hp : ParsedMedia m) (h : mediaAttr m attr value = .ok m') :
    ParsedMedia m' ∧ m'.ice.iceLite = m.ice.iceLite := by
  unfold mediaAttr at h
  replace h := ite_ok h
  rcases h with ⟨hc, h⟩ | ⟨hc, h⟩
  · -- candidate
    cases value with
    | none => cases h
    | some v =>
      simp only [Outcome.bind_do_eq_ok, pure_ok] at h
      obtain ⟨c, hc, h⟩ := h; cases h
      have hc' := candidate_accepted_wf v c hc
      exact ⟨{ hp with cands := List.forall_mem_snoc hp.cands hc' }, rfl⟩
  replace h := ite_ok h
  rcases h with ⟨hc, h⟩ | ⟨hc, h⟩
  · cases h; exact ⟨{ hp with }, rfl⟩
  replace h := ite_ok h
  rcases h with ⟨hc, h⟩ | ⟨hc, h⟩
  · -- extmap
    simp only [Outcome.bind_do_eq_ok, pure_ok] at h
    obtain ⟨x, hx, h⟩ := h; cases h
    have hx' := extmap_accepted value x hx
    exact ⟨{ hp with ext := List.forall_mem_snoc hp.ext hx' }, rfl⟩
  replace h := ite_ok h
  rcases h with ⟨hc, h⟩ | ⟨hc, h⟩
  · -- fingerprint
    simp only [Outcome.bind_do_eq_ok, pure_ok] at h
    obtain ⟨f, hf, h⟩ := h; cases h
    have hf' := fingerprint_accepted value f hf
    refine ⟨{ hp with dtls := ?_ }, rfl⟩
    intro d hd
    simp only [Media.updDtls, Option.map_eq_some_iff] at hd
    obtain ⟨d0, hd0, rfl⟩ := hd
    obtain ⟨i1, i2⟩ := hp.dtls d0 hd0
    exact ⟨List.forall_mem_snoc i1 hf', i2⟩
  replace h := ite_ok h
  rcases h with ⟨hc, h⟩ | ⟨hc, h⟩
  · cases h; exact ⟨{ hp with opts_nb := hv }, rfl⟩
  replace h := ite_ok h
  rcases h with ⟨hc, h⟩ | ⟨hc, h⟩
  · cases h; exact ⟨{ hp with pwd_nb := hv }, rfl⟩
  replace h := ite_ok h
  rcases h with ⟨hc, h⟩ | ⟨hc, h⟩
  · cases h; exact ⟨{ hp with ufrag_nb := hv }, rfl⟩
  replace h := ite_ok h
  rcases h with ⟨hc, h⟩ | ⟨hc, h⟩
  · -- max-message-size
    simp only [Outcome.bind_do_eq_ok, pure_ok] at h
    obtain ⟨i, _, h⟩ := h; cases h
    exact ⟨{ hp with }, rfl⟩
  replace h := ite_ok h
  rcases h with ⟨hc, h⟩ | ⟨hc, h⟩
  · cases h; exact ⟨{ hp with mid_nb := hv }, rfl⟩
  replace h := ite_ok h
  rcases h with ⟨hc, h⟩ | ⟨hc, h⟩
  · cases h; exact ⟨{ hp with msid_nb := hv }, rfl⟩
  replace h := ite_ok h
  rcases h with ⟨hc, h⟩ | ⟨hc, h⟩
  · -- rtcp
    cases value with
    | none => cases h
    | some v =>
      simp only at h
      split at h
      · simp only [Outcome.bind_do_eq_ok, pure_ok] at h
        obtain ⟨i, _, h⟩ := h; cases h
        exact ⟨{ hp with rtcp_none := (by intro hn; cases hn) }, rfl⟩
      · rename_i p hh he
        simp only [Outcome.bind_do_eq_ok, pure_ok] at h
        obtain ⟨i, _, a, ha, h⟩ := h; cases h
        have hnb := (nb_split1_pair (hv v rfl) he).2 hh rfl
        have ha' := ipaddress_accepted hh a ha
        refine ⟨{ hp with rtcp_none := (by intro hn; cases hn), rtcp_host := ?_ }, rfl⟩
        intro x hx; cases hx; exact ⟨ha'.1, ha'.2 hnb⟩
  replace h := ite_ok h
  rcases h with ⟨hc, h⟩ | ⟨hc, h⟩
  · cases h; exact ⟨{ hp with }, rfl⟩
  replace h := ite_ok h
  rcases h with ⟨hc, h⟩ | ⟨hc, h⟩
  · -- setup
    simp only [Outcome.bind_do_eq_ok, pure_ok] at h
    obtain ⟨r, hr, h⟩ := h; cases h
    have hr' := setup_accepted value r hr
    refine ⟨{ hp with dtls := ?_ }, rfl⟩
    intro d hd
    simp only [Media.updDtls, Option.map_eq_some_iff] at hd
    obtain ⟨d0, hd0, rfl⟩ := hd
    obtain ⟨i1, i2⟩ := hp.dtls d0 hd0
    refine ⟨i1, ?_⟩
    intro r' hr''; cases hr''; exact hr'
  replace h := ite_ok h
  rcases h with ⟨hc, h⟩ | ⟨hc, h⟩
  · -- direction
    cases h
    refine ⟨{ hp with direction := ?_ }, rfl⟩
    intro d hd; cases hd
    simpa using hc
  replace h := ite_ok h
  rcases h with ⟨hc, h⟩ | ⟨hc, h⟩
  · -- rtpmap
    simp only [Outcome.bind_do_eq_ok, pure_ok] at h
    obtain ⟨c, hc, h⟩ := h
    have hc' := rtpmap_accepted m.kind value c hc hv
    split at h
    · rename_i hall
      cases h
      exact ⟨{ hp with codecs := List.forall_mem_snoc hp.codecs hc'.1,
                       codecs_nodup := pts_append_nodup _ _ hp.codecs_nodup hall }, rfl⟩
    · cases h; exact ⟨hp, rfl⟩
  replace h := ite_ok h
  rcases h with ⟨hc, h⟩ | ⟨hc, h⟩
  · -- sctpmap
    simp only [Outcome.bind_do_eq_ok, pure_ok] at h
    obtain ⟨kv, hkv, h⟩ := h; cases h
    obtain ⟨k, v⟩ := kv
    have hnb := sctpmap_accepted value k v hkv hv
    refine ⟨{ hp with sctpmap_nodup := dictSet_nodup _ _ _ hp.sctpmap_nodup, sctpmap_nb := ?_ }, rfl⟩
    intro x hx
    rcases dictSet_mem _ _ _ x hx with hx | hx
    · exact hp.sctpmap_nb x hx
    · subst hx; exact hnb
  replace h := ite_ok h
  rcases h with ⟨hc, h⟩ | ⟨hc, h⟩
  · -- sctp-port
    simp only [Outcome.bind_do_eq_ok, pure_ok] at h
    obtain ⟨i, _, h⟩ := h; cases h
    exact ⟨{ hp with }, rfl⟩
  replace h := ite_ok h
  rcases h with ⟨hc, h⟩ | ⟨hc, h⟩
  · -- ssrc-group
    simp only [Outcome.bind_do_eq_ok, pure_ok] at h
    obtain ⟨g, hg, h⟩ := h; cases h
    exact ⟨{ hp with ssrcGroup := groupInt_accepted _ _ value hg hp.ssrcGroup }, rfl⟩
  replace h := ite_ok h
  rcases h with ⟨hc, h⟩ | ⟨hc, h⟩
  · -- ssrc
    simp only [Outcome.bind_do_eq_ok, pure_ok] at h
    obtain ⟨t, ht, h⟩ := h; cases h
    obtain ⟨id, a, v⟩ := t
    have hnb := ssrcLine_accepted value id a v ht hv
    exact ⟨{ hp with ssrc_nb := ssrcUpdate_nb _ _ _ _ hnb hp.ssrc_nb,
                     ssrc_nodup := ssrcUpdate_nodup _ _ _ _ hp.ssrc_nodup }, rfl⟩
  · cases h; exact ⟨hp, rfl⟩

theorem mediaLine_inv (m m' : Media) (line : Str) (hl : NoBreak line) (hp : ParsedMedia m)
    (h : mediaLine m line = .ok m') : ParsedMedia m' ∧ m'.ice.iceLite = m.ice.iceLite := by
  unfold mediaLine at h
  split at h
  · simp only [Outcome.bind_do_eq_ok, pure_ok] at h
    obtain ⟨a, ha, h⟩ := h; cases h
    have ha' := ipaddress_accepted _ a ha
    refine ⟨{ hp with host := ?_ }, rfl⟩
    intro x hx; cases hx; exact ⟨ha'.1, ha'.2 (nb_drop 2 _ hl)⟩
  split at h
  · exact mediaAttr_inv m m' _ _ (nb_parseAttr line hl).2 hp h
  · cases h; exact ⟨hp, rfl⟩

theorem pass1_inv (m m' : Media) (lines : List Str) (hl : ∀ l ∈ lines, NoBreak l) (hp : ParsedMedia m)
    (h : foldO mediaLine m lines = .ok m') : ParsedMedia m' ∧ m'.ice.iceLite = m.ice.iceLite :=
  foldO_inv mediaLine (fun s => ParsedMedia s ∧ s.ice.iceLite = m.ice.iceLite) NoBreak
    (fun s s' a ha hs hf => by
      obtain ⟨i1, i2⟩ := mediaLine_inv s s' a ha hs.1 hf
      exact ⟨i1, i2.trans hs.2⟩)
    lines m m' hl ⟨hp, rfl⟩ h

theorem mediaAttr2_inv (m m' : Media) (attr : Str) (value : Option Str)
    (hv : OptNB value) (hp : ParsedMedia m) (h : mediaAttr2 m attr value = .ok m') :
    ParsedMedia m' ∧ m'.dtls = m.dtls ∧ m'.ice.iceLite = m.ice.iceLite := by
  unfold mediaAttr2 at h
  replace h := ite_ok h
  rcases h with ⟨hc, h⟩ | ⟨hc, h⟩
  · -- fmtp
    cases value with
    | none => cases h
    | some v =>
      simp only at h
      split at h
      · cases h
      · rename_i idStr desc he
        have hd := (nb_split1_pair (hv v rfl) he).2 desc rfl
        simp only [Outcome.bind_do_eq_ok] at h
        obtain ⟨pt, _, h⟩ := h
        split at h
        · cases h
        · simp only [Outcome.bind_do_eq_ok, pure_ok] at h
          obtain ⟨p, hpp, h⟩ := h
          split at h
          · rename_i cs hcs
            cases h
            obtain ⟨i1, i2⟩ := setParams_inv m.kind pt p (Or.inr (params_accepted_wf desc p hpp))
              (params_accepted_nb desc p hd hpp) _ _ hcs hp.codecs
            exact ⟨{ hp with codecs := i1, codecs_nodup := (by rw [i2]; exact hp.codecs_nodup) }, rfl, rfl⟩
          · cases h
  replace h := ite_ok h
  rcases h with ⟨hc, h⟩ | ⟨hc, h⟩
  · -- rtcp-fb
    cases value with
    | none => cases h
    | some v =>
      simp only [Outcome.bind_do_eq_ok, pure_ok] at h
      obtain ⟨cs, hcs, h⟩ := h; cases h
      obtain ⟨i1, i2⟩ := addFeedback_inv m.kind (splitFb v) (splitFb_ok v (hv v rfl)) _ _ hcs hp.codecs
      exact ⟨{ hp with codecs := i1, codecs_nodup := (by rw [i2]; exact hp.codecs_nodup) }, rfl, rfl⟩
  · cases h; exact ⟨hp, rfl, rfl⟩

theorem mediaLine2_inv (m m' : Media) (line : Str) (hl : NoBreak line) (hp : ParsedMedia m)
    (h : mediaLine2 m line = .ok m') : ParsedMedia m' ∧ m'.dtls = m.dtls ∧ m'.ice.iceLite = m.ice.iceLite := by
  unfold mediaLine2 at h
  replace h := ite_ok h
  rcases h with ⟨hc, h⟩ | ⟨hc, h⟩
  · exact mediaAttr2_inv m m' _ _ (nb_parseAttr line hl).2 hp h
  · cases h; exact ⟨hp, rfl, rfl⟩

theorem pass2_inv (m m' : Media) (lines : List Str) (hl : ∀ l ∈ lines, NoBreak l) (hp : ParsedMedia m)
    (h : foldO mediaLine2 m lines = .ok m') :
    ParsedMedia m' ∧ m'.dtls = m.dtls ∧ m'.ice.iceLite = m.ice.iceLite :=
  foldO_inv mediaLine2 (fun s => ParsedMedia s ∧ s.dtls = m.dtls ∧ s.ice.iceLite = m.ice.iceLite) NoBreak
    (fun s s' a ha hs hf => by
      obtain ⟨i1, i2, i3⟩ := mediaLine2_inv s s' a ha hs.1 hf
      exact ⟨i1, i2.trans hs.2.1, i3.trans hs.2.2⟩)
    lines m m' hl ⟨hp, rfl, rfl⟩ h

def DtlsRole (m : Media) : Prop := ∀ d, m.dtls = some d → ∃ r, d.role = some r

theorem parseMedia_inv (d : Defaults) (lines : List Str) (m : Media) (hd : DefaultsOk d)
    (hl : ∀ l ∈ lines, NoBreak l) (h : parseMedia d lines = .ok m) :
    ParsedMedia m ∧ DtlsRole m ∧ m.ice.iceLite = d.iceLite := by
  cases lines with
  | nil => cases h
  | cons hd0 rest =>
    simp only [parseMedia, Outcome.bind_do_eq_ok] at h
    obtain ⟨m0, h0, m1, h1, h2⟩ := h
    have hr : ∀ l ∈ rest, NoBreak l := fun l hl' => hl l (List.mem_cons_of_mem _ hl')
    obtain ⟨p0, _, l0⟩ := mediaHeader_accepted d hd0 m0 hd (hl hd0 List.mem_cons_self) h0
    obtain ⟨p1, l1⟩ := pass1_inv m0 m1 rest hr p0 h1
    -- the `dtls = None` fix-up
    have key : ∀ m2 : Media, ParsedMedia m2 → DtlsRole m2 → m2.ice.iceLite = m1.ice.iceLite →
        foldO mediaLine2 m2 rest = .ok m → ParsedMedia m ∧ DtlsRole m ∧ m.ice.iceLite = d.iceLite := by
      intro m2 p2 r2 l2 hf
      obtain ⟨p3, d3, l3⟩ := pass2_inv m2 m rest hr p2 hf
      refine ⟨p3, ?_, by rw [l3, l2, l1, l0]⟩
      intro dt hdt; rw [d3] at hdt; exact r2 dt hdt
    cases hdt : m1.dtls with
    | none =>
      simp only [hdt] at h2
      exact key m1 p1 (by intro dt h'; rw [hdt] at h'; cases h') rfl h2
    | some dt =>
      simp only [hdt] at h2
      cases hrole : dt.role with
      | none =>
        simp only [hrole, Option.isNone_none, if_true] at h2
        exact key { m1 with dtls := none } { p1 with dtls := (by intro x hx; cases hx) } (by intro x hx; cases hx) rfl h2
      | some r =>
        simp only [hrole, Option.isNone_some, Bool.false_eq_true, if_false] at h2
        exact key m1 p1 (by intro x hx; rw [hdt] at hx; cases hx; exact ⟨r, hrole⟩) rfl h2

theorem parseMedias_inv (d : Defaults) (hd : DefaultsOk d) : ∀ (groups : List (List Str)) (ms : List Media),
    (∀ g ∈ groups, ∀ l ∈ g, NoBreak l) → parseMedias d groups = .ok ms →
    ∀ m ∈ ms, ParsedMedia m ∧ DtlsRole m ∧ m.ice.iceLite = d.iceLite := by
  intro groups
  induction groups with
  | nil => intro ms _ h; simp only [parseMedias] at h; cases h; simp
  | cons g r ih =>
    intro ms hg h
    simp only [parseMedias] at h
    split at h
    · rename_i m hm
      split at h
      · rename_i ms' hms'
        cases h
        intro x hx
        simp only [List.mem_cons] at hx
        rcases hx with hx | hx
        · subst hx; exact parseMedia_inv d g x hd (hg g List.mem_cons_self) hm
        · exact ih ms' (fun g' hg' => hg g' (List.mem_cons_of_mem _ hg')) hms' x hx
      · rename_i e he; exact absurd h (he _)
    · cases h
    · cases h
    · cases h

end Aiortc.Lemmas.C09
