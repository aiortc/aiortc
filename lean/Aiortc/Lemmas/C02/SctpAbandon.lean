import Aiortc.Lemmas.C02.SctpFlight
import Aiortc.Lemmas.SctpTx.Abandon
/-!
# `_maybe_abandon` (C02)

`maybeAbandon_spec`: what `_maybe_abandon` does to the sent queue, as a pointwise relation (each chunk is
left alone or marked abandoned and discounted) plus the unsent fragments moved in from the outbound queue; read off
`maybeAbandon_out` (`SctpTx/Abandon.lean`).
The loops that call it (strike loop of `_receive_sack_chunk`, marking loop of `_t3_expired`) are in `SctpLoops.lean`.
-/
namespace Aiortc.Sctp

def AbRel (c d : SChunk) : Prop := d = c ∨ d = abMark c

theorem AbRel.refl (c : SChunk) : AbRel c c := Or.inl rfl
theorem AbRel.trans {c d e : SChunk} (h1 : AbRel c d) (h2 : AbRel d e) : AbRel c e := by
  rcases h1 with rfl | rfl
  · exact h2
  · rcases h2 with rfl | rfl
    · exact Or.inr rfl
    · exact Or.inr rfl

theorem AbRel.abOk {c d : SChunk} (h : AbRel c d) (hc : AbOk c) : AbOk d := by
  rcases h with rfl | rfl
  · exact hc
  · intro _; exact ⟨rfl, rfl⟩

/-- What `_maybe_abandon(self._sent_queue[pos])` does. -/
structure AbSpec (t : Tx) (pos : Nat) (r : Bool × Tx) : Prop where
  no : r.1 = false → r.2 = t ∧ ∀ c, t.sentQ[pos]? = some c → c.abandoned = false
  yes : r.1 = true → ∃ d, r.2.sentQ[pos]? = some d ∧ d.abandoned = true
  shape : ∃ front moved, r.2.sentQ = front ++ moved ∧ PW AbRel t.sentQ front
      ∧ (∀ d ∈ moved, ∃ c ∈ t.outQ, d = abUnsent c)
      ∧ Bal t.flight t.sentQ r.2.flight front
  outQ : ∀ c ∈ r.2.outQ, c ∈ t.outQ
  flight_le : r.2.flight ≤ t.flight

theorem AbSpec.same (t : Tx) (pos : Nat) (b : Bool)
    (hno : b = false → ∀ c, t.sentQ[pos]? = some c → c.abandoned = false)
    (hyes : b = true → ∃ d, t.sentQ[pos]? = some d ∧ d.abandoned = true) : AbSpec t pos (b, t) :=
  ⟨fun h => ⟨rfl, hno h⟩, hyes, ⟨t.sentQ, [], by simp, PW.refl AbRel.refl _, by simp, Bal.refl _ _⟩,
    fun _ hc => hc, Nat.le_refl _⟩

theorem pw_abandonSeg (A M C : List SChunk) : PW AbRel (A ++ M ++ C) (A ++ M.map abMark ++ C) :=
  PW.append (PW.append (PW.refl AbRel.refl A) (PW.map_right (R := AbRel) (fun _ => Or.inr rfl) M)) (PW.refl AbRel.refl C)

theorem maybeAbandon_spec (t : Tx) (pos : Nat) (now : Int) : AbSpec t pos (t.maybeAbandon pos now) := by
  have h := maybeAbandon_out t pos now
  generalize t.maybeAbandon pos now = r at h ⊢
  cases h with
  | no h => exact AbSpec.same t pos false (fun _ c hc => (h c hc).1) (by simp)
  | done c h ha => exact AbSpec.same t pos true (by simp) fun _ => ⟨c, h, ha⟩
  | seg A M C U R hs ho hlo hhi =>
    refine ⟨by simp, fun _ => ?_, ⟨_, _, rfl, hs ▸ pw_abandonSeg A M C, ?_, ?_⟩,
      fun c hc => by rw [ho]; exact List.mem_append_right _ hc, Nat.sub_le _ _⟩
    · -- the chunk at `pos` lies in the marked segment
      have : pos - A.length < (M.map abMark).length := by rw [List.length_map]; omega
      refine ⟨(M.map abMark)[pos - A.length], ?_, by simp [abMark]⟩
      simp only [abandonSeg, List.append_assoc]
      rw [List.getElem?_append_right hlo, List.getElem?_append_left this, List.getElem?_eq_getElem this]
    · intro d hd
      obtain ⟨c, hc, rfl⟩ := List.mem_map.1 hd
      exact ⟨c, by simp [ho, hc], rfl⟩
    · intro hl
      simp only [abandonSeg, hs, flightSum_append, flightSum_map_abMark] at hl ⊢
      omega

end Aiortc.Sctp
