import Aiortc.Lemmas.C02.DrainPRRun
/-!
# Both directions of one association (C02 drain)

The model's endpoints put every chunk into a datagram of its own (`Endpoint.sendChunk`: one `packetFor` per chunk; a SACK is
never bundled with DATA), and in this abstraction the sender half of an endpoint (`Tx`) and its receiver half (`Rx`) share no
state.  So an association is the product of two links: `ab` (A's `Tx`, B's `Rx`; the datagrams A → B are `ab.toRx` and
`ba.toTx`) and `ba`.  The adversary acts on either; the canonical continuation steps both.
-/
namespace Aiortc.Sctp
open Aiortc.Gen

theorem PLink.step_drained {s : PLink} (h : s.Drained) : s.step = s := by
  unfold PLink.step
  simp [h.pending, h.toRx, h.toTx, h.t3]

theorem PLink.run_drained {s : PLink} (h : s.Drained) : ∀ n, PLink.run n s = s
  | 0 => rfl
  | n + 1 => by simp only [PLink.run]; rw [PLink.step_drained h]; exact PLink.run_drained h n

theorem PLink.run_of_drained {s : PLink} {j n : Nat} (h : (PLink.run j s).Drained) (hle : j ≤ n) :
    PLink.run n s = PLink.run j s := by
  rw [← Nat.add_sub_of_le hle, PLink.run_add, PLink.run_drained h]

/-- a move on the association: on the link A → B (`true`) or on the link B → A (`false`) -/
def fault2 (s : PLink × PLink) (m : Bool × Fault) : PLink × PLink :=
  if m.1 then (s.1.fault m.2, s.2) else (s.1, s.2.fault m.2)

def step2 (s : PLink × PLink) : PLink × PLink := (s.1.step, s.2.step)

def run2 : Nat → PLink × PLink → PLink × PLink
  | 0, s => s
  | n + 1, s => run2 n (step2 s)

theorem run2_eq : ∀ (n : Nat) (s : PLink × PLink), run2 n s = (PLink.run n s.1, PLink.run n s.2)
  | 0, _ => rfl
  | n + 1, s => by simp only [run2, PLink.run]; rw [run2_eq n (step2 s)]; rfl

def movesOf (d : Bool) (fs : List (Bool × Fault)) : List Fault := (fs.filter (fun m => m.1 == d)).map (·.2)

theorem foldl_fault2 : ∀ (fs : List (Bool × Fault)) (s : PLink × PLink),
    fs.foldl fault2 s = ((movesOf true fs).foldl PLink.fault s.1, (movesOf false fs).foldl PLink.fault s.2)
  | [], _ => rfl
  | (d, f) :: fs, s => by
    simp only [List.foldl_cons]
    rw [foldl_fault2 fs (fault2 s (d, f))]
    cases d <;> simp [fault2, movesOf]

/-- **both directions drain**: each link within its own bound, hence both within the larger one -/
theorem drains_both {b1 b2 : Int} {κ1 f1 r1 κ2 f2 r2 : Nat} {s : PLink × PLink} (h1 : CohP b1 κ1 f1 r1 s.1)
    (h2 : CohP b2 κ2 f2 r2 s.2) :
    ∃ j, j ≤ max s.1.drainBound s.2.drainBound ∧ (run2 j s).1.Drained ∧ (run2 j s).2.Drained
      ∧ (run2 j s).1.rx.last = T b1 (f1 + s.1.tx.nOut) ∧ (run2 j s).1.tx.lastSacked = T b1 (f1 + s.1.tx.nOut)
      ∧ (run2 j s).1.tx.advAck = T b1 (f1 + s.1.tx.nOut)
      ∧ (run2 j s).2.rx.last = T b2 (f2 + s.2.tx.nOut) ∧ (run2 j s).2.tx.lastSacked = T b2 (f2 + s.2.tx.nOut)
      ∧ (run2 j s).2.tx.advAck = T b2 (f2 + s.2.tx.nOut) := by
  obtain ⟨j1, hj1, hd1, a1, a2, a3, _⟩ := h1.drains
  obtain ⟨j2, hj2, hd2, c1, c2, c3, _⟩ := h2.drains
  have e1 := PLink.run_of_drained hd1 (Nat.le_max_left j1 j2)
  have e2 := PLink.run_of_drained hd2 (Nat.le_max_right j1 j2)
  refine ⟨max j1 j2, by omega, ?_⟩
  rw [run2_eq]
  simp only [e1, e2]
  exact ⟨hd1, hd2, a3, a1, a2, c3, c1, c2⟩

end Aiortc.Sctp
