import Aiortc.Lemmas.C02.DrainHonestStep
import Aiortc.Lemmas.C02.DrainRun
/-!
# Full drain with a polynomial bound (C02 drain)

The drain argument (`Drains`, `DrainIter.lean`) for the potential `phi2` (`S2` instead of the binary order `psi`), with the
honest-SACK invariant carried along: `Link.drains_phi2`.
-/
namespace Aiortc.Sctp
-- `_transmit` and `_t3_expired` are used through their lemmas only; opaque, so that no unification step unfolds them
attribute [local irreducible] Tx.transmit Tx.t3Expired

theorem Hon.quiet {b : Int} {h : Nat} {s : Link} (hh : Hon b h s) (hq : s.Quiet) : h = 0 := by
  have := hh.hle; rw [hq.2.1] at this; simpa using this

theorem epoch_hon {b : Int} {a r h : Nat} {s : Link} (hc : Coh b a r s) (hh : Hon b h s) (hq : s.Quiet)
    (hne : s.tx.sentQ ≠ []) :
    Coh b a r s.fireT3.runTask ∧ Hon b 0 s.fireT3.runTask ∧ s.fireT3.runTask.tx.nOut = s.tx.nOut
    ∧ s.fireT3.runTask.phi2 0 ≤ 2 * (s.tx.nOut + s.tx.nOut * (2 * s.tx.nOut)) ∧ Ahead b a r s.fireT3.runTask := by
  obtain ⟨hc2, hn2, _, hah2⟩ := epoch hc hq hne
  obtain rfl := hh.quiet hq
  have sh := t3Expired_shape s.tx hc.core.rel s.now1000
  have hn1 : s.fireT3.tx.nOut = s.tx.nOut := sh.nOut
  have hh1 : Hon b 0 s.fireT3 := ⟨Nat.zero_le _, hh.chain⟩
  have hh2 : Hon b 0 s.fireT3.runTask := ⟨hh1.hle, hh1.chain⟩
  have hpot : _ + s.fireT3.runTask.pot2 0 ≤ s.fireT3.pot2 0 := pot2_transmit s.fireT3.tx hc.fireT3.snd.flight.outQ s.rx s.toTx 0
  have hple := pot2_le s.fireT3 0
  rw [hn1, Nat.zero_add] at hple
  refine ⟨hc2, hh2, hn2, ?_, hah2⟩
  have e1 : s.fireT3.runTask.toRx.length = (dataOf s.fireT3.tx.transmit.2).length := by
    simp [Link.runTask, Link.fireT3, hq.1]
  have e2 : s.fireT3.runTask.toTx.length = 0 := by
    show s.toTx.length = 0; rw [hq.2.1]; rfl
  have e3 : s.fireT3.runTask.pending = false := rfl
  unfold Link.phi2
  rw [e1, e2, e3]
  simp only [Bool.false_eq_true, if_false]
  omega

def epochCost2 (m : Nat) : Nat := 2 + 2 * (m + m * (2 * m))
def quietBound2 (m : Nat) : Nat := m * epochCost2 m + 2

theorem epochCost2_mono {m n : Nat} (h : m ≤ n) : epochCost2 m ≤ epochCost2 n := by
  have := Nat.mul_le_mul h (Nat.mul_le_mul_left 2 h)
  unfold epochCost2; omega

theorem Hon.of_nil (b : Int) {s : Link} (h : s.toTx = []) : Hon b 0 s :=
  ⟨Nat.zero_le _, by rw [h]; trivial⟩

theorem Link.drains_phi2 (b : Int) :
    Drains (step := Link.step) (run := Link.run) (Quiet := Link.Quiet) (Done := Link.Drained)
      (Inv := fun (i : Link.Ix) s => Coh b i.a i.r s ∧ Hon b i.h s) (mu := fun i s => s.phi2 i.h)
      (work := fun _ s => s.tx.nOut) (Along := fun i s i' s' => Track b i.a i.r s i'.a i'.r s') (cost := epochCost2) where
  run_zero _ := rfl
  run_succ _ _ := rfl
  refl _ _ := Tracks.refl
  trans := Tracks.trans
  work_le := Track.nOut_le
  cost_mono := epochCost2_mono
  progress := fun ⟨hc, hh⟩ hq => by
    obtain ⟨a1, r1, hc1, _, ht1⟩ := step_progress hc hq
    obtain ⟨h1, _, hh1, hphi⟩ := step_hon hc hh hq
    exact ⟨{ a := a1, r := r1, h := h1 }, ⟨hc1, hh1⟩, hphi, ht1⟩
  quiet {i s} := fun ⟨hc, hh⟩ hq => (hc.quiet_next hq).imp_right fun ⟨hrun, hc2, ht, hcase⟩ => by
    rw [hrun]
    refine ⟨{ i with h := 0 }, ⟨hc2, Hon.of_nil b hq.2.1⟩, ht, hcase.imp_right fun hne => ?_⟩
    obtain ⟨_, _, hn, hphi, hah⟩ := epoch_hon hc hh hq hne
    exact ⟨by unfold epochCost2; dsimp only; omega, fun ht2 hq2 => ht2.less hq2 hah hn⟩

theorem quiesce_hon {b : Int} {a r h : Nat} {s : Link} (hc : Coh b a r s) (hh : Hon b h s) :
    ∃ j a' r', j ≤ s.phi2 h ∧ Coh b a' r' (Link.run j s) ∧ Hon b 0 (Link.run j s) ∧ (Link.run j s).Quiet
      ∧ Track b a r s a' r' (Link.run j s) := by
  obtain ⟨j, i', hj, ⟨hc', hh'⟩, hq, ht⟩ := (Link.drains_phi2 b).quiesce (i := { a := a, r := r, h := h }) ⟨hc, hh⟩
  exact ⟨j, i'.a, i'.r, hj, hc', hh'.quiet hq ▸ hh', hq, ht⟩

theorem epoch_acks_hon {b : Int} {a r : Nat} {s : Link} (h : Coh b a r s) (hq : s.Quiet) (hne : s.tx.sentQ ≠ []) :
    ∃ j a' r', j ≤ epochCost2 s.tx.nOut ∧ Coh b a' r' (Link.run j s) ∧ Hon b 0 (Link.run j s) ∧ (Link.run j s).Quiet
      ∧ a < a' ∧ a' + (Link.run j s).tx.nOut = a + s.tx.nOut := by
  obtain ⟨hc2, hh2, hn2, hphi2, hah2⟩ := epoch_hon h (Hon.of_nil b hq.2.1) hq hne
  -- something is outstanding and no task is queued: T3 runs
  have h3 : s.tx.t3 = true := (h.snd.armed hne).resolve_right (by rw [show s.pending = false from hq.2.2]; exact Bool.false_ne_true)
  have hrun := s.run_t3 hq.2.2 hq.1 hq.2.1 h3
  obtain ⟨j, i', hj, ⟨hc3, hh3⟩, hq3, ht3⟩ := (Link.drains_phi2 b).epoch (i1 := { a := a, r := r }) (s := s)
    (c := epochCost2 s.tx.nOut) (hrun ▸ ⟨hc2, hh2⟩) (by rw [hrun]; unfold epochCost2; dsimp only; omega)
  rw [hrun] at ht3
  exact ⟨j, i'.a, i'.r, hj, hc3, hh3.quiet hq3 ▸ hh3, hq3, ht3.quiet hq3 hah2, ht3.nOut.trans (by rw [hn2])⟩

def Link.drainBound2 (s : Link) : Nat :=
  2 * s.toRx.length + s.toTx.length + 1 + 2 * (s.tx.nOut + s.tx.nOut * (s.toTx.length + 2 * s.tx.nOut))
    + quietBound2 s.tx.nOut

theorem Hon.start (b : Int) (s : Link) : Hon b s.toTx.length s :=
  ⟨Nat.le_refl _, by rw [List.drop_length]; trivial⟩

theorem Coh.drains_hon {b : Int} {a r : Nat} {s : Link} (h : Coh b a r s) :
    ∃ j, j ≤ s.drainBound2 ∧ (Link.run j s).Drained
      ∧ (Link.run j s).rx.last = T b (a + s.tx.nOut) ∧ (Link.run j s).tx.lastSacked = T b (a + s.tx.nOut)
      ∧ (Link.run j s).tx.localTsn = T b (a + s.tx.nOut + 1) := by
  obtain ⟨j, ⟨a2, r2, h2⟩, hj, ⟨hc2, _⟩, hd2, ht2⟩ :=
    (Link.drains_phi2 b).drains (i := { a := a, r := r, h := s.toTx.length }) ⟨h, Hon.start b s⟩
  obtain ⟨hz, e1, e2, e3⟩ := Coh.drained hc2 hd2
  have hn : a2 + (Link.run j s).tx.nOut = a + s.tx.nOut := ht2.nOut
  obtain rfl : a2 = a + s.tx.nOut := by omega
  have hphi := phi2_le s s.toTx.length
  exact ⟨j, by unfold Link.drainBound2 quietBound2; dsimp only at hj; omega, hd2, e1, e2, e3⟩

end Aiortc.Sctp
