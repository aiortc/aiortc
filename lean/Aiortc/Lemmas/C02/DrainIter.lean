/-!
# Iterating a step function until it comes to rest

`iter step n s` = `n` steps from `s`, for any state type.  The invariants of the two inductions are indexed by the bound
(`P n s`: invariant with measure at most `n`; `R m s`: at rest with at most `m` units of work left), so that they may carry
existentially quantified ghost values the measure depends on.

`Drains` states what the drain argument needs of a system and `Drains.drains` is that argument; the three drain theorems
(`Coh.drains`, `Coh.drains_hon`, `CohP.drains`) are its instances.
-/
namespace Aiortc.Sctp

section
variable {σ : Type _} {step : σ → σ}

def iter (step : σ → σ) : Nat → σ → σ
  | 0, s => s
  | n + 1, s => iter step n (step s)

theorem iter_add (step : σ → σ) : ∀ (i j : Nat) (s : σ), iter step (i + j) s = iter step j (iter step i s)
  | 0, j, s => by rw [Nat.zero_add]; rfl
  | i + 1, j, s => by rw [Nat.add_right_comm]; exact iter_add step i j (step s)

/-- a step from a state that is not `Q` lowers the index of `P`: `Q` holds within `n` steps -/
theorem rest_within {Q : σ → Prop} {P : Nat → σ → Prop} (hstep : ∀ n s, P n s → ¬ Q s → ∃ m, m < n ∧ P m (step s)) :
    ∀ (n : Nat) (s : σ), P n s → ∃ j m, j ≤ n ∧ P m (iter step j s) ∧ Q (iter step j s) := by
  intro n
  induction n using Nat.strongRecOn with
  | ind n ih =>
    intro s hP
    by_cases hq : Q s
    · exact ⟨0, n, Nat.zero_le _, hP, hq⟩
    · obtain ⟨m, hm, hPm⟩ := hstep n s hP hq
      obtain ⟨j, m', hj, h1, h2⟩ := ih m hm (step s) hPm
      exact ⟨j + 1, m', by omega, h1, h2⟩

/-- From a state at rest either everything is done within `c0` steps, or within `cost m` steps (monotone in `m`) a state at
rest with less work is reached; so there are at most `m` such rounds of at most `cost m` steps each, and a last stretch of `c0`. -/
theorem done_within {E : σ → Prop} {R : Nat → σ → Prop} {cost : Nat → Nat} (hmono : ∀ {m n}, m ≤ n → cost m ≤ cost n) (c0 : Nat)
    (hepoch : ∀ m s, R m s → (∃ j, j ≤ c0 ∧ E (iter step j s)) ∨ ∃ m' j, m' < m ∧ j ≤ cost m ∧ R m' (iter step j s)) :
    ∀ (m : Nat) (s : σ), R m s → ∃ j, j ≤ m * cost m + c0 ∧ E (iter step j s) := by
  intro m
  induction m using Nat.strongRecOn with
  | ind m ih =>
    intro s hR
    rcases hepoch m s hR with ⟨j, hj, hd⟩ | ⟨m', j, hm', hj, hR'⟩
    · exact ⟨j, by omega, hd⟩
    · obtain ⟨j', hj', hd⟩ := ih m' hm' _ hR'
      refine ⟨j + j', ?_, by rw [iter_add]; exact hd⟩
      obtain ⟨k, rfl⟩ : ∃ k, m = k + 1 := ⟨m - 1, by omega⟩
      have h1 : m' * cost m' ≤ k * cost (k + 1) := Nat.mul_le_mul (by omega) (hmono (by omega))
      rw [Nat.succ_mul]
      omega

end

/-- What the drain argument needs of a system with states `σ` and ghost indices `ι`.  `run n` is `n` steps; `Quiet s`: nothing is left
to do but a timer expiry; `Done s`: the target; `Inv i s`: the invariant with its ghost indices (asked for at quiet states and after
every step from a state that is not quiet, not at the state between the two steps of `quiet`); `mu i s`: the potential; `work i s`: what is left to acknowledge; `Along i s i' s'`: what the
continuation keeps from `(i, s)` to `(i', s')`; `cost m`: bound on the length of one epoch with `m` units of work left. -/
structure Drains {σ ι : Type} (step : σ → σ) (run : Nat → σ → σ) (Quiet Done : σ → Prop) (Inv : ι → σ → Prop)
    (mu work : ι → σ → Nat) (Along : ι → σ → ι → σ → Prop) (cost : Nat → Nat) : Prop where
  run_zero : ∀ s, run 0 s = s
  run_succ : ∀ n s, run (n + 1) s = run n (step s)
  refl : ∀ i s, Along i s i s
  trans : ∀ {i s i1 s1 i2 s2}, Along i s i1 s1 → Along i1 s1 i2 s2 → Along i s i2 s2
  work_le : ∀ {i s i' s'}, Along i s i' s' → work i' s' ≤ work i s
  cost_mono : ∀ {m n}, m ≤ n → cost m ≤ cost n
  /-- a step from a state that is not quiet lowers the potential -/
  progress : ∀ {i s}, Inv i s → ¬ Quiet s → ∃ i', Inv i' (step s) ∧ mu i' (step s) + 1 ≤ mu i s ∧ Along i s i' (step s)
  /-- a quiet state is done; or its next two steps (timer expiry, the task it queues) lead to a state that is done, or open an
  epoch: the potential is within the epoch's budget, and whatever quiet state the continuation reaches has less work left -/
  quiet : ∀ {i s}, Inv i s → Quiet s → Done s ∨ ∃ i1, Inv i1 (run 2 s) ∧ Along i s i1 (run 2 s) ∧
    (Done (run 2 s) ∨ (mu i1 (run 2 s) + 2 ≤ cost (work i s)
      ∧ ∀ {i2 s2}, Along i1 (run 2 s) i2 s2 → Quiet s2 → work i2 s2 < work i s))

namespace Drains
variable {σ ι : Type} {step : σ → σ} {run : Nat → σ → σ} {Quiet Done : σ → Prop} {Inv : ι → σ → Prop}
  {mu work : ι → σ → Nat} {Along : ι → σ → ι → σ → Prop} {cost : Nat → Nat}
  (D : Drains step run Quiet Done Inv mu work Along cost)
include D

theorem run_eq : ∀ (n : Nat) (s : σ), run n s = iter step n s
  | 0, s => D.run_zero s
  | n + 1, s => (D.run_succ n s).trans (run_eq n (step s))

theorem quiesce {i : ι} {s : σ} (h : Inv i s) :
    ∃ j i', j ≤ mu i s ∧ Inv i' (run j s) ∧ Quiet (run j s) ∧ Along i s i' (run j s) := by
  obtain ⟨j, _, hj, ⟨i', hc, _, ht⟩, hq⟩ := rest_within (step := step) (Q := Quiet)
    (P := fun n s' => ∃ i', Inv i' s' ∧ mu i' s' ≤ n ∧ Along i s i' s')
    (by
      rintro n s' ⟨i1, hc, hn, ht⟩ hq
      obtain ⟨i2, hc2, hmu, ht2⟩ := D.progress hc hq
      exact ⟨mu i2 (step s'), by omega, i2, hc2, Nat.le_refl _, D.trans ht ht2⟩)
    (mu i s) s ⟨i, h, Nat.le_refl _, D.refl i s⟩
  rw [← D.run_eq] at hc hq ht
  exact ⟨j, i', hj, hc, hq, ht⟩

/-- one epoch: the two steps that open it, then until the system is quiet again -/
theorem epoch {i1 : ι} {s : σ} {c : Nat} (h : Inv i1 (run 2 s)) (hc : mu i1 (run 2 s) + 2 ≤ c) :
    ∃ j i', j ≤ c ∧ Inv i' (run j s) ∧ Quiet (run j s) ∧ Along i1 (run 2 s) i' (run j s) := by
  obtain ⟨j, i', hj, h1, h2, h3⟩ := D.quiesce h
  have e : run j (run 2 s) = run (2 + j) s := by rw [D.run_eq, D.run_eq, D.run_eq, iter_add]
  rw [e] at h1 h2 h3
  exact ⟨2 + j, i', by omega, h1, h2, h3⟩

/-- **the drain argument**: quiet within `mu` steps; then every epoch lowers the work left, so there are at most `work`
epochs of at most `cost work` steps each, and a last stretch of two steps -/
theorem drains {i : ι} {s : σ} (h : Inv i s) :
    ∃ j i', j ≤ mu i s + (work i s * cost (work i s) + 2) ∧ Inv i' (run j s) ∧ Done (run j s)
      ∧ Along i s i' (run j s) := by
  obtain ⟨j1, i1, hj1, hc1, hq1, ht1⟩ := D.quiesce h
  obtain ⟨j2, hj2, hd, i2, hc2, ht2⟩ := done_within (step := step)
    (E := fun s' => Done s' ∧ ∃ i', Inv i' s' ∧ Along i s i' s')
    (R := fun m s' => ∃ i', Inv i' s' ∧ Quiet s' ∧ work i' s' ≤ m ∧ Along i s i' s') D.cost_mono 2
    (by
      rintro m s' ⟨i', hc, hq, hm, ht⟩
      rcases D.quiet hc hq with hd | ⟨i1, hc1, ht1, hd | ⟨hmu, hless⟩⟩
      · exact Or.inl ⟨0, Nat.zero_le _, hd, i', hc, ht⟩
      · exact Or.inl ⟨2, Nat.le_refl _, by rw [← D.run_eq]; exact ⟨hd, i1, hc1, D.trans ht ht1⟩⟩
      · obtain ⟨j, i2, hj, hc2, hq2, ht2⟩ := D.epoch hc1 hmu
        have := hless ht2 hq2
        exact Or.inr ⟨work i2 (run j s'), j, by omega, Nat.le_trans hj (D.cost_mono hm), by
          rw [← D.run_eq]; exact ⟨i2, hc2, hq2, Nat.le_refl _, D.trans ht (D.trans ht1 ht2)⟩⟩)
    (work i s) (run j1 s) ⟨i1, hc1, hq1, D.work_le ht1, ht1⟩
  have e : iter step j2 (run j1 s) = run (j1 + j2) s := by rw [D.run_eq, D.run_eq, iter_add]
  rw [e] at hd hc2 ht2
  exact ⟨j1 + j2, i2, by omega, hc2, hd, ht2⟩

end Drains

end Aiortc.Sctp
