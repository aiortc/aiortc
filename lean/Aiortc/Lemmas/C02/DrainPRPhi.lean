import Aiortc.Lemmas.C02.DrainPRStep
/-!
# Every non-T3 step strictly decreases `phi3` (C02 drain, partial reliability)

Every non-T3 step keeps `HonP` (a handled SACK consumes one old SACK) and pays for the DATA chunks it emits out of `pot2`;
with the weights of what is in flight, `phi3` strictly decreases.
-/
namespace Aiortc.Sctp
open Aiortc.Gen

variable {b : Int} {κ f r h : Nat} {s : PLink}

theorem sumW_map_data (adv : Int) (N : Nat) (l : List RChunk) :
    sumW (wArr adv N) (l.map Arrival.data) = l.length * (4 + 2 * N) := by
  induction l with
  | nil => simp [sumW]
  | cons d ds ih => simp only [List.map_cons, sumW, ih, List.length_cons, Nat.succ_mul, wArr]; omega

theorem phi_arith {W W' pot pot' E : Nat} (hW : W' ≤ W) (h : E + pot' ≤ pot) : W' * pot' + E * W' ≤ W * pot := by
  have h1 := Nat.mul_le_mul hW h
  rw [Nat.mul_add, Nat.mul_comm W' E] at h1
  omega

theorem fwdArr_weight (adv : Int) (N : Nat) (o : Option (Int × List (Nat × Int))) :
    sumW (wArr adv N) (fwdArr o) ≤ if o.isSome then 4 + 2 * N else 0 := by
  cases o with
  | none => exact Nat.le_refl _
  | some p => simp only [fwdArr, sumW, Option.isSome_some, if_true, Nat.add_zero]; exact wArr_le _ _ _

theorem phi3_task (hc : CohP b κ f r s) (hh : HonP b h s) (hp : s.pending = true) :
    HonP b h s.runTask ∧ s.runTask.phi3 h + 1 ≤ s.phi3 h := by
  have h2 : _ + s.runTask.pot2 h ≤ s.pot2 h := pot2_transmit s.tx hc.snd.flight.outQ s.rx s.toTx h
  refine ⟨⟨hh.hle, hh.chain⟩, ?_⟩
  have hn : s.runTask.tx.nOut = s.tx.nOut := (transmit_queues s.tx).2
  have hadv : s.runTask.tx.advAck = s.tx.advAck := transmit_advAck s.tx
  have hfw := fwdArr_weight s.tx.advAck s.tx.nOut s.tx.forwardTsn
  have hpa := phi_arith (Nat.le_refl (4 + 2 * s.tx.nOut)) h2
  unfold PLink.phi3 PLink.wPending
  rw [hn, hadv, show s.runTask.toRx = s.toRx ++ arrOf s.tx.transmit.2 from rfl, arrOf_transmit, sumW_append, sumW_append,
    sumW_map_data, hp, show s.runTask.pending = false from rfl, show s.runTask.toTx = s.toTx from rfl]
  simp only [Bool.false_eq_true, if_false, if_true]
  omega

theorem phi3_deliver (hc : CohP b κ f r s) (hh : HonP b h s) (a : Arrival)
    (rest : List Arrival) (hp : s.pending = false) (hr : s.toRx = a :: rest) :
    HonP b h (s.deliver a rest) ∧ (s.deliver a rest).phi3 h + 1 ≤ s.phi3 h := by
  have ha : a ∈ s.toRx := hr ▸ List.mem_cons_self
  obtain ⟨r', _, r2, r3, hok', r4, hmono, _, _⟩ := hc.core.deliver a ha
  obtain ⟨hle, hch, (h2 : (s.deliver a rest).pot2 h ≤ s.pot2 h)⟩ :=
    pot2_answer (tx := s.tx) (rx'' := (s.deliver a rest).rx) hc.core.seq.sent (Nat.le_refl _)
      (⟨hok', r2, r3, hc.core.seq.hi_lt, r4⟩ : RxAt b r' (f + s.tx.sentQ.length) (rxArr s.rx a)) hmono (fun _ => Iff.rfl)
      hh.hle hh.chain
  refine ⟨⟨hle, hch⟩, ?_⟩
  have hw : wSack s.tx.advAck s.tx.nOut ((rxArr s.rx a).last, sackGapBlocks (rxArr s.rx a)) + 1
      ≤ wArr s.tx.advAck s.tx.nOut a := by
    have hle := wSack_le s.tx.advAck s.tx.nOut ((rxArr s.rx a).last, sackGapBlocks (rxArr s.rx a))
    cases a with
    | data d => simp only [wArr]; omega
    | fwd c st =>
      -- a FORWARD TSN at or beyond the ack point moves the receiver there: its SACK is a good one
      obtain ⟨r', _, r2, r3, _, _, _, ⟨k, _, k2, k3⟩, _⟩ := hc.core.deliver _ ha
      rw [r2, k2, hc.core.seq.adv]
      exact wSack_answer b _ _ _ k3 (Nat.lt_of_le_of_lt r3 hc.core.seq.hi_lt) hc.core.seq.adv_lt
  have hpot := Nat.mul_le_mul_left (4 + 2 * s.tx.nOut) h2
  unfold PLink.phi3 PLink.wPending
  rw [show (s.deliver a rest).tx = s.tx from rfl, show (s.deliver a rest).toRx = rest from rfl,
    show (s.deliver a rest).toTx = s.toTx ++ [((rxArr s.rx a).last, sackGapBlocks (rxArr s.rx a))] from rfl,
    show (s.deliver a rest).pending = s.pending from rfl, hr, hp, sumW_append]
  simp only [sumW, Bool.false_eq_true, if_false, Nat.add_zero]
  omega

theorem phi3_stale {σ : Int × List (Nat × Nat)} {rest : List (Int × List (Nat × Nat))}
    (ht : s.toTx = σ :: rest) (hpot : ({ s with toTx := rest } : PLink).pot2 (h - 1) ≤ s.pot2 h) :
    ({ s with toTx := rest } : PLink).phi3 (h - 1) + 1 ≤ s.phi3 h := by
  have hpot' := Nat.mul_le_mul_left (4 + 2 * s.tx.nOut) hpot
  have hw1 := wSack_pos s.tx.advAck s.tx.nOut σ
  unfold PLink.phi3
  rw [ht]
  show _ + sumW _ rest + s.wPending + (4 + 2 * s.tx.nOut) * _ + 1 ≤ _
  simp only [sumW]
  omega

theorem phi3_sack {k f' : Nat} {t' : Tx} {gaps : List (Nat × Nat)}
    {rest : List (Int × List (Nat × Nat))} (hc : CohP b κ f r s) (hp : s.pending = false) (hr : s.toRx = [])
    (ht : s.toTx = (T b k, gaps) :: rest) (hk : k ≤ r) (hidx : SackIdx b k f s.tx t' gaps f')
    (hpot : (dataOf t'.transmit.2).length
      + ({ s with tx := t'.transmit.1, toRx := s.toRx ++ arrOf t'.transmit.2, toTx := rest } : PLink).pot2 (h - 1) ≤ s.pot2 h) :
    ({ s with tx := t'.transmit.1, toRx := s.toRx ++ arrOf t'.transmit.2, toTx := rest } : PLink).phi3 (h - 1) + 1 ≤ s.phi3 h := by
  have hfn := (hc.snd.idle hp).2
  have hn2 : t'.transmit.1.nOut = t'.nOut := (transmit_queues t').2
  have hadv2 : t'.transmit.1.advAck = T b f' := by rw [transmit_advAck]; exact hidx.seq.adv
  have hff : f ≤ f' := hidx.f_le
  have hnn : f' + t'.nOut ≤ f + s.tx.nOut := Nat.le_of_eq hidx.cons
  have hrestW : sumW (wSack (T b f') t'.nOut) rest ≤ sumW (wSack (T b f) s.tx.nOut) rest := by
    apply sumW_mono
    intro p hp'
    obtain ⟨k', k1', k2'⟩ := hc.core.toTx p (ht ▸ List.mem_cons_of_mem _ hp')
    exact wSack_mono b f f' s.tx.nOut t'.nOut k' hff hnn (Nat.lt_of_le_of_lt k1' hc.r_lt) hidx.seq.adv_lt p k2'
  have hfwdW : sumW (wArr (T b f') t'.nOut) (fwdArr t'.forwardTsn) + 1 ≤ wSack (T b f) s.tx.nOut (T b k, gaps) := by
    by_cases hlt : k < f'
    · -- the repeat rule: the FORWARD TSN for the (new) ack point goes out
      obtain ⟨st, hst⟩ := hidx.fwdNew hlt
      rw [hst, wSack_T b _ _ (Nat.lt_of_le_of_lt hk hc.r_lt) hc.core.seq.adv_lt]
      simp only [fwdArr, sumW, Nat.add_zero]
      rw [wArr_fwd_T b _ _ hidx.seq.adv_lt hidx.seq.adv_lt, if_pos (Nat.le_refl _)]
      exact fwd_paid hff hnn hlt
    · rw [hidx.fwdOld hlt, hfn]
      exact wSack_pos _ _ _
  have hpa := phi_arith (Nat.add_le_add_left (Nat.mul_le_mul_left 2 hidx.nOut_le) 4) hpot
  unfold PLink.phi3 PLink.wPending
  dsimp only
  generalize ({ s with tx := t'.transmit.1, toRx := s.toRx ++ arrOf t'.transmit.2, toTx := rest } : PLink).pot2 (h - 1)
    = P' at hpa ⊢
  rw [hr, ht, hp, List.nil_append, hn2, hadv2, arrOf_transmit, sumW_append, sumW_map_data, hc.core.seq.adv]
  simp only [sumW, Bool.false_eq_true, if_false]
  omega

theorem step_phi3 (hc : CohP b κ f r s) (hh : HonP b h s) (hq : ¬ s.Quiet) :
    ∃ h', h' ≤ h ∧ HonP b h' s.step ∧ s.step.phi3 h' + 1 ≤ s.phi3 h := by
  rcases s.step_cases hq with ⟨hp, he⟩ | ⟨a, rest, hp, hr, he⟩ | ⟨cum, gaps, rest, hp, hr, ht, he⟩
  · rw [he]
    exact ⟨h, Nat.le_refl _, phi3_task hc hh hp⟩
  · rw [he]
    exact ⟨h, Nat.le_refl _, phi3_deliver hc hh a rest hp hr⟩
  · rw [he]
    obtain ⟨k, hk, hpk⟩ := hc.core.toTx _ (ht ▸ List.mem_cons_self)
    simp only at hpk
    subst hpk
    obtain ⟨hle, hchain⟩ := chain_pop (ht ▸ hh.hle) (ht ▸ hh.chain)
    refine ⟨h - 1, Nat.sub_le _ _, ?_⟩
    rcases deliverSack_casesP hc k hk gaps rest with ⟨hlt, he⟩ | ⟨hge, t', evs, f', hrs, hidx, he⟩
    · -- behind the cumulative ack: ignored
      rw [he]
      refine ⟨⟨hle, hchain⟩, phi3_stale ht (pot_mono (Nat.le_refl _) (Nat.le_refl _) ?_)⟩
      rw [PLink.S2_eq, PLink.S2_eq, ht]
      exact budget_pop _ _
    · rw [he]
      have hpot := pot2_sack (rx := s.rx) (rest := rest) (h := h) hc.core.seq.sent hc.core.seq.hi_lt
        (Nat.le_trans hk hc.core.rhi) hidx.fx (hc.snd.flight.receiveSack _ _ _ t' evs hrs).outQ hidx.nOut_le (ht ▸ hh.chain)
      rw [← ht] at hpot
      exact ⟨⟨hle, hchain⟩, phi3_sack hc hp hr ht hk hidx hpot⟩

end Aiortc.Sctp
