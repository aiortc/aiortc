import Aiortc.Lemmas.C02.SctpLoops
import Aiortc.Lemmas.SctpTx.Inv
/-!
# The sender loops with abandonment, relationally (C02 drain, partial reliability)

With partially reliable traffic `_maybe_abandon` marks whole messages as abandoned (backwards to the FIRST fragment,
forwards to the LAST one, moving unsent fragments from `_outbound_queue` to the end of `_sent_queue`).  `Parts R t t'`:
the new sent queue is the old one chunk by chunk related by `R`, followed by chunks moved in from the front of the old
outbound queue (marked abandoned); the new outbound queue is the rest.  `maybeAbandon_parts`, `strikeLoop_parts`,
`t3Mark_parts`: `_maybe_abandon`, the strike loop and the T3 marking loop in this form, for ANY sender state.
-/
namespace Aiortc.Sctp
open Aiortc.Gen

/-- same TSN, same reliability parameters, same fragment flags: what every sender operation keeps of a chunk when `abandoned` may
change (`SameId` fixes `abandoned` and not the flags). Enough for the TSN structure (`Seq.pwT`) and for `Wf`; `TR` adds what
`_maybe_abandon` does to `abandoned`, `Keeps` what the loops outside it do. -/
def SameT (c d : SChunk) : Prop :=
  d.tsn = c.tsn ∧ d.maxRetransmits = c.maxRetransmits ∧ d.expiry = c.expiry ∧ d.flags = c.flags

theorem SameT.refl (c : SChunk) : SameT c c := ⟨rfl, rfl, rfl, rfl⟩
theorem SameT.trans {c d e : SChunk} (h1 : SameT c d) (h2 : SameT d e) : SameT c e :=
  ⟨h2.1.trans h1.1, h2.2.1.trans h1.2.1, h2.2.2.1.trans h1.2.2.1, h2.2.2.2.trans h1.2.2.2⟩

/-- an unsent chunk moved into the sent queue by `_maybe_abandon` -/
def MV (c d : SChunk) : Prop := SameT c d ∧ d.abandoned = true

/-- identity kept, `abandoned` only grows: a chunk across `_maybe_abandon`, hence across the strike and T3 loops -/
def TR (c d : SChunk) : Prop := SameT c d ∧ (c.abandoned = true → d.abandoned = true)

theorem TR.refl (c : SChunk) : TR c c := ⟨SameT.refl c, id⟩
theorem TR.trans {c d e : SChunk} (h1 : TR c d) (h2 : TR d e) : TR c e := ⟨h1.1.trans h2.1, fun h => h2.2 (h1.2 h)⟩

theorem MV.tr {c d e : SChunk} (h1 : MV c d) (h2 : TR d e) : MV c e := ⟨h1.1.trans h2.1, h2.2 h1.2⟩

def Parts (R : SChunk → SChunk → Prop) (t t' : Tx) : Prop :=
  ∃ front moved m, t'.sentQ = front ++ moved ∧ t'.outQ = t.outQ.drop m ∧ PW R t.sentQ front
    ∧ PW MV (t.outQ.take m) moved

theorem Parts.of_sent {R : SChunk → SChunk → Prop} {t t' : Tx} (h : PW R t.sentQ t'.sentQ) (ho : t'.outQ = t.outQ) :
    Parts R t t' :=
  ⟨t'.sentQ, [], 0, by simp, by simp [ho], h, trivial⟩

theorem Parts.refl {R : SChunk → SChunk → Prop} (hR : ∀ c, R c c) (t : Tx) : Parts R t t :=
  Parts.of_sent (PW.refl hR _) rfl

theorem Parts.mono {R S : SChunk → SChunk → Prop} (hRS : ∀ c d, R c d → S c d) {t t' : Tx} (h : Parts R t t') :
    Parts S t t' := by
  obtain ⟨front, moved, m, h1, h2, h3, h4⟩ := h
  exact ⟨front, moved, m, h1, h2, PW.mono hRS h3, h4⟩

theorem Parts.trans {R : SChunk → SChunk → Prop} (hT : ∀ c d e, R c d → R d e → R c e)
    (hM : ∀ c d, R c d → TR c d) {t t' t'' : Tx} (h1 : Parts R t t') (h2 : Parts R t' t'') :
    Parts R t t'' := by
  obtain ⟨f1, mv1, m1, a1, a2, a3, a4⟩ := h1
  obtain ⟨f2, mv2, m2, b1, b2, b3, b4⟩ := h2
  rw [a1] at b3
  obtain ⟨f', mv', e, c1, c2⟩ := PW.append_inv b3
  refine ⟨f', mv' ++ mv2, m1 + m2, by rw [b1, e, List.append_assoc], by rw [b2, a2, List.drop_drop], ?_, ?_⟩
  · exact PW.trans_self R (hT _ _ _) a3 c1
  · rw [List.take_add]
    refine PW.append (PW.trans (R := MV) (S := R) (RS := MV) (fun _ _ _ x y => x.tr (hM _ _ y)) a4 c2) ?_
    rw [a2] at b4; exact b4

theorem AbRel.sameT {c d : SChunk} (h : AbRel c d) : SameT c d := by
  rcases h with rfl | rfl
  · exact SameT.refl _
  · exact ⟨rfl, rfl, rfl, rfl⟩

theorem maybeAbandon_parts (t : Tx) (pos : Nat) (now : Int) : Parts AbRel t (t.maybeAbandon pos now).2 := by
  have h := maybeAbandon_out t pos now
  generalize t.maybeAbandon pos now = r at h ⊢
  cases h with
  | no | done => exact Parts.refl AbRel.refl t
  | seg A M C U R hs ho =>
    refine ⟨_, _, U.length, rfl, by simp [abandonSeg, ho], ?_, ?_⟩
    · rw [hs]
      exact PW.append (PW.append (PW.refl AbRel.refl A) (PW.map_right (R := AbRel) (fun _ => Or.inr rfl) M))
        (PW.refl AbRel.refl C)
    · rw [ho, List.take_left]
      exact PW.map_right (R := MV) (f := abUnsent) (fun _ => ⟨⟨rfl, rfl, rfl, rfl⟩, rfl⟩) U

/-! ## the strike loop -/

theorem Bk.sameT {c d : SChunk} (h : Bk c d) : SameT c d :=
  ⟨congrArg RChunk.tsn h.1, h.2.2.1, h.2.1, congrArg RChunk.flags h.1⟩

theorem Bk.tr {c d : SChunk} (h : Bk c d) : TR c d := ⟨h.sameT, fun ha => h.2.2.2.trans ha⟩

theorem hitMark_tr (ab : Bool) (c : SChunk) : TR c (hitMark ab c) := (hitMark_bk ab c).tr

/-- what the HTNA loop and the strike loop may do to a chunk: its identity is kept, `abandoned` only grows, it is
newly gap-acked only if the SACK covers it, it loses its gap-ack only if the SACK does not cover it and its TSN is not
beyond the highest newly acked TSN -/
def SR (seen : List Int) (hna : Int) (c d : SChunk) : Prop :=
  SameT c d ∧ (c.abandoned = true → d.abandoned = true)
  ∧ (c.acked = false → d.acked = true → c.tsn ∈ seen)
  ∧ (c.acked = true → d.acked = false → c.tsn ∉ seen ∧ uint32_gt c.tsn hna = false)

theorem SR.of_acked {seen : List Int} {hna : Int} {c d : SChunk} (h : TR c d) (ha : d.acked = c.acked) :
    SR seen hna c d :=
  ⟨h.1, h.2, fun h1 h2 => (by rw [ha, h1] at h2; cases h2), fun h1 h2 => (by rw [ha, h1] at h2; cases h2)⟩

theorem SR.refl (seen : List Int) (hna : Int) (c : SChunk) : SR seen hna c c := SR.of_acked (TR.refl c) rfl

theorem SR.trans {seen : List Int} {hna : Int} {c d e : SChunk} (h1 : SR seen hna c d) (h2 : SR seen hna d e) :
    SR seen hna c e := by
  obtain ⟨a1, a2, a3, a4⟩ := h1
  obtain ⟨b1, b2, b3, b4⟩ := h2
  refine ⟨a1.trans b1, fun h => b2 (a2 h), ?_, ?_⟩
  · intro hc he
    cases hd : d.acked with
    | true => exact a3 hc hd
    | false => rw [← a1.1]; exact b3 hd he
  · intro hc he
    cases hd : d.acked with
    | true => rw [← a1.1]; exact b4 hd he
    | false => exact a4 hc hd

theorem SR.of_abRel {seen : List Int} {hna : Int} {c d : SChunk} (h : AbRel c d) : SR seen hna c d := by
  rcases h with rfl | rfl
  · exact SR.refl seen hna _
  · exact SR.of_acked ⟨⟨rfl, rfl, rfl, rfl⟩, fun _ => rfl⟩ rfl

theorem Parts.sr_trans {seen : List Int} {hna : Int} {t t' t'' : Tx} (h1 : Parts (SR seen hna) t t')
    (h2 : Parts (SR seen hna) t' t'') : Parts (SR seen hna) t t'' :=
  Parts.trans (R := SR seen hna) (fun _ _ _ a b => SR.trans a b) (fun _ _ h => ⟨h.1, h.2.1⟩) h1 h2

theorem SR.misses (seen : List Int) (hna : Int) (c : SChunk) (n : Nat) : SR seen hna c { c with misses := n } :=
  SR.of_acked ⟨⟨rfl, rfl, rfl, rfl⟩, id⟩ rfl

theorem strikeHit_parts (seen : List Int) (hna : Int) (t : Tx) (pos : Nat) (c : SChunk) (now : Int)
    (hp : t.sentQ[pos]? = some c) (hs : c.tsn ∉ seen) (hg : uint32_gt c.tsn hna = false) :
    Parts (SR seen hna) t (strikeHit t pos c now) := by
  -- misses := 0
  generalize ht1 : ({ t with sentQ := t.sentQ.modify pos fun d => { d with misses := 0 } } : Tx) = t1
  have h1 : Parts (SR seen hna) t t1 := by
    subst ht1
    exact Parts.of_sent (PW.modify_at (SR.refl seen hna) _ _ pos (fun d _ => SR.misses seen hna d 0)) rfl
  -- `_maybe_abandon`
  obtain ⟨front, moved, m, e1, e2, e3, e4⟩ := maybeAbandon_parts t1 pos now
  have h2 : Parts (SR seen hna) t1 (t1.maybeAbandon pos now).2 :=
    ⟨front, moved, m, e1, e2, PW.mono (fun _ _ h => SR.of_abRel h) e3, e4⟩
  -- the mark
  have hc1 : t1.sentQ[pos]? = some { c with misses := 0 } := by
    subst ht1; simp only
    rw [List.getElem?_modify_eq, hp]; rfl
  have h3 : Parts (SR seen hna) (t1.maybeAbandon pos now).2 (strikeHit t pos c now) := by
    have hs3 : (strikeHit t pos c now).sentQ
        = (t1.maybeAbandon pos now).2.sentQ.modify pos (hitMark (t1.maybeAbandon pos now).1) := by
      unfold strikeHit hitBody; rw [ht1]
    have ho3 : (strikeHit t pos c now).outQ = (t1.maybeAbandon pos now).2.outQ := by
      unfold strikeHit hitBody; rw [ht1]
    refine Parts.of_sent ?_ ho3
    rw [hs3]
    refine PW.modify_at (SR.refl seen hna) _ _ pos (fun d hd => ?_)
    -- the chunk at `pos` still carries the TSN of `c`
    have hlt : pos < front.length := PW.length e3 ▸ (List.getElem?_eq_some_iff.mp hc1).1
    rw [e1, List.getElem?_append_left hlt] at hd
    obtain ⟨c0, hc0, hr⟩ := PW.getElem?_right e3 pos d hd
    obtain rfl : { c with misses := 0 } = c0 := Option.some.inj (hc1.symm.trans hc0)
    have htsn : d.tsn = c.tsn := hr.sameT.1
    exact ⟨(hitMark_tr _ d).1, (hitMark_tr _ d).2, fun _ hb => (by cases hb), fun _ _ => htsn ▸ ⟨hs, hg⟩⟩
  exact (h1.sr_trans h2).sr_trans h3

theorem strikeLoop_parts (seen : List Int) (hna now : Int) (fuel pos : Nat) (t : Tx) (loss : Bool) :
    Parts (SR seen hna) t (strikeLoop seen hna now fuel pos t loss).1 :=
  strikeLoop_ind seen hna now (I := fun x y => Parts (SR seen hna) x.1 y.1) (fun x => Parts.refl (SR.refl seen hna) x.1)
    Parts.sr_trans (fun t _ pos c hp hg hs _ => strikeHit_parts seen hna t pos c now hp hs hg)
    (fun _ _ pos c _ _ _ _ => Parts.of_sent (PW.modify_at (SR.refl seen hna) _ _ pos
      (fun d _ => SR.misses seen hna d (c.misses + 1))) rfl) fuel pos t loss

/-! ## the T3 marking loop -/

theorem Parts.tr_trans {t t' t'' : Tx} (h1 : Parts TR t t') (h2 : Parts TR t' t'') : Parts TR t t'' :=
  Parts.trans (R := TR) (fun _ _ _ a b => TR.trans a b) (fun _ _ h => h) h1 h2

theorem hitBody_parts (t : Tx) (pos : Nat) (now : Int) : Parts TR t (hitBody t pos now) := by
  have h1 : Parts TR t (t.maybeAbandon pos now).2 :=
    (maybeAbandon_parts t pos now).mono (fun _ _ h => ⟨h.sameT, by rcases h with rfl | rfl <;> simp [abMark]⟩)
  have h2 : Parts TR (t.maybeAbandon pos now).2 (hitBody t pos now) := by
    refine Parts.of_sent ?_ rfl
    simp only [hitBody]
    exact PW.modify (R := TR) TR.refl _ (hitMark_tr _) _ _
  exact h1.tr_trans h2

theorem t3Mark_parts (now : Int) (fuel pos : Nat) (t : Tx) : Parts TR t (t3Mark now fuel pos t) :=
  t3Mark_ind now (fun t => Parts.refl TR.refl t) Parts.tr_trans (fun t pos => hitBody_parts t pos now) fuel pos t

end Aiortc.Sctp
