import Aiortc.Lemmas.C02.DrainRel
import Aiortc.Lemmas.C02.SctpLink
/-!
# Shapes of the sender operations on reliable traffic (C02 drain)

`receiveSack_shape`, `t3Expired_shape`, `transmit_shape`: what each operation of the sender does to the two
queues, to `lastSacked` / `localTsn`, and which DATA chunks `_transmit` emits, for a sender that carries only
reliable traffic (`RelTx`).
-/
namespace Aiortc.Sctp
open Aiortc.Gen

/-! ## `_receive_sack_chunk` -/

/-- what `_receive_sack_chunk` does to the part of the sent queue that the cumulative TSN does not cover -/
def sackList (cum : Int) (gaps : List (Nat × Nat)) (l : List SChunk) : List SChunk :=
  if gaps.isEmpty then l
  else
    let limit : Nat := match l.getLast? with
      | some x => if uint32_gt x.tsn cum then ((x.tsn - cum) % 4294967296).toNat else 0
      | none => 0
    let gs := gapSeen cum limit gaps
    strikeList gs.1 (htnaHna gs.1 gs.2 cum l) (htnaList gs.1 gs.2 l)

/-- the sent queue after the cumulative-ack loop -/
def Tx.ackedQ (t : Tx) (cum : Int) : List SChunk := (ackLoop cum t.flight 0 0 t.sentQ).2.2.2

theorem sackList_sameId (cum : Int) (gaps : List (Nat × Nat)) (l : List SChunk) : PW SameId l (sackList cum gaps l) := by
  unfold sackList
  split
  · exact PW.refl SameId.refl l
  · exact PW.sameId_trans (htnaList_sameId _ _ l) (strikeList_sameId _ _ _)

theorem sackGaps_rel (t : Tx) (cum : Int) (gaps : List (Nat × Nat)) (now : Int) (db : Nat)
    (hrel : ∀ c ∈ t.sentQ, c.Rel) :
    ∃ fl, (t.sackGaps cum gaps now db).1 = { t with flight := fl, sentQ := sackList cum gaps t.sentQ } := by
  cases hg : gaps.isEmpty with
  | true => exact ⟨t.flight, by simp [Tx.sackGaps, sackList, hg]⟩
  | false =>
    have hfr := sackGaps_frame t cum gaps now db hg
    refine ⟨(t.sackGaps cum gaps now db).1.flight, ?_⟩
    rw [hfr]
    have hgs : sackList cum gaps t.sentQ = strikeList (gapSeen cum (t.gapLimit cum) gaps).1
        (htnaHna (gapSeen cum (t.gapLimit cum) gaps).1 (gapSeen cum (t.gapLimit cum) gaps).2 cum t.sentQ)
        (htnaList (gapSeen cum (t.gapLimit cum) gaps).1 (gapSeen cum (t.gapLimit cum) gaps).2 t.sentQ) := by
      simp only [sackList, hg, Bool.false_eq_true, if_false, Tx.gapLimit]
      rfl
    rw [hgs]
    simp only [Tx.sackGaps, hg, Bool.false_eq_true, if_false, Tx.sackHtna]
    generalize gapSeen cum (t.gapLimit cum) gaps = gs
    obtain ⟨e1, e2⟩ := htnaLoop_eq gs.1 gs.2 t.sentQ [] t.flight db cum
    rw [List.reverse_nil, List.nil_append] at e1
    have hrel1 : ∀ c ∈ htnaList gs.1 gs.2 t.sentQ, c.Rel := PW.sameId_rel (htnaList_sameId _ _ _) hrel
    rw [e1, e2]
    obtain ⟨h1, h2⟩ := strikeLoop_rel gs.1 (htnaHna gs.1 gs.2 cum t.sentQ) now (htnaList gs.1 gs.2 t.sentQ).length []
      (htnaList gs.1 gs.2 t.sentQ)
      { t with flight := (htnaLoop gs.1 gs.2 t.flight db cum [] t.sentQ).1, sentQ := htnaList gs.1 gs.2 t.sentQ } false
      rfl (Nat.le_refl _) hrel1
    simp only [List.length_nil, List.nil_append] at h1 h2
    rw [h1, h2]

structure SackShape (t t' : Tx) (cum : Int) (gaps : List (Nat × Nat)) : Prop where
  sentQ : t'.sentQ = sackList cum gaps (t.ackedQ cum)
  outQ : t'.outQ = t.outQ
  lastSacked : t'.lastSacked = cum
  localTsn : t'.localTsn = t.localTsn
  rel : RelTx t'

theorem ackedQ_drop (t : Tx) (cum : Int) : ∃ k, t.ackedQ cum = t.sentQ.drop k := by
  obtain ⟨_, ⟨k, hk, _⟩, _⟩ := ackLoop_spec cum t.sentQ t.flight 0 0
  exact ⟨k, hk⟩

theorem receiveSack_shape (t : Tx) (hrel : RelTx t) (cum : Int) (gaps : List (Nat × Nat))
    (now : Int) (t' : Tx) (evs : List TxEv) (hr : t.receiveSack cum gaps now = .ok (some (t', evs))) :
    SackShape t t' cum gaps := by
  obtain ⟨t4, rfl, h4⟩ := receiveSack_pre hr
  have h1 := txInv_RelTx.sackAck hrel cum
  obtain ⟨fl, hg⟩ := sackGaps_rel (t.sackAck cum) cum gaps now (t.sackDoneBytes cum) h1.sentQ
  have hrel4 : RelTx t4 :=
    txInv_RelTx.congr (txInv_RelTx.sackGaps h1 cum gaps now (t.sackDoneBytes cum)).1 (by rw [h4]; rfl)
  obtain ⟨adv, fs, hu⟩ := updateAdvAck_rel t4 hrel4
  have hrel' : RelTx { t4 with advAck := adv, forwardStreams := fs } := ⟨hrel4.sentQ, hrel4.outQ, hrel4.fwd, hrel4.needed⟩
  rw [hu]
  refine ⟨?_, ?_, ?_, ?_, hrel'⟩ <;> simp only <;> rw [h4, hg] <;> rfl

/-! ## `_t3_expired` -/

structure T3Shape (t t' : Tx) : Prop where
  sentQ : t'.sentQ = t.sentQ.map (hitMark false)
  outQ : t'.outQ = t.outQ
  lastSacked : t'.lastSacked = t.lastSacked
  localTsn : t'.localTsn = t.localTsn
  t3 : t'.t3 = false
  rel : RelTx t'

theorem t3Expired_shape (t : Tx) (hrel : RelTx t) (now : Int) : T3Shape t (t.t3Expired now) := by
  have hm : t.t3Marked now = { t with t3 := false, sentQ := t.sentQ.map (hitMark false) } := by
    have := t3Mark_rel now t.sentQ [] { t with t3 := false } rfl hrel.sentQ
    simpa [Tx.t3Marked] using this
  have hrelm : RelTx (t.t3Marked now) :=
    t3Mark_keeps (J := RelTx) now (fun t pos h => txInv_RelTx.hitBody h pos now) _ 0 _ (hrel.congr rfl)
  obtain ⟨adv, fs, hu⟩ := updateAdvAck_rel _ hrelm
  refine ⟨?_, ?_, ?_, ?_, ?_, txInv_RelTx.t3Expired hrel now⟩ <;> rw [t3Expired_eq, hu, hm]

/-! ## `_transmit` -/

/-- retransmission pass: which chunks are re-marked and which DATA chunks go out -/
inductive RtxPW : List SChunk → List SChunk → List RChunk → Prop
  | nil : RtxPW [] [] []
  | keep (c : SChunk) {cs ds : List SChunk} {es : List RChunk} : RtxPW cs ds es → RtxPW (c :: cs) (c :: ds) es
  | send (c : SChunk) {cs ds : List SChunk} {es : List RChunk} : c.retransmit = true → RtxPW cs ds es →
      RtxPW (c :: cs) (rtxChunk c :: ds) ((rtxChunk c).toR :: es)

theorem RtxPW.refl : ∀ l : List SChunk, RtxPW l l []
  | [] => .nil
  | c :: cs => .keep c (RtxPW.refl cs)

theorem RtxPW.pw {l l' : List SChunk} {es : List RChunk} (h : RtxPW l l' es) :
    PW (fun c d => d = c ∨ d = rtxChunk c) l l' := by
  induction h with
  | nil => trivial
  | keep c _ ih => exact ⟨Or.inl rfl, ih⟩
  | send c _ _ ih => exact ⟨Or.inr rfl, ih⟩

theorem dataOf_reverse (l : List TxEv) : dataOf l.reverse = (dataOf l).reverse := by
  induction l with
  | nil => rfl
  | cons e es ih =>
    rw [List.reverse_cons, dataOf_append, ih]
    cases e <;> simp [dataOf]

theorem dataOf_map_data {α} (f : α → RChunk) (l : List α) : dataOf (l.map fun c => TxEv.data (f c)) = l.map f := by
  induction l with
  | nil => rfl
  | cons c cs ih => simp only [List.map_cons, dataOf, ih]

theorem dataOf_rtxData (p : List SChunk) : dataOf (rtxData p) = (p.filter (·.retransmit)).map fun c => (rtxChunk c).toR :=
  dataOf_map_data _ _

theorem dataOf_rtxEvs (earliest t3 : Bool) (p : List SChunk) : dataOf (rtxEvs earliest t3 p) = dataOf (rtxData p) := by
  cases p with
  | nil => rfl
  | cons c cs =>
    rw [rtxEvs_cons, rtxData_cons, dataOf_append, dataOf_append]
    by_cases hr : c.retransmit = true
    · rw [if_pos hr, if_pos hr]
      cases earliest
      · rfl
      · show _ :: dataOf (t3Restart t3) ++ _ = _
        rw [dataOf_t3Restart]; rfl
    · rw [if_neg hr, if_neg hr]

theorem dataOf_newEvs (t3 : Bool) (p : List SChunk) : dataOf (newEvs t3 p) = p.map fun c => (newChunk c).toR := by
  cases p with
  | nil => rfl
  | cons c cs =>
    show (newChunk c).toR :: dataOf ((if t3 = true then [] else [TxEv.t3start]) ++ _) = _
    rw [dataOf_append, dataOf_map_data]
    cases t3 <;> rfl

theorem RtxPW.take : ∀ (l : List SChunk) (n : Nat),
    RtxPW l ((l.take n).map rtxStep ++ l.drop n) (((l.take n).filter (·.retransmit)).map fun c => (rtxChunk c).toR)
  | l, 0 => RtxPW.refl l
  | [], _ + 1 => .nil
  | c :: cs, n + 1 => by
    have ih := RtxPW.take cs n
    by_cases hr : c.retransmit = true
    · simpa [rtxStep, hr] using RtxPW.send c hr ih
    · simpa [rtxStep, hr] using RtxPW.keep c ih

structure TransmitShape (t : Tx) : Prop where
  shape : ∃ mid es k, RtxPW t.sentQ mid es ∧ t.transmit.1.sentQ = mid ++ (t.outQ.take k).map newChunk
      ∧ t.transmit.1.outQ = t.outQ.drop k
      ∧ dataOf t.transmit.2 = es ++ (t.outQ.take k).map (fun c => (newChunk c).toR)
  lastSacked : t.transmit.1.lastSacked = t.lastSacked
  localTsn : t.transmit.1.localTsn = t.localTsn
  fwd : t.transmit.1.forwardTsn = none
  needed : t.transmit.1.forwardNeeded = t.forwardNeeded

theorem transmit_shape (t : Tx) : TransmitShape t := by
  have h := transmit_closed t
  refine ⟨⟨_, _, t.newN, RtxPW.take t.sentQ t.rtxN, ?_, ?_, ?_⟩, ?_, ?_, ?_, ?_⟩ <;> rw [h]
  rw [dataOf_append, dataOf_append, dataOf_fwd, List.nil_append, dataOf_rtxEvs, dataOf_rtxData, dataOf_newEvs]

end Aiortc.Sctp
