import Aiortc.Lemmas.C02.DrainOps
import Aiortc.Lemmas.C01.SctpFrag
/-!
# TSN structure of the sender (C02 drain)

`T b k` is the `k`-th TSN after the base `b` (the `lastSacked` the association started with).  As long as fewer
than 2³¹ chunks were ever sent, serial-number comparisons of such TSNs are comparisons of their indices.
`Seq b a l`: the chunks of `l` carry the TSNs `T b (a+1), T b (a+2), …`.  `TxSeq b a t`: the sender has `a` chunks
cumulatively acknowledged, `sentQ ++ outQ` continue from there, `localTsn` follows.  A SACK, a T3 expiry, `_transmit`
and `_send` keep this structure.
-/
namespace Aiortc.Sctp
open Aiortc.Gen

/-! ## consecutive TSNs -/

def Seq (b : Int) : Nat → List SChunk → Prop
  | _, [] => True
  | a, c :: cs => c.tsn = T b (a + 1) ∧ Seq b (a + 1) cs

theorem Seq.append {b : Int} : ∀ {l1 l2 : List SChunk} {a : Nat},
    Seq b a (l1 ++ l2) ↔ Seq b a l1 ∧ Seq b (a + l1.length) l2 := by
  intro l1
  induction l1 with
  | nil => intro l2 a; simp only [List.nil_append, Seq, true_and, List.length_nil, Nat.add_zero]
  | cons c cs ih =>
    intro l2 a
    simp only [List.cons_append, Seq, List.length_cons, ih, and_assoc, Nat.add_assoc, Nat.add_comm 1]

theorem Seq.drop {b : Int} {l : List SChunk} {a : Nat} (k : Nat) (h : Seq b a l) (hk : k ≤ l.length) :
    Seq b (a + k) (l.drop k) := by
  rw [← List.take_append_drop k l] at h
  have := (Seq.append.mp h).2
  rwa [List.length_take, Nat.min_eq_left hk] at this

theorem Seq.getElem? {b : Int} {a i : Nat} {l : List SChunk} {c : SChunk} (h : Seq b a l) (hc : l[i]? = some c) :
    c.tsn = T b (a + i + 1) ∧ Seq b (a + i + 1) (l.drop (i + 1)) := by
  obtain ⟨hi, rfl⟩ := List.getElem?_eq_some_iff.mp hc
  have := Seq.drop i h (Nat.le_of_lt hi)
  rwa [List.drop_eq_getElem_cons hi] at this

theorem Seq.of_pw {b : Int} {R : SChunk → SChunk → Prop} (hR : ∀ c d, R c d → d.tsn = c.tsn) :
    ∀ {l l' : List SChunk} {a : Nat}, PW R l l' → Seq b a l → Seq b a l' := by
  intro l
  induction l with
  | nil =>
    intro l' a h _
    cases l' with
    | nil => trivial
    | cons _ _ => exact h.elim
  | cons c cs ih =>
    intro l' a h hs
    cases l' with
    | nil => exact h.elim
    | cons d ds => exact ⟨(hR c d h.1).trans hs.1, ih h.2 hs.2⟩

theorem Seq.pw {b : Int} {l l' : List SChunk} {a : Nat} : PW SameId l l' → Seq b a l → Seq b a l' :=
  Seq.of_pw fun _ _ h => h.1

theorem Seq.mem {b : Int} {l : List SChunk} {a : Nat} {c : SChunk} (h : Seq b a l) (hc : c ∈ l) :
    ∃ k, a < k ∧ k ≤ a + l.length ∧ c.tsn = T b k := by
  induction l generalizing a with
  | nil => cases hc
  | cons d ds ih =>
    rw [List.length_cons]
    rcases List.mem_cons.mp hc with rfl | hc
    · exact ⟨a + 1, by omega, by omega, h.1⟩
    · obtain ⟨k, h1, h2, h3⟩ := ih h.2 hc
      exact ⟨k, by omega, by omega, h3⟩

theorem Seq.head {b : Int} {a : Nat} {c : SChunk} {cs : List SChunk} (h : Seq b a (c :: cs)) : c.tsn = T b (a + 1) := h.1

theorem ackLoop_seq (b : Int) (k : Nat) (l : List SChunk) (a fl done db : Nat) (hs : Seq b a l) (h2 : k ≤ a + l.length)
    (h3 : a + l.length < 2147483648) : (ackLoop (T b k) fl done db l).2.2.2 = l.drop (k - a) := by
  rw [ackLoop_rest]
  induction l generalizing a with
  | nil => exact List.drop_nil.symm
  | cons c cs ih =>
    rw [List.length_cons] at h2 h3
    rw [List.dropWhile_cons, hs.1, gte_T b k (a + 1) (by omega) (by omega)]
    by_cases hk : a + 1 ≤ k
    · rw [decide_eq_true hk, if_pos rfl, ih (a + 1) hs.2 (by omega) (by omega),
        show k - a = (k - (a + 1)) + 1 by omega, List.drop_succ_cons]
    · rw [decide_eq_false hk, if_neg Bool.false_ne_true, show k - a = 0 by omega, List.drop_zero]

/-! ## the sender -/

structure TxSeq (b : Int) (a : Nat) (t : Tx) : Prop where
  b32 : R32 b
  ls : t.lastSacked = T b a
  seq : Seq b a (t.sentQ ++ t.outQ)
  localTsn : t.localTsn = T b (a + (t.sentQ.length + t.outQ.length) + 1)
  bound : a + (t.sentQ.length + t.outQ.length) + 1 < 2147483648

theorem TxSeq.sent {b : Int} {a : Nat} {t : Tx} (h : TxSeq b a t) : Seq b a t.sentQ := (Seq.append.mp h.seq).1

theorem TxSeq.lastTsn {b : Int} {a : Nat} {t : Tx} (h : TxSeq b a t) :
    tsn_minus_one t.localTsn = T b (a + (t.sentQ.length + t.outQ.length)) := by rw [h.localTsn, T_pred]

/-- the guard of `_receive_sack_chunk` by index, ignored iff behind `lastSacked` or beyond the last TSN assigned: it reads only
`lastSacked = T b κ` and `localTsn = T b (n + 1)` -/
theorem sackStale_idx {b : Int} {κ n : Nat} {t : Tx} (hls : t.lastSacked = T b κ) (hloc : t.localTsn = T b (n + 1))
    (hκ : κ ≤ n) (hn : n < 2147483648) (k : Nat) (hk : k < 2147483648) :
    t.sackStale (T b k) = (decide (k < κ) || decide (n < k)) := by
  unfold Tx.sackStale
  rw [hloc, T_pred, hls, gte_T b k κ hk (Nat.lt_of_le_of_lt hκ hn), gt_T b k n hk hn, ← decide_not]
  simp only [Nat.not_le]

theorem receiveSack_stale_idx {b : Int} {κ n : Nat} {t : Tx} (hls : t.lastSacked = T b κ) (hloc : t.localTsn = T b (n + 1))
    (hκ : κ ≤ n) (hn : n < 2147483648) (k : Nat) (hk : k < κ) (gaps : List (Nat × Nat)) (now : Int) :
    t.receiveSack (T b k) gaps now = .ok none := by
  unfold Tx.receiveSack
  rw [sackStale_idx hls hloc hκ hn k (Nat.lt_trans hk (Nat.lt_of_le_of_lt hκ hn)), decide_eq_true hk]
  rfl

theorem not_stale_idx {b : Int} {κ n : Nat} {t : Tx} (hls : t.lastSacked = T b κ) (hloc : t.localTsn = T b (n + 1))
    (hκ : κ ≤ n) (hn : n < 2147483648) (k : Nat) (hk : κ ≤ k) (hk2 : k ≤ n) : t.sackStale (T b k) = false := by
  rw [sackStale_idx hls hloc hκ hn k (Nat.lt_of_le_of_lt hk2 hn), decide_eq_false (Nat.not_lt.mpr hk),
    decide_eq_false (Nat.not_lt.mpr hk2)]
  rfl

theorem receiveSack_stale {b : Int} {a : Nat} {t : Tx} (h : TxSeq b a t) (k : Nat) (hk : k < a) (gaps : List (Nat × Nat))
    (now : Int) : t.receiveSack (T b k) gaps now = .ok none :=
  receiveSack_stale_idx h.ls h.localTsn (Nat.le_add_right _ _) (Nat.lt_of_succ_lt h.bound) k hk gaps now

theorem not_stale {b : Int} {a : Nat} {t : Tx} (h : TxSeq b a t) (k : Nat) (hk : a ≤ k)
    (hk2 : k ≤ a + (t.sentQ.length + t.outQ.length)) : t.sackStale (T b k) = false :=
  not_stale_idx h.ls h.localTsn (Nat.le_add_right _ _) (Nat.lt_of_succ_lt h.bound) k hk hk2

theorem TxSeq.acked {b : Int} {a : Nat} {t : Tx} (h : TxSeq b a t) {k : Nat} (h1 : a ≤ k) (h2 : k ≤ a + t.sentQ.length) :
    ∃ l, t.ackedQ (T b k) = l ∧ l = t.sentQ.drop (k - a) ∧ Seq b k l ∧ k + l.length = a + t.sentQ.length := by
  have hb := h.bound
  refine ⟨_, ackLoop_seq b k t.sentQ a _ _ _ h.sent h2 (by omega), rfl, ?_, by rw [List.length_drop]; omega⟩
  have := Seq.drop (k - a) h.sent (by omega)
  rwa [Nat.add_sub_cancel' h1] at this

theorem TxSeq.sack {b : Int} {a : Nat} {t t' : Tx} (h : TxSeq b a t) (k : Nat) (h1 : a ≤ k) (h2 : k ≤ a + t.sentQ.length)
    (gaps : List (Nat × Nat)) (hs : SackShape t t' (T b k) gaps) :
    TxSeq b k t' ∧ t'.sentQ.length + (k - a) = t.sentQ.length := by
  obtain ⟨l, hq, _, hseq, hlen⟩ := h.acked h1 h2
  have hpw : PW SameId l t'.sentQ := by rw [hs.sentQ, hq]; exact sackList_sameId (T b k) gaps l
  have hl := PW.length hpw
  have hb := h.bound
  have hk : k + t'.sentQ.length = a + t.sentQ.length := hl ▸ hlen
  refine ⟨⟨h.b32, hs.lastSacked, ?_, ?_, by rw [hs.outQ]; omega⟩, by omega⟩
  · rw [hs.outQ]
    exact Seq.append.mpr ⟨Seq.pw hpw hseq, hk ▸ (Seq.append.mp h.seq).2⟩
  · rw [hs.localTsn, hs.outQ, h.localTsn, ← Nat.add_assoc, ← Nat.add_assoc, hk]

theorem TxSeq.t3 {b : Int} {a : Nat} {t t' : Tx} (h : TxSeq b a t) (hs : T3Shape t t') : TxSeq b a t' := by
  have hlen : t'.sentQ.length = t.sentQ.length := by rw [hs.sentQ, List.length_map]
  have hpw : PW SameId t.sentQ t'.sentQ := hs.sentQ ▸ PW.map_right hitMark_sameId _
  obtain ⟨s1, s2⟩ := Seq.append.mp h.seq
  exact ⟨h.b32, hs.lastSacked ▸ h.ls, hs.outQ ▸ Seq.append.mpr ⟨Seq.pw hpw s1, hlen ▸ s2⟩,
    by rw [hs.localTsn, hs.outQ, hlen]; exact h.localTsn, by rw [hs.outQ, hlen]; exact h.bound⟩

theorem rtxChunk_sameId (c : SChunk) : SameId c (rtxChunk c) := ⟨rfl, rfl, rfl, rfl⟩
theorem newChunk_sameId (c : SChunk) : SameId c (newChunk c) := (newChunk_bk c).sameId

theorem RtxPW.sameId {l l' : List SChunk} {es : List RChunk} (h : RtxPW l l' es) : PW SameId l l' :=
  h.pw.mono fun c _ h => h.elim (· ▸ SameId.refl c) (· ▸ rtxChunk_sameId c)

theorem transmit_pw (t : Tx) :
    PW SameId (t.sentQ ++ t.outQ) (t.transmit.1.sentQ ++ t.transmit.1.outQ)
    ∧ t.sentQ.length ≤ t.transmit.1.sentQ.length
    ∧ t.transmit.1.sentQ.length + t.transmit.1.outQ.length = t.sentQ.length + t.outQ.length := by
  obtain ⟨mid, es, k, h1, h2, h3, _⟩ := (transmit_shape t).shape
  have hpw := RtxPW.sameId h1
  have hl := PW.length hpw
  have hk := List.take_drop_length t.outQ k
  refine ⟨?_, by rw [h2, List.length_append, ← hl]; exact Nat.le_add_right _ _,
    by rw [h2, h3, List.length_append, List.length_map, ← hl]; omega⟩
  rw [h2, h3, List.append_assoc]
  refine PW.append hpw ?_
  have := PW.append (PW.map_right newChunk_sameId (t.outQ.take k)) (PW.refl SameId.refl (t.outQ.drop k))
  rwa [List.take_append_drop] at this

theorem TxSeq.transmit {b : Int} {a : Nat} {t : Tx} (h : TxSeq b a t) (hf : t.forwardTsn = none) :
    TxSeq b a t.transmit.1 := by
  obtain ⟨hpw, _, hlen⟩ := transmit_pw t
  have sh := transmit_shape t
  exact ⟨h.b32, sh.lastSacked ▸ h.ls, Seq.pw hpw h.seq, by rw [sh.localTsn, hlen]; exact h.localTsn, hlen ▸ h.bound⟩

theorem RelTx.transmit {t : Tx} (h : RelTx t) : RelTx t.transmit.1 := (txInv_RelTx.transmit h).1

/-- chunks not yet cumulatively acknowledged -/
def Tx.nOut (t : Tx) : Nat := t.sentQ.length + t.outQ.length

theorem transmit_nOut (t : Tx) : t.transmit.1.nOut = t.nOut := (transmit_pw t).2.2

theorem T3Shape.nOut {t t' : Tx} (h : T3Shape t t') : t'.nOut = t.nOut := by
  unfold Tx.nOut; rw [h.sentQ, h.outQ, List.length_map]

theorem fragments_rel (tsn : Int) (sid : Nat) (ssn : Int) (ppid : Nat) (o : Bool) (n : Nat) (data : Bytes) :
    ∀ k, ∀ c ∈ fragments tsn sid ssn ppid o none none n data k, c.Rel :=
  fun k c hc => by obtain ⟨j, -, rfl⟩ := mem_fragments hc; exact ⟨rfl, rfl, rfl⟩

theorem fragments_seq (b : Int) (base : Nat) (sid : Nat) (ssn : Int) (ppid : Nat) (o : Bool) (e m : Option Int) (n : Nat)
    (data : Bytes) : ∀ k, k ≤ n → Seq b (base + (n - k)) (fragments (T b (base + 1)) sid ssn ppid o e m n data k)
  | 0, _ => trivial
  | k + 1, hk => by
    have ih := fragments_seq b base sid ssn ppid o e m n data k (by omega)
    simp only [fragments, Seq]
    refine ⟨?_, ?_⟩
    · rw [T_add]; congr 1; omega
    · rwa [show base + (n - (k + 1)) + 1 = base + (n - k) by omega]

theorem TxSeq.enqueue {b : Int} {a : Nat} {t : Tx} (h : TxSeq b a t) (sid ppid : Nat) (data : Bytes) (e m : Option Int)
    (o : Bool) (hb : a + t.nOut + fragCount data.length + 1 < 2147483648) :
    TxSeq b a (t.enqueue sid ppid data e m o) := by
  unfold Tx.nOut at hb
  have hl := fragments_length t.localTsn sid (if o then (dictGet t.streamSeq sid).getD 0 else 0) ppid o e m
    (fragCount data.length) data (fragCount data.length)
  refine ⟨h.b32, h.ls, ?_, ?_, ?_⟩
  · simp only [Tx.enqueue]
    rw [← List.append_assoc]
    refine Seq.append.mpr ⟨h.seq, ?_⟩
    have := fragments_seq b (a + (t.sentQ.length + t.outQ.length)) sid (if o then (dictGet t.streamSeq sid).getD 0 else 0)
      ppid o e m (fragCount data.length) data (fragCount data.length) (Nat.le_refl _)
    rw [← h.localTsn, Nat.sub_self, Nat.add_zero] at this
    simpa using this
  · simp only [Tx.enqueue, List.length_append, hl]
    rw [h.localTsn, T_add]; congr 1; omega
  · simp only [Tx.enqueue, List.length_append, hl]; omega

theorem RelTx.enqueue {t : Tx} (h : RelTx t) (sid ppid : Nat) (data : Bytes) (o : Bool) :
    RelTx (t.enqueue sid ppid data none none o) := by
  refine ⟨h.sentQ, ?_, h.fwd, h.needed⟩
  intro c hc
  simp only [Tx.enqueue, List.mem_append] at hc
  rcases hc with hc | hc
  · exact h.outQ c hc
  · exact fragments_rel _ _ _ _ _ _ _ _ c hc

theorem enqueue_nOut (t : Tx) (sid ppid : Nat) (data : Bytes) (e m : Option Int) (o : Bool) :
    (t.enqueue sid ppid data e m o).nOut = t.nOut + fragCount data.length
    ∧ (t.enqueue sid ppid data e m o).sentQ = t.sentQ := by
  have hl := fragments_length t.localTsn sid (if o then (dictGet t.streamSeq sid).getD 0 else 0) ppid o e m
    (fragCount data.length) data (fragCount data.length)
  simp only [Tx.nOut, Tx.enqueue, List.length_append, hl, and_true]; omega

end Aiortc.Sctp
