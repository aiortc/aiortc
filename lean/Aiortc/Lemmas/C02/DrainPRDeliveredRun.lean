import Aiortc.Lemmas.C02.DrainPRDelivered
import Aiortc.Lemmas.C02.DrainPRRun
/-!
# `GotInv` is preserved by every move, hence by every history and along the continuation (C02 drain)

At a drained state every chunk a history queued has left the queues: it reached the receiver or is partially reliable
(`GotInv.drained`).
-/
namespace Aiortc.Sctp
open Aiortc.Gen

-- used through their lemmas only; opaque, so that no unification step unfolds them
attribute [local irreducible] Tx.transmit Tx.receiveSack Tx.t3Expired markReceived rxFwdTsn

variable {b : Int} {κ f r : Nat} {H : List SChunk} {s : PLink}

theorem enqueue_outQ (t : Tx) (sid ppid : Nat) (data : Bytes) (e m : Option Int) (o : Bool) :
    (t.enqueue sid ppid data e m o).outQ = t.outQ ++ (t.enqueue sid ppid data e m o).outQ.drop t.outQ.length := by
  simp [Tx.enqueue]

theorem GotInv.arrive {r' : Nat} (hc : CohP b κ f r s) (hg : GotInv b f r H s)
    {a : Arrival} (ha : a ∈ s.toRx) (rest : List Arrival) (hc' : CohP b κ f r' (s.deliver a rest)) :
    GotInv b f r' H (s.deliver a rest) := by
  have hr := hc.r_lt
  have hr' : r' < 4294967296 := Nat.lt_trans hc'.r_lt (by decide)
  have hlast' : (rxArr s.rx a).last = T b r' := hc'.core.rlast
  have hok := hc.core.toRx a ha
  cases a with
  | data d =>
    obtain ⟨k, _, k2⟩ := hok
    have hmod : d.tsn % 4294967296 = T b k := by rw [k2, T_mod]
    simp only [rxArr, hmod] at hlast'
    obtain ⟨g1, g2⟩ := rx_deliver_got b s.rx r k r' hc.core.rlast (Nat.lt_trans hr (by decide)) hr' hlast'
    have hin : ∀ x ∈ s.rx.mis ++ [T b k], x ∈ (s.deliver (.data d) rest).got := by
      intro x hx
      simp only [PLink.deliver, gotArr, hmod]
      exact (List.mem_append.mp hx).elim (fun h => List.mem_append_left _ (hg.mis x h)) (List.mem_append_right _)
    refine hg.recv rfl (fun x hx => ?_) (fun j c0 hj h1 h2 => Or.inl ?_) (fun x hx => hin x (g2 x ?_))
    · simp only [PLink.deliver, gotArr]; exact List.mem_append_left _ hx
    · rw [hg.tsn j c0 hj]; exact hin _ (g1 (j + 1) (Nat.lt_succ_of_le h1) h2)
    · simp only [PLink.deliver, rxArr, hmod] at hx; exact hx
  | fwd c st =>
    obtain ⟨k, k1, k2⟩ := hok
    have hmod : c % 4294967296 = T b k := by rw [k2, T_mod]
    simp only [rxArr, hmod] at hlast'
    obtain ⟨g1, g2⟩ := rx_fwd_got b s.rx r k r' hc.core.rlast hr (Nat.lt_of_le_of_lt k1 hc.core.seq.adv_lt) hr' hlast'
    refine hg.recv rfl (fun x hx => hx) (fun j c0 hj h1 h2 => ?_) (fun x hx => hg.mis x (g2 x ?_))
    · rcases Nat.lt_or_ge j k with h3 | h3
      · exact hg.left j c0 hj (Nat.lt_of_lt_of_le h3 k1)
      · rw [hg.tsn j c0 hj]; exact Or.inl (hg.mis _ (g1 (j + 1) (Nat.lt_succ_of_le h1) (Nat.lt_succ_of_le h3) h2))
    · simp only [PLink.deliver, rxArr, hmod] at hx; exact hx

theorem GotInv.deliver {b : Int} {κ f r r' : Nat} {H : List SChunk} {s : PLink} (hc : CohP b κ f r s) (hg : GotInv b f r H s)
    (a : Arrival) (ha : a ∈ s.toRx) (rest : List Arrival) (hc' : CohP b κ f r' (s.deliver a rest)) (hrr : r ≤ r') :
    GotInv b f r' H (s.deliver a rest) :=
  hg.arrive hc ha rest hc'

theorem GotInv.transmit {b : Int} {f r : Nat} {H : List SChunk} {s s' : PLink} (ho : ∀ c ∈ s.tx.outQ, Idle c)
    (hg : GotInv b f r H s) (htx : s'.tx = s.tx.transmit.1) (hrx : s'.rx = s.rx) (hgot : s'.got = s.got) :
    GotInv b f r H s' :=
  hg.leaves (by rw [htx]; exact transmit_leaves s.tx ho hg.aw) (Nat.zero_le _) rfl hrx hgot

theorem GotInv.enqueue {b : Int} {κ f r : Nat} {H : List SChunk} {s : PLink} (hc : CohP b κ f r s) (hg : GotInv b f r H s)
    (m : SendArgs) (hb : f + s.tx.nOut + fragCount m.data.length + 1 < 2147483648) :
    GotInv b f r (H ++ newChunks s (.send m)) { s with tx := s.tx.enqueue m.sid m.ppid m.data m.expiry m.maxRtx m.ordered } := by
  have hs := (enqueue_nOut s.tx m.sid m.ppid m.data m.expiry m.maxRtx m.ordered).2
  have ho := enqueue_outQ s.tx m.sid m.ppid m.data m.expiry m.maxRtx m.ordered
  have hseq' := (hc.core.seq.enqueue m.sid m.ppid m.data m.expiry m.maxRtx m.ordered hb).seq
  simp only [newChunks]
  generalize (s.tx.enqueue m.sid m.ppid m.data m.expiry m.maxRtx m.ordered).outQ.drop s.tx.outQ.length = fr at ho
  rw [hs, ho, ← List.append_assoc] at hseq'
  have hlen : H.length = f + (s.tx.sentQ ++ s.tx.outQ).length := by rw [hg.len, List.length_append]; rfl
  have hfl : f ≤ H.length := hlen ▸ Nat.le_add_right _ _
  refine ⟨hg.aw.enqueue _ _ _ _ _ _, ?_, ?_, fun j c0 hj => ?_, fun j c0 hj hlt => ?_, fun j c0 hj hlt => ?_, hg.mis⟩
  · show (H ++ fr).length = f + ((s.tx.enqueue _ _ _ _ _ _).sentQ.length + (s.tx.enqueue _ _ _ _ _ _).outQ.length)
    rw [hs, ho, List.length_append, List.length_append, hlen, List.length_append, Nat.add_assoc, Nat.add_assoc]
  · show PW SameT ((H ++ fr).drop f) (_ ++ _)
    rw [List.drop_append_of_le_length hfl, hs, ho, ← List.append_assoc]
    exact PW.append hg.idq (PW.refl SameT.refl fr)
  · rcases Nat.lt_or_ge j H.length with h1 | h1
    · rw [List.getElem?_append_left h1] at hj; exact hg.tsn j c0 hj
    · rw [List.getElem?_append_right h1] at hj
      rw [(Seq.getElem? (Seq.append.mp hseq').2 hj).1, ← hlen, Nat.add_sub_cancel' h1]
  · rw [List.getElem?_append_left (Nat.lt_of_lt_of_le hlt hfl)] at hj
    exact hg.left j c0 hj hlt
  · have hjl : j < H.length := by
      have := hc.core.rhi
      rw [hlen, List.length_append]; omega
    rw [List.getElem?_append_left hjl] at hj
    exact hg.rcv j c0 hj hlt

theorem GotInv.fireT3 {f2 : Nat} (hg : GotInv b f r H s)
    (hidx : T3Idx b κ f s.tx (s.tx.t3Expired s.now1000) f2) : GotInv b f2 r H s.fireT3 := by
  obtain ⟨k, hk, hl⟩ := t3_queue hg.aw s.now1000 hidx.cons
  exact hg.leaves (s' := s.fireT3) hl (Nat.zero_le _) hk rfl rfl

theorem GotInv.sack {k f2 : Nat} {s' : PLink} {gaps : List (Nat × Nat)} {t' : Tx}
    {evs : List TxEv} (hc : CohP b κ f r s) (hg : GotInv b f r H s) (hk : k ≤ r)
    (hrs : s.tx.receiveSack (T b k) gaps s.now1000 = .ok (some (t', evs))) (hidx : SackIdx b k f s.tx t' gaps f2)
    (htx : s'.tx = t'.transmit.1) (hrx : s'.rx = s.rx) (hgot : s'.got = s.got) : GotInv b f2 r H s' := by
  obtain ⟨n, hn, hl⟩ := sack_queue hc.core.seq hg.aw (Nat.le_trans hk hc.core.rhi)
    (receiveSack_shapeP s.tx _ _ _ t' evs hrs) hidx
  have hg1 : GotInv b f2 r H { s with tx := t' } := hg.leaves hl (Nat.sub_le_sub_right hk f) hn rfl rfl
  exact GotInv.transmit (s := { s with tx := t' }) (hc.snd.flight.receiveSack _ _ _ t' evs hrs).outQ hg1 htx hrx hgot

theorem GotInv.fault (hc : CohP b κ f r s) (hg : GotInv b f r H s)
    (ft : Fault) (hb : f + s.tx.nOut + ft.sent + 1 < 2147483648) :
    ∃ κ' f' r', CohP b κ' f' r' (s.fault ft) ∧ GotInv b f' r' (H ++ newChunks s ft) (s.fault ft)
      ∧ f' + (s.fault ft).tx.nOut = f + s.tx.nOut + ft.sent := by
  generalize hs' : s.fault ft = s'
  have hm := s.fault_move ft
  rw [hs'] at hm
  have fin : ∀ {f2 r2 : Nat}, GotInv b f2 r2 H s' → newChunks s ft = [] → GotInv b f2 r2 (H ++ newChunks s ft) s' :=
    fun hG h0 => by rw [h0, List.append_nil]; exact hG
  cases hm with
  | send m =>
    exact ⟨κ, f, r, (hc.sendMsg m hb).1,
      GotInv.transmit (s := { s with tx := s.tx.enqueue m.sid m.ppid m.data m.expiry m.maxRtx m.ordered }) (s' := s.sendMsg m)
        (hc.snd.flight.enqueue _ _ _ _ _ _).outQ (hg.enqueue hc m hb) rfl rfl rfl, (hc.sendMsg m hb).2⟩
  | task =>
    exact ⟨κ, f, r, hc.runTask, fin (GotInv.transmit hc.snd.flight.outQ hg rfl rfl rfl) rfl,
      congrArg (f + ·) (transmit_queues s.tx).2⟩
  | fireT3 =>
    obtain ⟨f2, hidx, hc2⟩ := hc.fireT3
    exact ⟨κ, f2, r, hc2, fin (hg.fireT3 hidx) rfl, hidx.cons⟩
  | arrive hi =>
    have ha := List.mem_of_getElem? hi
    obtain ⟨r2, _, hc2, _⟩ := hc.deliver _ ha (s.toRx.eraseIdx _) (fun e he => List.mem_of_mem_eraseIdx he)
    exact ⟨κ, f, r2, hc2, fin (hg.arrive hc ha _ hc2) rfl, rfl⟩
  | @sack i p hi =>
    have hrest : ∀ q ∈ s.toTx.eraseIdx i, q ∈ s.toTx := fun _ hq => List.mem_of_mem_eraseIdx hq
    obtain ⟨k, hk, hpk⟩ := hc.core.toTx p (List.mem_of_getElem? hi)
    rw [hpk] at fin ⊢
    rcases deliverSack_casesP hc k hk p.2 (s.toTx.eraseIdx i) with ⟨_, he'⟩ | ⟨_, t', evs, f2, hrs, hidx, he'⟩
    · rw [he'] at fin ⊢
      exact ⟨κ, f, r, hc.frame rfl rfl rfl (fun _ h => h) hrest, fin (hg.net rfl rfl rfl) rfl, rfl⟩
    · rw [he'] at fin ⊢
      obtain ⟨hc2, hn2⟩ := hc.sack hk hrs hidx _ hrest
      exact ⟨k, f2, r, hc2, fin (hg.sack hc hk hrs hidx rfl rfl rfl) rfl, hn2⟩
  | net hs h0 hn =>
    exact ⟨κ, f, r, hc.frame hn.tx hn.pending hn.rx hn.toRx hn.toTx, fin (hg.net hn.tx hn.rx hn.got) h0,
      by rw [hn.tx, hs]; rfl⟩

/-- every chunk a history puts into the outbound queue, in TSN order -/
def queuedBy : PLink → List Fault → List SChunk
  | _, [] => []
  | s, ft :: fs => newChunks s ft ++ queuedBy (s.fault ft) fs

theorem GotInv.faults : ∀ (fs : List Fault) {b : Int} {κ f r : Nat} {H : List SChunk} {s : PLink}, CohP b κ f r s →
    GotInv b f r H s → f + s.tx.nOut + sentTotal fs + 1 < 2147483648 →
    ∃ κ' f' r', CohP b κ' f' r' (fs.foldl PLink.fault s) ∧ GotInv b f' r' (H ++ queuedBy s fs) (fs.foldl PLink.fault s)
      ∧ f' + (fs.foldl PLink.fault s).tx.nOut = f + s.tx.nOut + sentTotal fs := by
  intro fs
  induction fs with
  | nil => intro b κ f r H s hc hg _; exact ⟨κ, f, r, hc, by rw [queuedBy, List.append_nil]; exact hg, rfl⟩
  | cons ft fs ih =>
    intro b κ f r H s hc hg hb
    have hb' : f + s.tx.nOut + ft.sent + sentTotal fs + 1 < 2147483648 := by rw [Nat.add_assoc _ ft.sent]; exact hb
    obtain ⟨κ1, f1, r1, hc1, hg1, hn1⟩ := hg.fault hc ft (by omega)
    obtain ⟨κ2, f2, r2, hc2, hg2, hn2⟩ := ih hc1 hg1 (by rw [hn1]; exact hb')
    exact ⟨κ2, f2, r2, hc2, by rw [queuedBy, ← List.append_assoc]; exact hg2, hn2.trans (by rw [hn1, Nat.add_assoc]; rfl)⟩

/-- a step of the continuation is a move of the system that queues nothing (or nothing at all) -/
theorem PLink.step_fault (s : PLink) : s.step = s ∨ ∃ ft : Fault, ft.sent = 0 ∧ newChunks s ft = [] ∧ s.step = s.fault ft := by
  by_cases hq : s.Quiet
  · cases h3 : s.tx.t3 with
    | true => exact Or.inr ⟨.fireT3, rfl, rfl, by rw [s.step_t3 hq h3]; rfl⟩
    | false => exact Or.inl (s.step_rest hq h3)
  · rcases s.step_cases hq with ⟨_, he⟩ | ⟨a, rest, _, hr, he⟩ | ⟨cum, gaps, rest, _, _, ht, he⟩
    · exact Or.inr ⟨.task, rfl, rfl, by rw [he]; rfl⟩
    · refine Or.inr ⟨.deliverData 0, rfl, rfl, ?_⟩
      rw [he]
      simp [PLink.fault, hr]
    · refine Or.inr ⟨.deliverSack 0, rfl, rfl, ?_⟩
      rw [he]
      simp [PLink.fault, ht]

theorem GotInv.step (hc : CohP b κ f r s) (hg : GotInv b f r H s) :
    ∃ κ' f' r', CohP b κ' f' r' s.step ∧ GotInv b f' r' H s.step ∧ f' + s.step.tx.nOut = f + s.tx.nOut := by
  rcases s.step_fault with he | ⟨ft, h1, h2, he⟩
  · rw [he]; exact ⟨κ, f, r, hc, hg, rfl⟩
  · have := hg.fault hc ft (by rw [h1]; exact hc.core.seq.bound)
    rwa [h1, h2, List.append_nil, ← he] at this

theorem GotInv.run (n : Nat) {b : Int} {κ f r : Nat} {H : List SChunk} {s : PLink} (hc : CohP b κ f r s)
    (hg : GotInv b f r H s) :
    ∃ κ' f' r', CohP b κ' f' r' (PLink.run n s) ∧ GotInv b f' r' H (PLink.run n s)
      ∧ f' + (PLink.run n s).tx.nOut = f + s.tx.nOut := by
  induction n generalizing κ f r s with
  | zero => exact ⟨κ, f, r, hc, hg, rfl⟩
  | succ n ih =>
    obtain ⟨κ1, f1, r1, hc1, hg1, hn1⟩ := hg.step hc
    obtain ⟨κ2, f2, r2, hc2, hg2, hn2⟩ := ih hc1 hg1
    exact ⟨κ2, f2, r2, hc2, hg2, hn2.trans hn1⟩

theorem PLink.Fresh.got (h : s.Fresh) : GotInv s.tx.lastSacked 0 0 [] s := by
  have hs := h.init.sentQ
  have ho := h.init.outQ
  have hnil : ∀ (P : Prop) (j : Nat) c0, ([] : List SChunk)[j]? = some c0 → P := fun _ _ _ hj => by simp at hj
  refine ⟨⟨?_, ?_⟩, ?_, ?_, fun j c0 => hnil _ j c0, fun j c0 hj _ => hnil _ j c0 hj, fun j c0 hj _ => hnil _ j c0 hj, ?_⟩
  · rw [hs]; exact fun _ hc => (nomatch hc)
  · rw [hs, ho]; exact ⟨trivial, fun _ hc => (nomatch hc)⟩
  · unfold Tx.nOut; rw [hs, ho]; rfl
  · rw [hs, ho]; trivial
  · rw [h.rxMis]; exact fun _ hx => (nomatch hx)

theorem GotInv.drained (hg : GotInv b f r H s) (hd : s.Drained)
    (c : SChunk) (hc : c ∈ H) : c.tsn ∈ s.got ∨ c.Unrel := by
  obtain ⟨i, hi⟩ := List.getElem?_of_mem hc
  have hlt := (List.getElem?_eq_some_iff.mp hi).1
  rw [hg.len, show s.tx.nOut = 0 by unfold Tx.nOut; rw [hd.sentQ, hd.outQ]; rfl] at hlt
  exact hg.left i c hi hlt

end Aiortc.Sctp
