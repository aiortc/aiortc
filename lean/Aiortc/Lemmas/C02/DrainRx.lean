import Aiortc.Lemmas.C02.DrainSeq
import Aiortc.Lemmas.C02.SctpRxInv
/-!
# The receiver on TSNs of the sender's range (C02 drain)

`RxAt b r hi rx`: the receiver's cumulative TSN is `T b r` and its misordered TSNs are `T b k` with `r < k ≤ hi`.
`rx_deliver`: if a DATA chunk with TSN `T b k`, `k ≤ hi`, arrives (in any order, possibly a duplicate), then the same holds
afterwards with some `r' ≥ r`, and `r' > r` if the chunk was the one following the cumulative TSN.

`RxHas rx t`: the receiver has TSN `t` (cumulatively or misordered); it is monotone under arrivals.  The gap blocks
`_send_sack` writes cover exactly the offsets of a PREFIX (in serial order) of `_sack_misordered`: when the 296-entry limit
or the 16-bit offset limit is hit, the rest is left out.  Hence an honest SACK is always sound, and complete below the highest
TSN it reports.
-/
namespace Aiortc.Sctp
open Aiortc.Gen

theorem markReceived_old (rx : Rx) (t : Int) (h : (uint32_gte rx.last t || rx.mis.contains t) = true) :
    (markReceived rx t).2.last = rx.last ∧ (markReceived rx t).2.mis = rx.mis := by
  unfold markReceived; simp only [h, if_true, and_self]

theorem markReceived_new (rx : Rx) (t : Int) (h : (uint32_gte rx.last t || rx.mis.contains t) = false) :
    (markReceived rx t).2.last = consolidate rx.last (sortByKey rx.last (rx.mis ++ [t]))
    ∧ (markReceived rx t).2.mis
        = (rx.mis ++ [t]).filter (fun x => uint32_gt x (consolidate rx.last (sortByKey rx.last (rx.mis ++ [t])))) := by
  unfold markReceived; simp only [h, Bool.false_eq_true, if_false, and_self]

structure RxAt (b : Int) (r hi : Nat) (rx : Rx) : Prop where
  ok : RxOk rx
  last : rx.last = T b r
  le : r ≤ hi
  lt : hi < 2147483648
  mis : ∀ x ∈ rx.mis, ∃ j, r < j ∧ j ≤ hi ∧ x = T b j

theorem rx_deliver {b : Int} {rx : Rx} {r hi k : Nat} (h : RxAt b r hi rx) (hk : k ≤ hi) :
    ∃ r', r ≤ r' ∧ RxAt b r' hi (markReceived rx (T b k)).2 ∧ (k = r + 1 → r < r') := by
  obtain ⟨hok, hl, hr, hhi, hmis⟩ := h
  have hok' := hok.markReceived (T b k) (T_r32 b k)
  rw [markReceived_eq] at hok' ⊢
  by_cases hdup : (uint32_gte rx.last (T b k) || rx.mis.contains (T b k)) = true
  · rw [if_pos hdup] at hok' ⊢
    refine ⟨r, Nat.le_refl _, ⟨hok', hl, hr, hhi, hmis⟩, fun hk1 => ?_⟩
    -- the TSN after the cumulative one is never a duplicate
    subst hk1
    have := hok.next
    rw [hl, gte_T b r (r + 1) (by omega) (by omega), ← T_succ, ← hl, this] at hdup
    simp at hdup; omega
  · rw [if_neg hdup] at hok' ⊢
    have hnew := hdup
    simp only [Bool.or_eq_true, not_or, Bool.not_eq_true] at hnew
    have hgt : r < k := by
      have := hnew.1
      rw [hl, gte_T b r k (by omega) (by omega)] at this
      exact Nat.lt_of_not_le (of_decide_eq_false this)
    have hall : ∀ x ∈ rx.mis ++ [T b k], ∃ j, r < j ∧ j ≤ hi ∧ x = T b j := by
      intro x hx
      rcases List.mem_append.mp hx with hx | hx
      · exact hmis x hx
      · exact ⟨k, hgt, hk, List.mem_singleton.mp hx⟩
    obtain ⟨r', h'⟩ := absorb_idx b rx.dups hr (by omega) hall (hok.nodup_snoc (by simpa using hnew.2))
    rw [hl] at hok' ⊢
    -- `k = r + 1` is in the list, so the walk cannot have stopped at `r`
    refine ⟨r', h'.ge, ⟨hok', h'.last, h'.le, hhi, h'.mis⟩, fun hk1 => Nat.lt_of_le_of_ne h'.ge fun e => h'.next ?_⟩
    rw [← e, ← hk1]; exact List.mem_append_right _ (List.mem_singleton.mpr rfl)

theorem nodup_range_length (b : Int) (d lo : Nat) (l : List Int) (hnd : l.Nodup)
    (h : ∀ x ∈ l, ∃ k, lo < k ∧ k ≤ lo + d ∧ x = T b k) : l.length ≤ d := by
  have hsub : l ⊆ (List.range d).map fun i => T b (lo + 1 + i) := by
    intro x hx
    obtain ⟨k, k1, k2, rfl⟩ := h x hx
    exact List.mem_map.mpr ⟨k - (lo + 1), List.mem_range.mpr (by omega), by congr 1; omega⟩
  have := hnd.length_le_of_subset hsub
  rwa [List.length_map, List.length_range] at this

theorem newRuns_le : ∀ (l : List Nat) (p : Option Nat), newRuns p l ≤ l.length
  | [], _ => Nat.le_refl _
  | x :: xs, p => by
    have := newRuns_le xs (some x)
    simp only [newRuns, List.length_cons]; split <;> omega

theorem off_T (b : Int) (rx : Rx) (r j : Nat) (hl : rx.last = T b r) (h1 : r ≤ j) (h2 : j < 4294967296) :
    rx.off (T b j) = j - r := by
  unfold Rx.off; rw [hl]; exact T_sub b h1 (by omega)

theorem sack_complete_idx {b : Int} {rx : Rx} {r hi : Nat} (h : RxAt b r hi rx) (hsmall : hi - r ≤ 296) (j : Nat)
    (j1 : r < j) (j2 : j ≤ hi) (hj : T b j ∈ rx.mis) : Covered (sackGapBlocks rx) (j - r) := by
  obtain ⟨hok, hl, hr, hhi, hmis⟩ := h
  have h1 : ∀ t ∈ rx.mis, R32 t ∧ 1 ≤ rx.off t ∧ rx.off t ≤ 65535 := by
    intro t ht
    obtain ⟨j, j1, j2, j3⟩ := hmis t ht
    rw [j3, off_T b rx r j hl (by omega) (by omega)]
    exact ⟨T_r32 b j, by omega, by omega⟩
  have hlen : rx.mis.length ≤ hi - r :=
    nodup_range_length b (hi - r) r rx.mis hok.nodup (by
      intro x hx; obtain ⟨j, j1, j2, j3⟩ := hmis x hx; exact ⟨j, j1, by omega, j3⟩)
  have h2 : newRuns none ((sortByKey rx.last rx.mis).map rx.off) ≤ 296 := by
    have := newRuns_le ((sortByKey rx.last rx.mis).map rx.off) none
    rw [List.length_map, length_sortByKey] at this
    omega
  exact (sack_gaps_exact rx h1 hok.nodup h2 _).mpr ⟨T b j, hj, off_T b rx r j hl (by omega) (by omega)⟩

def RxHas (rx : Rx) (t : Int) : Prop := uint32_gte rx.last t = true ∨ t ∈ rx.mis

theorem rxHas_mono {b : Int} {rx : Rx} {r hi k : Nat} (h : RxAt b r hi rx) (hk : k ≤ hi)
    (j : Nat) (hj : j < 2147483648) (hx : RxHas rx (T b j)) : RxHas (markReceived rx (T b k)).2 (T b j) := by
  obtain ⟨r', r1, ⟨_, r3, r2, _, _⟩, _⟩ := rx_deliver h hk
  obtain ⟨_, hl, hr, hhi, _⟩ := h
  rcases hx with h | h
  · rw [hl, gte_T b r j (by omega) hj] at h
    exact Or.inl (r3 ▸ gte_T_of (by omega) (Nat.le_trans (of_decide_eq_true h) r1))
  · cases hdup : (uint32_gte rx.last (T b k) || rx.mis.contains (T b k)) with
    | true => exact Or.inr ((markReceived_old rx (T b k) hdup).2 ▸ h)
    | false =>
      obtain ⟨e1, e2⟩ := markReceived_new rx (T b k) hdup
      rcases Nat.lt_or_ge r' j with hlt | hge
      · right
        rw [e2, ← e1, r3, List.mem_filter]
        exact ⟨List.mem_append_left _ h, by rw [gt_T b j r' hj (by omega)]; exact decide_eq_true hlt⟩
      · exact Or.inl (r3 ▸ gte_T_of (by omega) hge)

theorem mem_take_of_sorted {α} (f : α → Int) : ∀ (l : List α) (n : Nat), l.Pairwise (fun x y => f x < f y) →
    ∀ x ∈ l, ∀ y ∈ l.take n, f x ≤ f y → x ∈ l.take n
  | [], _, _, x, hx, _, _, _ => by cases hx
  | z :: zs, 0, _, _, _, y, hy, _ => by simp at hy
  | z :: zs, n + 1, hp, x, hx, y, hy, hle => by
    rw [List.take_succ_cons] at hy ⊢
    obtain ⟨hz, hzs⟩ := List.pairwise_cons.mp hp
    simp only [List.mem_cons] at hx hy ⊢
    rcases hx with rfl | hx
    · exact Or.inl rfl
    · rcases hy with rfl | hy
      · have := hz x hx; omega
      · exact Or.inr (mem_take_of_sorted f zs n hzs x hx y hy hle)

theorem sack_prefix_idx {b : Int} {rx : Rx} {r hi : Nat} (h : RxAt b r hi rx) :
    (∀ k, Covered (sackGapBlocks rx) k → ∃ j, r < j ∧ j ≤ hi ∧ T b j ∈ rx.mis ∧ j - r = k)
    ∧ (∀ j k', r < j → j ≤ hi → T b j ∈ rx.mis → Covered (sackGapBlocks rx) k' → j - r ≤ k' →
        Covered (sackGapBlocks rx) (j - r)) := by
  obtain ⟨hok, hl, _, hhi, hmis⟩ := h
  have hoff : ∀ t ∈ rx.mis, ∃ j, r < j ∧ j ≤ hi ∧ t = T b j ∧ rx.off t = j - r := by
    intro t ht
    obtain ⟨j, j1, j2, j3⟩ := hmis t ht
    exact ⟨j, j1, j2, j3, by rw [j3, off_T b rx r j hl (by omega) (by omega)]⟩
  have hdist : rx.mis.Pairwise (fun x y => serialKey rx.last x ≠ serialKey rx.last y) := by
    refine List.Pairwise.imp_of_mem ?_ hok.nodup
    intro x y hx hy hne h
    apply hne
    have := (hok.mis x hx).1; have := (hok.mis y hy).1
    unfold serialKey at h; unfold R32 at *; omega
  have hsorted := sortByKey_sorted rx.last rx.mis hdist
  have hmem := fun x => mem_sortByKey rx.last x rx.mis
  have hinc : IncFrom rx none (sortByKey rx.last rx.mis) := by
    refine incFrom_of_sorted rx _ none ?_ (by intro b' hb'; cases hb') hsorted
    intro t ht
    obtain ⟨j, j1, j2, j3, j4⟩ := hoff t ((hmem t).mp ht)
    exact ⟨by rw [j3]; exact T_r32 b j, by omega⟩
  obtain ⟨n, hn⟩ := build_prefix rx (sortByKey rx.last rx.mis) none [] none (Or.inl ⟨rfl, rfl, rfl⟩) hinc
  have hcov : ∀ k, Covered (sackGapBlocks rx) k ↔ ∃ t ∈ (sortByKey rx.last rx.mis).take n, rx.off t = k := by
    intro k
    have := hn k
    simp only [Covered, List.not_mem_nil, false_and, exists_false, false_or] at this
    exact this
  refine ⟨?_, ?_⟩
  · intro k hk
    obtain ⟨t, ht, hk'⟩ := (hcov k).mp hk
    have htm := (hmem t).mp (List.mem_of_mem_take ht)
    obtain ⟨j, j1, j2, j3, j4⟩ := hoff t htm
    exact ⟨j, j1, j2, by rw [← j3]; exact htm, by omega⟩
  · intro j k' hj hjhi hjm hk' hle
    obtain ⟨t', ht', ho'⟩ := (hcov k').mp hk'
    have j4 := off_T b rx r j hl (Nat.le_of_lt hj) (by omega)
    have hin := mem_take_of_sorted (serialKey rx.last) _ n hsorted (T b j) ((hmem _).mpr hjm) t' ht'
      (by rw [← off_cast, ← off_cast]; omega)
    exact (hcov (j - r)).mpr ⟨T b j, hin, j4⟩

end Aiortc.Sctp
