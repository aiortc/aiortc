import Aiortc.Lemmas.C02.SctpOps
/-!
# T3 is armed whenever something is outstanding; T3 expiry makes progress (C02 (b), (c))
-/
namespace Aiortc.Sctp

theorem rtx_head (t : Tx) (c : SChunk) (cs : List SChunk) (hq : t.sentQ = c :: cs) (hr : c.retransmit = true)
    (hroom : t.fastRecoveryTransmit = true ∨ t.flight < t.fwd.1.burstCwnd) :
    t.rtxT3 = true ∧ ∃ more, t.rtxEvs = TxEv.data (rtxChunk c).toR :: t3Restart t.fwd.1.t3 ++ more := by
  -- the first chunk is visited: the pass does not return in front of it
  have hn : t.rtxN = rtxCount t.fwd.1.burstCwnd false (if c.inFlight then t.flight else t.flight + c.bookSize) cs + 1 := by
    unfold Tx.rtxN
    rw [hq, rtxCount, if_pos hr, if_neg]
    rcases hroom with h | h
    · simp [h]
    · simp; intro _; omega
  unfold Tx.rtxT3 Tx.rtxEvs
  rw [hn, hq, List.take_succ_cons, rtxEvs_cons, if_pos hr, if_pos rfl]
  exact ⟨by simp [hr], _, rfl⟩

/-- the state `_t3_expired` leaves until the next `_transmit` -/
def PostT3 (t : Tx) : Prop := t.flight = 0 ∧ ∀ c ∈ t.sentQ, AbOrRtx c

/-- what `_transmit` needs in order to leave T3 armed -/
structure PreTx (t : Tx) : Prop where
  armed : t.sentQ ≠ [] → t.t3 = true ∨ PostT3 t
  head : ∀ c, t.sentQ.head? = some c → c.abandoned = false
  cwnd : 0 < t.cwnd

theorem burstCwnd_pos (t : Tx) (h : 0 < t.cwnd) : 0 < t.fwd.1.burstCwnd := by
  obtain ⟨hf1, _, _, _⟩ := fwd_fields t
  have : t.fwd.1.cwnd = t.cwnd := by rw [hf1]
  unfold Tx.burstCwnd
  rw [this]
  have : USERDATA_MAX = 1200 := rfl
  split <;> omega

theorem transmit_arms (t : Tx) (hp : PreTx t) (hf : FlightInv t) :
    (t.transmit.1.sentQ ≠ [] → t.transmit.1.t3 = true) ∧ t.transmit.1.forwardTsn = none ∧ PreTx t.transmit.1 := by
  have tf := transmit_facts t
  obtain ⟨mid, k, hpw, hsq, hoq, ht3, _⟩ := tf.shape
  have hcw : 0 < t.transmit.1.cwnd := by
    have : t.transmit.1.ctl.cwnd = t.ctl.cwnd := by rw [tf.frame]
    exact this ▸ hp.cwnd
  cases hq : t.sentQ with
  | nil =>
    -- nothing was outstanding: what is outstanding now was sent for the first time, which arms T3
    rw [hq] at hpw
    have hmid : mid = [] := List.eq_nil_of_length_eq_zero (PW.length hpw).symm
    rw [hmid, List.nil_append] at hsq
    have harm : t.transmit.1.sentQ ≠ [] → t.transmit.1.t3 = true := by
      intro hne
      rcases ht3 with h | ⟨hk, _⟩
      · exact h
      · exact absurd (by rw [hsq, hk]; rfl) hne
    refine ⟨harm, tf.fwdNone, fun h => Or.inl (harm h), ?_, hcw⟩
    intro d hd
    rw [hsq] at hd
    cases hk : t.outQ.take k with
    | nil => rw [hk] at hd; cases hd
    | cons x xs =>
      rw [hk] at hd; cases hd
      exact (hf.outQ x (List.mem_of_mem_take (hk ▸ List.mem_cons_self))).2.2
  | cons c cs =>
    -- the first outstanding chunk stays first; T3 was armed, or that chunk is retransmitted at once
    rw [hq] at hpw
    obtain ⟨m, ms, rfl⟩ : ∃ m ms, mid = m :: ms := by
      cases mid with
      | nil => exact hpw.elim
      | cons m ms => exact ⟨m, ms, rfl⟩
    have hna := hp.head c (by rw [hq]; rfl)
    have harm : t.transmit.1.t3 = true := by
      rcases hp.armed (by rw [hq]; simp) with h | h
      · exact tf.mono (tf.mono0 (Or.inl h))
      · have hr : c.retransmit = true := (h.2 c (by rw [hq]; simp)).resolve_left (by rw [hna]; simp)
        exact tf.mono (rtx_head t c cs hq hr (Or.inr (by rw [h.1]; exact burstCwnd_pos t hp.cwnd))).1
    refine ⟨fun _ => harm, tf.fwdNone, fun _ => Or.inl harm, ?_, hcw⟩
    intro d hd
    rw [hsq] at hd; cases hd
    rcases hpw.1 with rfl | ⟨_, rfl⟩ <;> exact hna

/-! ## what `_receive_sack_chunk` does to the facts the timer argument needs -/

/-- chunk predicates that the whole of `_receive_sack_chunk` preserves -/
structure SackClosed (P : SChunk → Prop) : Prop extends StrikeClosed P where
  htna : ∀ c, P c → P { c with acked := true, inFlight := false }

theorem abOrRtx_sackClosed : SackClosed AbOrRtx := { abOrRtx_closed with htna := fun _ h => h }
theorem abOk_sackClosed : SackClosed AbOk :=
  { abOk_closed with htna := fun _ h ha => ⟨rfl, (h ha).2⟩ }

structure SackFacts (t t' : Tx) (cum : Int) (done : Nat) : Prop where
  lastSacked : t'.lastSacked = cum
  flight_le : t'.flight ≤ t.flight
  closed : ∀ P : SChunk → Prop, SackClosed P → (∀ c ∈ t.sentQ, P c) → ∀ c ∈ t'.sentQ, P c
  head : ∀ c, t'.sentQ.head? = some c → c.abandoned = false
  nonempty : t'.sentQ ≠ [] → t.sentQ ≠ []
  t3 : t'.sentQ ≠ [] → (0 < done → t'.t3 = true) ∧ (done = 0 → t'.t3 = t.t3)
  cwnd : 0 < t.cwnd → 0 < t'.cwnd
  outQ : ∀ c ∈ t'.outQ, c ∈ t.outQ

theorem sackGaps_facts (t : Tx) (cum : Int) (gaps : List (Nat × Nat)) (now : Int) (db : Nat) (hf : FlightInv t)
    (r : Tx × Nat × Bool) (hr : t.sackGaps cum gaps now db = r) :
    r.1.flight ≤ t.flight
    ∧ (∀ P : SChunk → Prop, SackClosed P → (∀ c ∈ t.sentQ, P c) → ∀ c ∈ r.1.sentQ, P c)
    ∧ (r.1.sentQ ≠ [] → t.sentQ ≠ [])
    ∧ (∀ c ∈ r.1.outQ, c ∈ t.outQ)
    ∧ r.1 = { t with flight := r.1.flight, sentQ := r.1.sentQ, outQ := r.1.outQ } := by
  subst hr
  cases hg : gaps.isEmpty with
  | true => simp [Tx.sackGaps, hg]
  | false =>
    have hs := sackGaps_strike t cum gaps now db hf.outQ hg
    have hpw := sackHtna_pw t cum gaps db
    have hne : (t.sackGaps cum gaps now db).1.sentQ ≠ [] → t.sentQ ≠ [] := by
      intro hne he
      apply hne
      have hl := PW.length hpw
      rw [he] at hl
      have h0 : (t.sackHtna cum gaps db).sentQ = [] := List.length_eq_zero_iff.mp hl.symm
      -- with an empty queue the strike loop has no fuel
      simp only [Tx.sackGaps, hg, Bool.false_eq_true, if_false, h0, List.length_nil, strikeLoop]
    refine ⟨Nat.le_trans hs.flight_le (sackHtna_flight_le t cum gaps db hf), ?_, hne, hs.outQ, hs.frame⟩
    intro P hP h
    refine hs.closed P hP.toStrikeClosed hf.outQ (PW.forall ?_ hpw h)
    intro c d hr hc
    rcases hr with rfl | rfl
    · exact hc
    · exact hP.htna c hc

theorem sackCwnd_cwnd_pos (t : Tx) (cum : Int) (done db : Nat) (fully loss : Bool) (t' : Tx)
    (h : t.sackCwnd cum done db fully loss = .ok t') (hc : 0 < t.cwnd) : 0 < t'.cwnd := by
  rcases sackCwnd_cases t cum done db fully loss with ⟨hcr, _⟩ | ⟨t'', ht'', _, hpos⟩
  · rw [hcr] at h; cases h
  · rw [ht''] at h; cases h; exact hpos.1 hc

theorem receiveSack_facts (t : Tx) (hf : FlightInv t) (cum : Int) (gaps : List (Nat × Nat)) (now : Int)
    (t' : Tx) (evs : List TxEv) (hr : t.receiveSack cum gaps now = .ok (some (t', evs))) :
    SackFacts t t' cum (t.sackDone cum) := by
  obtain ⟨g, t3, hg, ht3, rfl⟩ := receiveSack_phases hr
  have hf1 := FlightInv.sackAck hf cum
  obtain ⟨g1, g2, g3, g8, gfr⟩ := sackGaps_facts (t.sackAck cum) cum gaps now (t.sackDoneBytes cum) hf1 g hg
  obtain ⟨_, ⟨k, hk, _⟩, _, hafl⟩ := ackLoop_spec cum t.sentQ t.flight 0 0
  replace hafl : (t.sackAck cum).flight ≤ t.flight := hafl
  have hasq : (t.sackAck cum).sentQ = t.sentQ.drop k := hk
  have hfr := sackCwnd_frame _ _ _ _ _ _ _ ht3
  have hcw := sackCwnd_cwnd_pos _ _ _ _ _ _ _ ht3
  have hfr4 := sackT3_frame t3 (t.sackDone cum)
  have ha := updateAdvAck_spec (t3.sackT3 (t.sackDone cum)).1
  generalize (t3.sackT3 (t.sackDone cum)).1.updateAdvAck = t5 at ha
  obtain ⟨k5, hk5, _⟩ := ha.drop
  have e3sq : t3.sentQ = g.1.sentQ := by rw [hfr]
  have e3t3 : t3.t3 = g.1.t3 := by rw [hfr]
  have e4sq : (t3.sackT3 (t.sackDone cum)).1.sentQ = t3.sentQ := by rw [hfr4]
  have e5fl : t5.flight = g.1.flight := by rw [ha.frame, hfr4, hfr]
  have e5cw : t5.cwnd = t3.cwnd := by rw [ha.frame, hfr4]
  have e5t3 : t5.t3 = (t3.sackT3 (t.sackDone cum)).1.t3 := by rw [ha.frame]
  have e5oq : t5.outQ = g.1.outQ := by rw [ha.frame, hfr4, hfr]
  have e5ls : t5.lastSacked = g.1.lastSacked := by rw [ha.frame, hfr4, hfr]
  rw [e4sq, e3sq] at hk5
  refine ⟨by rw [e5ls, gfr]; rfl, by omega, ?_, ha.head, ?_, ?_, ?_, ?_⟩
  · intro P hP h c hc
    exact g2 P hP (fun d hd => h d (List.mem_of_mem_drop (hasq ▸ hd))) c (List.mem_of_mem_drop (hk5 ▸ hc))
  · intro hne he
    exact g3 (fun h0 => hne (by rw [hk5, h0, List.drop_nil])) (by rw [hasq, he, List.drop_nil])
  · intro hne
    have hemp : t3.sentQ.isEmpty = false :=
      List.isEmpty_eq_false_iff.mpr fun h0 => hne (by rw [hk5, ← e3sq, h0, List.drop_nil])
    rw [e5t3]
    constructor
    · intro hd
      simp only [Tx.sackT3, hemp, Bool.false_eq_true, if_false, hd, if_true]
    · intro hd
      have : ¬ (t.sackDone cum > 0) := by omega
      simp only [Tx.sackT3, hemp, Bool.false_eq_true, if_false, this]
      rw [e3t3, gfr]; rfl
  · intro hc
    rw [e5cw]
    exact hcw (by rw [gfr]; exact hc)
  · intro c hc
    exact g8 c (e5oq ▸ hc)

theorem receiveSack_preTx (t : Tx) (hp : PreTx t) (hf : FlightInv t) (cum : Int) (gaps : List (Nat × Nat)) (now : Int)
    (t' : Tx) (evs : List TxEv) (hr : t.receiveSack cum gaps now = .ok (some (t', evs))) : PreTx t' := by
  have fa := receiveSack_facts t hf cum gaps now t' evs hr
  refine ⟨?_, fa.head, fa.cwnd hp.cwnd⟩
  intro hne
  obtain ⟨h1, h2⟩ := fa.t3 hne
  rcases Nat.eq_zero_or_pos (t.sackDone cum) with hd | hd
  · rw [h2 hd]
    rcases hp.armed (fa.nonempty hne) with h | h
    · exact Or.inl h
    · refine Or.inr ⟨?_, fa.closed AbOrRtx abOrRtx_sackClosed h.2⟩
      have := fa.flight_le; have := h.1; omega
  · exact Or.inl (h1 hd)

theorem t3Expired_preTx (t : Tx) (hw : WInv t) (now : Int) : PreTx (t.t3Expired now) ∧ PostT3 (t.t3Expired now) := by
  obtain ⟨hall, hhead⟩ := t3Expired_all t now hw
  have hfl : (t.t3Expired now).flight = 0 := by rw [t3Expired_eq]
  have hcw : (t.t3Expired now).cwnd = 1200 := by rw [t3Expired_eq]; rfl
  have hpost : PostT3 (t.t3Expired now) := ⟨hfl, fun c hc => (hall c hc).2⟩
  exact ⟨⟨fun _ => Or.inr hpost, hhead, by rw [hcw]; omega⟩, hpost⟩

/-- **(c) T3 expiry makes progress**: after `_t3_expired`, nothing is counted in flight and the window is one
MTU (`flight = 0 < cwnd = 1200`); the `_transmit` it queues sends the earliest outstanding chunk (which is
not abandoned) before anything else and re-arms T3. -/
theorem t3_then_transmit (t : Tx) (hw : WInv t) (now : Int) (c : SChunk) (cs : List SChunk)
    (hq : (t.t3Expired now).sentQ = c :: cs) :
    (t.t3Expired now).flight = 0 ∧ (t.t3Expired now).cwnd = 1200 ∧ (t.t3Expired now).t3 = false
    ∧ c.abandoned = false ∧ c.retransmit = true
    ∧ (t.t3Expired now).transmit.1.t3 = true
    ∧ ∃ more, (t.t3Expired now).transmit.2 =
        (t.t3Expired now).fwd.2 ++ TxEv.data (rtxChunk c).toR :: t3Restart (t.t3Expired now).fwd.1.t3 ++ more := by
  obtain ⟨hpre, hpost⟩ := t3Expired_preTx t hw now
  have hcw : (t.t3Expired now).cwnd = 1200 := by rw [t3Expired_eq]; rfl
  have ht3 := (t3Expired_frame t now hw).2.2
  have hna := hpre.head c (by rw [hq]; rfl)
  have hr : c.retransmit = true := (hpost.2 c (by rw [hq]; simp)).resolve_left (by rw [hna]; simp)
  have hb := burstCwnd_pos (t.t3Expired now) hpre.cwnd
  obtain ⟨h1, more, h2⟩ := rtx_head (t.t3Expired now) c cs hq hr (Or.inr (by rw [hpost.1]; exact hb))
  have tf := transmit_facts (t.t3Expired now)
  obtain ⟨more2, h3⟩ := tf.evs
  refine ⟨hpost.1, hcw, ht3, hna, hr, tf.mono h1, more ++ more2, ?_⟩
  rw [h3, h2]; simp

end Aiortc.Sctp
