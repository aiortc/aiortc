import Aiortc.Lemmas.C02.SctpTimer
/-!
# The sender as a transition system (C02): every reachable sender state satisfies the accounting and
timer invariants

`SOp` lists everything `Model/Sctp/Endpoint.lean` does to the sender fields (`Ep.tx`) while the association
is up, composed the way the endpoint composes it.
-/
namespace Aiortc.Sctp

/-- **No stall**: when `_transmit` returns with data still queued, something is outstanding (the window is
full of chunks that are really in flight), so by `transmit_arms` T3 is running. aiortc before commit 5893491 violated this:
`_flight_size` could stay ≥ cwnd with an empty sent queue. -/
theorem transmit_no_stall (t : Tx) (hf : FlightInv t) (hc : 0 < t.cwnd) :
    t.transmit.1.outQ ≠ [] → t.transmit.1.sentQ ≠ [] := by
  intro hne he
  have hfl0 : t.transmit.1.flight = 0 := by rw [hf.transmit.flight, he]; rfl
  have hb := burstCwnd_pos t hc
  have := (transmit_facts t).full.resolve_left hne
  omega

structure SendArgs where
  sid : Nat
  ppid : Nat
  data : Bytes
  expiry : Option Int
  maxRtx : Option Int
  ordered : Bool

/-- `_send(...)`: fragment, queue, `_transmit()` -/
def Tx.sendMsg (t : Tx) (a : SendArgs) : Tx := (t.enqueue a.sid a.ppid a.data a.expiry a.maxRtx a.ordered).transmit.1

inductive SOp where
  /-- `_send` (from `_data_channel_flush`) -/
  | send (a : SendArgs)
  /-- a SACK arrives: `_receive_sack_chunk`, then `_data_channel_flush` (the `_send`s it makes), then `_transmit` -/
  | sack (cum : Int) (gaps : List (Nat × Nat)) (now : Int) (flushed : List SendArgs)
  /-- T3 fires: `_t3_expired`, which queues a `_transmit` task -/
  | t3 (now : Int)
  /-- a queued `_transmit` task runs -/
  | task
  /-- INIT / INIT-ACK: `self._ssthresh = chunk.advertised_rwnd` -/
  | ssthresh (n : Nat)
  /-- stream reset completed: `self._outbound_stream_seq.pop(stream_id)` -/
  | resetStream (sid : Nat)

structure Snd where
  tx : Tx
  /-- a `_transmit` task is queued (set by T3 expiry, cleared when one runs) -/
  pending : Bool := false
  /-- an exception escaped `_receive_sack_chunk` -/
  crashed : Bool := false

def Snd.step (s : Snd) : SOp → Snd
  | .send a => { s with tx := s.tx.sendMsg a }
  | .sack cum gaps now fl =>
    match s.tx.receiveSack cum gaps now with
    | .ok none => s
    | .ok (some (t', _)) => { s with tx := (fl.foldl Tx.sendMsg t').transmit.1 }
    | _ => { s with crashed := true }
  | .t3 now => { s with tx := s.tx.t3Expired now, pending := true }
  | .task => { s with tx := s.tx.transmit.1, pending := false }
  | .ssthresh n => { s with tx := { s.tx with ssthresh := n } }
  | .resetStream sid => { s with tx := { s.tx with streamSeq := dictDel s.tx.streamSeq sid } }

def Snd.run (s : Snd) (ops : List SOp) : Snd := ops.foldl Snd.step s

structure Tx.Initial (t : Tx) : Prop where
  sentQ : t.sentQ = []
  outQ : t.outQ = []
  flight : t.flight = 0
  fwd : t.forwardTsn = none
  cwnd : 0 < t.cwnd

structure SndInv (s : Snd) : Prop where
  flight : FlightInv s.tx
  pre : PreTx s.tx
  armed : s.tx.sentQ ≠ [] → s.tx.t3 = true ∨ s.pending = true
  fwd : s.tx.forwardTsn.isSome = true → s.pending = true
  queued : s.tx.outQ ≠ [] → s.tx.sentQ ≠ [] ∨ s.pending = true
  ok : s.crashed = false

theorem SndInv.idle {x : Snd} (hi : SndInv x) (hp : x.pending = false) :
    (x.tx.sentQ = [] → x.tx.outQ = []) ∧ x.tx.forwardTsn = none := by
  have hnp : ¬ x.pending = true := fun h => Bool.false_ne_true (hp.symm.trans h)
  refine ⟨fun hs => Classical.byContradiction fun hne => (hi.queued hne).elim (fun h => h hs) hnp, ?_⟩
  cases hq : x.tx.forwardTsn with
  | none => rfl
  | some p => exact absurd (hi.fwd (by simp [hq])) hnp

theorem SndInv.at_rest {x : Snd} (hi : SndInv x) (hp : x.pending = false) (h3 : x.tx.t3 = false) :
    x.tx.sentQ = [] ∧ x.tx.outQ = [] ∧ x.tx.flight = 0 ∧ x.tx.forwardTsn = none := by
  have hs : x.tx.sentQ = [] := Classical.byContradiction fun hne =>
    (hi.armed hne).elim (fun h => Bool.false_ne_true (h3.symm.trans h)) (fun h => Bool.false_ne_true (hp.symm.trans h))
  exact ⟨hs, (hi.idle hp).1 hs, by rw [hi.flight.flight, hs]; rfl, (hi.idle hp).2⟩

theorem enqueue_preTx {t : Tx} (h : PreTx t) (a : SendArgs) :
    PreTx (t.enqueue a.sid a.ppid a.data a.expiry a.maxRtx a.ordered) :=
  ⟨h.armed, h.head, h.cwnd⟩

structure AfterTx (t : Tx) : Prop where
  flight : FlightInv t
  pre : PreTx t
  armed : t.sentQ ≠ [] → t.t3 = true
  fwd : t.forwardTsn = none
  queued : t.outQ ≠ [] → t.sentQ ≠ []

theorem afterTx_transmit {t : Tx} (hf : FlightInv t) (hp : PreTx t) : AfterTx t.transmit.1 := by
  obtain ⟨h1, h2, h3⟩ := transmit_arms t hp hf
  exact ⟨hf.transmit, h3, h1, h2, transmit_no_stall t hf hp.cwnd⟩

theorem afterTx_send {t : Tx} (hf : FlightInv t) (hp : PreTx t) (a : SendArgs) : AfterTx (t.sendMsg a) :=
  afterTx_transmit (hf.enqueue _ _ _ _ _ _) (enqueue_preTx hp a)

theorem afterTx_sends (l : List SendArgs) : ∀ {t : Tx}, FlightInv t → PreTx t →
    FlightInv (l.foldl Tx.sendMsg t) ∧ PreTx (l.foldl Tx.sendMsg t) := by
  induction l with
  | nil => intro t hf hp; exact ⟨hf, hp⟩
  | cons a l ih =>
    intro t hf hp
    have := afterTx_send hf hp a
    exact ih this.flight this.pre

theorem AfterTx.inv {s : Snd} (h : AfterTx s.tx) (hok : s.crashed = false) : SndInv s :=
  ⟨h.flight, h.pre, fun hne => Or.inl (h.armed hne), fun hs => (by rw [h.fwd] at hs; cases hs),
   fun hne => Or.inl (h.queued hne), hok⟩

theorem SndInv.step {s : Snd} (h : SndInv s) (op : SOp) : SndInv (s.step op) := by
  cases op with
  | send a => exact (afterTx_send h.flight h.pre a).inv h.ok
  | sack cum gaps now fl =>
    simp only [Snd.step]
    obtain ⟨r, hr⟩ := receiveSack_total s.tx cum gaps now
    rw [hr]
    cases r with
    | none => exact h
    | some p =>
      obtain ⟨t', evs⟩ := p
      have hf' := h.flight.receiveSack cum gaps now t' evs hr
      have hp' := receiveSack_preTx s.tx h.pre h.flight cum gaps now t' evs hr
      obtain ⟨hf2, hp2⟩ := afterTx_sends fl hf' hp'
      exact (afterTx_transmit hf2 hp2).inv h.ok
  | t3 now =>
    obtain ⟨hp, _⟩ := t3Expired_preTx s.tx h.flight.winv now
    exact ⟨h.flight.t3Expired now, hp, fun _ => Or.inr rfl, fun _ => rfl, fun _ => Or.inr rfl, h.ok⟩
  | task => exact (afterTx_transmit h.flight h.pre).inv h.ok
  -- the two field updates touch nothing the invariant reads
  | ssthresh _ | resetStream _ =>
    exact ⟨⟨h.flight.flight, h.flight.outQ, h.flight.sentQ⟩, ⟨h.pre.armed, h.pre.head, h.pre.cwnd⟩,
      h.armed, h.fwd, h.queued, h.ok⟩

theorem Tx.Initial.inv {t : Tx} (h : t.Initial) : SndInv { tx := t } :=
  ⟨⟨(by rw [h.flight, h.sentQ]; rfl), (by rw [h.outQ]; simp), (by rw [h.sentQ]; simp)⟩,
   ⟨fun hne => absurd h.sentQ hne, (by rw [h.sentQ]; simp), h.cwnd⟩,
   fun hne => absurd h.sentQ hne, fun hs => (by rw [h.fwd] at hs; cases hs), fun hne => absurd h.outQ hne, rfl⟩

theorem SndInv.run {s : Snd} (h : SndInv s) (ops : List SOp) : SndInv (s.run ops) := by
  induction ops generalizing s with
  | nil => exact h
  | cons op ops ih => exact ih (h.step op)

end Aiortc.Sctp
