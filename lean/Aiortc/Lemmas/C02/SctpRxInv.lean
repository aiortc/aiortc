import Aiortc.Lemmas.C02.SctpLink
/-!
# The receiver invariant `RxOk` holds after every arrival sequence (C02)

`RxOk` is what `Link.epoch_progress` assumes about the receiver.  Here: `_mark_received` preserves it for every 32-bit TSN, so
it holds whatever the network did.
-/
namespace Aiortc.Sctp
open Aiortc.Gen

-- these are used through their lemmas only; opaque, so that no unification step unfolds them
attribute [local irreducible] Tx.transmit Tx.t3Expired Tx.receiveSack markReceived

/-- The operation `_mark_received` and `_receive_forward_tsn_chunk` share establishes the invariant, from any 32-bit base
and any duplicate-free list of 32-bit TSNs other than the base: where the walk stops, the next TSN is not in the list. -/
theorem RxOk.absorb {b : Int} {L : List Int} (hb : R32 b) (hL : ∀ x ∈ L, R32 x ∧ x ≠ b) (hnd : L.Nodup)
    (dups : List Int) : RxOk (Rx.absorb b L dups) := by
  obtain ⟨n, _, _, h3, _, h5⟩ := consolidate_sort_spec hb hL hnd
  unfold Rx.absorb
  dsimp only
  rw [h3]
  refine ⟨R32.mod _, fun x hx => ?_, hnd.filter _, ?_⟩
  · rw [List.mem_filter] at hx
    exact ⟨(hL x hx.1).1, fun he => by rw [he, Serial.gt32_irrefl] at hx; cases hx.2⟩
  · rw [List.contains_eq_mem, decide_eq_false_iff_not]
    refine fun hin => h5 ?_
    have e : tsn_plus_one ((b + (n : Int)) % 4294967296) = (b + ((n + 1 : Nat) : Int)) % 4294967296 := by
      unfold tsn_plus_one; omega
    exact e ▸ (List.mem_filter.mp hin).1

theorem RxOk.markReceived {rx : Rx} (h : RxOk rx) (tsn : Int) (ht : R32 tsn) : RxOk (markReceived rx tsn).2 := by
  rw [markReceived_eq]
  split
  · exact ⟨h.last, h.mis, h.nodup, h.next⟩
  · rename_i hc
    simp only [Bool.or_eq_true, not_or, Bool.not_eq_true] at hc
    have hnotin : tsn ∉ rx.mis := by simpa using hc.2
    refine RxOk.absorb h.last (fun x hx => ?_) (h.nodup_snoc hnotin) _
    rcases List.mem_append.mp hx with hx | hx
    · exact h.mis x hx
    · rw [List.mem_singleton.mp hx]
      exact ⟨ht, fun he => by rw [he, Serial.gte32_refl] at hc; cases hc.1⟩

/-- a receiver right after INIT / INIT-ACK -/
theorem RxOk.init (last : Int) (h : R32 last) : RxOk { last := last, mis := [], dups := [] } :=
  ⟨h, by simp, by simp, by simp⟩

theorem RxOk.arrivals (rx : Rx) (h : RxOk rx) (arr : List Int) (ha : ∀ t ∈ arr, R32 t) :
    RxOk (arr.foldl (fun r t => (Aiortc.Sctp.markReceived r t).2) rx) := by
  induction arr generalizing rx with
  | nil => exact h
  | cons t ts ih =>
    exact ih _ (h.markReceived t (ha t (by simp))) (fun x hx => ha x (by simp [hx]))

structure Link.Inv (s : Link) : Prop where
  snd : SndInv { tx := s.tx, pending := s.pending }
  rx : RxOk s.rx

/-- every step of the canonical continuation is a sender operation or an arrival at the receiver -/
theorem Link.Inv.step {s : Link} (h : s.Inv) : s.step.Inv := by
  cases hp : s.pending with
  | true => rw [s.step_task hp]; exact ⟨h.snd.step .task, h.rx⟩
  | false =>
    cases hr : s.toRx with
    | cons d rest =>
      rw [s.step_data d rest hp hr]
      have := h.rx.markReceived (d.tsn % 4294967296) (by unfold R32; omega)
      exact ⟨h.snd, ⟨this.last, this.mis, this.nodup, this.next⟩⟩
    | nil =>
      cases ht : s.toTx with
      | cons p rest =>
        rw [s.step_sack p.1 p.2 rest hp hr ht]
        refine ⟨?_, by simp only [Link.deliverSack]; split <;> exact h.rx⟩
        have := h.snd.step (.sack p.1 p.2 s.now1000 [])
        obtain ⟨r, hr'⟩ := receiveSack_total s.tx p.1 p.2 s.now1000
        simp only [Snd.step, List.foldl_nil, hr'] at this
        simp only [Link.deliverSack, hr']
        cases r <;> exact this
      | nil =>
        rw [s.step_idle hp hr ht]
        split
        · exact ⟨h.snd.step (.t3 s.now1000), h.rx⟩
        · exact h

theorem Link.Inv.run {s : Link} (h : s.Inv) (n : Nat) : (Link.run n s).Inv := by
  induction n generalizing s with
  | zero => exact h
  | succ n ih => exact ih h.step

end Aiortc.Sctp
