import Aiortc.Lemmas.SctpTx.AdvAck
import Aiortc.Lemmas.SctpTx.Inv
/-!
# The sender on reliable traffic: the loops of `_receive_sack_chunk` / `_t3_expired` as list functions (C02 drain)

For chunks of reliable channels (`max_retransmits = None`, no expiry, not abandoned) `_maybe_abandon` does
nothing, so the strike loop, the T3 marking loop and `_update_advanced_peer_ack_point` have closed forms as
functions on `_sent_queue`.  Everything here is proved equal to the model definitions of
`Model/Sctp/Outbound.lean`.
-/
namespace Aiortc.Sctp
open Aiortc.Gen

def SChunk.Rel (c : SChunk) : Prop := c.maxRetransmits = none ∧ c.expiry = none ∧ c.abandoned = false

structure RelTx (t : Tx) : Prop where
  sentQ : ∀ c ∈ t.sentQ, c.Rel
  outQ : ∀ c ∈ t.outQ, c.Rel
  fwd : t.forwardTsn = none
  needed : t.forwardNeeded = false

/-- flags-only relation between two versions of a chunk: same TSN, limits, abandoned flag. The relation for reliable traffic
(keeps `SChunk.Rel`, `SameId.rel`); with abandonment `SameT` and its refinements `TR`, `Keeps` take its place. -/
def SameId (c d : SChunk) : Prop :=
  d.tsn = c.tsn ∧ d.maxRetransmits = c.maxRetransmits ∧ d.expiry = c.expiry ∧ d.abandoned = c.abandoned

theorem SameId.refl (c : SChunk) : SameId c c := ⟨rfl, rfl, rfl, rfl⟩
theorem SameId.trans {c d e : SChunk} (h1 : SameId c d) (h2 : SameId d e) : SameId c e :=
  ⟨h2.1.trans h1.1, h2.2.1.trans h1.2.1, h2.2.2.1.trans h1.2.2.1, h2.2.2.2.trans h1.2.2.2⟩
theorem SameId.rel {c d : SChunk} (h : SameId c d) (hc : c.Rel) : d.Rel :=
  ⟨h.2.1.trans hc.1, h.2.2.1.trans hc.2.1, h.2.2.2.trans hc.2.2⟩

theorem Bk.sameId {c d : SChunk} (h : Bk c d) : SameId c d :=
  ⟨congrArg RChunk.tsn h.1, h.2.2.1, h.2.1, h.2.2.2⟩

theorem PW.sameId_rel {l l' : List SChunk} (h : PW SameId l l') (hl : ∀ c ∈ l, c.Rel) : ∀ d ∈ l', d.Rel :=
  PW.forall (fun _ _ hr hc => SameId.rel hr hc) h hl

theorem PW.sameId_trans {a b c : List SChunk} (h1 : PW SameId a b) (h2 : PW SameId b c) : PW SameId a c :=
  PW.trans_self SameId SameId.trans h1 h2

theorem maybeAbandon_rel (t : Tx) (pos : Nat) (now : Int) (h : ∀ c ∈ t.sentQ, c.Rel) :
    t.maybeAbandon pos now = (false, t) :=
  (maybeAbandon_keep t pos now).2 fun c hp =>
    have hc := h c (List.mem_of_getElem? hp)
    ⟨hc.2.2, shouldAbandon_reliable c now hc.1 hc.2.1⟩

/-! ## the strike loop -/

/-- what the strike loop does to a chunk it visits -/
def strikeChunk (seen : List Int) (c : SChunk) : SChunk :=
  if seen.contains c.tsn then c
  else if c.misses + 1 = 3 then { c with misses := 0, retransmit := true, acked := false, inFlight := false }
  else { c with misses := c.misses + 1 }

/-- the strike loop on reliable traffic: every chunk up to the highest newly acked TSN is visited -/
def strikeList (seen : List Int) (hna : Int) : List SChunk → List SChunk
  | [] => []
  | c :: cs => if uint32_gt c.tsn hna then c :: cs else strikeChunk seen c :: strikeList seen hna cs

theorem strikeChunk_sameId (seen : List Int) (c : SChunk) : SameId c (strikeChunk seen c) := by
  unfold strikeChunk; split
  · exact SameId.refl c
  · split <;> exact ⟨rfl, rfl, rfl, rfl⟩

theorem strikeList_sameId (seen : List Int) (hna : Int) : ∀ l, PW SameId l (strikeList seen hna l)
  | [] => trivial
  | c :: cs => by
    unfold strikeList; split
    · exact PW.refl SameId.refl _
    · exact ⟨strikeChunk_sameId seen c, strikeList_sameId seen hna cs⟩

theorem strikeHit_rel (t : Tx) (pos : Nat) (c : SChunk) (now : Int) (h : ∀ d ∈ t.sentQ, d.Rel) :
    (strikeHit t pos c now).sentQ = (t.sentQ.modify pos fun d => { d with misses := 0 }).modify pos (hitMark false)
    ∧ (strikeHit t pos c now).outQ = t.outQ := by
  have h1 : ∀ d ∈ ({ t with sentQ := t.sentQ.modify pos fun d => { d with misses := 0 } } : Tx).sentQ, d.Rel := by
    intro d hd
    rcases List.mem_modify hd with hd | ⟨e, he, rfl⟩
    · exact h d hd
    · exact h e (List.mem_of_getElem? he)
  unfold strikeHit hitBody
  simp only
  rw [maybeAbandon_rel _ _ _ h1]
  exact ⟨rfl, rfl⟩

theorem strikeLoop_rel (seen : List Int) (hna now : Int) : ∀ (fuel : Nat) (pre post : List SChunk) (t : Tx) (loss : Bool),
    t.sentQ = pre ++ post → post.length ≤ fuel → (∀ c ∈ t.sentQ, c.Rel) →
    (strikeLoop seen hna now fuel pre.length t loss).1.sentQ = pre ++ strikeList seen hna post
    ∧ (strikeLoop seen hna now fuel pre.length t loss).1.outQ = t.outQ := by
  intro fuel
  induction fuel with
  | zero =>
    intro pre post t loss hq hl _
    have : post = [] := List.eq_nil_of_length_eq_zero (by omega)
    subst this
    simp [strikeLoop, strikeList, hq]
  | succ fuel ih =>
    intro pre post t loss hq hl hrel
    rw [strikeLoop_succ]
    cases post with
    | nil =>
      have : t.sentQ[pre.length]? = none := by rw [hq]; simp
      simp only [this, strikeList, List.append_nil]
      exact ⟨by simpa using hq, trivial⟩
    | cons c rest =>
      have hc : t.sentQ[pre.length]? = some c := by rw [hq]; exact List.getElem?_append_cons_length pre c rest
      simp only [hc]
      unfold strikeList
      by_cases hgt : uint32_gt c.tsn hna = true
      · simp only [if_pos hgt]
        exact ⟨hq, trivial⟩
      · simp only [if_neg hgt]
        -- the chunk is visited: in each branch the loop goes on with `strikeChunk seen c` at this position
        have key : ∀ (t' : Tx) (loss' : Bool), t'.sentQ = pre ++ strikeChunk seen c :: rest → t'.outQ = t.outQ →
            (strikeLoop seen hna now fuel (pre.length + 1) t' loss').1.sentQ
              = pre ++ strikeChunk seen c :: strikeList seen hna rest
            ∧ (strikeLoop seen hna now fuel (pre.length + 1) t' loss').1.outQ = t.outQ := by
          intro t' loss' hs ho
          have hrel' : ∀ d ∈ t'.sentQ, d.Rel := by
            rw [hs]
            rw [hq] at hrel
            intro d hd
            rcases List.mem_append.mp hd with hd | hd
            · exact hrel d (List.mem_append_left _ hd)
            · rcases List.mem_cons.mp hd with rfl | hd
              · exact SameId.rel (strikeChunk_sameId seen c) (hrel c (by simp))
              · exact hrel d (by simp [hd])
          have := ih (pre ++ [strikeChunk seen c]) rest t' loss' (by rw [hs]; simp) (by simp at hl; omega) hrel'
          simp only [List.length_append, List.length_singleton] at this
          rw [this.1, this.2, ho]
          simp
        by_cases hseen : seen.contains c.tsn = true
        · have hsc : strikeChunk seen c = c := by unfold strikeChunk; rw [if_pos hseen]
          simp only [hseen, Bool.not_true, Bool.false_eq_true, if_false]
          exact key t loss (by rw [hsc]; exact hq) rfl
        · simp only [hseen, Bool.not_false, if_true]
          by_cases h3 : c.misses + 1 = 3
          · have hsc : strikeChunk seen c = hitMark false { c with misses := 0 } := by
              unfold strikeChunk; rw [if_neg hseen, if_pos h3]; rfl
            obtain ⟨e1, e2⟩ := strikeHit_rel t pre.length c now hrel
            rw [if_pos h3]
            exact key _ _ (by rw [e1, hq, List.modify_at_length, List.modify_at_length, hsc]) e2
          · have hsc : strikeChunk seen c = { c with misses := c.misses + 1 } := by
              unfold strikeChunk; rw [if_neg hseen, if_neg h3]
            rw [if_neg h3]
            exact key _ _ (by simp only; rw [hq, List.modify_at_length, hsc]) rfl

/-! ## the HTNA loop -/

theorem htnaChunk_sameId (seen : List Int) (c : SChunk) : SameId c (htnaChunk seen c) := (htnaChunk_bk seen c).sameId

theorem htnaList_sameId (seen : List Int) (hs : Int) (l : List SChunk) : PW SameId l (htnaList seen hs l) :=
  htnaList_pw seen hs SameId.refl (htnaChunk_sameId seen) l

/-! ## the T3 marking loop -/

theorem hitMark_sameId (c : SChunk) : SameId c (hitMark false c) := (hitMark_bk false c).sameId

theorem hitBody_rel (t : Tx) (pos : Nat) (now : Int) (h : ∀ c ∈ t.sentQ, c.Rel) :
    hitBody t pos now = { t with sentQ := t.sentQ.modify pos (hitMark false) } := by
  unfold hitBody
  rw [maybeAbandon_rel t pos now h]

theorem t3Mark_rel (now : Int) : ∀ (post pre : List SChunk) (t : Tx), t.sentQ = pre ++ post → (∀ c ∈ t.sentQ, c.Rel) →
    t3Mark now post.length pre.length t = { t with sentQ := pre ++ post.map (hitMark false) } := by
  intro post
  induction post with
  | nil => intro pre t hq _; simp [t3Mark, ← hq]
  | cons c rest ih =>
    intro pre t hq hrel
    simp only [List.length_cons]
    rw [t3Mark_succ, hitBody_rel t _ now hrel]
    have hq' : ({ t with sentQ := t.sentQ.modify pre.length (hitMark false) } : Tx).sentQ = (pre ++ [hitMark false c]) ++ rest := by
      simp only; rw [hq, List.modify_at_length]; simp
    have hrel' : ∀ d ∈ ({ t with sentQ := t.sentQ.modify pre.length (hitMark false) } : Tx).sentQ, d.Rel := by
      intro d hd
      rcases List.mem_modify hd with hd | ⟨e, he, rfl⟩
      · exact hrel d hd
      · exact SameId.rel (hitMark_sameId e) (hrel e (List.mem_of_getElem? he))
    have := ih (pre ++ [hitMark false c]) _ hq' hrel'
    simp only [List.length_append, List.length_singleton] at this
    rw [this]
    simp

/-! ## `_update_advanced_peer_ack_point` -/

theorem updateAdvAck_rel (t : Tx) (h : RelTx t) :
    ∃ adv fs, t.updateAdvAck = { t with advAck := adv, forwardStreams := fs } :=
  ⟨_, _, updateAdvAck_keep t (fun c hc => (h.sentQ c hc).2.2) h.needed⟩

/-! ## "reliable traffic only" across the sender operations -/

theorem RelTx.congr {t t' : Tx} (h : RelTx t) (he : t'.reads = t.reads) : RelTx t' := by
  simp only [Tx.reads, Prod.mk.injEq] at he
  obtain ⟨h1, h2, -, h4, h5, -⟩ := he
  exact ⟨h1 ▸ h.sentQ, h2 ▸ h.outQ, h4 ▸ h.fwd, h5 ▸ h.needed⟩

/-- On reliable traffic `_maybe_abandon` does nothing and `_update_advanced_peer_ack_point` moves the ack point only; every
other move of the sender rewrites bookkeeping attributes or moves chunks between the queues. -/
theorem txInv_RelTx : TxInv RelTx (fun _ => True) where
  congr := RelTx.congr
  sent h hpw := { h with sentQ := PW.forall (fun _ _ hb hc => hb.sameId.rel hc) hpw h.sentQ }
  drop h k := { h with sentQ := fun c hc => h.sentQ c (List.mem_of_mem_drop hc) }
  send h k f hf :=
    { h with
      sentQ := fun c hc => by
        rcases List.mem_append.1 hc with hc | hc
        · exact h.sentQ c hc
        · obtain ⟨d, hd, rfl⟩ := List.mem_map.1 hc
          exact (hf d).sameId.rel (h.outQ d (List.mem_of_mem_take hd))
      outQ := fun c hc => h.outQ c (List.mem_of_mem_drop hc) }
  abandon h pos now := by rw [maybeAbandon_rel _ pos now h.sentQ]; exact h
  advAck h := by obtain ⟨_, _, hu⟩ := updateAdvAck_rel _ h; rw [hu]; exact ⟨h.sentQ, h.outQ, h.fwd, h.needed⟩
  fwdSent h := { h with fwd := rfl }
  data _ _ := trivial
  fwd _ _ := trivial
  t3start := trivial
  t3cancel := trivial

end Aiortc.Sctp
