import Aiortc.Lemmas.C02.SctpSender
import Aiortc.Lemmas.C02.SctpSack
/-!
# A sender and a receiver joined by a lossless FIFO channel (C02 (f))

`Link` abstracts one direction of an association to the model's own `Tx` functions (sender A) and `Rx`
functions (receiver B), with the DATA datagrams A→B and the SACKs B→A in FIFO queues.  `Link.step` is the
canonical fault-free continuation of DESIGN §2 C02: run a pending `_transmit` task; else deliver the oldest DATA
datagram (the receiver answers every datagram with a SACK); else deliver the oldest SACK (`_receive_sack_chunk`,
then `_transmit`); else, the network being empty, fire T3 if it is armed.  No datagram is lost, duplicated or
reordered, the application sends nothing more.  FORWARD TSN chunks are not delivered (the receiver side of
partial reliability is outside this abstraction), so the progress theorem is about chunks that stay outstanding.
-/
namespace Aiortc.Sctp
open Aiortc.Gen

-- `_transmit`, `_t3_expired` and `_receive_sack_chunk` are used through their lemmas only; opaque, so that no unification
-- step unfolds them when two link states are compared
attribute [local irreducible] Tx.transmit Tx.t3Expired Tx.receiveSack

structure Link where
  tx : Tx
  rx : Rx
  toRx : List RChunk := []
  toTx : List (Int × List (Nat × Nat)) := []
  pending : Bool := false
  /-- `1000 · time.time()` in ticks (only read by `_maybe_abandon`) -/
  now1000 : Int := 0

def dataOf : List TxEv → List RChunk
  | [] => []
  | .data c :: evs => c :: dataOf evs
  | _ :: evs => dataOf evs

theorem dataOf_append (a b : List TxEv) : dataOf (a ++ b) = dataOf a ++ dataOf b := by
  induction a with
  | nil => rfl
  | cons e es ih => cases e <;> simp [dataOf, ih]

def Link.runTask (s : Link) : Link :=
  { s with tx := s.tx.transmit.1, toRx := s.toRx ++ dataOf s.tx.transmit.2, pending := false }

/-- the receiver handles one DATA datagram and answers with a SACK (`_receive_data_chunk`, `_send_sack`); the TSN
travels in a 32-bit field -/
def Link.deliverData (s : Link) (d : RChunk) (rest : List RChunk) : Link :=
  let rx' := (markReceived s.rx (d.tsn % 4294967296)).2
  { s with rx := { rx' with dups := [] }, toRx := rest, toTx := s.toTx ++ [(rx'.last, sackGapBlocks rx')] }

/-- the sender handles one SACK (`_receive_sack_chunk`, then `_transmit`) -/
def Link.deliverSack (s : Link) (cum : Int) (gaps : List (Nat × Nat)) (rest : List (Int × List (Nat × Nat))) : Link :=
  match s.tx.receiveSack cum gaps s.now1000 with
  | .ok (some (t', _)) => { s with tx := t'.transmit.1, toRx := s.toRx ++ dataOf t'.transmit.2, toTx := rest }
  | _ => { s with toTx := rest }

def Link.fireT3 (s : Link) : Link := { s with tx := s.tx.t3Expired s.now1000, pending := true }

def Link.step (s : Link) : Link :=
  if s.pending then s.runTask
  else match s.toRx with
    | d :: rest => s.deliverData d rest
    | [] => match s.toTx with
      | (cum, gaps) :: rest => s.deliverSack cum gaps rest
      | [] => if s.tx.t3 then s.fireT3 else s

def Link.run : Nat → Link → Link
  | 0, s => s
  | n + 1, s => Link.run n s.step

theorem Link.run_add (m n : Nat) (s : Link) : Link.run (m + n) s = Link.run n (Link.run m s) := by
  induction m generalizing s with
  | zero => simp [Link.run]
  | succ m ih => rw [Nat.succ_add]; exact ih s.step

structure Link.Drained (s : Link) : Prop where
  sentQ : s.tx.sentQ = []
  outQ : s.tx.outQ = []
  flight : s.tx.flight = 0
  fwd : s.tx.forwardTsn = none
  toRx : s.toRx = []
  toTx : s.toTx = []
  pending : s.pending = false
  t3 : s.tx.t3 = false

theorem Link.step_task (s : Link) (hp : s.pending = true) : s.step = s.runTask := by
  unfold Link.step; simp [hp]

theorem Link.step_data (s : Link) (d : RChunk) (rest : List RChunk) (hp : s.pending = false) (hr : s.toRx = d :: rest) :
    s.step = s.deliverData d rest := by
  unfold Link.step; simp [hp, hr]

theorem Link.step_sack (s : Link) (cum : Int) (gaps : List (Nat × Nat)) (rest : List (Int × List (Nat × Nat)))
    (hp : s.pending = false) (hr : s.toRx = []) (ht : s.toTx = (cum, gaps) :: rest) :
    s.step = s.deliverSack cum gaps rest := by
  unfold Link.step; simp [hp, hr, ht]

theorem Link.step_idle (s : Link) (hp : s.pending = false) (hr : s.toRx = []) (ht : s.toTx = []) :
    s.step = if s.tx.t3 then s.fireT3 else s := by
  unfold Link.step; simp [hp, hr, ht]

/-- **No deadlock**: the canonical continuation only comes to rest in a drained state. -/
theorem Link.stuck_drained (s : Link) (hi : SndInv { tx := s.tx, pending := s.pending }) (h : s.step = s) :
    s.Drained := by
  -- every step but the idle one changes `pending` or shortens a queue
  have hp : s.pending = false := Bool.eq_false_iff.mpr fun hp => by
    rw [s.step_task hp] at h
    have := congrArg Link.pending h
    rw [hp] at this; cases this
  have hr : s.toRx = [] := by
    cases hr : s.toRx with
    | nil => rfl
    | cons d rest =>
      rw [s.step_data d rest hp hr] at h
      have := congrArg (fun x => x.toRx.length) h
      simp [Link.deliverData, hr] at this
  have ht : s.toTx = [] := by
    cases ht : s.toTx with
    | nil => rfl
    | cons p rest =>
      rw [s.step_sack p.1 p.2 rest hp hr ht] at h
      have := congrArg (fun x => x.toTx.length) h
      simp only [Link.deliverSack] at this
      split at this <;> simp [ht] at this
  have h3 : s.tx.t3 = false := Bool.eq_false_iff.mpr fun h3 => by
    rw [s.step_idle hp hr ht, h3, if_pos rfl] at h
    have := congrArg Link.pending h
    rw [hp] at this; cases this
  -- and an idle sender with T3 stopped has nothing left
  obtain ⟨hs, ho, hfl, hf⟩ := SndInv.at_rest hi hp h3
  exact ⟨hs, ho, hfl, hf, hr, ht, hp, h3⟩

/-! ## serial arithmetic on TSNs -/

theorem uint32_gte_plus_one {a : Int} (ha : R32 a) : uint32_gte a (tsn_plus_one a) = false := by
  have := Serial.gte32 a (i := 0) (j := 1) (by omega)
  rwa [Int.add_zero, ha.emod_self] at this

theorem uint32_gte_add (a : Int) {j : Nat} (h1 : 1 ≤ j) (h2 : j < 2147483648) :
    uint32_gte ((a + (j : Int)) % 4294967296) (tsn_plus_one a) = true :=
  (Serial.gte32 a (i := j) (j := 1) (by omega)).trans (decide_eq_true (by omega))

theorem uint32_gt_add {a : Int} (ha : R32 a) {k : Nat} (h1 : 1 ≤ k) (h2 : k < 2147483648) :
    uint32_gt ((a + (k : Int)) % 4294967296) a = true :=
  Serial.serialGt_add (by decide) (by decide) ha (by omega) (by omega)

/-! ## the receiver: the chunk after the cumulative TSN always advances it -/

/-- what the progress argument needs to know about the receiver -/
structure RxOk (rx : Rx) : Prop where
  last : R32 rx.last
  mis : ∀ x ∈ rx.mis, R32 x ∧ x ≠ rx.last
  nodup : rx.mis.Nodup
  /-- the misordered set was consolidated: the next TSN is not in it -/
  next : rx.mis.contains (tsn_plus_one rx.last) = false

theorem RxOk.nodup_snoc {rx : Rx} (h : RxOk rx) {tsn : Int} (hn : tsn ∉ rx.mis) : (rx.mis ++ [tsn]).Nodup :=
  List.nodup_snoc h.nodup hn

theorem markReceived_dup (rx : Rx) (tsn : Int) (h : uint32_gte rx.last tsn = true) :
    (markReceived rx tsn).2.last = rx.last := by
  unfold markReceived; simp [h]

/-- A receiver whose cumulative TSN is `j ≥ 0` TSNs ahead of `a` is given the TSN after `a` (new to it if `j = 0`,
a duplicate otherwise): afterwards its cumulative TSN is strictly ahead of `a`, by less than half the sequence
space, and is the TSN it was given or one it had. -/
theorem RxOk.after_next {rx : Rx} (h : RxOk rx) {a : Int} (ha : R32 a) {j : Nat} (hj : j + rx.mis.length + 1 < 2147483648)
    (hl : rx.last = (a + (j : Int)) % 4294967296) :
    ∃ k : Nat, 1 ≤ k ∧ k < 2147483648 ∧ (markReceived rx (tsn_plus_one a)).2.last = (a + (k : Int)) % 4294967296
      ∧ (markReceived rx (tsn_plus_one a)).2.last ∈ tsn_plus_one a :: rx.last :: rx.mis := by
  rcases Nat.eq_zero_or_pos j with rfl | hjp
  · -- the TSN after the cumulative one is new; it is in the list the walk goes through, so the walk makes `n ≥ 1` steps
    have hl' : rx.last = a := hl.trans ha.add_zero
    have hnotin : tsn_plus_one rx.last ∉ rx.mis := by simpa using h.next
    rw [markReceived_eq, ← hl', uint32_gte_plus_one h.last, h.next]
    simp only [Bool.or_self, Bool.false_eq_true, if_false]
    obtain ⟨n, n1, _, n3, n4, n5⟩ := consolidate_sort_spec (L := rx.mis ++ [tsn_plus_one rx.last]) h.last
      (fun x hx => (List.mem_append.mp hx).elim (h.mis x) fun hx => by
        rw [List.mem_singleton.mp hx]
        exact ⟨R32.plus_one _, fun e => by have := uint32_gte_plus_one h.last; rw [e, Serial.gte32_refl] at this; cases this⟩)
      (h.nodup_snoc hnotin)
    have hn : 1 ≤ n := Nat.pos_of_ne_zero fun e => n5 (by rw [e]; simp [tsn_plus_one])
    have hmem := n4 n hn (Nat.le_refl _)
    rw [← n3] at hmem
    refine ⟨n, hn, by simp at n1; omega, n3, ?_⟩
    rcases List.mem_append.mp hmem with hm | hm
    · exact List.mem_cons_of_mem _ (List.mem_cons_of_mem _ hm)
    · exact List.mem_cons.mpr (Or.inl (List.mem_singleton.mp hm))
  · have hj2 : j < 2147483648 := Nat.lt_of_le_of_lt (Nat.le_add_right j (rx.mis.length + 1)) hj
    rw [markReceived_dup _ _ (hl ▸ uint32_gte_add a hjp hj2)]
    exact ⟨j, hjp, hj2, hl, by simp⟩

/-! ## the sender: a SACK that is not stale is processed -/

theorem receiveSack_some (t : Tx) (cum : Int) (gaps : List (Nat × Nat)) (now : Int)
    (h : t.sackStale cum = false) : ∃ t' evs, t.receiveSack cum gaps now = .ok (some (t', evs)) := by
  obtain ⟨r, hr⟩ := receiveSack_total t cum gaps now
  cases r with
  | some p => exact ⟨p.1, p.2, hr⟩
  | none =>
    exfalso
    rw [receiveSack_eq] at hr
    simp only [h, Bool.false_eq_true, if_false] at hr
    split at hr <;> cases hr

theorem transmit_lastSacked (t : Tx) : t.transmit.1.lastSacked = t.lastSacked :=
  show t.transmit.1.ctl.lastSacked = t.ctl.lastSacked from congrArg Tx.lastSacked (transmit_facts t).frame

theorem transmit_localTsn (t : Tx) : t.transmit.1.localTsn = t.localTsn :=
  show t.transmit.1.ctl.localTsn = t.ctl.localTsn from congrArg Tx.localTsn (transmit_facts t).frame

/-! ## delivering a burst -/

theorem Link.run_succ (n : Nat) (s : Link) : Link.run (n + 1) s = (Link.run n s).step :=
  Link.run_add n 1 s

theorem Link.run_data : ∀ (l : List RChunk) (s : Link), s.pending = false → s.toRx = l →
    (Link.run l.length s).tx = s.tx ∧ (Link.run l.length s).pending = false ∧ (Link.run l.length s).toRx = []
    ∧ ∃ more, (Link.run l.length s).toTx = s.toTx ++ more
        ∧ ∀ d ds, l = d :: ds → ∃ g more', more = ((markReceived s.rx (d.tsn % 4294967296)).2.last, g) :: more' := by
  intro l
  induction l with
  | nil => intro s hp hr; exact ⟨rfl, hp, hr, [], by simp [Link.run], by intro d ds h; cases h⟩
  | cons d rest ih =>
    intro s hp hr
    simp only [List.length_cons, Link.run]
    rw [Link.step_data s d rest hp hr]
    obtain ⟨h1, h2, h3, more, h5, _⟩ := ih (s.deliverData d rest) hp rfl
    refine ⟨h1, h2, h3, ((markReceived s.rx (d.tsn % 4294967296)).2.last,
      sackGapBlocks (markReceived s.rx (d.tsn % 4294967296)).2) :: more, ?_, ?_⟩
    · rw [h5]; simp [Link.deliverData]
    · intro d' ds' he
      cases he
      exact ⟨_, more, rfl⟩

/-! ## one epoch of the fault-free continuation makes progress -/

theorem Link.run_two_more (n : Nat) (s : Link) : Link.run (3 + n) s = (Link.run n (Link.run 2 s)).step := by
  rw [show 3 + n = (2 + n) + 1 by omega, Link.run_succ, Link.run_add]

theorem dataOf_fwd (t : Tx) : dataOf t.fwd.2 = [] := by
  unfold Tx.fwd; split
  · split <;> rfl
  · rfl

theorem dataOf_t3Restart (b : Bool) : dataOf (t3Restart b) = [] := by
  unfold t3Restart; split <;> rfl

theorem Link.run_t3 (s : Link) (hp : s.pending = false) (hrx : s.toRx = []) (htx : s.toTx = []) (h3 : s.tx.t3 = true) :
    Link.run 2 s = s.fireT3.runTask := by
  simp only [Link.run]
  rw [s.step_idle hp hrx htx, h3, if_pos rfl, s.fireT3.step_task rfl]

theorem Link.deliverSack_toTx (s : Link) (cum : Int) (gaps : List (Nat × Nat)) (rest : List (Int × List (Nat × Nat))) :
    (s.deliverSack cum gaps rest).toTx = rest := by
  unfold Link.deliverSack; split <;> rfl

theorem Link.deliverSack_tx (s : Link) (cum : Int) (gaps : List (Nat × Nat)) (rest : List (Int × List (Nat × Nat)))
    (t' : Tx) (evs : List TxEv) (h : s.tx.receiveSack cum gaps s.now1000 = .ok (some (t', evs))) :
    (s.deliverSack cum gaps rest).tx = t'.transmit.1 := by
  simp only [Link.deliverSack, h]

/-- what the progress theorem assumes about a state reached by the fault history -/
structure Link.Coherent (s : Link) : Prop where
  /-- the sender invariants (proved for every reachable sender state, `SndInv.run`) -/
  inv : SndInv { tx := s.tx, pending := s.pending }
  rx : RxOk s.rx
  ls : R32 s.tx.lastSacked
  /-- the receiver's cumulative TSN equals the last one the sender saw acknowledged, or is ahead of it (SACKs were
  lost), by less than half the sequence space -/
  ahead : ∃ j : Nat, j + s.rx.mis.length + 1 < 2147483648 ∧ s.rx.last = (s.tx.lastSacked + (j : Int)) % 4294967296
  /-- the receiver has only received TSNs that were assigned (a SACK beyond the last TSN assigned is ignored) -/
  sent : ∀ x ∈ s.rx.last :: s.rx.mis, uint32_gt x (tsn_minus_one s.tx.localTsn) = false

/-- **Progress of one epoch.** In a coherent state with an empty network, no pending task and T3 armed, if the
chunk that follows the cumulative ack is still outstanding after T3 (`hq`, `hct`: it was not abandoned),
then the canonical continuation — T3 fires, the queued `_transmit` runs, the burst is delivered datagram by
datagram, the first SACK comes back — strictly advances the sender's cumulative ack within
`3 + (number of datagrams in the burst)` steps. -/
theorem Link.epoch_progress (s : Link) (hc : s.Coherent) (hrx : s.toRx = []) (htx : s.toTx = [])
    (hp : s.pending = false) (h3 : s.tx.t3 = true) (c : SChunk) (cs : List SChunk)
    (hq : (s.tx.t3Expired s.now1000).sentQ = c :: cs) (hct : c.tsn = tsn_plus_one s.tx.lastSacked)
    (hsent : uint32_gt c.tsn (tsn_minus_one s.tx.localTsn) = false) :
    uint32_gt (Link.run (3 + (dataOf (s.tx.t3Expired s.now1000).transmit.2).length) s).tx.lastSacked
      s.tx.lastSacked = true := by
  have hw : WInv s.tx := hc.inv.flight.winv
  obtain ⟨hfr1, hfr2, _⟩ := t3Expired_frame s.tx s.now1000 hw
  -- steps 1, 2: T3 fires, the queued task runs; the burst starts with `c`
  obtain ⟨_, _, _, _, _, _, more, hev⟩ := t3_then_transmit s.tx hw s.now1000 c cs hq
  have hD : dataOf (s.tx.t3Expired s.now1000).transmit.2 = (rtxChunk c).toR :: dataOf more := by
    rw [hev, dataOf_append, dataOf_append, dataOf_fwd, List.nil_append]
    simp only [dataOf]
    rw [dataOf_t3Restart]; rfl
  have h2 := s.run_t3 hp hrx htx h3
  simp only [Link.runTask, Link.fireT3, hrx, List.nil_append] at h2
  -- steps 3 .. : the burst is delivered; the first SACK carries the cumulative TSN `L` the receiver has after `c`
  obtain ⟨r1, r2, r3, sacks, r5, r6⟩ := Link.run_data ((rtxChunk c).toR :: dataOf more) (Link.run 2 s) (by rw [h2]) (by rw [h2]; exact hD)
  obtain ⟨g, more', rfl⟩ := r6 _ _ rfl
  rw [hD, Link.run_two_more]
  generalize Link.run ((rtxChunk c).toR :: dataOf more).length (Link.run 2 s) = s3 at r1 r2 r3 r5
  have hctsn : (rtxChunk c).toR.tsn % 4294967296 = tsn_plus_one s.tx.lastSacked := by
    show c.tsn % 4294967296 = _
    rw [hct]; exact (R32.plus_one _).emod_self
  rw [h2, hctsn] at r5
  simp only [htx, List.nil_append] at r5
  obtain ⟨j, hj, hlast⟩ := hc.ahead
  obtain ⟨k, hk1, hk2, hLk, hLm⟩ := hc.rx.after_next hc.ls hj hlast
  generalize (markReceived s.rx (tsn_plus_one s.tx.lastSacked)).2.last = L at r5 hLk hLm
  have hgt : uint32_gt L s.tx.lastSacked = true := hLk ▸ uint32_gt_add hc.ls hk1 hk2
  -- `L` was assigned, so the SACK is not ignored
  have hLs : uint32_gt L (tsn_minus_one s.tx.localTsn) = false := by
    rcases List.mem_cons.mp hLm with rfl | hLm
    · rw [← hct]; exact hsent
    · exact hc.sent _ hLm
  have h3tx : s3.tx = (s.tx.t3Expired s.now1000).transmit.1 := by rw [r1, h2]
  have hstale : s3.tx.sackStale L = false := by
    unfold Tx.sackStale
    rw [h3tx, transmit_lastSacked, transmit_localTsn, hfr1, hfr2, hLs, Bool.or_false]
    unfold uint32_gte; rw [hgt]; simp
  -- step m + 3: the SACK is handled
  have hfl3 : FlightInv s3.tx := h3tx ▸ (hc.inv.flight.t3Expired s.now1000).transmit
  obtain ⟨t', evs, hrs⟩ := receiveSack_some s3.tx L g s3.now1000 hstale
  rw [s3.step_sack L g more' r2 r3 r5, s3.deliverSack_tx L g more' t' evs hrs, transmit_lastSacked,
    (receiveSack_facts s3.tx hfl3 L g s3.now1000 t' evs hrs).lastSacked]
  exact hgt

end Aiortc.Sctp
