import Aiortc.Lemmas.C02.SctpLoops
import Aiortc.Lemmas.SctpTx.Sack
/-!
# `_receive_sack_chunk` and `_t3_expired` as compositions of their phases (C02)

Over the phases of `_receive_sack_chunk` (`receiveSack_eq`, `SctpTx/Sack.lean`: cumulative ack / gap blocks / congestion
window / T3 handling / advanced peer ack point) and the loop lemmas: the flight accounting invariant for every sender
operation.
-/
namespace Aiortc.Sctp

/-! ## flight accounting through the phases -/

theorem FlightInv.sackAck {t : Tx} (h : FlightInv t) (cum : Int) : FlightInv (t.sackAck cum) := by
  obtain ⟨hb, ⟨k, hk, _⟩, _⟩ := ackLoop_spec cum t.sentQ t.flight 0 0
  refine ⟨hb.eq h.flight, h.outQ, ?_⟩
  intro c hc
  simp only [Tx.sackAck] at hc
  rw [hk] at hc
  exact h.sentQ c (List.mem_of_mem_drop hc)

theorem sackHtna_spec (t : Tx) (cum : Int) (gaps : List (Nat × Nat)) (db : Nat) :
    PW HtnaRel t.sentQ (t.sackHtna cum gaps db).sentQ
    ∧ Bal t.flight t.sentQ (t.sackHtna cum gaps db).flight (t.sackHtna cum gaps db).sentQ := by
  obtain ⟨l', he, hpw, hb⟩ := htnaLoop_spec (gapSeen cum (t.gapLimit cum) gaps).1 (gapSeen cum (t.gapLimit cum) gaps).2
    t.sentQ [] t.flight db cum
  have : (t.sackHtna cum gaps db).sentQ = l' := he
  rw [this]
  exact ⟨hpw, hb⟩

theorem sackHtna_pw (t : Tx) (cum : Int) (gaps : List (Nat × Nat)) (db : Nat) :
    PW HtnaRel t.sentQ (t.sackHtna cum gaps db).sentQ := (sackHtna_spec t cum gaps db).1

theorem FlightInv.sackHtna {t : Tx} (h : FlightInv t) (cum : Int) (gaps : List (Nat × Nat)) (db : Nat) :
    FlightInv (t.sackHtna cum gaps db) :=
  ⟨(sackHtna_spec t cum gaps db).2.eq h.flight, h.outQ,
    PW.forall (fun _ _ hr hc => HtnaRel.abOk hr hc) (sackHtna_pw t cum gaps db) h.sentQ⟩

theorem sackHtna_flight_le (t : Tx) (cum : Int) (gaps : List (Nat × Nat)) (db : Nat) (h : FlightInv t) :
    (t.sackHtna cum gaps db).flight ≤ t.flight := by
  rw [(FlightInv.sackHtna h cum gaps db).flight, h.flight]
  exact PW.induction (motive := fun l l' => flightSum l' ≤ flightSum l) (Nat.le_refl _)
    (fun hr _ ih => Nat.add_le_add hr.w_le ih) (sackHtna_pw t cum gaps db)

theorem sackGaps_strike (t : Tx) (cum : Int) (gaps : List (Nat × Nat)) (now : Int) (db : Nat)
    (ho : ∀ c ∈ t.outQ, Idle c) (hg : gaps.isEmpty = false) :
    StrikeSpec (t.sackHtna cum gaps db) false
      ((t.sackGaps cum gaps now db).1, (t.sackGaps cum gaps now db).2.2) := by
  simp only [Tx.sackGaps, hg, Bool.false_eq_true, if_false]
  exact strikeLoop_spec _ _ _ _ _ _ _ (by simpa [Tx.sackHtna] using ho)

theorem FlightInv.sackGaps {t : Tx} (h : FlightInv t) (cum : Int) (gaps : List (Nat × Nat)) (now : Int) (db : Nat) :
    FlightInv (t.sackGaps cum gaps now db).1 := by
  cases hg : gaps.isEmpty with
  | true => simpa [Tx.sackGaps, hg] using h
  | false =>
    have h1 := FlightInv.sackHtna h cum gaps db
    have hs := sackGaps_strike t cum gaps now db h.outQ hg
    have hw := hs.winv h1.winv
    exact ⟨hs.bal.eq h1.flight, hw.outQ, hw.sentQ⟩

theorem FlightInv.receiveSack {t : Tx} (h : FlightInv t) (cum : Int) (gaps : List (Nat × Nat)) (now : Int)
    (t' : Tx) (evs : List TxEv) (hr : t.receiveSack cum gaps now = .ok (some (t', evs))) : FlightInv t' := by
  obtain ⟨t4, rfl, h4⟩ := receiveSack_pre hr
  have h2 := FlightInv.sackGaps (FlightInv.sackAck h cum) cum gaps now (t.sackDoneBytes cum)
  have : FlightInv t4 := by rw [h4]; exact ⟨h2.flight, h2.outQ, h2.sentQ⟩
  exact this.updateAdvAck

/-! ## `_maybe_abandon` and `_t3_expired` -/

theorem FlightInv.maybeAbandon {t : Tx} (h : FlightInv t) (pos : Nat) (now : Int) :
    FlightInv (t.maybeAbandon pos now).2 := by
  have hw := maybeAbandon_winv pos now h.winv
  exact ⟨(maybeAbandon_bal t pos now h.outQ).eq h.flight, hw.outQ, hw.sentQ⟩

/-- state after the marking loop of `_t3_expired` -/
def Tx.t3Marked (t : Tx) (now : Int) : Tx := t3Mark now t.sentQ.length 0 { t with t3 := false }

theorem t3Expired_eq (t : Tx) (now : Int) :
    t.t3Expired now =
      { (t.t3Marked now).updateAdvAck with
        fastRecoveryExit := none, flight := 0, partialBytesAcked := 0,
        ssthresh := max ((t.t3Marked now).updateAdvAck.cwnd / 2) (4 * USERDATA_MAX), cwnd := USERDATA_MAX } := rfl

theorem t3Marked_spec (t : Tx) (now : Int) (h : WInv t) : T3MarkSpec { t with t3 := false } (t.t3Marked now) :=
  t3Mark_spec now t.sentQ.length t.sentQ.length 0 { t with t3 := false } ⟨h.le, h.outQ, h.sentQ⟩ (by omega)
    (Nat.le_refl _) (by intro i d hd hi; have := (List.getElem?_eq_some_iff.mp hd).1; simp at this; omega)

theorem t3Expired_frame (t : Tx) (now : Int) (hw : WInv t) :
    (t.t3Expired now).lastSacked = t.lastSacked ∧ (t.t3Expired now).localTsn = t.localTsn
    ∧ (t.t3Expired now).t3 = false := by
  rw [t3Expired_eq]
  have ha := (updateAdvAck_spec (t.t3Marked now)).frame
  have hm := (t3Marked_spec t now hw).frame
  simp only
  rw [ha]; simp only
  rw [hm]; exact ⟨rfl, rfl, rfl⟩

theorem t3Expired_all (t : Tx) (now : Int) (h : WInv t) :
    (∀ d ∈ (t.t3Expired now).sentQ, T3Q d) ∧ (∀ c, (t.t3Expired now).sentQ.head? = some c → c.abandoned = false) := by
  have hm := t3Marked_spec t now h
  have ha := updateAdvAck_spec (t.t3Marked now)
  obtain ⟨k, hk, _⟩ := ha.drop
  rw [t3Expired_eq]
  refine ⟨?_, ha.head⟩
  intro d hd
  simp only at hd
  rw [hk] at hd
  exact hm.all d (List.mem_of_mem_drop hd)

theorem FlightInv.t3Expired_of_winv {t : Tx} (h : WInv t) (now : Int) : FlightInv (t.t3Expired now) := by
  have hm := t3Marked_spec t now h
  have ha := updateAdvAck_spec (t.t3Marked now)
  obtain ⟨k, hk, _⟩ := ha.drop
  have hall := (t3Expired_all t now h).1
  have hout : (t.t3Expired now).outQ = (t.t3Marked now).outQ := by
    rw [t3Expired_eq]; simp only; rw [ha.frame]
  have hsq : (t.t3Expired now).sentQ = (t.t3Marked now).updateAdvAck.sentQ := by rw [t3Expired_eq]
  refine ⟨?_, ?_, ?_⟩
  · have : (t.t3Expired now).flight = 0 := by rw [t3Expired_eq]
    rw [this, flightSum_eq_zero (fun c hc => (hall c hc).1)]
  · rw [hout]; exact hm.winv.outQ
  · intro c hc
    rw [hsq, hk] at hc
    exact hm.winv.sentQ c (List.mem_of_mem_drop hc)

theorem FlightInv.t3Expired {t : Tx} (h : FlightInv t) (now : Int) : FlightInv (t.t3Expired now) :=
  FlightInv.t3Expired_of_winv h.winv now

end Aiortc.Sctp
