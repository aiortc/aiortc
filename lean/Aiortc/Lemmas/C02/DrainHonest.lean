import Aiortc.Lemmas.C02.DrainWeights
import Aiortc.Lemmas.C02.DrainRx
import Aiortc.Lemmas.C02.DrainPot
import Aiortc.Lemmas.C02.DrainPROps
/-!
# The honest-SACK invariant and the polynomial strike budget (C02 drain)

`Hon b h s`: the first `h` SACKs in flight are whatever the fault history left (possibly reordered, duplicated: nothing is
assumed about their gap blocks); the SACKs behind them were generated by the receiver during the fault-free
continuation, in this order: each reports only TSNs the receiver has, and everything an earlier one reports is reported
by every later one (`Chain`).  `Link.S2`: the number of SACKs that can still strike — `h + 2·nOut` while old SACKs are
in flight, afterwards the total weight `U` of the outstanding chunks.  The `2` in `S2`, `pot2`, `phi2`, `epochCost2`, `drainBound2` marks
this second, polynomial potential (the first, `phi` of `DrainStep`, needs no `Hon` and is exponential); `PLink.S2`, `PLink.pot2` are the same
budget on the other system (`budget`), `phi3` is the potential of the partially reliable system.  What the three kinds of step of the
continuation do to chain and budget is proved here once, on the sender, the receiver and the SACKs in flight (`pot2_transmit`,
`pot2_answer`, `pot2_sack`); `step_hon` (`Link`) and `step_phi3` (`PLink`) call these.
-/
namespace Aiortc.Sctp
open Aiortc.Gen

/-- the SACK reports `t` or a TSN beyond it (a SACK truncated by `_send_sack` says nothing about TSNs beyond its last block) -/
def Below (σ : Int × List (Nat × Nat)) (t : Int) : Prop :=
  uint32_gte σ.1 t = true
  ∨ ∃ g ∈ σ.2, ∃ k, g.1 ≤ k ∧ k ≤ g.2 ∧ k < 2147483648 ∧ uint32_gte ((σ.1 + (k : Int)) % 4294967296) t = true

def Chain (b : Int) (rx : Rx) : List (Int × List (Nat × Nat)) → Prop
  | [] => True
  | σ :: rest =>
    (∀ j, j < 2147483648 → Cov σ (T b j) → RxHas rx (T b j) ∧ ∀ σ' ∈ rest, Below σ' (T b j) → Cov σ' (T b j))
    ∧ Chain b rx rest

/-- the receiver has `t` and every honest SACK still in flight that reaches as far as `t` says so -/
def Safe (s : Link) (h : Nat) (t : Int) : Prop := RxHas s.rx t ∧ ∀ σ ∈ s.toTx.drop h, Below σ t → Cov σ t

structure Hon (b : Int) (h : Nat) (s : Link) : Prop where
  hle : h ≤ s.toTx.length
  chain : Chain b s.rx (s.toTx.drop h)

/-- strikes still possible under honest SACKs: per outstanding chunk 0 if gap-acked and safe, 1 if not gap-acked, 2 if gap-acked
but not safe (`wt`); 2 per chunk not yet sent -/
noncomputable def Link.U (s : Link) (h : Nat) : Nat := usum (Safe s h) s.tx.sentQ + 2 * s.tx.outQ.length
/-- the strike budget. While `h > 0` arbitrary SACKs are still in flight, each may strike and leave any flags behind, so the cost
is the crude `h + 2·nOut`: one per old SACK plus the largest value `U` can have afterwards (`budget_le`); with `h = 0` it is `U`. -/
noncomputable def Link.S2 (s : Link) (h : Nat) : Nat := if h = 0 then s.U 0 else h + 2 * s.tx.nOut
noncomputable def Link.pot2 (s : Link) (h : Nat) : Nat := s.tx.flags + s.tx.nOut * s.S2 h
noncomputable def Link.phi2 (s : Link) (h : Nat) : Nat :=
  2 * s.toRx.length + s.toTx.length + (if s.pending then 1 else 0) + 2 * s.pot2 h

theorem usum_mono_mem {P Q : Int → Prop} : ∀ (l : List SChunk), (∀ c ∈ l, P c.tsn → Q c.tsn) → usum Q l ≤ usum P l
  | [], _ => Nat.le_refl _
  | c :: cs, h => by
    have h1 : wt Q c ≤ wt P c := wt_step (WRel.of_same rfl rfl (h c List.mem_cons_self))
    have h2 := usum_mono_mem cs (fun d hd => h d (by simp [hd]))
    simp only [usum]; omega

/-! ## the strike budget on what `Link` and `PLink` share: the sender, the receiver, the SACKs in flight

`Safe`/`SafeP`, `Link.S2`/`PLink.S2` are `SafeOf`, `budget` of these three (by `rfl`); what the two systems do with honest SACKs is
proved here once. -/

section
variable {tx tx' : Tx} {rx rx' : Rx} {sacks sacks' : List (Int × List (Nat × Nat))}

def SafeOf (rx : Rx) (sacks : List (Int × List (Nat × Nat))) (t : Int) : Prop := RxHas rx t ∧ ∀ σ ∈ sacks, Below σ t → Cov σ t

noncomputable def budget (tx : Tx) (rx : Rx) (sacks : List (Int × List (Nat × Nat))) (h : Nat) : Nat :=
  if h = 0 then usum (SafeOf rx sacks) tx.sentQ + 2 * tx.outQ.length else h + 2 * tx.nOut

theorem Link.S2_eq (s : Link) (h : Nat) : s.S2 h = budget s.tx s.rx s.toTx h := rfl

theorem budget_le (h : Nat) : budget tx rx sacks h ≤ h + 2 * tx.nOut := by
  have := usum_le (SafeOf rx sacks) tx.sentQ
  unfold budget Tx.nOut; split <;> omega

/-- the sender's queues unchanged: the budget does not grow if what was safe stays safe -/
theorem budget_mono (h : Nat) (hsafe : h = 0 → ∀ c ∈ tx.sentQ, SafeOf rx sacks c.tsn → SafeOf rx' sacks' c.tsn) :
    budget tx rx' sacks' h ≤ budget tx rx sacks h := by
  unfold budget
  split
  · exact Nat.add_le_add_right (usum_mono_mem _ (hsafe ‹_›)) _
  · exact Nat.le_refl _

/-- an old SACK is consumed: the budget pays one -/
theorem budget_pop_old {h : Nat} (h0 : h ≠ 0) (hn : tx'.nOut ≤ tx.nOut) :
    budget tx' rx' sacks' (h - 1) + 1 ≤ budget tx rx sacks h := by
  have := budget_le (tx := tx') (rx := rx') (sacks := sacks') (h - 1)
  rw [show budget tx rx sacks h = h + 2 * tx.nOut from if_neg h0]
  omega

/-- the head SACK is consumed and the sender does not move -/
theorem budget_pop (σ : Int × List (Nat × Nat)) (h : Nat) : budget tx rx sacks (h - 1) ≤ budget tx rx (σ :: sacks) h := by
  by_cases h0 : h = 0
  · subst h0
    exact budget_mono 0 fun _ c _ hs => ⟨hs.1, fun σ' hσ' => hs.2 σ' (List.mem_cons_of_mem _ hσ')⟩
  · exact Nat.le_of_succ_le (budget_pop_old h0 (Nat.le_refl _))

/-- `_transmit`: the weights do not grow, `nOut` is kept -/
theorem budget_transmit (h : Nat) (hn : tx'.nOut = tx.nOut)
    (hu : usum (SafeOf rx sacks) tx'.sentQ + 2 * tx'.outQ.length ≤ usum (SafeOf rx sacks) tx.sentQ + 2 * tx.outQ.length) :
    budget tx' rx sacks h ≤ budget tx rx sacks h := by
  unfold budget
  split
  · exact hu
  · rw [hn]; exact Nat.le_refl _

theorem pot2_bound (tx : Tx) {S h : Nat} (hS : S ≤ h + 2 * tx.nOut) : tx.flags + tx.nOut * S ≤ tx.nOut + tx.nOut * (h + 2 * tx.nOut) := by
  have h1 := flags_le tx
  have h2 := Nat.mul_le_mul_left tx.nOut hS
  omega

end

theorem S2_le (s : Link) (h : Nat) : s.S2 h ≤ h + 2 * s.tx.nOut := budget_le h

theorem pot2_le (s : Link) (h : Nat) : s.pot2 h ≤ s.tx.nOut + s.tx.nOut * (h + 2 * s.tx.nOut) := pot2_bound s.tx (S2_le s h)

theorem phi2_le (s : Link) (h : Nat) :
    s.phi2 h ≤ 2 * s.toRx.length + s.toTx.length + 1 + 2 * (s.tx.nOut + s.tx.nOut * (h + 2 * s.tx.nOut)) := by
  have := pot2_le s h
  have := pending_le_one s.pending
  unfold Link.phi2
  omega

/-! ## the chain -/

theorem chain_append (b : Int) (rx rx' : Rx) (σn : Int × List (Nat × Nat))
    (hmono : ∀ j, j < 2147483648 → RxHas rx (T b j) → RxHas rx' (T b j))
    (hcomplete : ∀ j, j < 2147483648 → RxHas rx' (T b j) → Below σn (T b j) → Cov σn (T b j))
    (hsound : ∀ j, j < 2147483648 → Cov σn (T b j) → RxHas rx' (T b j)) :
    ∀ l, Chain b rx l → Chain b rx' (l ++ [σn])
  | [], _ => ⟨fun j hj hc => ⟨hsound j hj hc, fun σ' hs => by cases hs⟩, trivial⟩
  | σ :: rest, h => by
    refine ⟨?_, chain_append b rx rx' σn hmono hcomplete hsound rest h.2⟩
    intro j hj hc
    obtain ⟨h1, h2⟩ := h.1 j hj hc
    refine ⟨hmono j hj h1, ?_⟩
    intro σ' hs
    rcases List.mem_append.mp hs with hs | hs
    · exact h2 σ' hs
    · simp only [List.mem_singleton] at hs
      rw [hs]; exact hcomplete j hj (hmono j hj h1)

theorem sack_sound_below {b : Int} {rx : Rx} {r hi : Nat} (h : RxAt b r hi rx) (j : Nat) (hj : j < 2147483648) :
    (Cov (rx.last, sackGapBlocks rx) (T b j) → RxHas rx (T b j))
    ∧ (RxHas rx (T b j) → Below (rx.last, sackGapBlocks rx) (T b j) → Cov (rx.last, sackGapBlocks rx) (T b j)) := by
  obtain ⟨hsound, hbelow⟩ := sack_prefix_idx h
  obtain ⟨_, hl, _, hhi, hmis⟩ := h
  unfold Cov RxHas Below
  simp only
  refine ⟨?_, ?_⟩
  · rintro (h | ⟨g, hg, k, k1, k2, k3, k4⟩)
    · exact Or.inl h
    · right
      obtain ⟨m, m1, m2, m3, m4⟩ := hsound k ⟨g, hg, k1, k2⟩
      rw [k4, hl, T_add, show r + k = m by omega]; exact m3
  · intro hx hb'
    rcases hx with h | h
    · exact Or.inl h
    · obtain ⟨m, m1, m2, m3⟩ := hmis _ h
      have hjm : j = m := T_inj (by omega) (by omega) m3
      subst hjm
      rcases hb' with hb' | ⟨g, hg, k, k1, k2, k3, k4⟩
      · exact Or.inl hb'
      · right
        obtain ⟨m', n1, n2, n3, n4⟩ := hsound k ⟨g, hg, k1, k2⟩
        rw [hl, T_add, gte_T b (r + k) j (by omega) hj] at k4
        have hle : j - r ≤ k := by simp only [decide_eq_true_eq] at k4; omega
        obtain ⟨g', hg', g1, g2⟩ := hbelow j k m1 m2 h ⟨g, hg, k1, k2⟩ hle
        refine ⟨g', hg', j - r, g1, g2, by omega, ?_⟩
        rw [hl, T_add]; congr 1; omega

theorem sack_sound_complete {b : Int} {rx : Rx} {r hi : Nat} (hat : RxAt b r hi rx) (hsmall : hi - r ≤ 296)
    (j : Nat) (hj : j < 2147483648) : Cov (rx.last, sackGapBlocks rx) (T b j) ↔ RxHas rx (T b j) := by
  refine ⟨(sack_sound_below hat j hj).1, ?_⟩
  have hl := hat.last
  have hhi := hat.lt
  rintro (h | h)
  · exact Or.inl h
  · obtain ⟨m, m1, m2, m3⟩ := hat.mis _ h
    obtain rfl : j = m := T_inj (by omega) (by omega) m3
    obtain ⟨g, hg, g1, g2⟩ := sack_complete_idx hat hsmall j m1 m2 h
    refine Or.inr ⟨g, hg, j - r, g1, g2, by omega, ?_⟩
    rw [hl]; exact (Nat.add_sub_cancel' (Nat.le_of_lt m1) ▸ T_add b r (j - r)).symm

/-- the head SACK is consumed: one old SACK less, or (none left) the chain without its head -/
theorem chain_pop {b : Int} {rx : Rx} {σ : Int × List (Nat × Nat)} {rest : List (Int × List (Nat × Nat))} {h : Nat}
    (hle : h ≤ (σ :: rest).length) (hch : Chain b rx ((σ :: rest).drop h)) :
    h - 1 ≤ rest.length ∧ Chain b rx (rest.drop (h - 1)) := by
  cases h with
  | zero => exact ⟨Nat.zero_le _, hch.2⟩
  | succ h => exact ⟨Nat.le_of_succ_le_succ hle, hch⟩

/-- **the receiver answers an arrival with the SACK for its new state** `rx'` (in index form `RxAt`; it has forgotten nothing:
`hmono`): the chain of honest SACKs grows by it, and whatever was safe stays safe.  `rx''` is `rx'` as the link stores it. -/
theorem honest_answer {b : Int} {r' hi h : Nat} {rx rx' rx'' : Rx} {sacks : List (Int × List (Nat × Nat))} (hat : RxAt b r' hi rx')
    (hmono : ∀ j, j < 2147483648 → RxHas rx (T b j) → RxHas rx' (T b j)) (hkeep : ∀ t, RxHas rx'' t ↔ RxHas rx' t)
    (hle : h ≤ sacks.length) (hch : Chain b rx (sacks.drop h)) :
    h ≤ (sacks ++ [(rx'.last, sackGapBlocks rx')]).length
    ∧ Chain b rx'' ((sacks ++ [(rx'.last, sackGapBlocks rx')]).drop h)
    ∧ ∀ j, j < 2147483648 → SafeOf rx (sacks.drop h) (T b j) →
        SafeOf rx'' ((sacks ++ [(rx'.last, sackGapBlocks rx')]).drop h) (T b j) := by
  have hsc := sack_sound_below hat
  rw [List.drop_append_of_le_length hle]
  refine ⟨by rw [List.length_append]; exact Nat.le_trans hle (Nat.le_add_right _ _),
    chain_append b rx rx'' _ (fun j hj hx => (hkeep _).mpr (hmono j hj hx)) (fun j hj hx => (hsc j hj).2 ((hkeep _).mp hx))
      (fun j hj hx => (hkeep _).mpr ((hsc j hj).1 hx)) _ hch,
    fun j hj hsafe => ⟨(hkeep _).mpr (hmono j hj hsafe.1), fun σ hσ => ?_⟩⟩
  rcases List.mem_append.mp hσ with hσ | hσ
  · exact hsafe.2 σ hσ
  · exact List.mem_singleton.mp hσ ▸ (hsc j hj).2 (hmono j hj hsafe.1)

/-! ## `_transmit` does not touch the weights -/

theorem RtxPW.wrel (P : Int → Prop) {l l' : List SChunk} {es : List RChunk} (h : RtxPW l l' es) :
    PW (WRel P P) l l' :=
  h.pw.mono fun _ _ h => h.elim (· ▸ WRel.of_same rfl rfl id) (· ▸ WRel.of_same rfl rfl id)

theorem transmit_weights (t : Tx) (ho : ∀ c ∈ t.outQ, Idle c) (P : Int → Prop) :
    (dataOf t.transmit.2).length + t.transmit.1.flags = t.flags ∧ t.transmit.1.nOut = t.nOut
    ∧ usum P t.transmit.1.sentQ + 2 * t.transmit.1.outQ.length ≤ usum P t.sentQ + 2 * t.outQ.length := by
  obtain ⟨hfl, hn⟩ := transmit_flags t ho
  obtain ⟨mid, es, k, h1, h2, h3, _⟩ := (transmit_shape t).shape
  refine ⟨hfl, hn, ?_⟩
  rw [h2, h3, usum_append]
  have := usum_pw (h1.wrel P)
  have := usum_le P ((t.outQ.take k).map newChunk)
  have hk := List.take_drop_length t.outQ k
  rw [List.length_map] at this
  omega

theorem PW.imp_mem {α} {R S : α → α → Prop} : ∀ {l l' : List α}, PW R l l' → (∀ c ∈ l, ∀ d, R c d → S c d) → PW S l l'
  | [], [], _, _ => trivial
  | c :: cs, d :: ds, h, hi => ⟨hi c (by simp) d h.1, PW.imp_mem (l := cs) (l' := ds) h.2 (fun x hx => hi x (by simp [hx]))⟩
  | [], _ :: _, h, _ => h.elim
  | _ :: _, [], h, _ => h.elim

/-! ## one honest SACK -/

/-! `seen` of `_receive_sack_chunk` for a SACK that finds the queue `SackWin b k F l` -/

theorem cov_seen {b : Int} {k F : Nat} {l : List SChunk} (hw : SackWin b k F l)
    (gaps : List (Nat × Nat)) (c : SChunk) (hc : c ∈ l) (hcov : Cov (T b k, gaps) c.tsn) :
    c.tsn ∈ (gapSeen (T b k) (gapLimitOf (T b k) l) gaps).1 := by
  obtain ⟨j, j0, j1, j2, hj, j3⟩ := hw.mem hc
  rw [gapLimit_seq_le hw (List.ne_nil_of_mem hc), mem_gapSeen]
  rcases hcov with h | ⟨g, hg, kk, k1, k2, k3, k4⟩
  · -- an outstanding chunk is beyond the cumulative TSN
    simp only at h
    rw [j3, gte_T b k j (Nat.lt_trans j0 hj) hj] at h
    exact absurd (Nat.lt_of_lt_of_le j0 (of_decide_eq_true h)) (Nat.lt_irrefl _)
  · simp only at k4
    rw [j3, T_add] at k4
    have : j = k + kk := T_inj (by omega) (by omega) k4
    exact ⟨g, hg, kk, k1, by omega, by rw [j3, T_add, this]⟩

theorem seen_gap {b : Int} {k F : Nat} {l : List SChunk} (hw : SackWin b k F l)
    (gaps : List (Nat × Nat)) (t : Int) (ht : t ∈ (gapSeen (T b k) (gapLimitOf (T b k) l) gaps).1) :
    ∃ g ∈ gaps, ∃ kk, g.1 ≤ kk ∧ kk ≤ g.2 ∧ kk < 2147483648 ∧ t = (T b k + (kk : Int)) % 4294967296 := by
  rw [mem_gapSeen] at ht
  obtain ⟨g, hg, kk, k1, k2, k3⟩ := ht
  have hlim := Nat.le_trans (Nat.le_trans k2 (Nat.min_le_right _ _)) (Nat.le_trans (gapLimit_le hw) (Nat.sub_le _ _))
  exact ⟨g, hg, kk, k1, Nat.le_trans k2 (Nat.min_le_left _ _), Nat.lt_of_le_of_lt hlim hw.lt, k3⟩

theorem seen_below {b : Int} {k F : Nat} {l : List SChunk} (hw : SackWin b k F l)
    (gaps : List (Nat × Nat)) (t' t : Int) (ht : t' ∈ (gapSeen (T b k) (gapLimitOf (T b k) l) gaps).1) (hge : uint32_gte t' t = true) :
    Below (T b k, gaps) t := by
  obtain ⟨g, hg, kk, k1, k2, k3, k4⟩ := seen_gap hw gaps t' ht
  exact Or.inr ⟨g, hg, kk, k1, k2, k3, k4 ▸ hge⟩

/-! what one SACK does to the flags, chunk by chunk (`SR`): the closed forms of the HTNA loop and of the strike loop -/

theorem htnaChunk_sr (seen : List Int) (hna : Int) (c : SChunk) : SR seen hna c (htnaChunk seen c) := by
  unfold htnaChunk
  split
  · rename_i h
    simp only [Bool.and_eq_true, Bool.not_eq_true', List.contains_iff_mem] at h
    exact ⟨⟨rfl, rfl, rfl, rfl⟩, id, fun _ _ => h.1, fun hc _ => (by rw [h.2] at hc; cases hc)⟩
  · exact SR.refl seen hna c

theorem htnaList_sr (seen : List Int) (hs hna : Int) (l : List SChunk) : PW (SR seen hna) l (htnaList seen hs l) :=
  htnaList_pw seen hs (SR.refl seen hna) (htnaChunk_sr seen hna) l

theorem strikeChunk_sr (seen : List Int) {hna : Int} (c : SChunk) (hg : uint32_gt c.tsn hna = false) :
    SR seen hna c (strikeChunk seen c) := by
  unfold strikeChunk
  split
  · exact SR.refl seen hna c
  · rename_i h
    have hn : c.tsn ∉ seen := by simpa using h
    split
    · exact ⟨⟨rfl, rfl, rfl, rfl⟩, id, fun _ hd => (by cases hd), fun _ _ => ⟨hn, hg⟩⟩
    · exact SR.misses seen hna c _

theorem strikeList_sr (seen : List Int) (hna : Int) : ∀ l, PW (SR seen hna) l (strikeList seen hna l)
  | [] => trivial
  | c :: cs => by
    unfold strikeList; split
    · exact PW.refl (SR.refl seen hna) _
    · rename_i hg
      exact ⟨strikeChunk_sr seen c (Bool.eq_false_iff.mpr hg), strikeList_sr seen hna cs⟩

theorem sackList_sr {b : Int} {k : Nat} {l : List SChunk} (hs : Seq b k l) (hb : k + l.length < 2147483648)
    (gaps : List (Nat × Nat)) :
    ∃ hna, PW (SR (seenOf (T b k) gaps l) hna) l (sackList (T b k) gaps l)
      ∧ (sackList (T b k) gaps l = l ∨ ∃ q, q < 2147483648 ∧ hna = T b q ∧ T b q ∈ seenOf (T b k) gaps l
          ∧ LexLt l (sackList (T b k) gaps l)) := by
  rw [sackList_eq]
  unfold seenOf
  generalize gapSeen (T b k) (gapLimitOf (T b k) l) gaps = gs
  split
  · exact ⟨T b k, PW.refl (SR.refl _ _) l, Or.inl rfl⟩
  · rcases sack_lex b gs.1 gs.2 l k k hs hb (Nat.le_refl _) with ⟨_, e2, e3⟩ | ⟨q, q1, q2, q3, q4⟩
    · rw [e2, e3]; exact ⟨T b k, PW.refl (SR.refl _ _) l, Or.inl rfl⟩
    · have hmem : T b q ∈ gs.1 := by
        rcases htnaHna_mem gs.1 gs.2 l (T b k) with h | h
        · exact absurd (T_inj (by omega) (by omega) (q3.symm.trans h)) (Nat.ne_of_gt q1)
        · exact q3 ▸ h
      rw [q3] at q4 ⊢
      exact ⟨T b q, PW.trans_self (SR _ _) SR.trans (htnaList_sr gs.1 gs.2 (T b q) l) (strikeList_sr gs.1 (T b q) _),
        Or.inr ⟨q, by omega, rfl, hmem, q4⟩⟩

/-- **one honest SACK, with abandonment**: the weights of the chunks that stay outstanding do not grow; they shrink if
the SACK newly gap-acks anything -/
theorem usum_srP {b : Int} {k F q : Nat} {l front : List SChunk} (hw : SackWin b k F l)
    (gaps : List (Nat × Nat)) (hna : Int) (hpw : PW (SR (seenOf (T b k) gaps l) hna) l front)
    (hcase : front = l ∨ (q < 2147483648 ∧ hna = T b q ∧ T b q ∈ seenOf (T b k) gaps l ∧ LexLt l front))
    (P Q : Int → Prop) (hPQ : ∀ c ∈ l, P c.tsn → Q c.tsn)
    (hP : ∀ c ∈ l, P c.tsn → Below (T b k, gaps) c.tsn → Cov (T b k, gaps) c.tsn)
    (hQ : ∀ c ∈ l, Cov (T b k, gaps) c.tsn → Q c.tsn) :
    usum Q front ≤ usum P l ∧ (front = l ∨ usum Q front + 1 ≤ usum P l) := by
  rcases hcase with he | ⟨hq, hnaq, hmem, hlex⟩
  · rw [he]
    exact ⟨usum_mono_mem l hPQ, Or.inl rfl⟩
  · have hw : PW (WRel P Q) l front := by
      refine PW.imp_mem hpw ?_
      intro c hc d hr
      obtain ⟨r1, _, r3, r4⟩ := hr
      refine ⟨r1.1, hPQ c hc, ?_, ?_⟩
      · intro h1 h2
        exact hQ c hc (Or.inr (seen_gap hw gaps _ (r3 h1 h2)))
      · intro h1 h2 hp
        obtain ⟨hns, hng⟩ := r4 h1 h2
        obtain ⟨j, _, _, _, hj, j3⟩ := hw.mem hc
        have hge : uint32_gte (T b q) c.tsn = true := by
          rw [hnaq, j3, gt_T b j q hj hq] at hng
          rw [j3, gte_T b q j hq hj]
          simpa using hng
        exact hns (cov_seen hw gaps c hc (hP c hc hp (seen_below hw gaps _ _ hmem hge)))
    exact ⟨usum_pw hw, Or.inr (usum_lt hlex hw)⟩

/-! ## the three steps of the continuation, on the sender, the receiver and the SACKs in flight -/

/-- the sent queue after a cumulative ack `k`, which may be behind its head -/
theorem Seq.drop_max {b : Int} {f k : Nat} {l : List SChunk} (h : Seq b f l) (hk : k ≤ f + l.length) :
    Seq b (max k f) (l.drop (k - f)) ∧ max k f + (l.drop (k - f)).length = f + l.length := by
  rcases Nat.le_total k f with hle | hle
  · rw [Nat.sub_eq_zero_of_le hle, Nat.max_eq_right hle]
    exact ⟨h, rfl⟩
  · have hd : k - f ≤ l.length := Nat.sub_le_of_le_add (Nat.add_comm f _ ▸ hk)
    have := h.drop (k - f) hd
    rw [Nat.add_sub_of_le hle] at this
    rw [Nat.max_eq_left hle, List.length_drop]
    exact ⟨this, by omega⟩

theorem usum_drop_append (Q : Int → Prop) (front moved : List SChunk) (k : Nat) :
    usum Q ((front ++ moved).drop k) ≤ usum Q front + 2 * moved.length := by
  have h1 := usum_drop Q (front ++ moved) k
  have h2 := usum_le Q moved
  rw [usum_append] at h1
  omega

theorem sack_arith {a b c d e o o' m : Nat} (h1 : a ≤ b + 2 * m) (h2 : b + e ≤ c) (h3 : c ≤ d) (h4 : o' + m = o) :
    a + 2 * o' + e ≤ d + 2 * o := by omega

section
variable {b : Int} {tx : Tx} {rx rx' rx'' : Rx} {sacks : List (Int × List (Nat × Nat))} {h : Nat}

/-- `Link.pot2` / `PLink.pot2` on the components -/
noncomputable def pot2Of (tx : Tx) (rx : Rx) (sacks : List (Int × List (Nat × Nat))) (h : Nat) : Nat :=
  tx.flags + tx.nOut * budget tx rx sacks h

/-- `_transmit` pays for the DATA chunks it emits out of the flags -/
theorem pot2_transmit (t : Tx) (ho : ∀ c ∈ t.outQ, Idle c) (rx : Rx) (sacks : List (Int × List (Nat × Nat))) (h : Nat) :
    (dataOf t.transmit.2).length + pot2Of t.transmit.1 rx sacks h ≤ pot2Of t rx sacks h := by
  obtain ⟨hfl, hn, hu⟩ := transmit_weights t ho (SafeOf rx sacks)
  unfold pot2Of
  rw [← Nat.add_assoc]
  exact pot_mono (Nat.le_of_eq hfl) (Nat.le_of_eq hn) (budget_transmit h hn hu)

/-- **the receiver answers an arrival** (as `honest_answer`), the sender standing still with its outstanding chunks in the
receiver's window: the chain grows by the answer and the budget does not -/
theorem pot2_answer {f r' hi : Nat} (hseq : Seq b f tx.sentQ) (hhi : f + tx.sentQ.length ≤ hi) (hat : RxAt b r' hi rx')
    (hmono : ∀ j, j < 2147483648 → RxHas rx (T b j) → RxHas rx' (T b j)) (hkeep : ∀ t, RxHas rx'' t ↔ RxHas rx' t)
    (hle : h ≤ sacks.length) (hch : Chain b rx (sacks.drop h)) :
    h ≤ (sacks ++ [(rx'.last, sackGapBlocks rx')]).length
    ∧ Chain b rx'' ((sacks ++ [(rx'.last, sackGapBlocks rx')]).drop h)
    ∧ pot2Of tx rx'' (sacks ++ [(rx'.last, sackGapBlocks rx')]) h ≤ pot2Of tx rx sacks h := by
  obtain ⟨hle', hch', hsafe⟩ := honest_answer hat hmono hkeep hle hch
  refine ⟨hle', hch', pot_mono (Nat.le_refl _) (Nat.le_refl _) (budget_mono h fun h0 c hcm hs => ?_)⟩
  subst h0
  obtain ⟨j, _, j2, j3⟩ := Seq.mem hseq hcm
  rw [j3] at hs ⊢
  exact hsafe j (Nat.lt_of_le_of_lt (Nat.le_trans j2 hhi) hat.lt) hs

end

/-- what one SACK with cumulative TSN `T b k` does to the queues of a sender whose outstanding chunks start after `T b f`,
whatever the traffic: `front` = the chunks the cumulative ack left, after the gap-ack and strike loops; `moved` = unsent chunks
`_maybe_abandon` pulled over; `k2` = abandoned chunks popped by `_update_advanced_peer_ack_point` -/
def SackFx (b : Int) (k f : Nat) (t t' : Tx) (gaps : List (Nat × Nat)) : Prop :=
  ∃ hna front moved k2, t'.sentQ = (front ++ moved).drop k2 ∧ t'.outQ.length + moved.length = t.outQ.length
    ∧ PW (SR (seenOf (T b k) gaps (t.sentQ.drop (k - f))) hna) (t.sentQ.drop (k - f)) front
    ∧ ((front = t.sentQ.drop (k - f) ∧ moved = [])
       ∨ (∃ q, q < 2147483648 ∧ hna = T b q ∧ T b q ∈ seenOf (T b k) gaps (t.sentQ.drop (k - f))
            ∧ LexLt (t.sentQ.drop (k - f)) front))

/-- on reliable traffic: nothing is moved or popped, `front` is the closed form `sackList` -/
theorem SackShape.fx {b : Int} {a k : Nat} {t t' : Tx} {gaps : List (Nat × Nat)} (hs : SackShape t t' (T b k) gaps)
    (h : TxSeq b a t) (h1 : a ≤ k) (h2 : k ≤ a + t.sentQ.length) : SackFx b k a t t' gaps := by
  obtain ⟨l, hq, hl, hseq, hlen⟩ := h.acked h1 h2
  have hb := h.bound
  obtain ⟨hna, hpw, hcase⟩ := sackList_sr hseq (by omega) gaps
  rw [hl] at hpw hcase
  refine ⟨hna, _, [], 0, by rw [hs.sentQ, hq, hl, List.append_nil]; rfl, by rw [hs.outQ]; rfl, hpw,
    hcase.imp (fun e => ⟨e, rfl⟩) id⟩

/-- **one honest SACK, sender side**: `P` holds of the TSNs that were safe before the SACK, `Q` of those that are safe after
it, everything the SACK covers being safe afterwards.  Either no flag of the chunks that stay outstanding changes, or
the weights strictly decrease. -/
theorem usum_sackF {b : Int} {k f : Nat} {t t' : Tx} {gaps : List (Nat × Nat)} (hseq : Seq b f t.sentQ)
    (hlt : f + t.sentQ.length < 2147483648) (hk : k ≤ f + t.sentQ.length) (hfx : SackFx b k f t t' gaps) (P Q : Int → Prop)
    (hPQ : ∀ c ∈ t.sentQ, P c.tsn → Q c.tsn)
    (hP : ∀ c ∈ t.sentQ, P c.tsn → Below (T b k, gaps) c.tsn → Cov (T b k, gaps) c.tsn)
    (hQ : ∀ j, j ≤ f + t.sentQ.length → Cov (T b k, gaps) (T b j) → Q (T b j)) :
    (t'.flags ≤ t.flags ∧ usum Q t'.sentQ + 2 * t'.outQ.length ≤ usum P t.sentQ + 2 * t.outQ.length)
    ∨ usum Q t'.sentQ + 2 * t'.outQ.length + 1 ≤ usum P t.sentQ + 2 * t.outQ.length := by
  obtain ⟨hna, front, moved, k2, p1, p4, p5, pcase⟩ := hfx
  obtain ⟨hsd, hlen⟩ := hseq.drop_max hk
  have hlenl : max k f + (t.sentQ.drop (k - f)).length < 2147483648 := hlen ▸ hlt
  have hsub : ∀ c ∈ t.sentQ.drop (k - f), c ∈ t.sentQ := fun c hc => List.mem_of_mem_drop hc
  have hQ' : ∀ c ∈ t.sentQ.drop (k - f), Cov (T b k, gaps) c.tsn → Q c.tsn := by
    intro c hc hcov
    obtain ⟨j, _, j2, j3⟩ := Seq.mem hsd hc
    rw [j3] at hcov ⊢
    exact hQ j (hlen ▸ j2) hcov
  have hsr := fun q hcase => usum_srP (q := q) ⟨hsd, Nat.le_max_left k f, hlenl⟩ gaps _ p5 hcase P Q
    (fun c hc => hPQ c (hsub c hc)) (fun c hc => hP c (hsub c hc)) hQ'
  have hda := usum_drop_append Q front moved k2
  rw [← p1] at hda
  have hdrop := usum_drop P t.sentQ (k - f)
  rcases pcase with ⟨pf, pm⟩ | ⟨q, q2, q3, q4, q5⟩
  · left
    refine ⟨?_, sack_arith (e := 0) hda (hsr 0 (Or.inl pf)).1 hdrop p4⟩
    unfold Tx.flags
    rw [p1, pf, pm, List.append_nil, List.drop_drop]
    rw [pm] at p4
    exact Nat.add_le_add (flagCount_drop t.sentQ (k - f + k2)) (Nat.le_of_eq p4)
  · right
    rcases (hsr q (Or.inr ⟨q2, q3, q4, q5⟩)).2 with he | hlt'
    · rw [he] at q5
      exact absurd (psi_lt_of_lex 0 q5) (Nat.lt_irrefl _)
    · exact sack_arith hda hlt' hdrop p4

/-- **the head SACK is processed** and the sender transmits: the budget pays for what is emitted; `h` old SACKs before, `h - 1`
after (an honest one, `h = 0`, strikes only where it lowers the weights) -/
theorem pot2_sack {b : Int} {k f h : Nat} {t t' : Tx} {rx : Rx} {gaps : List (Nat × Nat)}
    {rest : List (Int × List (Nat × Nat))} (hseq : Seq b f t.sentQ) (hlt : f + t.sentQ.length < 2147483648)
    (hk : k ≤ f + t.sentQ.length) (hfx : SackFx b k f t t' gaps) (ho : ∀ c ∈ t'.outQ, Idle c) (hN : t'.nOut ≤ t.nOut)
    (hch : Chain b rx (((T b k, gaps) :: rest).drop h)) :
    (dataOf t'.transmit.2).length + pot2Of t'.transmit.1 rx rest (h - 1) ≤ pot2Of t rx ((T b k, gaps) :: rest) h := by
  obtain ⟨hfl, hn2, hu2⟩ := transmit_weights t' ho (SafeOf rx rest)
  have hN2 : t'.transmit.1.nOut ≤ t.nOut := Nat.le_trans (Nat.le_of_eq hn2) hN
  -- what `_transmit` emits was marked; at most every outstanding chunk is
  have hB : (dataOf t'.transmit.2).length + t'.transmit.1.flags ≤ t'.transmit.1.nOut :=
    Nat.le_trans (Nat.le_of_eq hfl) (Nat.le_trans (flags_le t') (Nat.le_of_eq hn2.symm))
  unfold pot2Of
  rw [← Nat.add_assoc]
  by_cases h0 : h = 0
  · subst h0
    have hcases := usum_sackF hseq hlt hk hfx (SafeOf rx ((T b k, gaps) :: rest)) (SafeOf rx rest)
      (fun c _ hs => ⟨hs.1, fun σ hσ => hs.2 σ (List.mem_cons_of_mem _ hσ)⟩)
      (fun c _ hsafe => hsafe.2 _ List.mem_cons_self)
      (fun j hj hcov => hch.1 j (Nat.lt_of_le_of_lt hj hlt) hcov)
    unfold budget
    rw [if_pos rfl, if_pos rfl]
    rcases hcases with ⟨hflag, hU⟩ | hU
    · exact pot_mono (Nat.le_trans (Nat.le_of_eq hfl) hflag) hN2 (Nat.le_trans hu2 hU)
    · exact hon_pot_strict hB hN2 (Nat.le_trans (Nat.succ_le_succ hu2) hU)
  · exact hon_pot_strict hB hN2 (budget_pop_old h0 hN2)

end Aiortc.Sctp
