import Aiortc.Model.Sctp.Endpoint
import Aiortc.Lemmas.SctpRx.Walk
/-!
# SACK generation (C02 (e)): the gap blocks of `_send_sack` describe exactly the misordered set
-/
namespace Aiortc.Sctp
open Aiortc.Gen

/-- the gap blocks `_send_sack` puts into the SACK (the `gaps` of `sendSack` in `Model/Sctp/Endpoint.lean`) -/
def sackGapBlocks (rx : Rx) : List (Nat × Nat) := sendSack.build rx none [] (sortByKey rx.last rx.mis)

/-- offset of a TSN from the cumulative TSN, as written into a gap block -/
def Rx.off (rx : Rx) (t : Int) : Nat := ((t - rx.last) % 4294967296).toNat

def Covered (gaps : List (Nat × Nat)) (k : Nat) : Prop := ∃ g ∈ gaps, g.1 ≤ k ∧ k ≤ g.2

/-- number of gap blocks a list of offsets needs when the previous offset was `prev` -/
def newRuns : Option Nat → List Nat → Nat
  | _, [] => 0
  | prev, p :: ps => (if prev = some (p - 1) ∧ 0 < p then 0 else 1) + newRuns (some p) ps

theorem sack_max_entries_const : SACK_MAX_ENTRIES = 296 := by decide

theorem build_nil (rx : Rx) (g : Option Int) (acc : List (Nat × Nat)) : sendSack.build rx g acc [] = acc := by
  unfold sendSack.build; rfl

theorem build_cons (rx : Rx) (g : Option Int) (acc : List (Nat × Nat)) (t : Int) (ts : List Int) :
    sendSack.build rx g acc (t :: ts) =
      if rx.off t > 65535 then acc
      else if g = some t then
        sendSack.build rx (some (tsn_plus_one t))
          (match acc.reverse with
           | (a, _) :: r => r.reverse ++ [(a, rx.off t)]
           | [] => [(rx.off t, rx.off t)]) ts
      else if acc.length = SACK_MAX_ENTRIES then acc
      else sendSack.build rx (some (tsn_plus_one t)) (acc ++ [(rx.off t, rx.off t)]) ts := by
  conv => lhs; unfold sendSack.build
  rfl

theorem covered_append (a b : List (Nat × Nat)) (k : Nat) : Covered (a ++ b) k ↔ Covered a k ∨ Covered b k := by
  simp only [Covered, List.mem_append]
  constructor
  · rintro ⟨g, hg | hg, h⟩
    · exact Or.inl ⟨g, hg, h⟩
    · exact Or.inr ⟨g, hg, h⟩
  · rintro (⟨g, hg, h⟩ | ⟨g, hg, h⟩)
    · exact ⟨g, Or.inl hg, h⟩
    · exact ⟨g, Or.inr hg, h⟩

theorem covered_single (a b k : Nat) : Covered [(a, b)] k ↔ a ≤ k ∧ k ≤ b := by
  simp [Covered]

/-- state of the block builder: nothing yet, or a last block `(a, b)` that the TSN at offset `b + 1` would extend -/
def BuildSt (rx : Rx) (g : Option Int) (acc : List (Nat × Nat)) (prev : Option Nat) : Prop :=
  (acc = [] ∧ g = none ∧ prev = none)
  ∨ ∃ (r : List (Nat × Nat)) (a b : Nat), acc = r ++ [(a, b)] ∧ a ≤ b ∧ b ≤ 65535 ∧ g = some ((rx.last + (b : Int) + 1) % 4294967296) ∧ prev = some b

def IncFrom (rx : Rx) : Option Nat → List Int → Prop
  | _, [] => True
  | prev, t :: ts => (∀ b, prev = some b → b < rx.off t) ∧ 1 ≤ rx.off t ∧ R32 t ∧ IncFrom rx (some (rx.off t)) ts

theorem off_cast (rx : Rx) (t : Int) : (rx.off t : Int) = serialKey rx.last t :=
  Int.toNat_of_nonneg (serialKey_range rx.last t).1

theorem off_eq (rx : Rx) (t : Int) (ht : R32 t) :
    t = (rx.last + (rx.off t : Int)) % 4294967296 := by
  rw [off_cast, serialKey_inv _ ht]

theorem tsn_plus_one_off (rx : Rx) (t : Int) :
    tsn_plus_one t = (rx.last + (rx.off t : Int) + 1) % 4294967296 := by
  unfold tsn_plus_one Rx.off
  rw [Int.toNat_of_nonneg (Int.emod_nonneg _ (by decide)), Int.add_comm rx.last, Int.add_assoc, Int.emod_add_emod]
  congr 1; omega

theorem next_iff_off (rx : Rx) (t : Int) (b : Nat) (ht : R32 t) (hb : b ≤ 65535) :
    (rx.last + (b : Int) + 1) % 4294967296 = t ↔ rx.off t = b + 1 := by
  constructor
  · rintro rfl
    unfold Rx.off
    rw [Int.emod_sub_emod, show rx.last + (b : Int) + 1 - rx.last = ((b + 1 : Nat) : Int) by omega,
      Int.emod_eq_of_lt (Int.natCast_nonneg _) (by omega), Int.toNat_natCast]
  · intro h
    rw [off_eq rx t ht, h]
    congr 1; omega

theorem covered_snoc (acc : List (Nat × Nat)) (o k : Nat) : Covered (acc ++ [(o, o)]) k ↔ Covered acc k ∨ o = k := by
  have : (o ≤ k ∧ k ≤ o) ↔ o = k := by omega
  rw [covered_append, covered_single, this]

theorem covered_extend (r : List (Nat × Nat)) (a b k : Nat) (hab : a ≤ b) :
    Covered (r ++ [(a, b + 1)]) k ↔ Covered (r ++ [(a, b)]) k ∨ b + 1 = k := by
  have : (a ≤ k ∧ k ≤ b + 1) ↔ (a ≤ k ∧ k ≤ b) ∨ b + 1 = k := by omega
  rw [covered_append, covered_append, covered_single, covered_single, this, or_assoc]

/-- One TSN goes through the builder: the builder stops (offset beyond 16 bits, or a new block is needed and there is no
room), or the TSN extends the last block / opens a new one and exactly its offset joins what is covered. -/
theorem build_one (rx : Rx) (t : Int) (ts : List Int) (g : Option Int) (acc : List (Nat × Nat)) (prev : Option Nat)
    (hst : BuildSt rx g acc prev) (hprev : ∀ b, prev = some b → b < rx.off t) (ht : R32 t) :
    (sendSack.build rx g acc (t :: ts) = acc
        ∧ (65535 < rx.off t ∨ (¬ (prev = some (rx.off t - 1) ∧ 0 < rx.off t) ∧ acc.length = SACK_MAX_ENTRIES)))
    ∨ ∃ acc', sendSack.build rx g acc (t :: ts) = sendSack.build rx (some (tsn_plus_one t)) acc' ts
      ∧ BuildSt rx (some (tsn_plus_one t)) acc' (some (rx.off t))
      ∧ acc'.length = acc.length + (if prev = some (rx.off t - 1) ∧ 0 < rx.off t then 0 else 1)
      ∧ ∀ k, Covered acc' k ↔ Covered acc k ∨ rx.off t = k := by
  rw [build_cons]
  by_cases hle : 65535 < rx.off t
  · exact Or.inl ⟨if_pos hle, Or.inl hle⟩
  rw [if_neg hle]
  have hnext : ∀ r a, a ≤ rx.off t → BuildSt rx (some (tsn_plus_one t)) (r ++ [(a, rx.off t)]) (some (rx.off t)) :=
    fun r a ha => Or.inr ⟨r, a, rx.off t, rfl, ha, by omega, by rw [tsn_plus_one_off rx t], rfl⟩
  rcases hst with ⟨rfl, rfl, rfl⟩ | ⟨r, a, b, rfl, hab, hb, rfl, rfl⟩
  · refine Or.inr ⟨[(rx.off t, rx.off t)], ?_, hnext [] _ (Nat.le_refl _), by simp, covered_snoc [] _⟩
    rw [if_neg (by simp), if_neg (by rw [sack_max_entries_const]; simp)]; rfl
  · have hbt := hprev b rfl
    by_cases hext : rx.off t = b + 1
    · refine Or.inr ⟨r ++ [(a, rx.off t)], ?_, hnext r a (by omega), ?_, ?_⟩
      · rw [if_pos (congrArg some ((next_iff_off rx t b ht hb).mpr hext))]; simp
      · rw [if_pos ⟨by rw [hext]; rfl, by omega⟩]; simp
      · intro k; rw [hext]; exact covered_extend r a b k hab
    · have hr1 : ¬ (some b = some (rx.off t - 1) ∧ 0 < rx.off t) := by
        intro h; have := Option.some.inj h.1; omega
      rw [if_neg (fun h => hext ((next_iff_off rx t b ht hb).mp (Option.some.inj h)))]
      by_cases hfull : (r ++ [(a, b)]).length = SACK_MAX_ENTRIES
      · exact Or.inl ⟨if_pos hfull, Or.inr ⟨hr1, hfull⟩⟩
      · rw [if_neg hfull, if_neg hr1]
        exact Or.inr ⟨r ++ [(a, b)] ++ [(rx.off t, rx.off t)], rfl, hnext _ _ (Nat.le_refl _), by simp, covered_snoc _ _⟩

theorem build_cover (rx : Rx) : ∀ (ts : List Int) (g : Option Int) (acc : List (Nat × Nat))
    (prev : Option Nat), BuildSt rx g acc prev → IncFrom rx prev ts → (∀ t ∈ ts, rx.off t ≤ 65535) →
    acc.length + newRuns prev (ts.map rx.off) ≤ SACK_MAX_ENTRIES →
    ∀ k, Covered (sendSack.build rx g acc ts) k ↔ Covered acc k ∨ ∃ t ∈ ts, rx.off t = k := by
  intro ts
  induction ts with
  | nil => intro g acc prev _ _ _ _ k; simp [build_nil]
  | cons t ts ih =>
    intro g acc prev hst ⟨hprev, _, ht32, hinc'⟩ hle hruns k
    simp only [List.map_cons, newRuns] at hruns
    have := hle t (by simp)
    rcases build_one rx t ts g acc prev hst hprev ht32 with ⟨_, h | h⟩ | ⟨acc', he, hst', hlen, hcov⟩
    · omega
    · rw [if_neg h.1] at hruns; omega
    · rw [he, ih _ acc' _ hst' hinc' (fun x hx => hle x (by simp [hx])) (by omega) k, hcov k, or_assoc]
      simp only [List.mem_cons, exists_eq_or_imp]

theorem build_prefix (rx : Rx) : ∀ (ts : List Int) (g : Option Int) (acc : List (Nat × Nat)) (prev : Option Nat),
    BuildSt rx g acc prev → IncFrom rx prev ts →
    ∃ n, ∀ k, Covered (sendSack.build rx g acc ts) k ↔ Covered acc k ∨ ∃ t ∈ ts.take n, rx.off t = k := by
  intro ts
  induction ts with
  | nil => intro g acc prev _ _; exact ⟨0, fun k => by simp [build_nil]⟩
  | cons t ts ih =>
    intro g acc prev hst ⟨hprev, _, ht32, hinc'⟩
    rcases build_one rx t ts g acc prev hst hprev ht32 with ⟨he, _⟩ | ⟨acc', he, hst', _, hcov⟩
    · exact ⟨0, fun k => by simp [he]⟩
    · obtain ⟨n, hn⟩ := ih _ acc' _ hst' hinc'
      exact ⟨n + 1, fun k => by
        rw [he, hn k, hcov k, or_assoc]; simp only [List.take_succ_cons, List.mem_cons, exists_eq_or_imp]⟩

theorem incFrom_of_sorted (rx : Rx) : ∀ (ts : List Int) (prev : Option Nat),
    (∀ t ∈ ts, R32 t ∧ 1 ≤ rx.off t) → (∀ b, prev = some b → ∀ t ∈ ts, b < rx.off t) →
    KeySorted rx.last ts → IncFrom rx prev ts := by
  intro ts
  induction ts with
  | nil => intro _ _ _ _; trivial
  | cons t ts ih =>
    intro prev h1 h2 h3
    have ht := h1 t (by simp)
    refine ⟨fun b hb => h2 b hb t (by simp), ht.2, ht.1, ?_⟩
    refine ih (some (rx.off t)) (fun x hx => h1 x (by simp [hx])) ?_ (List.pairwise_cons.mp h3).2
    intro b hb x hx
    cases hb
    have := (List.pairwise_cons.mp h3).1 x hx
    rw [← off_cast, ← off_cast] at this
    exact Int.ofNat_lt.mp this

/-- **(e) The gap blocks of a SACK describe exactly the misordered set**: an offset lies in one of the blocks iff
it is the offset of a TSN in `_sack_misordered` — provided the offsets fit the 16-bit fields (≤ 65535) and no
more than `SACK_MAX_ENTRIES` (= 296) blocks are needed. -/
theorem sack_gaps_exact (rx : Rx) (hmis : ∀ t ∈ rx.mis, R32 t ∧ 1 ≤ rx.off t ∧ rx.off t ≤ 65535) (hnd : rx.mis.Nodup)
    (hruns : newRuns none ((sortByKey rx.last rx.mis).map rx.off) ≤ 296) :
    ∀ k, Covered (sackGapBlocks rx) k ↔ ∃ t ∈ rx.mis, rx.off t = k := by
  intro k
  have hm : ∀ {t}, t ∈ sortByKey rx.last rx.mis → t ∈ rx.mis := (mem_sortByKey _ _ _).mp
  have hinc := incFrom_of_sorted rx (sortByKey rx.last rx.mis) none (fun t ht => ⟨(hmis t (hm ht)).1, (hmis t (hm ht)).2.1⟩)
    (by intro b hb; cases hb) (sortByKey_sorted_of_nodup rx.last rx.mis (fun t ht => (hmis t ht).1) hnd)
  rw [sackGapBlocks, build_cover rx _ none [] none (Or.inl ⟨rfl, rfl, rfl⟩) hinc (fun t ht => (hmis t (hm ht)).2.2)
    (by simpa [sack_max_entries_const] using hruns) k]
  simp only [Covered, List.not_mem_nil, false_and, exists_false, false_or, mem_sortByKey]

/-! ## the sender's reading of the gap blocks -/

/-- `seen` of `_receive_sack_chunk`: a TSN is in it iff it is `cum + k` for an offset `k` of some block, clipped
to the highest outstanding TSN -/
theorem mem_gapSeen (cum : Int) (limit : Nat) (gaps : List (Nat × Nat)) (t : Int) :
    t ∈ (gapSeen cum limit gaps).1 ↔
      ∃ g ∈ gaps, ∃ k, g.1 ≤ k ∧ k ≤ min g.2 limit ∧ t = (cum + (k : Int)) % 4294967296 := by
  simp only [gapSeen, List.mem_flatMap, List.mem_map, List.mem_range]
  constructor
  · rintro ⟨g, hg, i, hi, rfl⟩
    exact ⟨g, hg, g.1 + i, by omega, by omega, rfl⟩
  · rintro ⟨g, hg, k, h1, h2, rfl⟩
    exact ⟨g, hg, k - g.1, by omega, by congr 3; omega⟩

end Aiortc.Sctp
