import Aiortc.Lemmas.C02.DrainPRSeq
/-!
# Only partially reliable messages are ever abandoned (C02 drain)

`_maybe_abandon` walks from the chunk that exceeded its limits backwards to the FIRST fragment and forwards to the LAST
fragment of the same message.  `Wf l`: the queue `sentQ ++ outQ` is made of whole messages (possibly without the leading
fragments of the first one): two adjacent chunks of which the first is not a LAST fragment or the second is not a FIRST
fragment have the same reliability parameters, and the last chunk is a LAST fragment.  Under `Wf`, every chunk that
`_maybe_abandon` marks has the parameters of the chunk that exceeded its limits, hence is not reliable: `AbU` (abandoned ⇒
has `max_retransmits` or a lifetime) is an invariant (`maybeAbandon_aw`, `strikeLoop_aw`, `t3Mark_aw`).
-/
namespace Aiortc.Sctp
open Aiortc.Gen

/-- the chunk has `max_retransmits` or a lifetime -/
def SChunk.Unrel (c : SChunk) : Prop := ¬ (c.maxRetransmits = none ∧ c.expiry = none)

/-- same reliability parameters (`max_retransmits`, lifetime) -/
def Lim (c d : SChunk) : Prop := d.maxRetransmits = c.maxRetransmits ∧ d.expiry = c.expiry

theorem Lim.unrel {c d : SChunk} (h : Lim c d) (hc : c.Unrel) : d.Unrel := by
  unfold SChunk.Unrel at *; rw [h.1, h.2]; exact hc

theorem Lim.symm {c d : SChunk} (h : Lim c d) : Lim d c := ⟨h.1.symm, h.2.symm⟩

theorem SameT.lim {c d : SChunk} (h : SameT c d) : Lim c d := ⟨h.2.1, h.2.2.1⟩

theorem shouldAbandon_unrel {c : SChunk} {now : Int} (h : shouldAbandon c now = true) : c.Unrel := by
  intro hr
  unfold shouldAbandon at h
  rw [hr.1, hr.2] at h
  simp at h

/-- `c` directly before `d` in a queue: unless `c` ends a message and `d` begins one, they are fragments of one message and share
their parameters -/
def Adj (c d : SChunk) : Prop := (flagE c.flags = false ∨ flagB d.flags = false) → Lim c d

def AdjChain : List SChunk → Prop
  | [] => True
  | [_] => True
  | c :: d :: rest => Adj c d ∧ AdjChain (d :: rest)

def Wf (l : List SChunk) : Prop := AdjChain l ∧ ∀ c, l.getLast? = some c → flagE c.flags = true

def AbU (l : List SChunk) : Prop := ∀ c ∈ l, c.abandoned = true → c.Unrel

theorem Adj.sameT {c d c' d' : SChunk} (h : Adj c d) (h1 : SameT c c') (h2 : SameT d d') : Adj c' d' := by
  intro hp
  rw [h1.2.2.2, h2.2.2.2] at hp
  have := h hp
  exact ⟨by rw [h2.2.1, this.1, h1.2.1], by rw [h2.2.2.1, this.2, h1.2.2.1]⟩

theorem adjChain_iff : ∀ {l : List SChunk}, AdjChain l ↔ l.Adjacent Adj
  | [] => Iff.rfl
  | [_] => Iff.rfl
  | _ :: d :: l => and_congr_right fun _ => adjChain_iff (l := d :: l)

theorem adjChain_cons {c : SChunk} {l : List SChunk} :
    AdjChain (c :: l) ↔ (∀ d, l.head? = some d → Adj c d) ∧ AdjChain l := by
  rw [adjChain_iff, adjChain_iff, List.adjacent_cons]

theorem adjChain_append {a b : List SChunk} :
    AdjChain (a ++ b) ↔ AdjChain a ∧ AdjChain b ∧ ∀ x y, a.getLast? = some x → b.head? = some y → Adj x y := by
  rw [adjChain_iff, adjChain_iff, adjChain_iff, List.adjacent_append]

theorem AdjChain.append : ∀ (a b : List SChunk), AdjChain a → AdjChain b →
    (∀ x y, a.getLast? = some x → b.head? = some y → Adj x y) → AdjChain (a ++ b) :=
  fun _ _ ha hb h => adjChain_append.mpr ⟨ha, hb, h⟩

theorem AdjChain.prefix (a b : List SChunk) (h : AdjChain (a ++ b)) : AdjChain a := (adjChain_append.mp h).1

theorem AdjChain.drop (k : Nat) {l : List SChunk} (h : AdjChain l) : AdjChain (l.drop k) :=
  (adjChain_append.mp (show AdjChain (l.take k ++ l.drop k) by rw [List.take_append_drop]; exact h)).2.1

theorem AdjChain.pwT {l l' : List SChunk} (h : PW SameT l l') : AdjChain l → AdjChain l' := by
  refine PW.induction (motive := fun l l' => AdjChain l → AdjChain l') id (fun {c c' cs cs'} h1 h2 ih hc => ?_) h
  rw [adjChain_cons] at hc ⊢
  refine ⟨fun d' hd' => ?_, ih hc.2⟩
  rw [List.head?_eq_getElem?] at hd'
  obtain ⟨d, hd, hr⟩ := PW.getElem?_right h2 0 d' hd'
  exact (hc.1 d (by rw [List.head?_eq_getElem?]; exact hd)).sameT h1 hr

theorem Wf.pwT {l l' : List SChunk} (h : PW SameT l l') (hw : Wf l) : Wf l' := by
  refine ⟨AdjChain.pwT h hw.1, ?_⟩
  intro d hd
  obtain ⟨c, hc, hr⟩ := PW.getLast? h d hd
  rw [hr.2.2.2]; exact hw.2 c hc

theorem Wf.drop (k : Nat) {l : List SChunk} (h : Wf l) : Wf (l.drop k) := by
  refine ⟨h.1.drop k, ?_⟩
  intro c hc
  rcases Nat.lt_or_ge k l.length with hlt | hge
  · rw [List.getLast?_drop, if_neg (Nat.not_le.mpr hlt)] at hc
    exact h.2 c hc
  · rw [List.drop_eq_nil_of_le hge] at hc; cases hc

theorem AdjChain.msgConst {l : List SChunk} (h : AdjChain l) : MsgConst (fun c => (c.maxRetransmits, c.expiry)) l :=
  (adjChain_iff.mp h).mono fun _ _ hadj hb => Prod.ext (hadj hb).1 (hadj hb).2

/-- `AbU` of the sent queue and `Wf` of both queues: under it `_maybe_abandon` abandons only partially reliable chunks -/
structure AW (t : Tx) : Prop where
  abu : AbU t.sentQ
  wf : Wf (t.sentQ ++ t.outQ)

/-- what `_maybe_abandon` marks or moves belongs to the message of a chunk that exceeded its limits, so it is partially reliable -/
theorem AbLink.unrel {t : Tx} {now : Int} {c : SChunk} (h : AW t) (hl : AbLink t now c) : c.Unrel := by
  obtain ⟨x, -, hx, key⟩ := hl
  have hk := key _ h.wf.1.msgConst
  exact Lim.unrel ⟨congrArg Prod.fst hk, congrArg Prod.snd hk⟩ (shouldAbandon_unrel hx)

theorem maybeAbandon_abu (t : Tx) (pos : Nat) (now : Int) (h : AW t) : AbU (t.maybeAbandon pos now).2.sentQ :=
  (maybeAbandon_all (P := fun c => c.abandoned = true → c.Unrel) (Q := fun _ => True) t pos now
    (fun c hl _ _ => AbLink.unrel (c := c) h hl) (fun c hl _ _ => AbLink.unrel (c := c) h hl) h.abu (fun _ _ => trivial)).1

theorem maybeAbandon_aw (t : Tx) (pos : Nat) (now : Int) (h : AW t) : AW (t.maybeAbandon pos now).2 :=
  ⟨maybeAbandon_abu t pos now h,
   Wf.pwT ((maybeAbandon_parts t pos now).concat (fun _ _ x => x.sameT)).1 h.wf⟩

/-- identity and `abandoned` kept: what the loops do to a chunk outside `_maybe_abandon` -/
def Keeps (c d : SChunk) : Prop := SameT c d ∧ d.abandoned = c.abandoned

theorem Keeps.refl (c : SChunk) : Keeps c c := ⟨SameT.refl c, rfl⟩

theorem AbU.keeps {l l' : List SChunk} (hpw : PW Keeps l l') (h : AbU l) : AbU l' :=
  PW.forall (P := fun c : SChunk => c.abandoned = true → c.Unrel) (fun _ _ hr hc hab => hr.1.lim.unrel (hc (hr.2 ▸ hab))) hpw h

theorem AW.of_keeps {t t' : Tx} (h : AW t) (hpw : PW Keeps t.sentQ t'.sentQ) (ho : t'.outQ = t.outQ) : AW t' :=
  ⟨h.abu.keeps hpw, by rw [ho]; exact h.wf.pwT (PW.append (PW.mono (fun _ _ x => x.1) hpw) (PW.refl SameT.refl _))⟩

theorem AW.modify {t : Tx} (h : AW t) (pos : Nat) (g : SChunk → SChunk) (hg : ∀ c, Keeps c (g c)) :
    AW { t with sentQ := t.sentQ.modify pos g } :=
  h.of_keeps (t' := { t with sentQ := t.sentQ.modify pos g }) (PW.modify Keeps.refl g hg _ _) rfl

theorem Bk.keeps {c d : SChunk} (h : Bk c d) : Keeps c d := ⟨h.sameT, h.2.2.2⟩

theorem hitMark_keeps (ab : Bool) (c : SChunk) : Keeps c (hitMark ab c) := (hitMark_bk ab c).keeps

theorem hitBody_aw (t : Tx) (pos : Nat) (now : Int) (h : AW t) : AW (hitBody t pos now) :=
  (maybeAbandon_aw t pos now h).modify pos _ (hitMark_keeps _)

theorem strikeHit_aw (t : Tx) (pos : Nat) (c : SChunk) (now : Int) (h : AW t) : AW (strikeHit t pos c now) := by
  have h1 : AW { t with sentQ := t.sentQ.modify pos fun d => { d with misses := 0 } } :=
    h.modify pos _ (fun _ => ⟨⟨rfl, rfl, rfl, rfl⟩, rfl⟩)
  have h2 := hitBody_aw _ pos now h1
  exact ⟨h2.abu, h2.wf⟩

theorem strikeLoop_aw (seen : List Int) (hna now : Int) (fuel pos : Nat) (t : Tx) (loss : Bool) (h : AW t) :
    AW (strikeLoop seen hna now fuel pos t loss).1 :=
  strikeLoop_keeps seen hna now (fun t pos c _ h => strikeHit_aw t pos c now h)
    (fun _ pos _ h => h.modify pos _ (fun _ => ⟨⟨rfl, rfl, rfl, rfl⟩, rfl⟩)) fuel pos t loss h

theorem t3Mark_aw (now : Int) (fuel pos : Nat) (t : Tx) (h : AW t) : AW (t3Mark now fuel pos t) :=
  t3Mark_keeps now (fun t pos h => hitBody_aw t pos now h) fuel pos t h

end Aiortc.Sctp
