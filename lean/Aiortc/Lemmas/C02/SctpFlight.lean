import Aiortc.Lemmas.SctpTx.Basic
import Aiortc.Lemmas.SctpTx.Ack
import Aiortc.Lemmas.SctpTx.Transmit
import Aiortc.Lemmas.SctpTx.Frag
/-!
# Flight-size accounting of the SCTP sender (C02, theorem group (a))

`flightSum l` is the number of bytes the chunks of a queue are *counted* in flight (ghost flag
`inFlight` = the `_in_flight` attribute of a chunk, in aiortc since commit 5893491).  The invariant `FlightInv` says that
`_flight_size` is exactly that sum over `_sent_queue`; this file proves it for the straight-line
operations (`enqueue`, `transmit`, the cumulative-ack loop and the HTNA loop); the operations that
go through `_maybe_abandon` are in `SctpLoops.lean` and `SctpOps.lean`.  `transmit_facts` collects what `_transmit` does to the
queues, the counter, T3 and the events; the timer argument (`SctpTimer.lean`) uses it too.
-/
namespace Aiortc.Sctp
open Aiortc.Gen

/-- a chunk that was never transmitted (what `_send` creates) -/
def Idle (c : SChunk) : Prop := c.inFlight = false ∧ c.retransmit = false ∧ c.abandoned = false

def AbOk (c : SChunk) : Prop := c.abandoned = true → c.inFlight = false ∧ c.retransmit = false

theorem Idle.abOk {c : SChunk} (h : Idle c) : AbOk c := by
  intro ha; have := h.2.2; simp_all

structure FlightInv (t : Tx) : Prop where
  flight : t.flight = flightSum t.sentQ
  outQ : ∀ c ∈ t.outQ, Idle c
  sentQ : ∀ c ∈ t.sentQ, AbOk c

/-- "balance": the change of the counter equals the change of the sum (no truncation happened). -/
def Bal (fl : Nat) (l : List SChunk) (fl' : Nat) (l' : List SChunk) : Prop :=
  flightSum l ≤ fl → fl' + flightSum l = fl + flightSum l'

theorem Bal.refl (fl : Nat) (l : List SChunk) : Bal fl l fl l := fun _ => rfl
theorem Bal.le {fl l fl' l'} (h : Bal fl l fl' l') (hl : flightSum l ≤ fl) : flightSum l' ≤ fl' := by
  have := h hl; omega
theorem Bal.trans {fl l fl' l' fl'' l''} (h1 : Bal fl l fl' l') (h2 : Bal fl' l' fl'' l'') : Bal fl l fl'' l'' := by
  intro hl; have a := h1 hl; have b := h2 (h1.le hl); omega
theorem Bal.eq {fl l fl' l'} (h : Bal fl l fl' l') (he : fl = flightSum l) : fl' = flightSum l' := by
  have := h (by omega); omega

theorem Bal.cons {fl fl' : Nat} {cs cs' : List SChunk} (c : SChunk) (h : Bal fl cs fl' cs') :
    Bal fl (c :: cs) fl' (c :: cs') := by
  intro hl
  simp only [flightSum_cons] at hl ⊢
  have := h (by omega)
  omega

/-! ## `_send` -/

theorem fragments_idle (tsn : Int) (sid : Nat) (ssn : Int) (ppid : Nat) (ordered : Bool) (e m : Option Int)
    (n : Nat) (data : Bytes) (k : Nat) : ∀ c ∈ fragments tsn sid ssn ppid ordered e m n data k, Idle c := by
  intro c hc
  obtain ⟨j, -, rfl⟩ := mem_fragments hc
  exact ⟨rfl, rfl, rfl⟩

theorem FlightInv.enqueue {t : Tx} (h : FlightInv t) (sid ppid : Nat) (data : Bytes) (e m : Option Int) (o : Bool) :
    FlightInv (t.enqueue sid ppid data e m o) := by
  refine ⟨h.flight, ?_, h.sentQ⟩
  intro c hc
  simp only [Tx.enqueue, List.mem_append] at hc
  rcases hc with hc | hc
  · exact h.outQ c hc
  · exact fragments_idle _ _ _ _ _ _ _ _ _ _ c hc

/-! ## `_transmit` -/

/-- what the retransmission pass may do to one chunk -/
def RtxRel (c d : SChunk) : Prop := d = c ∨ (c.retransmit = true ∧ d = rtxChunk c)

theorem RtxRel.refl (c : SChunk) : RtxRel c c := Or.inl rfl

theorem rtxStep_rel (c : SChunk) : RtxRel c (rtxStep c) := by
  unfold rtxStep; split
  · exact Or.inr ⟨‹_›, rfl⟩
  · exact Or.inl rfl

theorem flightSum_map_sent {f : SChunk → SChunk} (hf : ∀ c, (f c).w = c.bookSize) :
    ∀ p : List SChunk, flightSum (p.map f) = flightSum p + incSum p
  | [] => rfl
  | c :: p => by
    rw [List.map_cons, flightSum_cons, flightSum_cons, incSum_cons, flightSum_map_sent hf p, hf]
    unfold SChunk.w; split <;> omega

theorem RtxRel.abOk {c d : SChunk} (h : RtxRel c d) (hc : AbOk c) : AbOk d := by
  rcases h with rfl | ⟨hr, rfl⟩
  · exact hc
  · intro ha
    have := (hc ha).2
    rw [hr] at this; cases this

/-- the events of the retransmission pass of `_transmit` -/
def Tx.rtxEvs (t : Tx) : List TxEv := Sctp.rtxEvs true t.fwd.1.t3 (t.sentQ.take t.rtxN)

/-- the part of the state `_transmit` leaves alone: the six fields it may write are blanked, so `t'.ctl = t.ctl` says that every
other field is the same (`TransmitFacts.frame`; a single field is read off with `congrArg Tx.field`) -/
def Tx.ctl (t : Tx) : Tx :=
  { t with forwardTsn := none, flight := 0, t3 := false, fastRecoveryTransmit := false, sentQ := [], outQ := [] }

structure TransmitFacts (t : Tx) : Prop where
  frame : t.transmit.1.ctl = t.ctl
  fwdNone : t.transmit.1.forwardTsn = none
  shape : ∃ mid k, PW RtxRel t.sentQ mid ∧ t.transmit.1.sentQ = mid ++ (t.outQ.take k).map newChunk
      ∧ t.transmit.1.outQ = t.outQ.drop k ∧ (t.transmit.1.t3 = true ∨ (k = 0 ∧ t.transmit.1.t3 = t.rtxT3))
      ∧ t.transmit.1.flight + flightSum t.sentQ + flightSum (t.outQ.take k)
          = t.flight + flightSum mid + flightSum ((t.outQ.take k).map newChunk)
  mono : t.rtxT3 = true → t.transmit.1.t3 = true
  mono0 : t.t3 = true ∨ t.forwardTsn.isSome = true → t.rtxT3 = true
  evs : ∃ more, t.transmit.2 = t.fwd.2 ++ t.rtxEvs ++ more
  full : t.transmit.1.outQ = [] ∨ t.fwd.1.burstCwnd ≤ t.transmit.1.flight

theorem transmit_facts (t : Tx) : TransmitFacts t := by
  obtain ⟨_, hf2, hf3, _⟩ := fwd_fields t
  have hsq := List.take_append_drop t.rtxN t.sentQ
  have hmid : flightSum ((t.sentQ.take t.rtxN).map rtxStep ++ t.sentQ.drop t.rtxN)
      = flightSum t.sentQ + incSum ((t.sentQ.take t.rtxN).filter (·.retransmit)) := by
    rw [flightSum_append, flightSum_map_rtxStep, ← congrArg flightSum hsq, flightSum_append]; omega
  have hnew := flightSum_map_sent (f := newChunk) (fun _ => rfl) (t.outQ.take t.newN)
  refine ⟨?_, ?_, ⟨(t.sentQ.take t.rtxN).map rtxStep ++ t.sentQ.drop t.rtxN, t.newN,
    ?_, ?_, ?_, ?_, ?_⟩, ?_,
    fun h => ?_, ⟨newEvs t.rtxT3 (t.outQ.take t.newN), ?_⟩, ?_⟩
  · rw [transmit_closed]; rfl
  · rw [transmit_closed]
  · exact rtxPass_pw RtxRel.refl rtxStep_rel _ _
  · rw [transmit_closed]
  · rw [transmit_closed]
  · rw [transmit_closed]
    show (t.rtxT3 || !(t.outQ.take t.newN).isEmpty) = true ∨ _
    cases hk : t.outQ.take t.newN with
    | nil =>
      have hle : t.newN ≤ t.outQ.length := by
        unfold Tx.newN; split
        · exact Nat.zero_le _
        · exact newCount_le _ _ _ _
      have h0 : t.newN = 0 := by
        have := congrArg List.length hk
        rw [List.length_take, Nat.min_eq_left hle] at this; exact this
      exact Or.inr ⟨h0, by simp⟩
    | cons _ _ => exact Or.inl (by simp)
  · rw [transmit_closed]
    show t.rtxFl + _ + _ + _ = _
    unfold Tx.rtxFl; omega
  · rw [transmit_closed]
    intro h; show (t.rtxT3 || _) = true; rw [h]; rfl
  · show (t.fwd.1.t3 || _) = true
    rw [h.elim hf2 hf3]; rfl
  · rw [transmit_closed]; rfl
  · rw [transmit_closed]
    show t.outQ.drop t.newN = [] ∨ t.fwd.1.burstCwnd ≤ t.rtxFl + incSum (t.outQ.take t.newN)
    unfold Tx.newN
    split
    · exact Or.inr (Nat.le_trans (rtxCount_full _ _ _ _ ‹_›) (Nat.le_add_right _ _))
    · exact newCount_full _ _ _ _ (Nat.lt_succ_self _)

theorem FlightInv.transmit {t : Tx} (h : FlightInv t) : FlightInv t.transmit.1 := by
  obtain ⟨mid, k, hpw, hsq, hoq, _, hfl⟩ := (transmit_facts t).shape
  have hidle : ∀ c ∈ t.outQ.take k, Idle c := fun c hc => h.outQ c (List.mem_of_mem_take hc)
  refine ⟨?_, by rw [hoq]; exact fun c hc => h.outQ c (List.mem_of_mem_drop hc), ?_⟩
  · have := flightSum_eq_zero fun c hc => (hidle c hc).1
    have := h.flight
    rw [hsq, flightSum_append]; omega
  · intro d hd
    rw [hsq] at hd
    rcases List.mem_append.mp hd with hd | hd
    · exact PW.forall (P := AbOk) (fun _ _ => RtxRel.abOk) hpw h.sentQ d hd
    · obtain ⟨c, hc, rfl⟩ := List.mem_map.mp hd
      intro ha
      have : c.abandoned = true := ha
      rw [(hidle c hc).2.2] at this; cases this

/-! ## `_receive_sack_chunk`: cumulative-ack loop and HTNA loop -/

theorem ackLoop_spec (cum : Int) (l : List SChunk) (fl done db : Nat) :
    Bal fl l (ackLoop cum fl done db l).1 (ackLoop cum fl done db l).2.2.2
    ∧ (∃ k, (ackLoop cum fl done db l).2.2.2 = l.drop k ∧ (ackLoop cum fl done db l).2.1 = done + k)
    ∧ (∀ c, (ackLoop cum fl done db l).2.2.2.head? = some c → uint32_gte cum c.tsn = false)
    ∧ (ackLoop cum fl done db l).1 ≤ fl := by
  rw [ackLoop_eq]
  dsimp only
  refine ⟨fun hl => ?_, ⟨_, List.dropWhile_eq_drop _ l, rfl⟩, fun c hc => ?_, Nat.sub_le _ _⟩
  · have := congrArg flightSum (List.takeWhile_append_dropWhile (p := (uint32_gte cum ·.tsn)) (l := l))
    rw [flightSum_append] at this
    omega
  · have := List.head?_dropWhile_not (uint32_gte cum ·.tsn) l
    rw [show (l.dropWhile (uint32_gte cum ·.tsn)).head? = some c from hc] at this
    simpa using this

def HtnaRel (c d : SChunk) : Prop := d = c ∨ d = { c with acked := true, inFlight := false }

theorem HtnaRel.refl (c : SChunk) : HtnaRel c c := Or.inl rfl

theorem htnaChunk_rel (seen : List Int) (c : SChunk) : HtnaRel c (htnaChunk seen c) := by
  unfold htnaChunk; split
  · exact Or.inr rfl
  · exact Or.inl rfl

theorem htnaLoop_spec (seen : List Int) (hs : Int) (l acc : List SChunk) (fl db : Nat) (hna : Int) :
    ∃ l', (htnaLoop seen hs fl db hna acc l).2.2.2 = acc.reverse ++ l' ∧ PW HtnaRel l l'
      ∧ Bal fl l (htnaLoop seen hs fl db hna acc l).1 l' := by
  refine ⟨_, (htnaLoop_eq seen hs l acc fl db hna).1, htnaList_pw seen hs HtnaRel.refl (htnaChunk_rel seen) l, fun hl => ?_⟩
  rw [(htnaLoop_counts seen hs l acc fl db hna).1]
  have := flightSum_htnaList seen hs l
  omega

theorem HtnaRel.w_le {c d : SChunk} (h : HtnaRel c d) : d.w ≤ c.w := by
  rcases h with rfl | rfl <;> simp [SChunk.w]

theorem HtnaRel.abOk {c d : SChunk} (h : HtnaRel c d) (hc : AbOk c) : AbOk d := by
  rcases h with rfl | rfl
  · exact hc
  · intro ha; exact ⟨rfl, (hc ha).2⟩

end Aiortc.Sctp
