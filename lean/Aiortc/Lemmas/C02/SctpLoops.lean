import Aiortc.Lemmas.C02.SctpAbandon
import Aiortc.Lemmas.SctpTx.Loops
/-!
# The loops of the sender that go through `_maybe_abandon` (C02)

* `hitBody` (`SctpTx/Loops.lean`), the body shared by the strike loop (third miss) and by `_t3_expired`: accounting and
  closure of chunk predicates across it.
* `strikeLoop_spec` (every iteration is a `StrikeSpec` step, composed by `strikeLoop_ind`), `t3Mark_spec`,
  `updateAdvAck_spec`.
-/
namespace Aiortc.Sctp
open Aiortc.Gen

-- `_maybe_abandon` is used through `maybeAbandon_spec` only; opaque, so that no unification step unfolds it
attribute [local irreducible] Tx.maybeAbandon

/-- accounting invariant that holds *inside* the loops (the counter may be ahead of the sum while
`_t3_expired` clears `_in_flight` flags before it zeroes the counter). -/
structure WInv (t : Tx) : Prop where
  le : flightSum t.sentQ ≤ t.flight
  outQ : ∀ c ∈ t.outQ, Idle c
  sentQ : ∀ c ∈ t.sentQ, AbOk c

theorem FlightInv.winv {t : Tx} (h : FlightInv t) : WInv t := ⟨by rw [h.flight]; exact Nat.le_refl _, h.outQ, h.sentQ⟩

/-- predicates on chunks that every modification made by the strike / T3 loops preserves, so that one induction over a loop
serves every such predicate: `AbOk` (flight accounting, here) and `AbOrRtx` (the timer argument, `SctpTimer.lean`) -/
structure StrikeClosed (P : SChunk → Prop) : Prop where
  ab : ∀ c, P c → P (abMark c)
  moved : ∀ c, Idle c → P { c with abandoned := true }
  miss : ∀ c m, P c → P { c with misses := m }
  hit : ∀ c, P c → c.abandoned = false → P { c with retransmit := true, acked := false, inFlight := false }
  hitAb : ∀ c, P c → c.abandoned = true → P { c with acked := false, inFlight := false }

theorem abOk_closed : StrikeClosed AbOk where
  ab := fun _ _ _ => ⟨rfl, rfl⟩
  moved := fun c hc _ => ⟨hc.1, hc.2.1⟩
  miss := fun _ _ h ha => h ha
  hit := fun c _ hna ha => by simp [hna] at ha
  hitAb := fun c h ha _ => ⟨rfl, (h ha).2⟩

/-- abandoned or marked for retransmission: every outstanding chunk is, after `_t3_expired` -/
def AbOrRtx (c : SChunk) : Prop := c.abandoned = true ∨ c.retransmit = true

theorem abOrRtx_closed : StrikeClosed AbOrRtx where
  ab := fun _ _ => Or.inl rfl
  moved := fun _ _ => Or.inl rfl
  miss := fun _ _ h => h
  hit := fun _ _ _ => Or.inr rfl
  hitAb := fun _ _ ha => Or.inl ha

/-! ## consequences of `maybeAbandon_spec` -/

theorem maybeAbandon_bal (t : Tx) (pos : Nat) (now : Int) (ho : ∀ c ∈ t.outQ, Idle c) :
    Bal t.flight t.sentQ (t.maybeAbandon pos now).2.flight (t.maybeAbandon pos now).2.sentQ := by
  obtain ⟨front, moved, he, _, hm, hb⟩ := (maybeAbandon_spec t pos now).shape
  intro hl
  have := hb hl
  have hz : flightSum moved = 0 := flightSum_eq_zero fun d hd => by
    obtain ⟨c, hc, rfl⟩ := hm d hd; exact (ho c hc).1
  rw [he, flightSum_append, hz]; omega

theorem maybeAbandon_forall {P : SChunk → Prop} (hP : StrikeClosed P) (t : Tx) (pos : Nat) (now : Int)
    (ho : ∀ c ∈ t.outQ, Idle c) (h : ∀ c ∈ t.sentQ, P c) : ∀ c ∈ (t.maybeAbandon pos now).2.sentQ, P c :=
  (maybeAbandon_all t pos now (fun c _ => hP.ab c) (fun c _ => hP.moved c) h ho).1

theorem maybeAbandon_winv {t : Tx} (pos : Nat) (now : Int) (h : WInv t) : WInv (t.maybeAbandon pos now).2 :=
  ⟨(maybeAbandon_bal t pos now h.outQ).le h.le,
   fun c hc => h.outQ c ((maybeAbandon_spec t pos now).outQ c hc),
   maybeAbandon_forall abOk_closed t pos now h.outQ h.sentQ⟩

theorem maybeAbandon_getElem? (t : Tx) (pos : Nat) (now : Int) (i : Nat) (d : SChunk)
    (hd : (t.maybeAbandon pos now).2.sentQ[i]? = some d) :
    (∃ c, t.sentQ[i]? = some c ∧ AbRel c d)
    ∨ (t.sentQ.length ≤ i ∧ ∃ c ∈ t.outQ, d = abUnsent c) := by
  obtain ⟨front, moved, he, hpw, hm, _⟩ := (maybeAbandon_spec t pos now).shape
  rw [he] at hd
  have hl := PW.length hpw
  rcases Nat.lt_or_ge i front.length with hi | hi
  · rw [List.getElem?_append_left hi] at hd
    exact Or.inl (PW.getElem?_right hpw i d hd)
  · rw [List.getElem?_append_right hi] at hd
    exact Or.inr ⟨by omega, hm d (List.mem_of_getElem? hd)⟩

/-! ## the shared loop body -/

theorem hitBody_outQ (t : Tx) (pos : Nat) (now : Int) :
    (hitBody t pos now).outQ = (t.maybeAbandon pos now).2.outQ := rfl

theorem hitBody_forall {P : SChunk → Prop} (hP : StrikeClosed P) (t : Tx) (pos : Nat) (now : Int)
    (ho : ∀ c ∈ t.outQ, Idle c) (h : ∀ c ∈ t.sentQ, P c) : ∀ c ∈ (hitBody t pos now).sentQ, P c := by
  have h1 := maybeAbandon_forall hP t pos now ho h
  have hs := maybeAbandon_spec t pos now
  intro d hd
  simp only [hitBody] at hd
  rcases List.mem_modify hd with hd | ⟨c, hc, rfl⟩
  · exact h1 d hd
  · have hPc : P c := h1 c (List.mem_of_getElem? hc)
    cases hab : (t.maybeAbandon pos now).1 with
    | false =>
      have := (hs.no hab)
      rw [this.1] at hc
      have hna := this.2 c hc
      simpa [hitMark] using hP.hit c hPc hna
    | true =>
      obtain ⟨d', hd', ha'⟩ := hs.yes hab
      rw [hc] at hd'; cases hd'
      simpa [hitMark] using hP.hitAb c hPc ha'

theorem hitBody_sum (t : Tx) (pos : Nat) (now : Int) (c : SChunk)
    (hc : (t.maybeAbandon pos now).2.sentQ[pos]? = some c) :
    flightSum (hitBody t pos now).sentQ + c.w = flightSum (t.maybeAbandon pos now).2.sentQ := by
  have := flightSum_modify _ pos c (hitMark (t.maybeAbandon pos now).1) hc
  rw [hitMark_w] at this
  simpa [hitBody] using this

theorem hitBody_sum_le (t : Tx) (pos : Nat) (now : Int) :
    flightSum (hitBody t pos now).sentQ ≤ flightSum (t.maybeAbandon pos now).2.sentQ := by
  cases hc : (t.maybeAbandon pos now).2.sentQ[pos]? with
  | none => simp only [hitBody]; rw [List.modify_none _ _ _ hc]; exact Nat.le_refl _
  | some c => have := hitBody_sum t pos now c hc; omega

theorem hitBody_winv {t : Tx} (pos : Nat) (now : Int) (h : WInv t) : WInv (hitBody t pos now) := by
  have h1 := maybeAbandon_winv pos now h
  refine ⟨?_, h1.outQ, hitBody_forall abOk_closed t pos now h.outQ h.sentQ⟩
  have := hitBody_sum_le t pos now
  have := h1.le
  show _ ≤ (t.maybeAbandon pos now).2.flight
  omega

theorem hitBody_outQ_sub (t : Tx) (pos : Nat) (now : Int) : ∀ c ∈ (hitBody t pos now).outQ, c ∈ t.outQ :=
  (maybeAbandon_spec t pos now).outQ

/-! ## the strike loop of `_receive_sack_chunk` -/

structure StrikeSpec (t : Tx) (loss : Bool) (r : Tx × Bool) : Prop where
  frame : r.1 = { t with flight := r.1.flight, sentQ := r.1.sentQ, outQ := r.1.outQ }
  bal : Bal t.flight t.sentQ r.1.flight r.1.sentQ
  flight_le : r.1.flight ≤ t.flight
  winv : WInv t → WInv r.1
  closed : ∀ P : SChunk → Prop, StrikeClosed P → (∀ c ∈ t.outQ, Idle c) → (∀ c ∈ t.sentQ, P c) → ∀ c ∈ r.1.sentQ, P c
  length : t.sentQ.length ≤ r.1.sentQ.length
  loss : r.2 = true → loss = true ∨ r.1.sentQ ≠ []
  outQ : ∀ c ∈ r.1.outQ, c ∈ t.outQ

theorem StrikeSpec.refl (t : Tx) (loss : Bool) : StrikeSpec t loss (t, loss) :=
  ⟨rfl, Bal.refl _ _, Nat.le_refl _, id, fun _ _ _ h => h, Nat.le_refl _, Or.inl, fun _ h => h⟩

theorem StrikeSpec.trans {t t1 : Tx} {loss l1 : Bool} {r : Tx × Bool} (h1 : StrikeSpec t loss (t1, l1))
    (h2 : StrikeSpec t1 l1 r) : StrikeSpec t loss r where
  -- `h2.frame` gives `r.1` as `t1` with three fields replaced; `t1` is in turn `t` with the same three fields replaced
  frame := h2.frame.trans (by rw [show t1 = _ from h1.frame])
  bal := h1.bal.trans h2.bal
  flight_le := Nat.le_trans h2.flight_le h1.flight_le
  winv := fun hw => h2.winv (h1.winv hw)
  closed := fun P hP ho h => h2.closed P hP (fun c hc => ho c (h1.outQ c hc)) (h1.closed P hP ho h)
  length := Nat.le_trans h1.length h2.length
  loss := fun hr => (h2.loss hr).elim
    (fun hl => (h1.loss hl).imp_right fun hne he => hne (List.eq_nil_of_length_eq_zero
      (Nat.le_zero.mp (by have := h2.length; rwa [he] at this))))
    Or.inr
  outQ := fun c hc => h1.outQ c (h2.outQ c hc)

theorem StrikeSpec.setMisses (t : Tx) (pos m : Nat) (loss : Bool) :
    StrikeSpec t loss ({ t with sentQ := t.sentQ.modify pos fun d => { d with misses := m } }, loss) := by
  have hsum : flightSum (t.sentQ.modify pos fun d => { d with misses := m }) = flightSum t.sentQ :=
    flightSum_modify_same _ _ _ fun _ => rfl
  have hcl : ∀ P : SChunk → Prop, StrikeClosed P → (∀ c ∈ t.sentQ, P c) →
      ∀ c ∈ t.sentQ.modify pos fun d => { d with misses := m }, P c := by
    intro P hP h d hd
    rcases List.mem_modify hd with hd | ⟨x, hx, rfl⟩
    · exact h d hd
    · exact hP.miss x m (h x (List.mem_of_getElem? hx))
  exact ⟨rfl, fun _ => by rw [hsum], Nat.le_refl _, fun hw => ⟨by rw [hsum]; exact hw.le, hw.outQ, hcl _ abOk_closed hw.sentQ⟩,
    fun P hP _ h => hcl P hP h, by simp, Or.inl, fun _ h => h⟩

theorem StrikeSpec.hit (t : Tx) (pos : Nat) (c : SChunk) (now : Int) (loss : Bool) (hlt : pos < t.sentQ.length)
    (ho : ∀ d ∈ t.outQ, Idle d) :
    StrikeSpec t loss ({ hitBody t pos now with
      flight := (t.maybeAbandon pos now).2.flight - ((t.maybeAbandon pos now).2.sentQ[pos]?.getD c).w }, true) := by
  have hlen := maybeAbandon_length t pos now
  obtain ⟨cur, hcur⟩ : ∃ cur, (t.maybeAbandon pos now).2.sentQ[pos]? = some cur :=
    ⟨(t.maybeAbandon pos now).2.sentQ[pos]'(by omega), List.getElem?_eq_getElem (by omega)⟩
  rw [hcur, Option.getD_some]
  have hbal := maybeAbandon_bal t pos now ho
  have hsum := hitBody_sum t pos now cur hcur
  have hfle := (maybeAbandon_spec t pos now).flight_le
  have hb : Bal t.flight t.sentQ ((t.maybeAbandon pos now).2.flight - cur.w) (hitBody t pos now).sentQ := by
    intro hl
    have a := hbal hl
    omega
  have hl' := hitBody_length t pos now
  have hout := hitBody_outQ_sub t pos now
  refine ⟨by rw [hitBody_frame t pos now], hb, Nat.le_trans (Nat.sub_le _ _) hfle, ?_,
    fun P hP ho h => hitBody_forall hP t pos now ho h, hl', fun _ => Or.inr ?_, hout⟩
  · exact fun hw => ⟨hb.le hw.le, fun d hd => ho d (hout d hd), hitBody_forall abOk_closed t pos now ho hw.sentQ⟩
  · intro he
    have : (hitBody t pos now).sentQ.length = 0 := congrArg List.length he
    omega

theorem strikeHit_spec (t : Tx) (pos : Nat) (c : SChunk) (now : Int) (loss : Bool) (hp : t.sentQ[pos]? = some c)
    (ho : ∀ d ∈ t.outQ, Idle d) : StrikeSpec t loss (strikeHit t pos c now, true) :=
  (StrikeSpec.setMisses t pos 0 loss).trans
    (StrikeSpec.hit _ pos c now loss (by simpa using (List.getElem?_eq_some_iff.mp hp).1) ho)

/-- `Idle` of the outbound queue travels with the relation: each step needs it and hands it on -/
theorem strikeLoop_spec (seen : List Int) (hna now : Int) (fuel pos : Nat) (t : Tx) (loss : Bool)
    (ho : ∀ c ∈ t.outQ, Idle c) : StrikeSpec t loss (strikeLoop seen hna now fuel pos t loss) :=
  (strikeLoop_ind seen hna now
    (I := fun x y => (∀ c ∈ x.1.outQ, Idle c) → StrikeSpec x.1 x.2 y ∧ ∀ c ∈ y.1.outQ, Idle c)
    (fun x ho => ⟨StrikeSpec.refl x.1 x.2, ho⟩)
    (fun h1 h2 ho => ⟨(h1 ho).1.trans (h2 (h1 ho).2).1, (h2 (h1 ho).2).2⟩)
    (fun t loss pos c hp _ _ _ ho =>
      have hs := strikeHit_spec t pos c now loss hp ho
      ⟨hs, fun d hd => ho d (hs.outQ d hd)⟩)
    (fun t loss pos c _ _ _ _ ho => ⟨StrikeSpec.setMisses t pos (c.misses + 1) loss, ho⟩) fuel pos t loss ho).1

/-! ## the marking loop of `_t3_expired` -/

/-- a chunk as `_t3_expired` leaves it -/
def T3Q (c : SChunk) : Prop := c.inFlight = false ∧ AbOrRtx c

theorem T3Q.abRel {c d : SChunk} (h : AbRel c d) (hc : T3Q c) : T3Q d := by
  rcases h with rfl | rfl
  · exact hc
  · exact ⟨rfl, Or.inl rfl⟩

structure T3MarkSpec (t r : Tx) : Prop where
  frame : r = { t with flight := r.flight, sentQ := r.sentQ, outQ := r.outQ }
  winv : WInv r
  all : ∀ d ∈ r.sentQ, T3Q d
  closed : ∀ P : SChunk → Prop, StrikeClosed P → (∀ c ∈ t.sentQ, P c) → ∀ c ∈ r.sentQ, P c
  outQ : ∀ c ∈ r.outQ, c ∈ t.outQ
  length : t.sentQ.length ≤ r.sentQ.length

theorem t3Mark_spec (now : Int) (n : Nat) : ∀ (fuel pos : Nat) (t : Tx), WInv t → pos + fuel = n → n ≤ t.sentQ.length →
    (∀ i d, t.sentQ[i]? = some d → (i < pos ∨ n ≤ i) → T3Q d) → T3MarkSpec t (t3Mark now fuel pos t) := by
  intro fuel
  induction fuel with
  | zero =>
    intro pos t hw hn _ hq
    refine ⟨rfl, hw, ?_, fun _ _ h => h, fun _ h => h, Nat.le_refl _⟩
    intro d hd
    obtain ⟨i, hi⟩ := List.getElem?_of_mem hd
    exact hq i d hi (by omega)
  | succ fuel ih =>
    intro pos t hw hn hlen hq
    rw [t3Mark_succ]
    have hs := maybeAbandon_spec t pos now
    have hq' : ∀ i d, (hitBody t pos now).sentQ[i]? = some d → (i < pos + 1 ∨ n ≤ i) → T3Q d := by
      intro i d hd hi
      simp only [hitBody, List.getElem?_modify] at hd
      cases hc : (t.maybeAbandon pos now).2.sentQ[i]? with
      | none => rw [hc] at hd; simp at hd
      | some c =>
        rw [hc] at hd
        by_cases hip : pos = i
        · subst hip
          simp only [if_true, Option.map_eq_map, Option.map_some, Option.some.injEq] at hd
          subst hd
          refine ⟨rfl, ?_⟩
          cases hab : (t.maybeAbandon pos now).1 with
          | false => exact Or.inr rfl
          | true =>
            obtain ⟨d', hd', ha'⟩ := hs.yes hab
            rw [hc] at hd'; cases hd'
            exact Or.inl ha'
        · simp only [hip, if_false, Option.map_eq_map, Option.map_some, Option.some.injEq] at hd
          subst hd
          rcases maybeAbandon_getElem? t pos now i c hc with ⟨x, hx, hr⟩ | ⟨_, x, hx, rfl⟩
          · exact T3Q.abRel hr (hq i x hx (by omega))
          · exact ⟨(hw.outQ x hx).1, Or.inl rfl⟩
    have hw' := hitBody_winv pos now hw
    have hl' := hitBody_length t pos now
    have := ih (pos + 1) (hitBody t pos now) hw' (by omega) (by omega) hq'
    generalize t3Mark now fuel (pos + 1) (hitBody t pos now) = r at this
    refine ⟨?_, this.winv, this.all, ?_, fun d hd => hitBody_outQ_sub t pos now d (this.outQ d hd),
      Nat.le_trans hl' this.length⟩
    · rw [this.frame, hitBody_frame]
    · intro P hP h
      exact this.closed P hP (hitBody_forall hP t pos now hw.outQ h)

/-! ## `_update_advanced_peer_ack_point` -/

theorem popAbandoned_spec : ∀ (l : List SChunk) (adv : Int) (st : List (Nat × Int)) (nd : Bool),
    ∃ k, (popAbandoned adv st nd l).2.2.2 = l.drop k ∧ (∀ c ∈ l.take k, c.abandoned = true)
      ∧ (∀ c, (popAbandoned adv st nd l).2.2.2.head? = some c → c.abandoned = false) := by
  intro l
  induction l with
  | nil => intro adv st nd; exact ⟨0, rfl, by simp, by simp [popAbandoned]⟩
  | cons c cs ih =>
    intro adv st nd
    unfold popAbandoned
    by_cases hab : c.abandoned = true
    · rw [if_pos hab]
      obtain ⟨k, h1, h2, h3⟩ := ih c.tsn (if !flagU c.flags then dictSet st c.sid c.ssn else st) true
      refine ⟨k + 1, by simpa using h1, ?_, h3⟩
      intro d hd
      rcases List.mem_cons.mp (by simpa only [List.take_succ_cons] using hd) with rfl | hd
      · exact hab
      · exact h2 d hd
    · rw [if_neg hab]
      refine ⟨0, rfl, by simp, ?_⟩
      intro d hd; simp at hd; subst hd; simpa using hab

structure AdvSpec (t r : Tx) : Prop where
  frame : r = { t with advAck := r.advAck, forwardNeeded := r.forwardNeeded, forwardStreams := r.forwardStreams,
                       sentQ := r.sentQ, forwardTsn := r.forwardTsn }
  drop : ∃ k, r.sentQ = t.sentQ.drop k ∧ (∀ c ∈ t.sentQ.take k, c.abandoned = true)
  head : ∀ c, r.sentQ.head? = some c → c.abandoned = false

theorem updateAdvAck_spec (t : Tx) : AdvSpec t t.updateAdvAck := by
  unfold Tx.updateAdvAck
  simp only
  generalize ht0 : (if uint32_gte t.lastSacked t.advAck = true then
      { t with advAck := t.lastSacked, forwardNeeded := false, forwardStreams := [] } else t) = t0
  have hs0 : t0.sentQ = t.sentQ := by rw [← ht0]; split <;> rfl
  have hfr0 : t0 = { t with advAck := t0.advAck, forwardNeeded := t0.forwardNeeded, forwardStreams := t0.forwardStreams } := by
    rw [← ht0]; split <;> rfl
  obtain ⟨k, h1, h2, h3⟩ := popAbandoned_spec t0.sentQ t0.advAck t0.forwardStreams t0.forwardNeeded
  generalize popAbandoned t0.advAck t0.forwardStreams t0.forwardNeeded t0.sentQ = r at h1 h2 h3
  obtain ⟨adv, streams, needed, sent⟩ := r
  simp only at h1 h2 h3 ⊢
  rw [hs0] at h1 h2
  split <;> exact ⟨by rw [hfr0], ⟨k, h1, h2⟩, h3⟩

theorem flightSum_drop_abandoned {l : List SChunk} {k : Nat} (hab : ∀ c ∈ l, AbOk c)
    (h : ∀ c ∈ l.take k, c.abandoned = true) : flightSum (l.drop k) = flightSum l := by
  have h0 : flightSum (l.take k) = 0 := by
    apply flightSum_eq_zero
    intro c hc
    exact (hab c (List.mem_of_mem_take hc) (h c hc)).1
  have := flightSum_append (l.take k) (l.drop k)
  rw [List.take_append_drop] at this
  omega

theorem FlightInv.updateAdvAck {t : Tx} (h : FlightInv t) : FlightInv t.updateAdvAck := by
  have hs := updateAdvAck_spec t
  obtain ⟨k, hk, hab⟩ := hs.drop
  generalize t.updateAdvAck = r at hs hk
  have hfl : r.flight = t.flight := by rw [hs.frame]
  have hout : r.outQ = t.outQ := by rw [hs.frame]
  refine ⟨?_, by rw [hout]; exact h.outQ, ?_⟩
  · rw [hfl, hk, flightSum_drop_abandoned h.sentQ hab]; exact h.flight
  · intro c hc; rw [hk] at hc; exact h.sentQ c (List.mem_of_mem_drop hc)

end Aiortc.Sctp
