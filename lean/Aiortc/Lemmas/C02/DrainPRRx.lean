import Aiortc.Lemmas.C02.DrainRx
import Aiortc.Lemmas.C02.SctpRxInv
import Aiortc.Model.Sctp.Forward
/-!
# The receiver and FORWARD TSN (C02 drain, partial reliability)

`rxFwdTsn rx cum` = the cumulative-TSN part of `_receive_forward_tsn_chunk` (`Model/Sctp/Forward.lean`: ignored when
`cum` is not ahead, else `fwdRx`).  `rx_fwd`: in index form — the cumulative TSN jumps to at least `cum`, the misordered
set is pruned, nothing the receiver had is forgotten, `RxOk` is kept.
-/
namespace Aiortc.Sctp
open Aiortc.Gen

def rxFwdTsn (rx : Rx) (cum : Int) : Rx := if uint32_gte rx.last cum then rx else fwdRx rx cum

theorem RxOk.fwdRx {rx : Rx} (h : RxOk rx) (cum : Int) (hc : R32 cum) : RxOk (fwdRx rx cum) :=
  RxOk.absorb hc (fun x hx => by
    rw [List.mem_filter] at hx
    exact ⟨(h.mis x hx.1).1, fun he => by rw [he, Serial.gt32_irrefl] at hx; cases hx.2⟩) (h.nodup.filter _) _

theorem filter_gt_T {b : Int} {L : List Int} {lo hi c : Nat} (hmis : ∀ x ∈ L, ∃ j, lo < j ∧ j ≤ hi ∧ x = T b j)
    (hhi : hi < 2147483648) (hc : c ≤ hi) :
    ∀ x ∈ L.filter (fun x => uint32_gt x (T b c)), ∃ j, c < j ∧ j ≤ hi ∧ x = T b j := by
  intro x hx
  rw [List.mem_filter] at hx
  obtain ⟨j, _, j2, rfl⟩ := hmis x hx.1
  have hgt : uint32_gt (T b j) (T b c) = true := hx.2
  rw [gt_T b j c (Nat.lt_of_le_of_lt j2 hhi) (Nat.lt_of_le_of_lt hc hhi), decide_eq_true_eq] at hgt
  exact ⟨j, hgt, j2, rfl⟩

theorem rx_fwd {b : Int} {rx : Rx} {r hi c : Nat} (h : RxAt b r hi rx) (hc : c ≤ hi) :
    ∃ r', r ≤ r' ∧ c ≤ r' ∧ RxAt b r' hi (rxFwdTsn rx (T b c))
      ∧ (∀ j, j < 2147483648 → RxHas rx (T b j) → RxHas (rxFwdTsn rx (T b c)) (T b j)) := by
  obtain ⟨hok, hl, hr, hhi, hmis⟩ := h
  have hrlt := Nat.lt_of_le_of_lt hr hhi
  have hclt := Nat.lt_of_le_of_lt hc hhi
  unfold rxFwdTsn
  rw [hl, gte_T b r c hrlt hclt]
  by_cases hcr : c ≤ r
  · rw [decide_eq_true hcr, if_pos rfl]
    exact ⟨r, Nat.le_refl _, hcr, ⟨hok, hl, hr, hhi, hmis⟩, fun _ _ h => h⟩
  · rw [decide_eq_false hcr, if_neg Bool.false_ne_true, fwdRx_eq]
    obtain ⟨r', h'⟩ := absorb_idx b rx.dups hc (by omega) (filter_gt_T hmis hhi hc) (hok.nodup.filter _)
    have r1 := h'.ge
    have r2 := h'.le
    refine ⟨r', by omega, r1, ⟨fwdRx_eq rx _ ▸ hok.fwdRx _ (T_r32 b c), h'.last, h'.le, hhi, h'.mis⟩, fun j hj hx => ?_⟩
    rcases Nat.lt_or_ge r' j with hlt | hge
    · rcases hx with hx | hx
      · rw [hl, gte_T b r j hrlt hj, decide_eq_true_eq] at hx; omega
      · right
        rw [h'.mis_eq, List.mem_filter, List.mem_filter, gt_T b j c hj hclt, gt_T b j r' hj (by omega)]
        exact ⟨⟨hx, decide_eq_true (by omega)⟩, decide_eq_true hlt⟩
    · exact Or.inl (h'.last ▸ gte_T_of (by omega) hge)

end Aiortc.Sctp
