import Aiortc.Lemmas.C02.DrainPRPot
import Aiortc.Lemmas.C02.DrainPRWf
/-!
# `AW` and the identity of the queued chunks through the sender operations (C02 drain)

Every sender operation is a composition of steps of one form, `Leaves t t' lo k`: the first `k` chunks of `sentQ ++ outQ` are
gone, those from index `lo` on partially reliable, the others are the same chunks, and `AW` holds again.
-/
namespace Aiortc.Sctp
open Aiortc.Gen

/-! ## `_send` -/

theorem adjChain_of_lim (l : List SChunk) (e m : Option Int) (h : ∀ c ∈ l, c.maxRetransmits = m ∧ c.expiry = e) :
    AdjChain l := by
  induction l with
  | nil => trivial
  | cons c cs ih =>
    have hc := h c List.mem_cons_self
    refine adjChain_cons.mpr ⟨fun d hd _ => ?_, ih (fun x hx => h x (List.mem_cons_of_mem _ hx))⟩
    have hd := h d (List.mem_cons_of_mem _ (List.mem_of_mem_head? hd))
    exact ⟨hd.1.trans hc.1.symm, hd.2.trans hc.2.symm⟩

section
variable (tsn : Int) (sid : Nat) (ssn : Int) (ppid : Nat) (o : Bool) (e m : Option Int) (n : Nat) (data : Bytes)

theorem fragments_lim (k : Nat) : ∀ c ∈ fragments tsn sid ssn ppid o e m n data k, c.maxRetransmits = m ∧ c.expiry = e :=
  fun c hc => by obtain ⟨j, -, rfl⟩ := mem_fragments hc; exact ⟨rfl, rfl⟩

end

theorem Wf.append {a b : List SChunk} (ha : Wf a) (hb : Wf b) (hB : ∀ y, b.head? = some y → flagB y.flags = true) :
    Wf (a ++ b) := by
  refine ⟨AdjChain.append a b ha.1 hb.1 (fun x y hx hy hp => ?_), fun c hc => ?_⟩
  · rcases hp with hp | hp
    · rw [ha.2 x hx] at hp; cases hp
    · rw [hB y hy] at hp; cases hp
  · rw [List.getLast?_append] at hc
    cases hl : b.getLast? with
    | none => rw [hl] at hc; exact ha.2 c hc
    | some y => rw [hl] at hc; cases hc; exact hb.2 _ hl

theorem Wf.enqueue {t : Tx} (h : Wf (t.sentQ ++ t.outQ)) (sid ppid : Nat) (data : Bytes) (e m : Option Int) (o : Bool) :
    Wf ((t.enqueue sid ppid data e m o).sentQ ++ (t.enqueue sid ppid data e m o).outQ) := by
  simp only [Tx.enqueue]
  rw [← List.append_assoc]
  exact h.append ⟨adjChain_of_lim _ e m (fragments_lim _ _ _ _ _ _ _ _ _ _), fragments_last _ _ _ _ _ _ _ _ _ _⟩
    (fragments_first _ _ _ _ _ _ _ _ _)

theorem AW.enqueue {t : Tx} (h : AW t) (sid ppid : Nat) (data : Bytes) (e m : Option Int) (o : Bool) :
    AW (t.enqueue sid ppid data e m o) := ⟨h.abu, h.wf.enqueue sid ppid data e m o⟩

/-- `k` chunks left the head of `sentQ ++ outQ`. Those below `lo` left because they were cumulatively acked (the receiver has
them: the user supplies `lo ≤ r - f`, `GotInv.leaves`); those from `lo` on were abandoned, so they are partially reliable. -/
structure Leaves (t t' : Tx) (lo k : Nat) : Prop where
  aw : AW t'
  le : k ≤ (t.sentQ ++ t.outQ).length
  idq : PW SameT ((t.sentQ ++ t.outQ).drop k) (t'.sentQ ++ t'.outQ)
  unrel : ∀ i c, (t.sentQ ++ t.outQ)[i]? = some c → lo ≤ i → i < k → c.Unrel

variable {t t' : Tx} {lo k : Nat}

theorem Leaves.congr {t'' : Tx} (h : Leaves t t' lo k) (hs : t''.sentQ = t'.sentQ)
    (ho : t''.outQ = t'.outQ) : Leaves t t'' lo k :=
  ⟨⟨by rw [hs]; exact h.aw.abu, by rw [hs, ho]; exact h.aw.wf⟩, h.le, by rw [hs, ho]; exact h.idq, h.unrel⟩

theorem Leaves.trans {t'' : Tx} {k' : Nat} (h1 : Leaves t t' lo k) (h2 : Leaves t' t'' 0 k') :
    Leaves t t'' lo (k + k') := by
  have hl := PW.length h1.idq
  rw [List.length_drop] at hl
  refine ⟨h2.aw, by have := h1.le; have := h2.le; omega, ?_, ?_⟩
  · rw [← List.drop_drop]
    exact PW.trans_self SameT SameT.trans (PW.drop k' h1.idq) h2.idq
  · intro i c hc hlo hi
    rcases Nat.lt_or_ge i k with hik | hik
    · exact h1.unrel i c hc hlo hik
    · have hd : ((t.sentQ ++ t.outQ).drop k)[i - k]? = some c := by
        rw [List.getElem?_drop, Nat.add_sub_cancel' hik]; exact hc
      obtain ⟨d, hd', hr⟩ := PW.getElem?_left h1.idq (i - k) c hd
      exact hr.lim.symm.unrel (h2.unrel (i - k) d hd' (Nat.zero_le _) (by omega))

theorem Leaves.of_parts {R : SChunk → SChunk → Prop} (hR : ∀ c d, R c d → SameT c d) (h : Parts R t t')
    (haw : AW t') : Leaves t t' 0 0 :=
  ⟨haw, Nat.zero_le _, (h.concat hR).1, fun i _ _ _ hi => absurd hi (Nat.not_lt_zero i)⟩

theorem Leaves.of_keeps (h : AW t) (hpw : PW Keeps t.sentQ t'.sentQ) (ho : t'.outQ = t.outQ) :
    Leaves t t' 0 0 :=
  Leaves.of_parts (fun _ _ x => x.1) (Parts.of_sent hpw ho) (h.of_keeps hpw ho)

theorem Leaves.dropSent (h : AW t) (k : Nat) (hk : k ≤ t.sentQ.length) (hs : t'.sentQ = t.sentQ.drop k)
    (ho : t'.outQ = t.outQ) : Leaves t t' k k := by
  have he : t'.sentQ ++ t'.outQ = (t.sentQ ++ t.outQ).drop k := by rw [hs, ho, List.drop_append_of_le_length hk]
  refine ⟨⟨fun d hd => h.abu d (by rw [hs] at hd; exact List.mem_of_mem_drop hd), by rw [he]; exact h.wf.drop k⟩, ?_,
    by rw [he]; exact PW.refl SameT.refl _, fun i _ _ h1 h2 => absurd h2 (Nat.not_lt.mpr h1)⟩
  rw [List.length_append]; exact Nat.le_trans hk (Nat.le_add_right _ _)

/-- `_update_advanced_peer_ack_point` pops abandoned chunks, which `AW` makes partially reliable -/
theorem Leaves.updateAdvAck (h : AW t) : ∃ k, Leaves t t.updateAdvAck 0 k := by
  obtain ⟨k0, hk, hab⟩ := (updateAdvAck_spec t).drop
  have hmin : t.sentQ.drop k0 = t.sentQ.drop (min k0 t.sentQ.length) := by
    rcases Nat.le_total k0 t.sentQ.length with h' | h'
    · rw [Nat.min_eq_left h']
    · rw [Nat.min_eq_right h', List.drop_length, List.drop_eq_nil_of_le h']
  have hl := Leaves.dropSent h _ (Nat.min_le_right _ _) (hk.trans hmin) (updateAdvAck_frame t).1
  refine ⟨_, hl.aw, hl.le, hl.idq, fun i c hc _ hi => ?_⟩
  have hi1 : i < t.sentQ.length := Nat.lt_of_lt_of_le hi (Nat.min_le_right _ _)
  rw [List.getElem?_append_left hi1] at hc
  have hm : c ∈ t.sentQ.take k0 :=
    List.mem_iff_getElem?.mpr ⟨i, by rw [List.getElem?_take_of_lt (Nat.lt_of_lt_of_le hi (Nat.min_le_left _ _))]; exact hc⟩
  exact h.abu c (List.mem_of_getElem? hc) (hab c hm)

/-! ## `_transmit` -/

theorem RtxPW.keeps {l l' : List SChunk} {es : List RChunk} (h : RtxPW l l' es) : PW Keeps l l' :=
  h.pw.mono fun c _ h => h.elim (· ▸ Keeps.refl c) (· ▸ ⟨⟨rfl, rfl, rfl, rfl⟩, rfl⟩)

theorem map_newChunk_sameT (l : List SChunk) : PW SameT l (l.map newChunk) :=
  PW.map_right (fun c => (newChunk_bk c).sameT) l

theorem transmit_leaves (t : Tx) (ho : ∀ c ∈ t.outQ, Idle c) (h : AW t) : Leaves t t.transmit.1 0 0 := by
  obtain ⟨mid, es, k, h1, h2, h3, _⟩ := (transmit_shape t).shape
  have hpw := RtxPW.keeps h1
  have hpwT : PW SameT (t.sentQ ++ t.outQ) (t.transmit.1.sentQ ++ t.transmit.1.outQ) := by
    rw [h2, h3, List.append_assoc]
    refine PW.append (PW.mono (fun _ _ x => x.1) hpw) ?_
    have := PW.append (map_newChunk_sameT (t.outQ.take k)) (PW.refl SameT.refl (t.outQ.drop k))
    rwa [List.take_append_drop] at this
  refine ⟨⟨?_, h.wf.pwT hpwT⟩, Nat.zero_le _, hpwT, fun i _ _ _ hi => absurd hi (Nat.not_lt_zero i)⟩
  intro d hd hab
  rw [h2] at hd
  rcases List.mem_append.mp hd with hd | hd
  · exact h.abu.keeps hpw d hd hab
  · obtain ⟨c, hc, rfl⟩ := List.mem_map.mp hd
    rw [show (newChunk c).abandoned = c.abandoned from rfl, (ho c (List.mem_of_mem_take hc)).2.2] at hab
    cases hab

/-! ## `_receive_sack_chunk`, `_t3_expired` -/

theorem htnaList_keeps (seen : List Int) (hs : Int) (l : List SChunk) : PW Keeps l (htnaList seen hs l) :=
  htnaList_pw seen hs Keeps.refl (fun c => (htnaChunk_bk seen c).keeps) l

theorem Leaves.count {f f' : Nat} (h : Leaves t t' lo k) (hc : f' + t'.nOut = f + t.nOut) : f' = f + k := by
  have hl := PW.length h.idq
  have hle := h.le
  simp only [List.length_drop, List.length_append] at hl hle
  unfold Tx.nOut at hc
  omega

/-- one SACK with cumulative TSN `T b κ`: the `κ - f` chunks it newly acknowledges leave the sent queue, then those that
`_update_advanced_peer_ack_point` pops -/
theorem sack_queue {b : Int} {κ0 κ f f' : Nat} (h : TxSeqP b κ0 f t) (haw : AW t)
    (h2 : κ ≤ f + t.sentQ.length) {gaps : List (Nat × Nat)} {now : Int} (hs : SackShapeP t t' (T b κ) gaps now)
    (hidx : SackIdx b κ f t t' gaps f') : ∃ k, f' = f + k ∧ Leaves t t' (κ - f) k := by
  have hq : t.ackedQ (T b κ) = t.sentQ.drop (κ - f) := ackLoop_seq b κ t.sentQ f _ _ _ h.sent h2 h.hi_lt
  obtain ⟨t4, tH, e1, _, _, _, _, _, eHo, ecase⟩ := hs.ex
  rw [hq] at ecase
  have hA : Leaves t { t with sentQ := t.sentQ.drop (κ - f) } (κ - f) (κ - f) :=
    Leaves.dropSent haw _ (by omega) rfl rfl
  have h4 : Leaves t t4 (κ - f) (κ - f) := by
    rcases ecase with ⟨_, g2, g3⟩ | ⟨_, g2, g3, g4⟩
    · exact hA.congr g2 g3
    · have hH : Leaves _ tH 0 0 := Leaves.of_keeps hA.aw (by rw [g2]; exact htnaList_keeps _ _ _) eHo
      exact ((hA.trans hH).trans (Leaves.of_parts (fun _ _ x => x.1) (strikeLoop_parts _ _ now _ 0 tH false)
        (strikeLoop_aw _ _ now _ 0 tH false hH.aw))).congr g3 g4
  obtain ⟨k2, hU⟩ := Leaves.updateAdvAck h4.aw
  rw [← e1] at hU
  exact ⟨_, (h4.trans hU).count hidx.cons, h4.trans hU⟩

theorem t3_queue {f f' : Nat} (haw : AW t) (now : Int) (hc : f' + (t.t3Expired now).nOut = f + t.nOut) :
    ∃ k, f' = f + k ∧ Leaves t (t.t3Expired now) 0 k := by
  have hp : Parts TR t (t.t3Marked now) := t3Mark_parts now t.sentQ.length 0 { t with t3 := false }
  have hM := Leaves.of_parts (fun _ _ x => x.1) hp (t3Mark_aw now t.sentQ.length 0 { t with t3 := false } ⟨haw.abu, haw.wf⟩)
  obtain ⟨k2, hU⟩ := Leaves.updateAdvAck hM.aw
  have hT := (hM.trans hU).congr (t'' := t.t3Expired now) (by rw [t3Expired_eq]) (by rw [t3Expired_eq])
  exact ⟨_, hT.count hc, hT⟩

end Aiortc.Sctp
