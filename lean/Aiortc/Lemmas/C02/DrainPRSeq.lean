import Aiortc.Lemmas.C02.DrainPROps
/-!
# TSN structure of the sender with partial reliability (C02 drain)

`TxSeqP b ls f t`: `lastSacked = T b ls`, the advanced peer ack point is `T b f` with `ls ≤ f` (`f` chunks left the queues:
cumulatively acked or abandoned and skipped), `forwardNeeded` iff `ls < f`, `sentQ ++ outQ` carry `T b (f+1), …`.
-/
namespace Aiortc.Sctp
open Aiortc.Gen

-- `_transmit` is used through its lemmas only; opaque, so that no unification step unfolds it
attribute [local irreducible] Tx.transmit

theorem Seq.pwT {b : Int} {l l' : List SChunk} {a : Nat} : PW SameT l l' → Seq b a l → Seq b a l' :=
  Seq.of_pw fun _ _ h => h.1

theorem Parts.concat {R : SChunk → SChunk → Prop} (hR : ∀ c d, R c d → SameT c d) {t t' : Tx} (h : Parts R t t') :
    PW SameT (t.sentQ ++ t.outQ) (t'.sentQ ++ t'.outQ) ∧ t.sentQ.length ≤ t'.sentQ.length
    ∧ t'.sentQ.length + t'.outQ.length = t.sentQ.length + t.outQ.length := by
  obtain ⟨front, moved, m, h1, h2, h3, h4⟩ := h
  have l3 := PW.length h3
  have l4 := PW.length h4
  have hk := List.take_drop_length t.outQ m
  refine ⟨?_, by rw [h1, List.length_append, ← l3]; exact Nat.le_add_right _ _,
    by rw [h1, h2, List.length_append, ← l3, ← l4, Nat.add_assoc, hk]⟩
  rw [h1, h2, List.append_assoc]
  refine PW.append (PW.mono hR h3) ?_
  have := PW.append (PW.mono (fun _ _ (x : MV _ _) => x.1) h4) (PW.refl SameT.refl (t.outQ.drop m))
  rwa [List.take_append_drop] at this

structure TxSeqP (b : Int) (κ f : Nat) (t : Tx) : Prop where
  b32 : R32 b
  ls : t.lastSacked = T b κ
  adv : t.advAck = T b f
  le : κ ≤ f
  needed : t.forwardNeeded = true ↔ κ < f
  seq : Seq b f (t.sentQ ++ t.outQ)
  localTsn : t.localTsn = T b (f + (t.sentQ.length + t.outQ.length) + 1)
  bound : f + (t.sentQ.length + t.outQ.length) + 1 < 2147483648
  fwdv : ∀ p, t.forwardTsn = some p → ∃ c, c ≤ f ∧ p.1 = T b c

theorem TxSeqP.sent {b : Int} {ls f : Nat} {t : Tx} (h : TxSeqP b ls f t) : Seq b f t.sentQ := (Seq.append.mp h.seq).1

theorem TxSeqP.congr {b : Int} {κ f : Nat} {t t' : Tx} (h : TxSeqP b κ f t) (h1 : t'.sentQ = t.sentQ)
    (h2 : t'.outQ = t.outQ) (h3 : t'.advAck = t.advAck) (h4 : t'.forwardNeeded = t.forwardNeeded)
    (h5 : t'.forwardTsn = t.forwardTsn) (h6 : t'.lastSacked = t.lastSacked) (h7 : t'.localTsn = t.localTsn) :
    TxSeqP b κ f t' :=
  ⟨h.b32, h6.trans h.ls, h3.trans h.adv, h.le, h4 ▸ h.needed, h1 ▸ h2 ▸ h.seq, h7.trans (h1 ▸ h2 ▸ h.localTsn),
    h1 ▸ h2 ▸ h.bound, fun p hp => h.fwdv p (h5 ▸ hp)⟩

/-- `_update_advanced_peer_ack_point` establishes the TSN structure.  Before it the cumulative ack `κ` may be ahead of
the old advanced peer ack point `f0`; the queues start after `F = max κ f0`; `k` abandoned chunks are skipped. -/
theorem updateAdvAck_seqP {b : Int} {κ f0 F : Nat} {t : Tx} (hF : max κ f0 = F) (hb : R32 b)
    (hls : t.lastSacked = T b κ) (hadv : t.advAck = T b f0) (hneed : κ < f0 → t.forwardNeeded = true)
    (hseq : Seq b F (t.sentQ ++ t.outQ)) (hloc : t.localTsn = T b (F + (t.sentQ.length + t.outQ.length) + 1))
    (hbound : F + (t.sentQ.length + t.outQ.length) + 1 < 2147483648)
    (hfwd : ∀ p, t.forwardTsn = some p → ∃ c, c ≤ F ∧ p.1 = T b c) :
    ∃ k, k ≤ t.sentQ.length ∧ t.updateAdvAck.sentQ = t.sentQ.drop k
      ∧ t.updateAdvAck.sentQ.length + k = t.sentQ.length ∧ TxSeqP b κ (F + k) t.updateAdvAck
      ∧ F + k + (t.updateAdvAck.sentQ.length + t.updateAdvAck.outQ.length) = F + (t.sentQ.length + t.outQ.length)
      ∧ (κ < F + k → ∃ st, t.updateAdvAck.forwardTsn = some (T b (F + k), st))
      ∧ (¬ κ < F + k → t.updateAdvAck.forwardTsn = t.forwardTsn) := by
  have hκ : κ ≤ F := hF ▸ Nat.le_max_left κ f0
  have hf0 : f0 ≤ F := hF ▸ Nat.le_max_right κ f0
  have hFlt : F < 2147483648 := Nat.lt_of_le_of_lt (Nat.le_add_right F _) (Nat.lt_of_succ_lt hbound)
  subst hF
  obtain ⟨k, k1, k2, _, _, k5, k6, k7, k8⟩ := updateAdvAck_idx b t κ f0 (Nat.lt_of_le_of_lt hκ hFlt)
    (Nat.lt_of_le_of_lt hf0 hFlt) hls hadv (Seq.append.mp hseq).1 hneed
  obtain ⟨w1, w2, w3, _, _⟩ := updateAdvAck_frame t
  generalize max κ f0 = F at *
  have hlen : (t.sentQ.drop k).length + k = t.sentQ.length := by rw [List.length_drop]; exact Nat.sub_add_cancel k1
  have e : F + (t.sentQ.length + t.outQ.length) = F + k + ((t.sentQ.drop k).length + t.outQ.length) := by
    rw [← hlen, Nat.add_comm _ k, Nat.add_assoc k, ← Nat.add_assoc F]
  refine ⟨k, k1, k2, k2 ▸ hlen, ⟨hb, w2.trans hls, k5, Nat.le_trans hκ (Nat.le_add_right F k), k6, ?_, ?_, ?_, ?_⟩,
    by rw [k2, w1, e], k7, k8⟩
  · rw [k2, w1, ← List.drop_append_of_le_length k1]
    exact Seq.drop k hseq (by rw [List.length_append]; exact Nat.le_trans k1 (Nat.le_add_right _ _))
  · rw [w3, hloc, k2, w1, e]
  · rw [k2, w1, ← e]; exact hbound
  · intro p hp
    by_cases hlt : κ < F + k
    · obtain ⟨st, hst⟩ := k7 hlt
      rw [hst] at hp; cases hp
      exact ⟨F + k, Nat.le_refl _, rfl⟩
    · rw [k8 hlt] at hp
      obtain ⟨c, c1, c2⟩ := hfwd p hp
      exact ⟨c, Nat.le_trans c1 (Nat.le_add_right F k), c2⟩

theorem TxSeqP.enqueue {b : Int} {ls f : Nat} {t : Tx} (h : TxSeqP b ls f t) (sid ppid : Nat) (data : Bytes)
    (e m : Option Int) (o : Bool) (hb : f + t.nOut + fragCount data.length + 1 < 2147483648) :
    TxSeqP b ls f (t.enqueue sid ppid data e m o) := by
  -- `enqueue` neither reads nor writes `lastSacked`: the TSN bookkeeping is that of the sender with `lastSacked = T b f`
  have h0 : TxSeq b f { t with lastSacked := T b f } := ⟨h.b32, rfl, h.seq, h.localTsn, h.bound⟩
  have e0 := h0.enqueue sid ppid data e m o hb
  exact ⟨h.b32, h.ls, h.adv, h.le, h.needed, e0.seq, e0.localTsn, e0.bound, h.fwdv⟩

theorem transmit_advAck (t : Tx) : t.transmit.1.advAck = t.advAck := by
  have := congrArg Tx.advAck (transmit_facts t).frame
  exact this

theorem TxSeqP.transmit {b : Int} {ls f : Nat} {t : Tx} (h : TxSeqP b ls f t) : TxSeqP b ls f t.transmit.1 := by
  obtain ⟨hpw, _, hlen⟩ := transmit_pw t
  have sh := transmit_shape t
  exact ⟨h.b32, sh.lastSacked.trans h.ls, (transmit_advAck t).trans h.adv, h.le, sh.needed ▸ h.needed, Seq.pw hpw h.seq, by rw [sh.localTsn, hlen]; exact h.localTsn, by rw [hlen]; exact h.bound,
    fun p hp => by rw [sh.fwd] at hp; cases hp⟩

theorem transmit_queues (t : Tx) : t.sentQ.length ≤ t.transmit.1.sentQ.length ∧ t.transmit.1.nOut = t.nOut :=
  ⟨(transmit_pw t).2.1, transmit_nOut t⟩

end Aiortc.Sctp
