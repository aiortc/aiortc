import Aiortc.Lemmas.C02.DrainPRCoh
import Aiortc.Lemmas.C02.DrainPRSack
/-!
# Every move of the adversarial system with partially reliable traffic preserves coherence (C02 drain)

One lemma per constructor of `PLink.Move`: `CohP.sendMsg`, `CohP.runTask`, `CohP.fireT3`, `CohP.deliver` (`CohP.arrive`),
`CohP.deliverSack` (`CohP.sack` for a SACK that is processed), `CohP.frame`; `CohP.fault` puts them together by cases on
`s.fault_move ft`.  Another invariant of `PLink` is carried along a history the same way (`GotInv.fault`).
-/
namespace Aiortc.Sctp
open Aiortc.Gen

-- `_transmit` is used through its lemmas only; opaque, so that no unification step unfolds it
attribute [local irreducible] Tx.transmit

theorem receiveSack_staleP {b : Int} {κ f : Nat} {t : Tx} (h : TxSeqP b κ f t) (k : Nat) (hk : k < κ) (gaps : List (Nat × Nat))
    (now : Int) : t.receiveSack (T b k) gaps now = .ok none :=
  receiveSack_stale_idx h.ls h.localTsn (Nat.le_trans h.le (Nat.le_add_right _ _)) (Nat.lt_of_succ_lt h.bound) k hk gaps now

theorem deliverSack_casesP {b : Int} {κ f r : Nat} {s : PLink} (h : CohP b κ f r s) (k : Nat) (hk : k ≤ r)
    (gaps : List (Nat × Nat)) (rest : List (Int × List (Nat × Nat))) :
    (k < κ ∧ s.deliverSack (T b k) gaps rest = { s with toTx := rest })
    ∨ (κ ≤ k ∧ ∃ t' evs f', s.tx.receiveSack (T b k) gaps s.now1000 = .ok (some (t', evs))
        ∧ SackIdx b k f s.tx t' gaps f'
        ∧ s.deliverSack (T b k) gaps rest
            = { s with tx := t'.transmit.1, toRx := s.toRx ++ arrOf t'.transmit.2, toTx := rest }) := by
  rcases Nat.lt_or_ge k κ with hlt | hge
  · left
    refine ⟨hlt, ?_⟩
    unfold PLink.deliverSack
    rw [receiveSack_staleP h.core.seq k hlt]
  · right
    have hkhi := Nat.le_trans hk h.core.rhi
    obtain ⟨t', evs, hrs⟩ := receiveSack_some s.tx (T b k) gaps s.now1000
      (not_stale_idx h.core.seq.ls h.core.seq.localTsn (Nat.le_trans h.core.seq.le (Nat.le_add_right _ _))
        (Nat.lt_of_succ_lt h.core.seq.bound) k hge (Nat.le_trans hkhi (Nat.add_le_add_left (Nat.le_add_right _ _) f)))
    have hsh := receiveSack_shapeP s.tx _ _ _ t' evs hrs
    obtain ⟨f', hidx⟩ := sack_idx h.core.seq k hge hkhi gaps s.now1000 hsh
    refine ⟨hge, t', evs, f', hrs, hidx, ?_⟩
    unfold PLink.deliverSack
    rw [hrs]

theorem needT3_of_seq {b : Int} {κ f : Nat} {t : Tx} (h : TxSeqP b κ f t)
    (hf : κ < f → ∃ st, t.forwardTsn = some (T b f, st)) : NeedT3 t := by
  intro hn
  obtain ⟨st, hst⟩ := hf (h.needed.mp hn)
  right; rw [hst]; rfl

theorem CohP.frame {b : Int} {κ f r : Nat} {s s' : PLink} (h : CohP b κ f r s) (htx : s'.tx = s.tx)
    (hp : s'.pending = s.pending) (hrx : s'.rx = s.rx) (h1 : ∀ a ∈ s'.toRx, a ∈ s.toRx)
    (h2 : ∀ p ∈ s'.toTx, p ∈ s.toTx) : CohP b κ f r s' :=
  ⟨h.core.grow (htx ▸ h.core.seq) h.core.rlo (Nat.le_refl _) (htx ▸ Nat.le_refl _) hrx (fun a ha => Or.inl (h1 a ha)) h2,
    by rw [htx, hp]; exact h.snd, htx ▸ h.need⟩

/-- a SACK that is not stale is processed and the sender transmits -/
theorem CohP.sack {b : Int} {κ f r k f' : Nat} {s : PLink} {gaps : List (Nat × Nat)} {t' : Tx} {evs : List TxEv}
    (h : CohP b κ f r s) (hk : k ≤ r) (hrs : s.tx.receiveSack (T b k) gaps s.now1000 = .ok (some (t', evs)))
    (hidx : SackIdx b k f s.tx t' gaps f') (rest : List (Int × List (Nat × Nat))) (hrest : ∀ q ∈ rest, q ∈ s.toTx) :
    CohP b k f' r { s with tx := t'.transmit.1, toRx := s.toRx ++ arrOf t'.transmit.2, toTx := rest }
    ∧ f' + t'.transmit.1.nOut = f + s.tx.nOut := by
  have hsnd : SndInv { tx := t'.transmit.1, pending := s.pending } := by
    -- the link's SACK step is `SOp.sack` with nothing flushed: `receiveSack`, then `transmit`
    have := h.snd.step (.sack (T b k) gaps s.now1000 [])
    simpa [Snd.step, hrs] using this
  have hc1 := h.core.grow (s' := { s with tx := t', toTx := rest }) hidx.seq hk
    (Nat.le_trans (Nat.le_max_right k f) hidx.fge) hidx.hi rfl (fun a ha => Or.inl ha) hrest
  exact ⟨⟨hc1.transmit rfl rfl (fun a ha => List.mem_append.mp ha) (fun q hq => hq), hsnd,
    (needT3_of_seq hidx.seq hidx.fwdNew).transmit⟩, (congrArg (f' + ·) (transmit_queues t').2).trans hidx.cons⟩

theorem CohP.deliverSack {b : Int} {κ f r : Nat} {s : PLink} (h : CohP b κ f r s) (p : Int × List (Nat × Nat))
    (hp : p ∈ s.toTx) (rest : List (Int × List (Nat × Nat))) (hrest : ∀ q ∈ rest, q ∈ s.toTx) :
    ∃ κ' f' k, κ ≤ κ' ∧ f ≤ f' ∧ p.1 = T b k ∧ k ≤ r ∧ ((κ' = κ ∧ k < κ) ∨ (κ' = k ∧ κ ≤ k))
      ∧ CohP b κ' f' r (s.deliverSack p.1 p.2 rest)
      ∧ f' + (s.deliverSack p.1 p.2 rest).tx.nOut = f + s.tx.nOut := by
  obtain ⟨k, hk, hpk⟩ := h.core.toTx p hp
  rw [hpk]
  rcases deliverSack_casesP h k hk p.2 rest with ⟨hlt, he⟩ | ⟨hge, t', evs, f', hrs, hidx, he⟩
  · rw [he]
    exact ⟨κ, f, k, Nat.le_refl _, Nat.le_refl _, rfl, hk, Or.inl ⟨rfl, hlt⟩, h.frame rfl rfl rfl (fun _ ha => ha) hrest, rfl⟩
  · rw [he]
    obtain ⟨hc', hn'⟩ := h.sack hk hrs hidx rest hrest
    exact ⟨k, f', k, hge, Nat.le_trans (Nat.le_max_right k f) hidx.fge, rfl, hk, Or.inr ⟨rfl, hge⟩, hc', hn'⟩

/-- a chunk in flight arrives; with what `CoreP.deliver` says of the new cumulative TSN `T b r'` for each kind of chunk -/
theorem CohP.arrive {b : Int} {κ f r : Nat} {s : PLink} (h : CohP b κ f r s) (a : Arrival) (ha : a ∈ s.toRx)
    (rest : List Arrival) (hrest : ∀ e ∈ rest, e ∈ s.toRx) :
    ∃ r', r ≤ r' ∧ CohP b κ f r' (s.deliver a rest) ∧ (rxArr s.rx a).last = T b r'
      ∧ (match a with
          | .data d => ∃ k, k ≤ f + s.tx.sentQ.length ∧ d.tsn = T b k ∧ (k = r + 1 → r < r')
          | .fwd c _ => ∃ k, k ≤ f ∧ c = T b k ∧ k ≤ r') := by
  obtain ⟨r', r1, r2, _, _, _, _, hkind, r8⟩ := h.core.deliver a ha
  refine ⟨r', r1, ⟨r8 _ rfl rfl hrest ?_, h.snd, h.need⟩, r2, hkind⟩
  intro p hp
  simp only [PLink.deliver, List.mem_append, List.mem_singleton] at hp
  rcases hp with hp | hp
  · exact Or.inl hp
  · right; rw [hp]; exact r2

theorem CohP.deliver {b : Int} {κ f r : Nat} {s : PLink} (h : CohP b κ f r s) (a : Arrival) (ha : a ∈ s.toRx)
    (rest : List Arrival) (hrest : ∀ e ∈ rest, e ∈ s.toRx) :
    ∃ r', r ≤ r' ∧ CohP b κ f r' (s.deliver a rest) ∧ (rxArr s.rx a).last = T b r' :=
  (h.arrive a ha rest hrest).imp fun _ h' => ⟨h'.1, h'.2.1, h'.2.2.1⟩

theorem CohP.runTask {b : Int} {κ f r : Nat} {s : PLink} (h : CohP b κ f r s) : CohP b κ f r s.runTask :=
  ⟨h.core.transmit rfl rfl (fun _ ha => List.mem_append.mp ha) (fun _ hp => hp), h.snd.step .task, h.need.transmit⟩

theorem CohP.fireT3 {b : Int} {κ f r : Nat} {s : PLink} (h : CohP b κ f r s) :
    ∃ f', T3Idx b κ f s.tx (s.tx.t3Expired s.now1000) f' ∧ CohP b κ f' r s.fireT3 := by
  have sh := t3Expired_shapeP s.tx s.now1000
  obtain ⟨f', hidx⟩ := t3_idx h.core.seq sh
  exact ⟨f', hidx, ⟨h.core.grow (s' := s.fireT3) hidx.seq h.core.rlo hidx.fge hidx.hi rfl (fun a ha => Or.inl ha)
    (fun p hp => hp), h.snd.step (.t3 s.now1000), needT3_of_seq hidx.seq hidx.fwdNew⟩⟩

theorem CohP.sendMsg {b : Int} {κ f r : Nat} {s : PLink} (h : CohP b κ f r s) (m : SendArgs)
    (hb : f + s.tx.nOut + fragCount m.data.length + 1 < 2147483648) :
    CohP b κ f r (s.sendMsg m) ∧ f + (s.sendMsg m).tx.nOut = f + s.tx.nOut + fragCount m.data.length := by
  have hn := enqueue_nOut s.tx m.sid m.ppid m.data m.expiry m.maxRtx m.ordered
  have hc1 := h.core.grow (s' := { s with tx := s.tx.enqueue m.sid m.ppid m.data m.expiry m.maxRtx m.ordered })
    (h.core.seq.enqueue _ _ _ _ _ _ hb) h.core.rlo (Nat.le_refl _) (by simp only; rw [hn.2]; exact Nat.le_refl _) rfl
    (fun a ha => Or.inl ha) (fun p hp => hp)
  exact ⟨⟨hc1.transmit rfl rfl (fun a ha => List.mem_append.mp ha) (fun p hp => hp), h.snd.step (.send m),
    (h.need.enqueue _ _ _ _ _ _).transmit⟩,
    (congrArg (f + ·) ((transmit_queues _).2.trans hn.1)).trans (Nat.add_assoc f _ _).symm⟩

/-- The bound has `+ 1` for `localTsn`, the TSN after the last one assigned, which is compared too. -/
theorem CohP.fault {b : Int} {κ f r : Nat} {s : PLink} (h : CohP b κ f r s) (ft : Fault)
    (hb : f + s.tx.nOut + ft.sent + 1 < 2147483648) :
    ∃ κ' f' r', CohP b κ' f' r' (s.fault ft) ∧ κ ≤ κ' ∧ f ≤ f' ∧ r ≤ r'
      ∧ f' + (s.fault ft).tx.nOut = f + s.tx.nOut + ft.sent := by
  generalize hs' : s.fault ft = s'
  have hm := s.fault_move ft
  rw [hs'] at hm
  cases hm with
  | send m => exact ⟨κ, f, r, (h.sendMsg m hb).1, Nat.le_refl _, Nat.le_refl _, Nat.le_refl _, (h.sendMsg m hb).2⟩
  | task => exact ⟨κ, f, r, h.runTask, Nat.le_refl _, Nat.le_refl _, Nat.le_refl _, congrArg (f + ·) (transmit_queues s.tx).2⟩
  | fireT3 =>
    obtain ⟨f', hidx, hc⟩ := h.fireT3
    exact ⟨κ, f', r, hc, Nat.le_refl _, hidx.fge, Nat.le_refl _, hidx.cons⟩
  | arrive hi =>
    obtain ⟨r', hr, hc, _⟩ := h.deliver _ (List.mem_of_getElem? hi) _ (fun e he => List.mem_of_mem_eraseIdx he)
    exact ⟨κ, f, r', hc, Nat.le_refl _, Nat.le_refl _, hr, rfl⟩
  | sack hi =>
    obtain ⟨κ', f', _, hκ, hf, _, _, _, hc, hn⟩ := h.deliverSack _ (List.mem_of_getElem? hi) _
      (fun e he => List.mem_of_mem_eraseIdx he)
    exact ⟨κ', f', r, hc, hκ, hf, Nat.le_refl _, hn⟩
  | net h0 _ hn =>
    exact ⟨κ, f, r, h.frame hn.tx hn.pending hn.rx hn.toRx hn.toTx, Nat.le_refl _, Nat.le_refl _, Nat.le_refl _, by rw [hn.tx, h0]; rfl⟩

end Aiortc.Sctp
