import Aiortc.Lemmas.C02.DrainSeq
/-!
# A SACK that strikes newly gap-acks a later chunk (C02 drain)

`psi l tail` reads the "not gap-acked" flags of a queue as a binary number (first chunk = lowest bit).  The strike
loop of `_receive_sack_chunk` only visits chunks up to the highest NEWLY acked TSN, so whenever it changes
anything (miss counters, retransmit marks, un-acks) a chunk further back has just been gap-acked: the number
strictly decreases (`sackList_lex`).  This bounds the number of SACKs that can mark chunks for fast retransmission
between two T3 expiries, whatever the SACKs contain.
-/
namespace Aiortc.Sctp
open Aiortc.Gen

def bit (c : SChunk) : Nat := if c.acked then 0 else 1

theorem bit_le_one (c : SChunk) : bit c ≤ 1 := by unfold bit; split <;> omega

def BitLe (c d : SChunk) : Prop := c.acked = true → d.acked = true

theorem BitLe.refl (c : SChunk) : BitLe c c := id

theorem BitLe.bit {c d : SChunk} (h : BitLe c d) : bit d ≤ bit c := by
  unfold Aiortc.Sctp.bit
  cases hc : c.acked with
  | true => simp [h hc]
  | false => split <;> simp

def psi : List SChunk → Nat → Nat
  | [], tail => tail
  | c :: cs, tail => bit c + 2 * psi cs tail

/-- a later chunk was newly gap-acked, everything behind it kept its flag or gained one -/
inductive LexLt : List SChunk → List SChunk → Prop
  | here {c d : SChunk} {cs ds : List SChunk} : c.acked = false → d.acked = true → PW BitLe cs ds → LexLt (c :: cs) (d :: ds)
  | there {c d : SChunk} {cs ds : List SChunk} : LexLt cs ds → LexLt (c :: cs) (d :: ds)

theorem psi_mono_tail : ∀ (l : List SChunk) {t1 t2 : Nat}, t1 ≤ t2 → psi l t1 ≤ psi l t2
  | [], _, _, h => h
  | c :: cs, _, _, h => by have := psi_mono_tail cs h; simp only [psi]; omega

theorem psi_le_of_pw : ∀ {l l' : List SChunk} (tail : Nat), PW BitLe l l' → psi l' tail ≤ psi l tail
  | [], [], _, _ => Nat.le_refl _
  | c :: cs, d :: ds, tail, h => by
    have h1 := h.1.bit
    have h2 := psi_le_of_pw (l := cs) (l' := ds) tail h.2
    simp only [psi]; omega
  | [], _ :: _, _, h => h.elim
  | _ :: _, [], _, h => h.elim

theorem psi_lt_of_lex {l l' : List SChunk} (tail : Nat) (h : LexLt l l') : psi l' tail < psi l tail := by
  induction h with
  | here hc hd hpw =>
    have := psi_le_of_pw tail hpw
    simp only [psi, bit, hc, hd]; simp; omega
  | there _ ih =>
    rename_i c d cs ds _
    have := bit_le_one d
    simp only [psi]; omega

theorem LexLt.length {l l' : List SChunk} (h : LexLt l l') : l.length = l'.length := by
  induction h with
  | here _ _ hpw => simp [PW.length hpw]
  | there _ ih => simp [ih]

theorem psi_append : ∀ (l1 l2 : List SChunk) (tail : Nat), psi (l1 ++ l2) tail = psi l1 (psi l2 tail)
  | [], _, _ => rfl
  | c :: cs, l2, tail => by simp only [List.cons_append, psi, psi_append cs l2 tail]

theorem psi_bound : ∀ (l : List SChunk) (tail : Nat), psi l tail + 1 ≤ 2 ^ l.length * (tail + 1)
  | [], tail => by simp [psi]
  | c :: cs, tail => by
    have := psi_bound cs tail
    have hb := bit_le_one c
    simp only [psi, List.length_cons, Nat.pow_succ]
    have : 2 ^ cs.length * 2 * (tail + 1) = 2 * (2 ^ cs.length * (tail + 1)) := by
      rw [Nat.mul_comm (2 ^ cs.length) 2, Nat.mul_assoc]
    omega

theorem psi_ge_tail : ∀ (l : List SChunk) (tail : Nat), tail ≤ psi l tail
  | [], _ => Nat.le_refl _
  | c :: cs, tail => by have := psi_ge_tail cs tail; simp only [psi]; omega

theorem psi_drop (l : List SChunk) (k tail : Nat) : psi (l.drop k) tail ≤ psi l tail := by
  conv => rhs; rw [← List.take_append_drop k l, psi_append]
  exact psi_ge_tail _ _

/-! ## one SACK -/

theorem htnaChunk_tsn (seen : List Int) (c : SChunk) : (htnaChunk seen c).tsn = c.tsn := (htnaChunk_sameId seen c).1

/-- Either nothing is newly gap-acked — then neither the HTNA loop nor the strike loop changes anything — or the
queue strictly decreases in the order `LexLt`. -/
theorem sack_lex (b : Int) (seen : List Int) (hs : Int) : ∀ (l : List SChunk) (a q0 : Nat), Seq b a l →
    a + l.length < 2147483648 → q0 ≤ a →
    (htnaHna seen hs (T b q0) l = T b q0 ∧ htnaList seen hs l = l
      ∧ strikeList seen (htnaHna seen hs (T b q0) l) l = l)
    ∨ (∃ q, a < q ∧ q ≤ a + l.length ∧ htnaHna seen hs (T b q0) l = T b q
        ∧ LexLt l (strikeList seen (htnaHna seen hs (T b q0) l) (htnaList seen hs l))) := by
  intro l
  induction l with
  | nil => intro a q0 _ _ _; exact Or.inl ⟨rfl, rfl, rfl⟩
  | cons c cs ih =>
    intro a q0 hseq hlen hq0
    rw [List.length_cons] at hlen ⊢
    have hct := hseq.1
    -- the strike loop stops at `c` when nothing beyond the cumulative TSN `T b q0` was newly acked …
    have hstay : strikeList seen (T b q0) (c :: cs) = c :: cs := by
      unfold strikeList; rw [hct, gt_T b (a + 1) q0 (by omega) (by omega), if_pos (decide_eq_true (by omega))]
    -- … and visits it when a chunk behind it was
    have hthere : ∀ q, a + 1 ≤ q → q ≤ a + (cs.length + 1) → LexLt cs (strikeList seen (T b q) (htnaList seen hs cs)) →
        LexLt (c :: cs) (strikeList seen (T b q) (htnaChunk seen c :: htnaList seen hs cs)) := by
      intro q q1 q2 hlex
      unfold strikeList
      rw [htnaChunk_tsn, hct, gt_T b (a + 1) q (by omega) (by omega), if_neg (by simp only [decide_eq_true_eq]; omega)]
      exact LexLt.there hlex
    unfold htnaHna htnaList
    by_cases hstop : uint32_gt c.tsn hs = true
    · rw [if_pos hstop, if_pos hstop]
      exact Or.inl ⟨rfl, rfl, hstay⟩
    · rw [if_neg hstop, if_neg hstop]
      by_cases hnew : (seen.contains c.tsn && !c.acked) = true
      · rw [if_pos hnew, hct]
        rcases ih (a + 1) (a + 1) hseq.2 (by omega) (Nat.le_refl _) with ⟨e1, e2, e3⟩ | ⟨q, g1, g2, g3, g4⟩
        · refine Or.inr ⟨a + 1, by omega, by omega, e1, ?_⟩
          rw [e1] at e3 ⊢
          rw [e2]
          unfold strikeList
          rw [htnaChunk_tsn, hct, gt_T b (a + 1) (a + 1) (by omega) (by omega), if_neg (by simp), e3]
          simp only [Bool.and_eq_true, Bool.not_eq_true'] at hnew
          have hsc : strikeChunk seen (htnaChunk seen c) = htnaChunk seen c := by
            unfold strikeChunk; rw [htnaChunk_tsn, if_pos hnew.1]
          rw [hsc]
          exact LexLt.here hnew.2 (by simp only [htnaChunk, hnew, Bool.not_false, Bool.and_self, if_true])
            (PW.refl BitLe.refl cs)
        · exact Or.inr ⟨q, by omega, by omega, g3, g3 ▸ hthere q (by omega) (by omega) (g3 ▸ g4)⟩
      · rw [if_neg hnew]
        rcases ih (a + 1) q0 hseq.2 (by omega) (by omega) with ⟨e1, e2, e3⟩ | ⟨q, g1, g2, g3, g4⟩
        · refine Or.inl ⟨e1, ?_, by rw [e1]; exact hstay⟩
          rw [e2, htnaChunk, if_neg hnew]
        · exact Or.inr ⟨q, by omega, by omega, g3, g3 ▸ hthere q (by omega) (by omega) (g3 ▸ g4)⟩

theorem sackList_lex (b : Int) (k : Nat) (gaps : List (Nat × Nat)) (l : List SChunk) (hs : Seq b k l)
    (hl : k + l.length < 2147483648) : sackList (T b k) gaps l = l ∨ LexLt l (sackList (T b k) gaps l) := by
  unfold sackList
  split
  · exact Or.inl rfl
  · simp only
    rcases sack_lex b _ _ l k k hs hl (Nat.le_refl _) with ⟨_, e2, e3⟩ | ⟨q, _, _, _, g4⟩
    · left; rw [e2, e3]
    · exact Or.inr g4

/-! ## chunks marked for retransmission -/

def flagCount : List SChunk → Nat
  | [] => 0
  | c :: cs => (if c.retransmit then 1 else 0) + flagCount cs

theorem flagCount_append : ∀ (a b : List SChunk), flagCount (a ++ b) = flagCount a + flagCount b
  | [], _ => by simp [flagCount]
  | c :: cs, b => by simp only [List.cons_append, flagCount, flagCount_append cs b]; omega

theorem flagCount_le_length : ∀ l : List SChunk, flagCount l ≤ l.length
  | [] => Nat.le_refl _
  | c :: cs => by have := flagCount_le_length cs; simp only [flagCount, List.length_cons]; split <;> omega

theorem flagCount_drop (l : List SChunk) (k : Nat) : flagCount (l.drop k) ≤ flagCount l := by
  conv => rhs; rw [← List.take_append_drop k l, flagCount_append]
  omega

theorem flagCount_zero {l : List SChunk} (h : ∀ c ∈ l, c.retransmit = false) : flagCount l = 0 := by
  induction l with
  | nil => rfl
  | cons c cs ih =>
    simp only [flagCount, h c (by simp), Bool.false_eq_true, if_false, Nat.zero_add]
    exact ih (fun d hd => h d (by simp [hd]))

theorem RtxPW.count {l l' : List SChunk} {es : List RChunk} (h : RtxPW l l' es) :
    flagCount l' + es.length = flagCount l ∧ PW BitLe l l' := by
  refine ⟨?_, h.pw.mono fun c _ h => h.elim (· ▸ BitLe.refl c) (· ▸ id)⟩
  induction h with
  | nil => rfl
  | keep c _ ih => simp only [flagCount]; omega
  | send c hr _ ih =>
    simp only [flagCount, hr, rtxChunk, List.length_cons, if_true, Bool.false_eq_true, if_false]; omega

theorem RtxPW.tsn {l l' : List SChunk} {es : List RChunk} (h : RtxPW l l' es) : ∀ e ∈ es, ∃ c ∈ l, e.tsn = c.tsn := by
  induction h with
  | nil => intro e he; cases he
  | keep c _ ih =>
    intro e he
    obtain ⟨d, hd, h'⟩ := ih e he
    exact ⟨d, List.mem_cons_of_mem _ hd, h'⟩
  | send c _ _ ih =>
    intro e he
    rcases List.mem_cons.mp he with rfl | he
    · exact ⟨c, List.mem_cons_self, rfl⟩
    · obtain ⟨d, hd, h'⟩ := ih e he
      exact ⟨d, List.mem_cons_of_mem _ hd, h'⟩

end Aiortc.Sctp
