import Aiortc.Lemmas.C02.DrainHonest
import Aiortc.Lemmas.C02.DrainPRSeq
/-!
# One SACK / one T3 expiry on a sender with partially reliable traffic, in index form (C02 drain)
-/
namespace Aiortc.Sctp
open Aiortc.Gen

theorem strikeLoop_stop (seen : List Int) (now : Int) (fuel : Nat) (t : Tx) (loss : Bool) {b : Int} {κ a : Nat}
    (hs : Seq b a t.sentQ) (hκa : κ ≤ a) (hlen : a + t.sentQ.length < 2147483648) :
    strikeLoop seen (T b κ) now fuel 0 t loss = (t, loss) := by
  cases fuel with
  | zero => rfl
  | succ fuel =>
    rw [strikeLoop_succ]
    cases hq : t.sentQ with
    | nil => rfl
    | cons c cs =>
      rw [hq] at hs hlen
      have hgt := gt_T b (a + 1) κ (Nat.lt_of_le_of_lt (Nat.add_le_add_left (Nat.succ_pos _) a) hlen)
        (Nat.lt_of_le_of_lt (Nat.le_trans hκa (Nat.le_add_right _ _)) hlen)
      rw [decide_eq_true (Nat.lt_succ_of_le hκa), ← hs.1] at hgt
      simp only [List.getElem?_cons_zero, hgt, if_true]

/-- the HTNA loop: nothing is newly gap-acked, or `highest_newly_acked` is the TSN of a chunk that was -/
theorem htna_new (b : Int) (seen : List Int) (hs : Int) : ∀ (l : List SChunk) (a q0 : Nat), Seq b a l →
    a + l.length < 2147483648 → q0 ≤ a →
    (htnaHna seen hs (T b q0) l = T b q0 ∧ htnaList seen hs l = l)
    ∨ ∃ (q i : Nat) (c d : SChunk), a < q ∧ q ≤ a + l.length ∧ htnaHna seen hs (T b q0) l = T b q ∧ T b q ∈ seen
        ∧ l[i]? = some c ∧ (htnaList seen hs l)[i]? = some d ∧ c.tsn = T b q ∧ c.acked = false ∧ d.acked = true := by
  intro l
  induction l with
  | nil => intro a q0 _ _ _; exact Or.inl ⟨rfl, rfl⟩
  | cons c cs ih =>
    intro a q0 hseq hlen hq0
    have hlen' : a + 1 + cs.length < 2147483648 := by rw [Nat.add_assoc, Nat.add_comm 1]; exact hlen
    have hlast : ∀ {q}, q ≤ a + 1 + cs.length → q ≤ a + (c :: cs).length := fun h => by
      rw [List.length_cons, Nat.add_comm cs.length, ← Nat.add_assoc]; exact h
    have hct := hseq.1
    unfold htnaHna htnaList
    by_cases hstop : uint32_gt c.tsn hs = true
    · rw [if_pos hstop, if_pos hstop]; exact Or.inl ⟨rfl, rfl⟩
    · rw [if_neg hstop, if_neg hstop]
      by_cases hnew : (seen.contains c.tsn && !c.acked) = true
      · rw [if_pos hnew]
        have hnew' := hnew
        simp only [Bool.and_eq_true, Bool.not_eq_true', List.contains_iff_mem] at hnew'
        rw [hct]
        right
        rcases ih (a + 1) (a + 1) hseq.2 hlen' (Nat.le_refl _) with ⟨e1, _⟩ | ⟨q, i, c', d, g1, g2, g⟩
        · exact ⟨a + 1, 0, c, htnaChunk seen c, Nat.lt_succ_self a, Nat.add_le_add_left (Nat.succ_pos _) a, e1,
            hct ▸ hnew'.1, rfl, rfl, hct, hnew'.2, by simp only [htnaChunk, hnew, if_true]⟩
        · exact ⟨q, i + 1, c', d, Nat.lt_of_succ_lt g1, hlast g2, g⟩
      · rw [if_neg hnew]
        rcases ih (a + 1) q0 hseq.2 hlen' (Nat.le_succ_of_le hq0) with ⟨e1, e2⟩ | ⟨q, i, c', d, g1, g2, g⟩
        · exact Or.inl ⟨e1, by rw [e2]; simp only [htnaChunk, hnew, Bool.false_eq_true, if_false]⟩
        · exact Or.inr ⟨q, i + 1, c', d, Nat.lt_of_succ_lt g1, hlast g2, g⟩

theorem LexLt.of_getElem? {c d : SChunk} (h1 : c.acked = false) (h2 : d.acked = true) :
    ∀ {i : Nat} {l l' : List SChunk}, l[i]? = some c → l'[i]? = some d →
      PW BitLe (l.drop (i + 1)) (l'.drop (i + 1)) → LexLt l l' := by
  intro i
  induction i with
  | zero =>
    intro l l' hc hd ht
    cases l <;> cases l' <;> simp only [List.getElem?_nil, List.getElem?_cons_zero, Option.some.injEq, reduceCtorEq] at hc hd
    subst hc hd
    exact LexLt.here h1 h2 ht
  | succ i ih =>
    intro l l' hc hd ht
    cases l <;> cases l' <;> simp only [List.getElem?_nil, List.getElem?_cons_succ, reduceCtorEq] at hc hd
    exact LexLt.there (ih hc hd ht)

theorem bitLe_tail {b : Int} {seen : List Int} {q a : Nat} {xs ys : List SChunk} (hs : Seq b a xs) (hqa : q ≤ a)
    (hb : a + xs.length < 2147483648) (h : PW (SR seen (T b q)) xs ys) : PW BitLe xs ys := by
  refine PW.imp_mem h (fun c hc d hr hx => ?_)
  obtain ⟨k, k1, k2, k3⟩ := hs.mem hc
  cases hy : d.acked with
  | true => rfl
  | false =>
    have := (hr.2.2.2 hx hy).2
    rw [k3, gt_T b k q (Nat.lt_of_le_of_lt k2 hb) (Nat.lt_of_le_of_lt (Nat.le_trans hqa (Nat.le_add_right _ _)) hb),
      decide_eq_false_iff_not] at this
    exact absurd (Nat.lt_of_le_of_lt hqa k1) this

/-- a chunk was newly gap-acked and nothing beyond the highest newly acked TSN lost its gap-ack: `LexLt` -/
theorem lex_of_sr {b : Int} {seen : List Int} {q a i : Nat} {l l' : List SChunk} {c d : SChunk} (hs : Seq b a l)
    (hb : a + l.length < 2147483648) (h : PW (SR seen (T b q)) l l') (hq : q ≤ a + l.length) (hc : l[i]? = some c)
    (hd : l'[i]? = some d) (ht : c.tsn = T b q) (h1 : c.acked = false) (h2 : d.acked = true) : LexLt l l' := by
  obtain ⟨hi, hs'⟩ := hs.getElem? hc
  have hlt : i + 1 ≤ l.length := (List.getElem?_eq_some_iff.mp hc).1
  obtain rfl : q = a + i + 1 := T_inj (Nat.lt_trans (Nat.lt_of_le_of_lt hq hb) (by decide))
    (Nat.lt_trans (Nat.lt_of_le_of_lt (Nat.add_le_add_left hlt a) hb) (by decide)) (ht.symm.trans hi)
  refine LexLt.of_getElem? h1 h2 hc hd (bitLe_tail hs' (Nat.le_refl _) ?_ (PW.drop (i + 1) h))
  rw [List.length_drop, Nat.add_assoc a, Nat.add_assoc a, Nat.add_sub_cancel' hlt]
  exact hb

/-- the gap phase of a SACK: `tH` is the sender after the HTNA loop, `t4` after the strike loop (without gap blocks: at
once), `out` the outbound queue before -/
theorem gapPhase_parts {b : Int} {κ a : Nat} (hκa : κ ≤ a) {l out : List SChunk} (hseq : Seq b a l)
    (hlen : a + l.length < 2147483648) (seen : List Int) (hs : Int) {now : Int} {t4 tH : Tx} (hHo : tH.outQ = out)
    (hcase : (t4.sentQ = l ∧ t4.outQ = out)
       ∨ (tH.sentQ = htnaList seen hs l
          ∧ t4.sentQ = (strikeLoop seen (htnaHna seen hs (T b κ) l) now tH.sentQ.length 0 tH false).1.sentQ
          ∧ t4.outQ = (strikeLoop seen (htnaHna seen hs (T b κ) l) now tH.sentQ.length 0 tH false).1.outQ)) :
    ∃ front moved m, t4.sentQ = front ++ moved ∧ t4.outQ = out.drop m ∧ PW MV (out.take m) moved
      ∧ PW (SR seen (htnaHna seen hs (T b κ) l)) l front
      ∧ ((front = l ∧ moved = [])
         ∨ (∃ q, a < q ∧ q < 2147483648 ∧ htnaHna seen hs (T b κ) l = T b q ∧ T b q ∈ seen ∧ LexLt l front)) := by
  rcases hcase with ⟨g2, g3⟩ | ⟨hH, g3, g4⟩
  · exact ⟨l, [], 0, by rw [g2, List.append_nil], g3, trivial, PW.refl (SR.refl _ _) l, Or.inl ⟨rfl, rfl⟩⟩
  rw [g3, g4, ← hHo]
  rcases htna_new b seen hs l a κ hseq hlen hκa with ⟨n1, n2⟩ | ⟨q, i, c, d, n1, n2, n3, n4, n5, n6, n7, n8, n9⟩
  · have hHl : tH.sentQ = l := hH.trans n2
    rw [n1, strikeLoop_stop _ now _ tH false (hHl ▸ hseq) hκa (hHl ▸ hlen)]
    exact ⟨l, [], 0, by rw [hHl, List.append_nil], rfl, trivial, PW.refl (SR.refl _ _) l, Or.inl ⟨rfl, rfl⟩⟩
  · rw [n3]
    obtain ⟨front, moved, m, p1, p2, p3, p4⟩ := strikeLoop_parts seen (T b q) now tH.sentQ.length 0 tH false
    have hsr0 : PW (SR seen (T b q)) l tH.sentQ := hH ▸ htnaList_sr _ _ _ l
    have hsr := PW.trans_self (SR _ _) SR.trans hsr0 p3
    refine ⟨front, moved, m, p1, p2, p4, hsr, Or.inr ⟨q, n1, Nat.lt_of_le_of_lt n2 hlen, rfl, n4, ?_⟩⟩
    -- the newly acked chunk keeps its gap-ack through the strike loop, its TSN being in `seen`
    have hd : tH.sentQ[i]? = some d := hH ▸ n6
    obtain ⟨d', hd', hr'⟩ := PW.getElem?_left p3 i d hd
    obtain ⟨c0, hc0, hr0⟩ := PW.getElem?_right hsr0 i d hd
    obtain rfl : c = c0 := Option.some.inj (n5.symm.trans hc0)
    have hd'a : d'.acked = true := by
      cases hx : d'.acked with
      | true => rfl
      | false => exact absurd n4 (n7 ▸ hr0.1.1 ▸ (hr'.2.2.2 n9 hx).1)
    exact lex_of_sr hseq hlen hsr n2 n5 hd' n7 n8 hd'a

/-- one SACK with cumulative TSN `T b κ` in index form: the queues afterwards, the new advanced peer ack point `T b f'`,
what happened to the flags of the chunks that stay outstanding. In `parts`: `front` = the chunks the cumulative ack left, after
the gap-ack and strike loops (related to the old ones by `SR`); `moved` = unsent chunks that `_maybe_abandon` pulled in from `outQ`;
`k2` = abandoned chunks at the head of `front ++ moved` that `_update_advanced_peer_ack_point` popped. -/
structure SackIdx (b : Int) (κ f : Nat) (t t' : Tx) (gaps : List (Nat × Nat)) (f' : Nat) : Prop where
  seq : TxSeqP b κ f' t'
  fge : max κ f ≤ f'
  cons : f' + t'.nOut = f + t.nOut
  hi : f + t.sentQ.length ≤ f' + t'.sentQ.length
  parts : ∃ front moved k2, t'.sentQ = (front ++ moved).drop k2 ∧ f' = max κ f + k2 ∧ k2 ≤ (front ++ moved).length
      ∧ t'.outQ.length + moved.length = t.outQ.length
      ∧ PW (SR (seenOf (T b κ) gaps (t.sentQ.drop (κ - f))) (hnaOf (T b κ) gaps (t.sentQ.drop (κ - f))))
          (t.sentQ.drop (κ - f)) front
      ∧ ((front = t.sentQ.drop (κ - f) ∧ moved = [])
         ∨ (∃ q, max κ f < q ∧ q < 2147483648 ∧ hnaOf (T b κ) gaps (t.sentQ.drop (κ - f)) = T b q
              ∧ T b q ∈ seenOf (T b κ) gaps (t.sentQ.drop (κ - f)) ∧ LexLt (t.sentQ.drop (κ - f)) front))
  fwdNew : κ < f' → ∃ st, t'.forwardTsn = some (T b f', st)
  fwdOld : ¬ κ < f' → t'.forwardTsn = t.forwardTsn

theorem SackIdx.fx {b : Int} {k f f' : Nat} {t t' : Tx} {gaps : List (Nat × Nat)} (h : SackIdx b k f t t' gaps f') :
    SackFx b k f t t' gaps := by
  obtain ⟨front, moved, k2, p1, _, _, p4, p5, pcase⟩ := h.parts
  exact ⟨_, front, moved, k2, p1, p4, p5, pcase.imp_right fun ⟨q, _, q2, q3, q4, q5⟩ => ⟨q, q2, q3, q4, q5⟩⟩

theorem sack_idx {b : Int} {κ0 f : Nat} {t t' : Tx} (h : TxSeqP b κ0 f t) (κ : Nat) (h1 : κ0 ≤ κ)
    (h2 : κ ≤ f + t.sentQ.length) (gaps : List (Nat × Nat)) (now : Int) (hs : SackShapeP t t' (T b κ) gaps now) :
    ∃ f', SackIdx b κ f t t' gaps f' := by
  obtain ⟨s1, s2⟩ := Seq.append.mp h.seq
  have hfn : f + t.sentQ.length < 2147483648 :=
    Nat.lt_of_le_of_lt (Nat.add_le_add_left (Nat.le_add_right _ _) f) (Nat.lt_of_succ_lt h.bound)
  have hq : t.ackedQ (T b κ) = t.sentQ.drop (κ - f) := ackLoop_seq b κ t.sentQ f _ _ _ s1 h2 hfn
  obtain ⟨hseq, hE⟩ := s1.drop_max h2
  obtain ⟨t4, tH, rfl, e2, e3, e4, e5, e6, eHo, ecase⟩ := hs.ex
  rw [hq] at ecase
  -- the state before `_update_advanced_peer_ack_point`: front, moved
  obtain ⟨front, moved, m, m1, m2, m3, m4, mcase⟩ := gapPhase_parts (Nat.le_max_left κ f) hseq (hE ▸ hfn) _ _ eHo
    (ecase.imp And.right And.right)
  -- TSN structure before the ack-point update
  obtain ⟨hpw, hl1, hl2⟩ := Parts.concat (t := { t with sentQ := t.sentQ.drop (κ - f) }) (t' := t4)
    (fun _ _ x => x.1) ⟨front, moved, m, m1, m2, m4, m3⟩
  simp only at hl1 hl2
  have hE2 : max κ f + (t4.sentQ.length + t4.outQ.length) = f + (t.sentQ.length + t.outQ.length) := by
    rw [hl2, ← Nat.add_assoc, hE, Nat.add_assoc]
  obtain ⟨k, k1, k2, hk, k3, kc, k4, k5⟩ := updateAdvAck_seqP (κ := κ) (f0 := f) (t := t4) rfl h.b32 e2 (e3.trans h.adv)
    (fun hlt => e4.trans (h.needed.mpr (Nat.lt_of_le_of_lt h1 hlt))) (Seq.pwT hpw (Seq.append.mpr ⟨hseq, hE ▸ s2⟩))
    (by rw [e6, hE2]; exact h.localTsn) (by rw [hE2]; exact h.bound)
    (fun p hp => by obtain ⟨c, c1, c2⟩ := h.fwdv p (e5 ▸ hp); exact ⟨c, Nat.le_trans c1 (Nat.le_max_right κ f), c2⟩)
  have hmv : (t.outQ.drop m).length + moved.length = t.outQ.length := by
    rw [← PW.length m3, Nat.add_comm]; exact List.take_drop_length t.outQ m
  exact ⟨max κ f + k, k3, Nat.le_add_right _ _, kc.trans hE2,
    by rw [← hE, Nat.add_assoc, Nat.add_comm k, hk]; exact Nat.add_le_add_left hl1 _,
    ⟨front, moved, k, by rw [k2, m1], rfl, m1 ▸ k1, by rw [(updateAdvAck_frame t4).1, m2]; exact hmv, m4, mcase⟩, k4,
    fun hlt => (k5 hlt).trans e5⟩

structure T3Idx (b : Int) (κ f : Nat) (t t' : Tx) (f' : Nat) : Prop where
  seq : TxSeqP b κ f' t'
  fge : f ≤ f'
  cons : f' + t'.nOut = f + t.nOut
  hi : f + t.sentQ.length ≤ f' + t'.sentQ.length
  fwdNew : κ < f' → ∃ st, t'.forwardTsn = some (T b f', st)
  fwdOld : ¬ κ < f' → t'.forwardTsn = t.forwardTsn
  pop : f' = f → t'.sentQ.length = 0 → t.sentQ.length = 0

theorem t3_idx {b : Int} {κ f : Nat} {t t' : Tx} (h : TxSeqP b κ f t) (hs : T3ShapeP t t') : ∃ f', T3Idx b κ f t t' f' := by
  obtain ⟨tM, hp, e2, e3, e4, e5, e6, q1, q2, q3, q4, q5, q6, q7⟩ := hs.ex
  obtain ⟨hpw, hl1, hl2⟩ := hp.concat (fun _ _ (x : TR _ _) => x.1)
  obtain ⟨k, _, _, hk, k3, kc, k4, k5⟩ := updateAdvAck_seqP (κ := κ) (f0 := f) (t := tM) (Nat.max_eq_right h.le) h.b32
    (e2.trans h.ls) (e3.trans h.adv) (fun hlt => e4.trans (h.needed.mpr hlt)) (Seq.pwT hpw h.seq)
    (by rw [e6, hl2]; exact h.localTsn) (by rw [hl2]; exact h.bound) (fun p hp => h.fwdv p (e5 ▸ hp))
  rw [← q1] at hk
  rw [← q1, ← q2, hl2] at kc
  refine ⟨f + k, k3.congr q1 q2 q3 q4 q5 q6 q7, Nat.le_add_right _ _, kc,
    by rw [Nat.add_assoc, Nat.add_comm k, hk]; exact Nat.add_le_add_left hl1 f,
    fun hlt => q5 ▸ k4 hlt, fun hlt => (q5.trans (k5 hlt)).trans e5, fun hk0 hz => ?_⟩
  rw [hz, Nat.add_left_cancel (k := 0) hk0] at hk
  exact Nat.le_zero.mp (Nat.le_trans hl1 (Nat.le_of_eq hk.symm))

end Aiortc.Sctp
