import Aiortc.Lemmas.C02.DrainWeights
import Aiortc.Lemmas.C02.DrainPRAb
/-!
# Shapes of the sender operations with partial reliability (C02 drain)

`updateAdvAck_idx`: `_update_advanced_peer_ack_point` in index form (pops the abandoned chunks at the head of the sent
queue, the advanced peer ack point becomes the TSN before the new head, a FORWARD TSN is (re)scheduled as long as the
cumulative ack is behind it).  `fwdOf_transmit`: the one FORWARD TSN `_transmit` may emit is the pending one.
`receiveSack_shapeP`, `t3Expired_shapeP`: the two operations for ANY sender state.
-/
namespace Aiortc.Sctp
open Aiortc.Gen

/-! ## `_update_advanced_peer_ack_point` -/

theorem Seq.last_take {b : Int} : ∀ {l : List SChunk} {F : Nat} (k : Nat), Seq b F l → k ≤ l.length →
    ((l.take k).getLast?.map (·.tsn)).getD (T b F) = T b (F + k)
  | _, _, 0, _, _ => rfl
  | c :: cs, F, k + 1, h, hk => by
    have ih := Seq.last_take (F := F + 1) k h.2 (Nat.le_of_succ_le_succ hk)
    rw [Nat.add_assoc, Nat.add_comm 1 k] at ih
    rw [List.take_succ_cons, List.getLast?_cons, ← ih]
    cases hq : (cs.take k).getLast? with
    | none => simp only [Option.getD_none, Option.map_some, Option.getD_some, Option.map_none]; exact h.1
    | some d => rfl

/-- `_update_advanced_peer_ack_point`, TSNs as indices: `κ` = cumulative ack, `f0` = old advanced peer ack point; `k` chunks, the
abandoned ones at the head of the sent queue, are popped -/
theorem updateAdvAck_idx (b : Int) (t : Tx) (κ f0 : Nat) (hκ : κ < 2147483648) (hf0 : f0 < 2147483648)
    (hls : t.lastSacked = T b κ) (hadv : t.advAck = T b f0) (hseq : Seq b (max κ f0) t.sentQ)
    (hneed : κ < f0 → t.forwardNeeded = true) :
    ∃ k, k ≤ t.sentQ.length ∧ t.updateAdvAck.sentQ = t.sentQ.drop k ∧ (∀ c ∈ t.sentQ.take k, c.abandoned = true)
      ∧ (∀ c, t.updateAdvAck.sentQ.head? = some c → c.abandoned = false)
      ∧ t.updateAdvAck.advAck = T b (max κ f0 + k)
      ∧ (t.updateAdvAck.forwardNeeded = true ↔ κ < max κ f0 + k)
      ∧ (κ < max κ f0 + k → ∃ st, t.updateAdvAck.forwardTsn = some (T b (max κ f0 + k), st))
      ∧ (¬ κ < max κ f0 + k → t.updateAdvAck.forwardTsn = t.forwardTsn) := by
  -- the popped prefix, by its length
  have hsplit := List.takeWhile_append_dropWhile (p := fun c : SChunk => c.abandoned) (l := t.sentQ)
  have k1 := (List.takeWhile_sublist (l := t.sentQ) fun c : SChunk => c.abandoned).length_le
  have k3 := List.dropWhile_eq_drop (fun c : SChunk => c.abandoned) t.sentQ
  have k4 := List.mem_takeWhile_true (fun c : SChunk => c.abandoned) t.sentQ
  have k5 := List.head?_dropWhile_not (fun c : SChunk => c.abandoned) t.sentQ
  have k2 : t.sentQ.takeWhile (·.abandoned) = t.sentQ.take (t.sentQ.takeWhile (·.abandoned)).length := by
    conv => rhs; arg 2; rw [← hsplit]
    rw [List.take_left]
  generalize (t.sentQ.takeWhile (·.abandoned)).length = k at k1 k2 k3
  rw [k2] at k4
  rw [k3] at k5
  -- the ack point before the pop is `T b (max κ f0)`, and a FORWARD TSN is needed iff the cumulative ack is behind it
  have hbase : (if uint32_gte t.lastSacked t.advAck = true then t.lastSacked else t.advAck) = T b (max κ f0)
      ∧ ((if uint32_gte t.lastSacked t.advAck = true then false else t.forwardNeeded) = true ↔ κ < max κ f0) := by
    rw [hls, hadv, gte_T b κ f0 hκ hf0]
    by_cases h : f0 ≤ κ
    · rw [decide_eq_true h, if_pos rfl, if_pos rfl, Nat.max_eq_left h]
      exact ⟨rfl, fun h' => (nomatch h'), fun h' => absurd h' (Nat.lt_irrefl κ)⟩
    · have hlt := Nat.not_le.mp h
      rw [decide_eq_false h, if_neg Bool.false_ne_true, if_neg Bool.false_ne_true, Nat.max_eq_right (Nat.le_of_lt hlt)]
      exact ⟨rfl, fun _ => hlt, hneed⟩
  have he : (!(t.sentQ.take k).isEmpty) = true ↔ 0 < k := by
    rw [Bool.not_eq_true', ← Bool.not_eq_true, List.isEmpty_iff, ← List.length_eq_zero_iff, List.length_take,
      Nat.min_eq_left k1]; omega
  have hκF := Nat.le_max_left κ f0
  have hu := updateAdvAck_eq t
  simp only [k2, k3, hbase.1] at hu
  rw [hseq.last_take k k1] at hu
  generalize t.updateAdvAck = u at hu ⊢
  have hnd : u.forwardNeeded = true ↔ κ < max κ f0 + k := by
    rw [hu]; simp only; rw [Bool.or_eq_true, hbase.2, he]; omega
  refine ⟨k, k1, by rw [hu], k4, fun c hc => ?_, by rw [hu], hnd, fun hlt => ?_, fun hn => ?_⟩
  · rw [hu] at hc; simp only at hc; rw [hc] at k5; exact k5
  · have := hnd.mpr hlt
    rw [hu] at this ⊢; simp only at this ⊢
    rw [if_pos this]; exact ⟨_, rfl⟩
  · have : u.forwardNeeded = false := Bool.eq_false_iff.mpr fun h => hn (hnd.mp h)
    rw [hu] at this ⊢; simp only at this ⊢
    rw [if_neg (by rw [this]; exact Bool.false_ne_true)]

theorem updateAdvAck_frame (t : Tx) :
    t.updateAdvAck.outQ = t.outQ ∧ t.updateAdvAck.lastSacked = t.lastSacked ∧ t.updateAdvAck.localTsn = t.localTsn
    ∧ t.updateAdvAck.t3 = t.t3 ∧ t.updateAdvAck.flight = t.flight := by
  have h := (updateAdvAck_spec t).frame
  generalize t.updateAdvAck = r at h
  refine ⟨?_, ?_, ?_, ?_, ?_⟩ <;> rw [h]

/-! ## `_transmit` with a FORWARD TSN pending -/

def fwdOf : List TxEv → List (Int × List (Nat × Int))
  | [] => []
  | .fwd c s :: evs => (c, s) :: fwdOf evs
  | _ :: evs => fwdOf evs

theorem fwdOf_append (a b : List TxEv) : fwdOf (a ++ b) = fwdOf a ++ fwdOf b := by
  induction a with
  | nil => rfl
  | cons e es ih => cases e <;> simp [fwdOf, ih]

theorem fwdOf_nil {l : List TxEv} (h : ∀ ev ∈ l, ∀ c st, ev ≠ TxEv.fwd c st) : fwdOf l = [] := by
  induction l with
  | nil => rfl
  | cons e es ih =>
    have ih' := ih fun ev hev => h ev (List.mem_cons_of_mem _ hev)
    cases e with
    | fwd c st => exact absurd rfl (h _ List.mem_cons_self c st)
    | _ => exact ih'

/-- the FORWARD TSN chunks `_transmit` emits: the pending one, if any (the two loops emit DATA chunks and timer events only) -/
theorem fwdOf_transmit (t : Tx) :
    fwdOf t.transmit.2 = (match t.forwardTsn with | some p => [p] | none => []) := by
  have hloops : fwdOf (rtxEvs true t.fwd.1.t3 (t.sentQ.take t.rtxN) ++ newEvs t.rtxT3 (t.outQ.take t.newN)) = [] := by
    refine fwdOf_nil fun ev hev c st he => ?_
    subst he
    rcases List.mem_append.mp hev with hev | hev
    · rcases mem_rtxEvs hev with ⟨_, _, _, h⟩ | h
      · cases h
      · rcases h with h | h <;> cases h
    · rcases mem_newEvs hev with ⟨_, _, h⟩ | h <;> cases h
  have h := congrArg Prod.snd (transmit_closed t)
  simp only at h
  rw [h, List.append_assoc, fwdOf_append, hloops, List.append_nil]
  unfold Tx.fwd
  cases t.forwardTsn with
  | none => rfl
  | some p => simp only; split <;> rfl

/-! ## `_receive_sack_chunk` -/

theorem gapLimit_eq (t : Tx) (cum : Int) : t.gapLimit cum = gapLimitOf cum t.sentQ := by
  unfold Tx.gapLimit gapLimitOf
  cases t.sentQ.getLast? <;> rfl

/-- `seen` and `highest_newly_acked` of a SACK on the sent queue `l` that the cumulative-ack loop left -/
def seenOf (cum : Int) (gaps : List (Nat × Nat)) (l : List SChunk) : List Int := (gapSeen cum (gapLimitOf cum l) gaps).1
def hnaOf (cum : Int) (gaps : List (Nat × Nat)) (l : List SChunk) : Int :=
  htnaHna (gapSeen cum (gapLimitOf cum l) gaps).1 (gapSeen cum (gapLimitOf cum l) gaps).2 cum l
def htnaOf (cum : Int) (gaps : List (Nat × Nat)) (l : List SChunk) : List SChunk :=
  htnaList (gapSeen cum (gapLimitOf cum l) gaps).1 (gapSeen cum (gapLimitOf cum l) gaps).2 l

/-- the gap phase: nothing (no gap blocks), or the HTNA loop followed by the strike loop -/
theorem sackGaps_shapeP (t : Tx) (cum : Int) (gaps : List (Nat × Nat)) (now : Int) (db : Nat) :
    ∃ tH : Tx, tH.outQ = t.outQ
      ∧ (∃ fl sq oq, (t.sackGaps cum gaps now db).1 = { t with flight := fl, sentQ := sq, outQ := oq })
      ∧ ((gaps.isEmpty = true ∧ (t.sackGaps cum gaps now db).1 = t)
         ∨ (gaps.isEmpty = false ∧ tH.sentQ = htnaOf cum gaps t.sentQ
            ∧ (t.sackGaps cum gaps now db).1
                = (strikeLoop (seenOf cum gaps t.sentQ) (hnaOf cum gaps t.sentQ) now tH.sentQ.length 0 tH false).1)) := by
  cases hg : gaps.isEmpty with
  | true =>
    refine ⟨t, rfl, ⟨t.flight, t.sentQ, t.outQ, ?_⟩, Or.inl ⟨rfl, ?_⟩⟩ <;> simp [Tx.sackGaps, hg]
  | false =>
    have hfr := sackGaps_frame t cum gaps now db hg
    obtain ⟨hq0, hh⟩ := htnaLoop_eq (gapSeen cum (t.gapLimit cum) gaps).1 (gapSeen cum (t.gapLimit cum) gaps).2
      t.sentQ [] t.flight db cum
    have hq : (t.sackHtna cum gaps db).sentQ = htnaOf cum gaps t.sentQ := by
      unfold htnaOf
      rw [← gapLimit_eq]
      simpa [Tx.sackHtna] using hq0
    refine ⟨t.sackHtna cum gaps db, rfl,
      ⟨(t.sackGaps cum gaps now db).1.flight, (t.sackGaps cum gaps now db).1.sentQ, (t.sackGaps cum gaps now db).1.outQ, ?_⟩,
      Or.inr ⟨rfl, hq, ?_⟩⟩
    · rw [hfr]; rfl
    · unfold seenOf hnaOf
      rw [← gapLimit_eq, ← hh]
      simp only [Tx.sackGaps, hg, Bool.false_eq_true, if_false]

structure SackShapeP (t t' : Tx) (cum : Int) (gaps : List (Nat × Nat)) (now : Int) : Prop where
  ex : ∃ t4 tH : Tx, t' = t4.updateAdvAck
    ∧ t4.lastSacked = cum ∧ t4.advAck = t.advAck ∧ t4.forwardNeeded = t.forwardNeeded ∧ t4.forwardTsn = t.forwardTsn
    ∧ t4.localTsn = t.localTsn ∧ tH.outQ = t.outQ
    ∧ ((gaps.isEmpty = true ∧ t4.sentQ = t.ackedQ cum ∧ t4.outQ = t.outQ)
       ∨ (gaps.isEmpty = false ∧ tH.sentQ = htnaOf cum gaps (t.ackedQ cum)
          ∧ t4.sentQ = (strikeLoop (seenOf cum gaps (t.ackedQ cum)) (hnaOf cum gaps (t.ackedQ cum)) now
                          tH.sentQ.length 0 tH false).1.sentQ
          ∧ t4.outQ = (strikeLoop (seenOf cum gaps (t.ackedQ cum)) (hnaOf cum gaps (t.ackedQ cum)) now
                          tH.sentQ.length 0 tH false).1.outQ))

theorem receiveSack_shapeP (t : Tx) (cum : Int) (gaps : List (Nat × Nat))
    (now : Int) (t' : Tx) (evs : List TxEv) (hr : t.receiveSack cum gaps now = .ok (some (t', evs))) :
    SackShapeP t t' cum gaps now := by
  obtain ⟨t4, rfl, h4⟩ := receiveSack_pre hr
  obtain ⟨tH, hHo, ⟨fl, sq, oq, hfrm⟩, hcase⟩ := sackGaps_shapeP (t.sackAck cum) cum gaps now (t.sackDoneBytes cum)
  -- `lastSacked` was set by the cumulative-ack phase; the gap-block phase writes the flight size and the queues only
  refine ⟨t4, tH, rfl, ?_, ?_, ?_, ?_, ?_, hHo, ?_⟩
  iterate 5 (rw [h4, hfrm]; rfl)
  rcases hcase with ⟨h1, h2⟩ | ⟨h1, h2, h3⟩
  · rw [h4, h2]; exact Or.inl ⟨h1, rfl, rfl⟩
  · rw [h4, h3]; exact Or.inr ⟨h1, h2, rfl, rfl⟩

/-! ## `_t3_expired` -/

structure T3ShapeP (t t' : Tx) : Prop where
  ex : ∃ tM : Tx, Parts TR t tM ∧ tM.lastSacked = t.lastSacked ∧ tM.advAck = t.advAck
    ∧ tM.forwardNeeded = t.forwardNeeded ∧ tM.forwardTsn = t.forwardTsn ∧ tM.localTsn = t.localTsn
    ∧ t'.sentQ = tM.updateAdvAck.sentQ ∧ t'.outQ = tM.updateAdvAck.outQ ∧ t'.advAck = tM.updateAdvAck.advAck
    ∧ t'.forwardNeeded = tM.updateAdvAck.forwardNeeded ∧ t'.forwardTsn = tM.updateAdvAck.forwardTsn
    ∧ t'.lastSacked = tM.updateAdvAck.lastSacked ∧ t'.localTsn = tM.updateAdvAck.localTsn
  t3 : t'.t3 = false
  flight : t'.flight = 0

-- the shape is read off `t3Expired_eq`; nothing below looks into `_update_advanced_peer_ack_point`
attribute [local irreducible] Tx.updateAdvAck in
theorem t3Expired_shapeP (t : Tx) (now : Int) : T3ShapeP t (t.t3Expired now) := by
  have hm : t.t3Marked now = _ := t3Mark_frame now t.sentQ.length 0 { t with t3 := false }
  rw [t3Expired_eq]
  exact ⟨⟨t.t3Marked now, t3Mark_parts now t.sentQ.length 0 { t with t3 := false },
    (congrArg Tx.lastSacked hm :), (congrArg Tx.advAck hm :), (congrArg Tx.forwardNeeded hm :),
    (congrArg Tx.forwardTsn hm :), (congrArg Tx.localTsn hm :), rfl, rfl, rfl, rfl, rfl, rfl, rfl⟩,
    (updateAdvAck_frame (t.t3Marked now)).2.2.2.1.trans (congrArg Tx.t3 hm :), rfl⟩

end Aiortc.Sctp
