import Aiortc.Lemmas.C02.DrainCoh
/-!
# One step of the fault-free continuation (C02 drain)

`Link.phi` = twice the DATA chunks in flight + the SACKs in flight + the pending task + twice the emission potential
of the sender.  Every step of `Link.step` that is not a T3 expiry strictly decreases it (`step_progress`), keeps
coherence, and (`Track`) un-acks nothing (`a ≤ a'`), conserves `a + nOut`, and keeps the promise `Ahead`
("a SACK that advances the cumulative ack is under way") until the cumulative ack has advanced.  `phi` serves `Coh.drains` only; what
`Props/C02Drain` states goes through `phi2` (`DrainHonest`).  `Tracks` and the promise `AheadOf` are stated for any state type and
any type of chunk in flight: `TrackP`, `AheadP` of `DrainPRStep` are their other instances.
-/
namespace Aiortc.Sctp

def Link.phi (s : Link) : Nat :=
  2 * s.toRx.length + s.toTx.length + (if s.pending then 1 else 0) + 2 * s.tx.pot

/-- nothing in flight, no task pending: the next step is a T3 expiry or none at all -/
def Link.Quiet (s : Link) : Prop := s.toRx = [] ∧ s.toTx = [] ∧ s.pending = false

/-- a SACK whose cumulative TSN is ahead of the sender's is in flight, or a DATA chunk is in flight whose SACK will be.
First disjunct, `a < r`: ANY arrival will do, since the receiver answers every chunk with a SACK for its cumulative TSN,
which is `T b r` or beyond; with `a = r` it has to be the chunk `T b (a + 1)`, which advances the receiver. -/
def Ahead (b : Int) (a r : Nat) (s : Link) : Prop :=
  (s.toRx ≠ [] ∧ (a < r ∨ ∃ d ∈ s.toRx, d.tsn = T b (a + 1)))
  ∨ (∃ p ∈ s.toTx, ∃ k, a < k ∧ k ≤ r ∧ p.1 = T b k)

theorem not_ahead_of_quiet {b : Int} {a r : Nat} {s : Link} (hq : s.Quiet) : ¬ Ahead b a r s := by
  rintro (⟨h, _⟩ | ⟨p, hp, _⟩)
  · exact h hq.1
  · rw [hq.2.1] at hp; cases hp

/-- `Ahead` on what is in flight, for chunks of any type `α`: `adv x` says that `x` will move the receiver's cumulative TSN beyond
`T b κ`.  `Ahead b a r s` is `AheadOf (·.tsn = T b (a + 1)) b a r s.toRx s.toTx` by unfolding. -/
def AheadOf {α : Type} (adv : α → Prop) (b : Int) (κ r : Nat) (toRx : List α) (toTx : List (Int × List (Nat × Nat))) : Prop :=
  (toRx ≠ [] ∧ (κ < r ∨ ∃ a ∈ toRx, adv a)) ∨ (∃ p ∈ toTx, ∃ k, κ < k ∧ k ≤ r ∧ p.1 = T b k)

namespace AheadOf
variable {α β : Type} {adv : α → Prop} {b : Int} {κ κ' r r' k : Nat} {x : α} {toRx toRx' rest : List α}
  {toTx toTx' : List (Int × List (Nat × Nat))} {g : List (Nat × Nat)}

theorem mono (h : AheadOf adv b κ r toRx toTx) (h1 : ∀ a ∈ toRx, a ∈ toRx') (h2 : ∀ p ∈ toTx, p ∈ toTx') (hr : r ≤ r') :
    AheadOf adv b κ r' toRx' toTx' := by
  rcases h with ⟨hne, h⟩ | ⟨p, hp, k, k1, k2, k3⟩
  · obtain ⟨d, hd⟩ := List.exists_mem_of_ne_nil _ hne
    exact Or.inl ⟨List.ne_nil_of_mem (h1 d hd),
      h.imp (fun h => Nat.lt_of_lt_of_le h hr) (fun ⟨d, hd, e⟩ => ⟨d, h1 d hd, e⟩)⟩
  · exact Or.inr ⟨p, h2 p hp, k, k1, Nat.le_trans k2 hr, k3⟩

/-- the head chunk arrives; the receiver, now at `T b r'`, answers with a SACK -/
theorem arrive (h : AheadOf adv b κ r (x :: rest) toTx) (hr : r ≤ r') (hx : adv x → κ < r') :
    AheadOf adv b κ r' rest (toTx ++ [(T b r', g)]) := by
  rcases Nat.lt_or_ge κ r' with hlt | hge
  · -- the SACK just sent advances the cumulative ack
    exact Or.inr ⟨_, List.mem_append_right _ List.mem_cons_self, r', hlt, Nat.le_refl _, rfl⟩
  · -- the receiver is where the sender is: what was promised is still in flight
    rcases h with ⟨_, h2 | ⟨a, ha, hadv⟩⟩ | ⟨p, hp, k, k1, k2, k3⟩
    · omega
    · rcases List.mem_cons.mp ha with rfl | ha
      · exact absurd (hx hadv) (Nat.not_lt.mpr hge)
      · exact Or.inl ⟨List.ne_nil_of_mem ha, Or.inr ⟨a, ha, hadv⟩⟩
    · exact Or.inr ⟨p, List.mem_append_left _ hp, k, k1, Nat.le_trans k2 hr, k3⟩

/-- the head SACK `T b k` reaches the sender while nothing is under way to the receiver; it is stale or becomes the cumulative
ack: a cumulative ack promised beyond the new one is carried by a SACK that is still in flight -/
theorem sack {adv' : β → Prop} {new : List β} {rest : List (Int × List (Nat × Nat))}
    (h : AheadOf adv b κ r [] ((T b k, g) :: rest)) (hk : k ≤ r) (hr : r < 2147483648)
    (hcase : (κ' = κ ∧ k < κ) ∨ (κ' = k ∧ κ ≤ k)) : κ < κ' ∨ AheadOf adv' b κ' r new rest := by
  rcases h with ⟨h1, _⟩ | ⟨p, hp, kk, k1, k2, k3⟩
  · exact absurd rfl h1
  · rcases Nat.lt_or_ge κ' kk with hlt | hge
    · rcases List.mem_cons.mp hp with rfl | hp
      · obtain rfl : k = kk := T_inj_half (by omega) (by omega) k3
        omega
      · exact Or.inr (Or.inr ⟨p, hp, kk, hlt, k2, k3⟩)
    · left; omega

end AheadOf

theorem ahead_iff {b : Int} {a r : Nat} {s : Link} :
    Ahead b a r s ↔ AheadOf (fun d : RChunk => d.tsn = T b (a + 1)) b a r s.toRx s.toTx := Iff.rfl

/-- the chunk after the cumulative ack moves a receiver that is at the cumulative ack -/
theorem adv_data {b : Int} {κ r r'' k hi : Nat} (hk : T b k = T b (κ + 1)) (k1 : k ≤ hi) (hκr : κ ≤ r) (hrr : r ≤ r'')
    (hr : r ≤ hi) (hhi : hi < 2147483648) (k3 : k = r + 1 → r < r'') : κ < r'' := by
  have hk' : k = κ + 1 := T_inj (by omega) (by omega) hk
  rcases Nat.lt_or_ge κ r with hlt | hge
  · omega
  · have := k3 (by omega); omega

/-- what the continuation keeps from `(κ, f, r, s)` to `(κ', f', r', s')`, for a system with states `σ`: nothing is un-acked (`κ` = cumulative ack),
the receiver's cumulative TSN `r` does not move back, `f + nOut` is conserved (`f` = advanced peer ack point; `= κ` on reliable traffic),
and a cumulative ack that was under way (`Ahead`) has arrived or still is -/
structure Tracks {σ : Type} (nOut : σ → Nat) (Ahead : Nat → Nat → σ → Prop) (κ f r : Nat) (s : σ) (κ' f' r' : Nat) (s' : σ) : Prop where
  le : κ ≤ κ'
  rle : r ≤ r'
  nOut : f' + nOut s' = f + nOut s
  ahead : Ahead κ r s → κ < κ' ∨ Ahead κ' r' s'

namespace Tracks
variable {σ : Type} {nOut : σ → Nat} {Ahead : Nat → Nat → σ → Prop} {κ f r κ1 f1 r1 κ2 f2 r2 : Nat} {s s1 s2 : σ}

theorem refl : Tracks nOut Ahead κ f r s κ f r s :=
  ⟨Nat.le_refl _, Nat.le_refl _, rfl, Or.inr⟩

theorem trans (h1 : Tracks nOut Ahead κ f r s κ1 f1 r1 s1) (h2 : Tracks nOut Ahead κ1 f1 r1 s1 κ2 f2 r2 s2) :
    Tracks nOut Ahead κ f r s κ2 f2 r2 s2 :=
  ⟨Nat.le_trans h1.le h2.le, Nat.le_trans h1.rle h2.rle, h2.nOut.trans h1.nOut, fun ha =>
    (h1.ahead ha).elim (fun h => Or.inl (Nat.lt_of_lt_of_le h h2.le))
      (fun h => (h2.ahead h).imp (Nat.lt_of_le_of_lt h1.le) id)⟩

theorem arrived (h : Tracks nOut Ahead κ f r s κ1 f1 r1 s1) (hq : ¬ Ahead κ1 r1 s1) (ha : Ahead κ r s) : κ < κ1 :=
  (h.ahead ha).elim id fun h' => absurd h' hq

theorem of_not_ahead (hle : κ ≤ κ1) (hr : r ≤ r1) (hn : f1 + nOut s1 = f + nOut s) (hq : ¬ Ahead κ r s) :
    Tracks nOut Ahead κ f r s κ1 f1 r1 s1 :=
  ⟨hle, hr, hn, fun ha => absurd ha hq⟩

end Tracks

abbrev Track (b : Int) (a r : Nat) (s : Link) (a' r' : Nat) (s' : Link) : Prop :=
  Tracks (fun s : Link => s.tx.nOut) (Ahead b) a a r s a' a' r' s'

theorem Track.quiet {b : Int} {a r a' r' : Nat} {s s' : Link} (h : Track b a r s a' r' s') (hq : s'.Quiet)
    (ha : Ahead b a r s) : a < a' :=
  h.arrived (not_ahead_of_quiet hq) ha

theorem Link.step_rest (s : Link) (hq : s.Quiet) (h3 : s.tx.t3 = false) : s.step = s := by
  unfold Link.step; simp [hq.1, hq.2.1, hq.2.2, h3]

theorem Link.step_cases (s : Link) (hq : ¬ s.Quiet) :
    (s.pending = true ∧ s.step = s.runTask)
    ∨ (∃ d rest, s.pending = false ∧ s.toRx = d :: rest ∧ s.step = s.deliverData d rest)
    ∨ (∃ cum gaps rest, s.pending = false ∧ s.toRx = [] ∧ s.toTx = (cum, gaps) :: rest
        ∧ s.step = s.deliverSack cum gaps rest) := by
  cases hp : s.pending with
  | true => exact Or.inl ⟨rfl, s.step_task hp⟩
  | false =>
    cases hr : s.toRx with
    | cons d rest => exact Or.inr (Or.inl ⟨d, rest, rfl, rfl, s.step_data d rest hp hr⟩)
    | nil =>
      cases ht : s.toTx with
      | nil => exact absurd ⟨hr, ht, hp⟩ hq
      | cons p rest => exact Or.inr (Or.inr ⟨p.1, p.2, rest, rfl, rfl, rfl, s.step_sack p.1 p.2 rest hp hr ht⟩)

theorem progress_task {b : Int} {a r : Nat} {s : Link} (h : Coh b a r s) (hp : s.pending = true) :
    s.runTask.phi + 1 ≤ s.phi ∧ Track b a r s a r s.runTask := by
  obtain ⟨hpot, hn⟩ := pot_transmit s.tx h.snd.flight.outQ
  refine ⟨?_, Nat.le_refl _, Nat.le_refl _, by simp only [Link.runTask]; rw [hn], fun ha => Or.inr ?_⟩
  · simp only [Link.phi, Link.runTask, hp, List.length_append, if_true, Bool.false_eq_true, if_false]; omega
  · exact AheadOf.mono ha (fun d hd => List.mem_append_left _ hd) (fun p hp => hp) (Nat.le_refl _)

theorem progress_data {b : Int} {a r : Nat} {s : Link} (h : Coh b a r s) (d : RChunk) (rest : List RChunk)
    (hp : s.pending = false) (hr : s.toRx = d :: rest) :
    ∃ r', Coh b a r' (s.deliverData d rest) ∧ (s.deliverData d rest).phi + 1 ≤ s.phi
      ∧ Track b a r s a r' (s.deliverData d rest) := by
  have hbound := h.core.seq.bound
  have hrlo := h.core.rlo
  obtain ⟨r', k, r1, hkb, r2, r3, hc, htx⟩ := h.deliverData d (by rw [hr]; exact List.mem_cons_self) rest
    (fun e he => by rw [hr]; exact List.mem_cons_of_mem _ he)
  refine ⟨r', hc, ?_, Nat.le_refl _, r1, rfl, fun ha => Or.inr ?_⟩
  · simp only [Link.phi, Link.deliverData, hp, hr, List.length_append, List.length_cons, List.length_nil,
      Bool.false_eq_true, if_false]; omega
  · rw [ahead_iff, hr] at ha
    rw [ahead_iff, htx]
    exact ha.arrive r1 fun hd2 => adv_data (r2.symm.trans hd2) hkb hrlo r1 h.core.rhi (by omega) r3

theorem progress_sack {b : Int} {a r : Nat} {s : Link} (h : Coh b a r s) (cum : Int) (gaps : List (Nat × Nat))
    (rest : List (Int × List (Nat × Nat))) (hp : s.pending = false) (hr : s.toRx = [])
    (ht : s.toTx = (cum, gaps) :: rest) :
    ∃ a', Coh b a' r (s.deliverSack cum gaps rest) ∧ (s.deliverSack cum gaps rest).phi + 1 ≤ s.phi
      ∧ Track b a r s a' r (s.deliverSack cum gaps rest) := by
  have hbound := h.core.seq.bound
  have hrhi := h.core.rhi
  have hpm : (cum, gaps) ∈ s.toTx := by rw [ht]; exact List.mem_cons_self
  have hrest : ∀ q ∈ rest, q ∈ s.toTx := fun q hq => by rw [ht]; exact List.mem_cons_of_mem _ hq
  obtain ⟨k, hk, hpk⟩ := h.core.toTx _ hpm
  simp only at hpk
  subst hpk
  have hahead : ∀ {a'}, (a' = a ∧ k < a) ∨ (a' = k ∧ a ≤ k) → Ahead b a r s →
      a < a' ∨ Ahead b a' r (s.deliverSack (T b k) gaps rest) := fun hcase ha => by
    rw [ahead_iff, hr, ht] at ha
    rw [ahead_iff, s.deliverSack_toTx]
    exact ha.sack hk (by omega) hcase
  rcases deliverSack_cases h k hk gaps rest with ⟨hlt, he⟩ | ⟨hge, t', evs, hrs, hsh, he⟩
  · rw [he]
    refine ⟨a, ⟨h.core.net rfl rfl (fun d hd => hd) hrest, h.snd⟩, ?_, Nat.le_refl _, Nat.le_refl _, rfl, he ▸ hahead (Or.inl ⟨rfl, hlt⟩)⟩
    simp only [Link.phi, hp, hr, ht, List.length_cons, Bool.false_eq_true, if_false]; omega
  · obtain ⟨hc, hn⟩ := h.sack hge hk hrs hsh rest hrest
    rw [he]
    refine ⟨k, hc, ?_, hge, Nat.le_refl _, hn, he ▸ hahead (Or.inr ⟨rfl, hge⟩)⟩
    obtain ⟨hp1, _⟩ := pot_sack h.core.seq k hge (by omega) gaps hsh
    obtain ⟨hp2, _⟩ := pot_transmit t' (by rw [hsh.outQ]; exact h.snd.flight.outQ)
    simp only [Link.phi, hp, hr, ht, List.length_cons, List.nil_append, Bool.false_eq_true, if_false]; omega

theorem step_progress {b : Int} {a r : Nat} {s : Link} (h : Coh b a r s) (hq : ¬ s.Quiet) :
    ∃ a' r', Coh b a' r' s.step ∧ s.step.phi + 1 ≤ s.phi ∧ Track b a r s a' r' s.step := by
  rcases s.step_cases hq with ⟨hp, he⟩ | ⟨d, rest, hp, hr, he⟩ | ⟨cum, gaps, rest, hp, hr, ht, he⟩
  · rw [he]; exact ⟨a, r, h.runTask, progress_task h hp⟩
  · rw [he]; exact (progress_data h d rest hp hr).elim fun r' h' => ⟨a, r', h'⟩
  · rw [he]; exact (progress_sack h cum gaps rest hp hr ht).elim fun a' h' => ⟨a', r, h'⟩

end Aiortc.Sctp
