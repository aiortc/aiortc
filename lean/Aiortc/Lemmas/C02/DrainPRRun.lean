import Aiortc.Lemmas.C02.DrainPRPhi
import Aiortc.Lemmas.C02.DrainRun
/-!
# The continuation drains, partially reliable traffic included (C02 drain)

Work left: `f + nOut - κ`, the number of TSNs assigned but not yet cumulatively acknowledged.  Between two T3 expiries
`phi3` strictly decreases (`step_phi3`); every epoch strictly increases `κ` (`epochP`: after T3 a FORWARD TSN for the new
advanced peer ack point is in flight if the cumulative ack is behind it — the repeat rule — else the first outstanding
chunk is), while `f + nOut` is conserved.  `PLink.drains_phi3` hands these to the drain argument (`Drains`, `DrainIter.lean`).
`CohP.drains`: full drain from every coherent state within `PLink.drainBound`;
`CohP.faults`, `PLink.Fresh.coh`: every state a fault history reaches from a fresh pair is coherent.
-/
namespace Aiortc.Sctp
open Aiortc.Gen
-- `_transmit` is used through its lemmas only; sealed, the unifier does not unfold it whenever it compares
-- `s.runTask.tx` with `s.tx.transmit.1`
attribute [local irreducible] Tx.transmit

variable {b : Int} {κ f r : Nat} {s : PLink}

structure PLink.Drained (s : PLink) : Prop where
  sentQ : s.tx.sentQ = []
  outQ : s.tx.outQ = []
  flight : s.tx.flight = 0
  fwd : s.tx.forwardTsn = none
  toRx : s.toRx = []
  toTx : s.toTx = []
  pending : s.pending = false
  t3 : s.tx.t3 = false

theorem PLink.quiet_drained (s : PLink) (hi : SndInv { tx := s.tx, pending := s.pending }) (hq : s.Quiet)
    (h3 : s.tx.t3 = false) : s.Drained := by
  obtain ⟨hs, ho, hfl, hf⟩ := SndInv.at_rest hi hq.2.2 h3
  exact ⟨hs, ho, hfl, hf, hq.1, hq.2.1, hq.2.2, h3⟩

theorem HonP.start (b : Int) (s : PLink) : HonP b s.toTx.length s :=
  ⟨Nat.le_refl _, by rw [List.drop_length]; trivial⟩

theorem HonP.of_quiet (b : Int) {s : PLink} (hq : s.Quiet) : HonP b 0 s := by
  have := HonP.start b s
  rwa [hq.2.1] at this

theorem phi3_le (s : PLink) (h : Nat) :
    s.phi3 h ≤ s.toRx.length * (4 + 2 * s.tx.nOut) + s.toTx.length * (3 + 2 * s.tx.nOut) + (5 + 2 * s.tx.nOut)
      + (4 + 2 * s.tx.nOut) * (s.tx.nOut + s.tx.nOut * (h + 2 * s.tx.nOut)) := by
  have h1 := sumW_le (wArr s.tx.advAck s.tx.nOut) (4 + 2 * s.tx.nOut) s.toRx (fun a _ => wArr_le _ _ a)
  have h2 := sumW_le (wSack s.tx.advAck s.tx.nOut) (3 + 2 * s.tx.nOut) s.toTx (fun p _ => wSack_le _ _ p)
  have h3 : s.wPending ≤ 5 + 2 * s.tx.nOut := by
    unfold PLink.wPending
    cases s.pending
    · exact Nat.zero_le _
    · cases s.tx.forwardTsn.isSome
      · show 1 + 0 ≤ _; omega
      · show 1 + (4 + 2 * s.tx.nOut) ≤ _; omega
  have h4 := Nat.mul_le_mul_left (4 + 2 * s.tx.nOut) (s.pot2_le h)
  unfold PLink.phi3
  omega

theorem PLink.run_t3_task (s : PLink) (hq : s.Quiet) (h3 : s.tx.t3 = true) : PLink.run 2 s = s.fireT3.runTask := by
  show s.step.step = _
  rw [s.step_t3 hq h3, PLink.step_task _ rfl]

/-- cost of one epoch with at most `m` chunks outstanding -/
def epochCostP (m : Nat) : Nat := 2 + (5 + 2 * m) + (4 + 2 * m) * (m + m * (2 * m))

theorem epochCostP_mono {m n : Nat} (h : m ≤ n) : epochCostP m ≤ epochCostP n := by
  have h1 : m + m * (2 * m) ≤ n + n * (2 * n) :=
    Nat.add_le_add h (Nat.mul_le_mul h (Nat.mul_le_mul_left 2 h))
  have h2 := Nat.mul_le_mul (Nat.add_le_add_left (Nat.mul_le_mul_left 2 h) 4) h1
  unfold epochCostP; omega

theorem epochP (hc : CohP b κ f r s) (hq : s.Quiet)
    (hopen : κ < f ∨ s.tx.sentQ ≠ []) :
    ∃ f', CohP b κ f' r s.fireT3.runTask ∧ HonP b 0 s.fireT3.runTask ∧ f' + s.fireT3.runTask.tx.nOut = f + s.tx.nOut
      ∧ s.fireT3.runTask.phi3 0 + 2 ≤ epochCostP s.tx.nOut ∧ AheadP b κ r s.fireT3.runTask := by
  obtain ⟨f', hidx, hc1⟩ := hc.fireT3
  have hcons := hidx.cons
  have hfge := hidx.fge
  have hle1 : (s.tx.t3Expired s.now1000).nOut ≤ s.tx.nOut := by omega
  have hc2 := hc1.runTask
  have hh1 : HonP b 0 s.fireT3 := ⟨Nat.zero_le _, (HonP.of_quiet b hq).chain⟩
  have hnq : ¬ s.fireT3.Quiet := fun hq' => by have := hq'.2.2; cases this
  obtain ⟨h', hle', hh2, hphi⟩ := step_phi3 hc1 hh1 hnq
  have hh0 : h' = 0 := Nat.le_zero.mp hle'
  subst hh0
  rw [s.fireT3.step_task rfl] at hh2 hphi
  have hn2 : s.fireT3.runTask.tx.nOut = (s.tx.t3Expired s.now1000).nOut := (transmit_queues _).2
  have hb1 := phi3_le s.fireT3 0
  have e1 : s.fireT3.toRx = [] := hq.1
  have e2 : s.fireT3.toTx = [] := hq.2.1
  have e3 : s.fireT3.tx.nOut = (s.tx.t3Expired s.now1000).nOut := rfl
  rw [e1, e2, e3] at hb1
  simp only [List.length_nil, Nat.zero_mul, Nat.zero_add] at hb1
  have hmono := epochCostP_mono hle1
  -- whatever the task emits is appended to the (empty) list of chunks in flight
  have hemit : ∀ a ∈ arrOf (s.tx.t3Expired s.now1000).transmit.2, Adv b κ a → AheadP b κ r s.fireT3.runTask := by
    intro a hmem hadv
    have hin : a ∈ s.fireT3.runTask.toRx := List.mem_append.mpr (Or.inr hmem)
    exact Or.inl ⟨List.ne_nil_of_mem hin, Or.inr ⟨a, hin, hadv⟩⟩
  refine ⟨f', hc2, hh2, by rw [hn2]; exact hcons, ?_, ?_⟩
  · refine Nat.le_trans ?_ hmono
    unfold epochCostP
    omega
  · rcases Nat.lt_or_ge κ f' with hlt | hge
    · -- the cumulative ack is behind the ack point: the FORWARD TSN goes out (again)
      obtain ⟨st, hst⟩ := hidx.fwdNew hlt
      refine hemit (Arrival.fwd (T b f') st) ?_ ⟨f', hlt, hidx.seq.adv_lt, rfl⟩
      rw [arrOf_transmit, hst]
      exact List.mem_append.mpr (Or.inl (by simp [fwdArr]))
    · -- else the first outstanding chunk is retransmitted
      have hkf := hc.core.seq.le
      have hff : f' = f := Nat.le_antisymm (Nat.le_trans hge hkf) hfge
      have hκf : κ = f' := Nat.le_antisymm (hff ▸ hkf) hge
      have hne : s.tx.sentQ ≠ [] := hopen.resolve_left (by rw [hκf, hff]; exact Nat.lt_irrefl _)
      obtain ⟨c, cs, hcs⟩ : ∃ c cs, (s.tx.t3Expired s.now1000).sentQ = c :: cs := by
        cases hsq : (s.tx.t3Expired s.now1000).sentQ with
        | nil => exact absurd (List.eq_nil_of_length_eq_zero (hidx.pop hff (by rw [hsq]; rfl))) hne
        | cons c cs => exact ⟨c, cs, rfl⟩
      obtain ⟨_, _, _, _, _, _, more, hev⟩ := t3_then_transmit s.tx hc.snd.flight.winv s.now1000 c cs hcs
      have hD : (rtxChunk c).toR ∈ dataOf (s.tx.t3Expired s.now1000).transmit.2 := by
        rw [hev, dataOf_append, dataOf_append]
        exact List.mem_append.mpr (Or.inl (List.mem_append.mpr (Or.inr (by simp [dataOf]))))
      have hseq := hidx.seq.sent
      rw [hcs] at hseq
      refine hemit (Arrival.data (rtxChunk c).toR) ?_ ?_
      · exact List.mem_append.mpr (Or.inr (List.mem_map.mpr ⟨_, hD, rfl⟩))
      · show c.tsn = T b (κ + 1)
        rw [hseq.1, hκf]

def quietBoundP (m : Nat) : Nat := m * epochCostP m + 2

theorem transmit_emptyP (t : Tx) (hs : t.sentQ = []) (ho : t.outQ = []) (hf : t.forwardTsn = none) :
    t.transmit.1.t3 = t.t3 ∧ arrOf t.transmit.2 = [] ∧ t.transmit.1.sentQ = [] ∧ t.transmit.1.outQ = [] := by
  obtain ⟨e1, e2, e3, e4⟩ := transmit_empty t hs ho hf
  refine ⟨e1, ?_, e3, e4⟩
  unfold arrOf
  rw [e2, fwdOf_transmit, hf]; rfl

theorem idle_t3P (hc : CohP b κ f r s) (hq : s.Quiet) (h3 : s.tx.t3 = true)
    (hclosed : ¬ (κ < f ∨ s.tx.sentQ ≠ [])) :
    ∃ f', CohP b κ f' r (PLink.run 2 s) ∧ (PLink.run 2 s).Drained ∧ f' + (PLink.run 2 s).tx.nOut = f + s.tx.nOut := by
  have hsq : s.tx.sentQ = [] := Classical.byContradiction fun h => hclosed (Or.inr h)
  obtain ⟨ho, hfn⟩ := hc.snd.idle hq.2.2
  have hoq := ho hsq
  have hn0 : s.tx.nOut = 0 := by unfold Tx.nOut; rw [hsq, hoq]; rfl
  obtain ⟨f', hidx, hc1⟩ := hc.fireT3
  have hc2 := hc1.runTask
  have hcons := hidx.cons
  have hfge := hidx.fge
  have hn1 : (s.tx.t3Expired s.now1000).nOut = 0 := by omega
  have hf' : f' = f := by omega
  have hκ : ¬ κ < f' := fun h => hclosed (Or.inl (hf' ▸ h))
  have hfn1 : (s.tx.t3Expired s.now1000).forwardTsn = none := by rw [hidx.fwdOld hκ, hfn]
  unfold Tx.nOut at hn1
  obtain ⟨e1, e2, e3, e4⟩ := transmit_emptyP (s.tx.t3Expired s.now1000)
    (List.eq_nil_of_length_eq_zero (Nat.eq_zero_of_add_eq_zero_right hn1))
    (List.eq_nil_of_length_eq_zero (Nat.eq_zero_of_add_eq_zero_left hn1)) hfn1
  have sh := t3Expired_shapeP s.tx s.now1000
  have hq2 : s.fireT3.runTask.Quiet :=
    ⟨by show s.toRx ++ arrOf (s.tx.t3Expired s.now1000).transmit.2 = []; rw [e2, hq.1]; rfl, hq.2.1, rfl⟩
  have h32 : s.fireT3.runTask.tx.t3 = false := by
    show (s.tx.t3Expired s.now1000).transmit.1.t3 = false
    rw [e1, sh.t3]
  rw [s.run_t3_task hq h3]
  refine ⟨f', hc2, PLink.quiet_drained _ hc2.snd hq2 h32, ?_⟩
  show f' + (s.tx.t3Expired s.now1000).transmit.1.nOut = _
  rw [(transmit_queues _).2]; exact hcons

/-- the ghost indices of a `PLink` state: cumulative ack `κ`, advanced peer ack point `f`, receiver's cumulative TSN `r`; `h` SACKs
in flight date from the fault history -/
structure PLink.Ix where
  κ : Nat
  f : Nat
  r : Nat
  h : Nat := 0

theorem PLink.drains_phi3 (b : Int) :
    Drains (step := PLink.step) (run := PLink.run) (Quiet := PLink.Quiet) (Done := PLink.Drained)
      (Inv := fun (i : PLink.Ix) s => CohP b i.κ i.f i.r s ∧ HonP b i.h s) (mu := fun i s => s.phi3 i.h)
      (work := fun i s => i.f + s.tx.nOut - i.κ)
      (Along := fun i s i' s' => TrackP b i.κ i.f i.r s i'.κ i'.f i'.r s') (cost := epochCostP) where
  run_zero _ := rfl
  run_succ _ _ := rfl
  refl _ _ := Tracks.refl
  trans := Tracks.trans
  work_le ht := by have := ht.le; have := ht.nOut; omega
  cost_mono := epochCostP_mono
  progress := fun ⟨hc, hh⟩ hq => by
    obtain ⟨κ1, f1, r1, hc1, ht1⟩ := step_progressP hc hq
    obtain ⟨h1, _, hh1, hphi⟩ := step_phi3 hc hh hq
    exact ⟨{ κ := κ1, f := f1, r := r1, h := h1 }, ⟨hc1, hh1⟩, hphi, ht1⟩
  quiet {i s} := fun ⟨hc, _⟩ hq => by
    cases h3 : s.tx.t3 with
    | false => exact Or.inl (s.quiet_drained hc.snd hq h3)
    | true =>
      rw [s.run_t3_task hq h3]
      -- nothing is promised in a quiet state, so `TrackP` holds across T3 and the task
      have hkick : ∀ {f'}, f' + s.fireT3.runTask.tx.nOut = i.f + s.tx.nOut →
          TrackP b i.κ i.f i.r s i.κ f' i.r s.fireT3.runTask :=
        fun hn => Tracks.of_not_ahead (Nat.le_refl _) (Nat.le_refl _) hn (not_aheadP_of_quiet hq)
      by_cases hopen : i.κ < i.f ∨ s.tx.sentQ ≠ []
      · obtain ⟨f', hc2, hh2, hn2, hphi2, hah2⟩ := epochP hc hq hopen
        have hkf := hc.core.seq.le
        have hpos : 0 < s.tx.nOut ∨ i.κ < i.f := hopen.symm.imp
          (fun h => Nat.lt_of_lt_of_le (List.length_pos_iff.mpr h) (Nat.le_add_right _ _)) id
        refine Or.inr ⟨{ i with f := f', h := 0 }, ⟨hc2, hh2⟩, hkick hn2, Or.inr ⟨?_, fun ht hq2 => ?_⟩⟩
        · exact Nat.le_trans hphi2 (epochCostP_mono (by omega))
        · have := ht.quiet hq2 hah2
          have := ht.nOut
          dsimp only at *
          omega
      · obtain ⟨f', h1, h2, h3'⟩ := idle_t3P hc hq h3 hopen
        rw [s.run_t3_task hq h3] at h1 h2 h3'
        exact Or.inr ⟨{ i with f := f', h := 0 }, ⟨h1, HonP.of_quiet b ⟨h2.toRx, h2.toTx, h2.pending⟩⟩, hkick h3', Or.inl h2⟩

theorem epoch_quietP (hc : CohP b κ f r s) (hq : s.Quiet) (hopen : κ < f ∨ s.tx.sentQ ≠ []) :
    ∃ j κ' f' r', j ≤ epochCostP s.tx.nOut ∧ CohP b κ' f' r' (PLink.run j s) ∧ (PLink.run j s).Quiet ∧ κ < κ'
      ∧ f' + (PLink.run j s).tx.nOut = f + s.tx.nOut := by
  obtain ⟨f2, hc2, hh2, hn2, hphi2, hah2⟩ := epochP hc hq hopen
  -- a FORWARD TSN is owed or something is outstanding, and no task is queued: T3 runs
  have hnp : ¬ s.pending = true := by rw [show s.pending = false from hq.2.2]; exact Bool.false_ne_true
  have h3 : s.tx.t3 = true := hopen.elim
    (fun hlt => (hc.need (hc.core.seq.needed.mpr hlt)).resolve_right (by rw [(hc.snd.idle hq.2.2).2]; exact Bool.false_ne_true))
    (fun hne => (hc.snd.armed hne).resolve_right hnp)
  have hrun := s.run_t3_task hq h3
  obtain ⟨j, i', hj, ⟨hc3, _⟩, hq3, ht3⟩ := (PLink.drains_phi3 b).epoch (i1 := { κ := κ, f := f2, r := r }) (s := s)
    (hrun ▸ ⟨hc2, hh2⟩) (hrun ▸ hphi2)
  rw [hrun] at ht3
  exact ⟨j, i'.κ, i'.f, i'.r, hj, hc3, hq3, ht3.quiet hq3 hah2, ht3.nOut.trans hn2⟩

/-! ## full drain from every coherent state; every reachable state is coherent -/

/-- TSNs assigned but not yet cumulatively acknowledged: the FORWARD TSN gap plus the two queues -/
def Tx.unacked (t : Tx) : Nat := ((t.advAck - t.lastSacked) % 4294967296).toNat + t.nOut

theorem unacked_eq {t : Tx} (h : TxSeqP b κ f t) : t.unacked + κ = f + t.nOut := by
  have hb := h.bound
  have hle := h.le
  unfold Tx.unacked
  rw [h.adv, h.ls, T_sub b hle (by omega)]
  omega

theorem CohP.of_drained (hc : CohP b κ f r s) (hd : s.Drained) :
    κ = f ∧ r = f ∧ s.tx.forwardNeeded = false := by
  have hnn : s.tx.forwardNeeded = false := by
    cases hx : s.tx.forwardNeeded with
    | false => rfl
    | true =>
      rcases hc.need hx with h' | h'
      · rw [hd.t3] at h'; cases h'
      · rw [hd.fwd] at h'; cases h'
  have hκ : κ = f := Nat.le_antisymm hc.core.seq.le
    (Nat.not_lt.mp fun hlt => by have := hc.core.seq.needed.mpr hlt; rw [hnn] at this; cases this)
  have h2 := hc.core.rhi
  rw [hd.sentQ] at h2
  exact ⟨hκ, Nat.le_antisymm h2 (hκ ▸ hc.core.rlo), hnn⟩

def PLink.drainBound (s : PLink) : Nat :=
  s.toRx.length * (4 + 2 * s.tx.nOut) + s.toTx.length * (3 + 2 * s.tx.nOut) + (5 + 2 * s.tx.nOut)
    + (4 + 2 * s.tx.nOut) * (s.tx.nOut + s.tx.nOut * (s.toTx.length + 2 * s.tx.nOut))
    + quietBoundP s.tx.unacked

theorem CohP.drains {b : Int} {κ f r : Nat} {s : PLink} (h : CohP b κ f r s) :
    ∃ j, j ≤ s.drainBound ∧ (PLink.run j s).Drained
      ∧ (PLink.run j s).tx.lastSacked = T b (f + s.tx.nOut) ∧ (PLink.run j s).tx.advAck = T b (f + s.tx.nOut)
      ∧ (PLink.run j s).rx.last = T b (f + s.tx.nOut) ∧ (PLink.run j s).tx.localTsn = T b (f + s.tx.nOut + 1)
      ∧ (PLink.run j s).tx.forwardNeeded = false
      ∧ CohP b (f + s.tx.nOut) (f + s.tx.nOut) (f + s.tx.nOut) (PLink.run j s) := by
  obtain ⟨j, ⟨κ2, f2, r2, _⟩, hj, ⟨hc2, _⟩, hd2, ht2⟩ :=
    (PLink.drains_phi3 b).drains (i := { κ := κ, f := f, r := r, h := s.toTx.length }) ⟨h, HonP.start b s⟩
  have hun := unacked_eq h.core.seq
  have hphi := phi3_le s s.toTx.length
  have hn : f2 + (PLink.run j s).tx.nOut = f + s.tx.nOut := ht2.nOut
  have hz : (PLink.run j s).tx.nOut = 0 := by unfold Tx.nOut; rw [hd2.sentQ, hd2.outQ]; rfl
  obtain ⟨hκ2, hr2, hnn⟩ := hc2.of_drained hd2
  dsimp only at hκ2 hr2 hc2 hj
  subst hκ2 hr2
  obtain rfl : r2 = f + s.tx.nOut := by omega
  have hw : f + s.tx.nOut - κ = s.tx.unacked := by omega
  rw [hw] at hj
  exact ⟨j, by unfold PLink.drainBound quietBoundP; omega, hd2, hc2.core.seq.ls, hc2.core.seq.adv, hc2.core.rlast,
    by rw [hc2.core.seq.localTsn, hd2.sentQ, hd2.outQ]; rfl, hnn, hc2⟩

theorem CohP.faults : ∀ (fs : List Fault) {b : Int} {κ f r : Nat} {s : PLink}, CohP b κ f r s →
    f + s.tx.nOut + sentTotal fs + 1 < 2147483648 →
    ∃ κ' f' r', CohP b κ' f' r' (fs.foldl PLink.fault s)
      ∧ f' + (fs.foldl PLink.fault s).tx.nOut = f + s.tx.nOut + sentTotal fs := by
  intro fs
  induction fs with
  | nil => exact fun h _ => ⟨_, _, _, h, rfl⟩
  | cons ft fs ih =>
    intro b κ f r s h hb
    have hb' : f + s.tx.nOut + ft.sent + sentTotal fs + 1 < 2147483648 := by rw [Nat.add_assoc _ ft.sent]; exact hb
    obtain ⟨κ1, f1, r1, hc1, _, _, _, hn1⟩ := h.fault ft (by omega)
    obtain ⟨κ2, f2, r2, hc2, hn2⟩ := ih hc1 (by rw [hn1]; exact hb')
    exact ⟨κ2, f2, r2, hc2, hn2.trans (by rw [hn1, Nat.add_assoc]; rfl)⟩

/-- `Link.Fresh` for `PLink` -/
structure PLink.Fresh (s : PLink) : Prop where
  init : s.tx.Initial
  needed : s.tx.forwardNeeded = false
  ls : R32 s.tx.lastSacked
  adv : s.tx.advAck = s.tx.lastSacked
  localTsn : s.tx.localTsn = tsn_plus_one s.tx.lastSacked
  rxLast : s.rx.last = s.tx.lastSacked
  rxMis : s.rx.mis = []
  toRx : s.toRx = []
  toTx : s.toTx = []
  pending : s.pending = false

theorem PLink.Fresh.coh (h : s.Fresh) : CohP s.tx.lastSacked 0 0 0 s ∧ s.tx.nOut = 0 := by
  have hn : s.tx.nOut = 0 := by unfold Tx.nOut; rw [h.init.sentQ, h.init.outQ]; rfl
  refine ⟨⟨⟨?_, ?_, ?_, Nat.le_refl _, Nat.zero_le _, ?_, ?_, ?_⟩, ?_, ?_⟩, hn⟩
  · refine ⟨h.ls, (T_zero h.ls).symm, by rw [h.adv]; exact (T_zero h.ls).symm, Nat.le_refl _,
      ⟨fun h' => (by rw [h.needed] at h'; cases h'), fun h' => (by omega)⟩,
      by rw [h.init.sentQ, h.init.outQ]; trivial, ?_, by rw [h.init.sentQ, h.init.outQ]; decide,
      fun p hp => (by rw [h.init.fwd] at hp; cases hp)⟩
    rw [h.localTsn, h.init.sentQ, h.init.outQ]
    conv => lhs; rw [← T_zero h.ls, T_succ]
    rfl
  · exact ⟨by rw [h.rxLast]; exact h.ls, by rw [h.rxMis]; exact fun _ hx => (nomatch hx), by rw [h.rxMis]; exact List.nodup_nil,
      by rw [h.rxMis]; rfl⟩
  · rw [h.rxLast]; exact (T_zero h.ls).symm
  · rw [h.rxMis]; exact fun _ hx => (nomatch hx)
  · rw [h.toRx]; exact fun _ hx => (nomatch hx)
  · rw [h.toTx]; exact fun _ hx => (nomatch hx)
  · have := h.init.inv
    rw [h.pending]; exact this
  · intro h'; rw [h.needed] at h'; cases h'

end Aiortc.Sctp
