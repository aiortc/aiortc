import Aiortc.Lemmas.C02.DrainPRCoh
import Aiortc.Lemmas.C02.DrainPRSack
/-!
# The potential of the continuation with partially reliable traffic (C02 drain)

As in `DrainHonest.lean` (`S2`, weights of outstanding chunks), plus the FORWARD TSN ping-pong: a SACK whose cumulative TSN
is behind the advanced peer ack point makes `_receive_sack_chunk` re-send the FORWARD TSN, which produces another SACK.
A SACK in flight weighs `1 + 2N` if it is at or beyond the ack point ("good"), `3 + 2N` if behind (`N = |sentQ| + |outQ|`);
the ack point only advances when a chunk leaves the queues, so a good SACK that falls behind is paid by the drop of `N`.
-/
namespace Aiortc.Sctp
open Aiortc.Gen

def sumW {α} (w : α → Nat) : List α → Nat
  | [] => 0
  | x :: xs => w x + sumW w xs

theorem sumW_append {α} (w : α → Nat) (a b : List α) : sumW w (a ++ b) = sumW w a + sumW w b := by
  induction a with
  | nil => exact (Nat.zero_add _).symm
  | cons x xs ih => show w x + sumW w (xs ++ b) = w x + sumW w xs + sumW w b; rw [ih, Nat.add_assoc]

theorem sumW_mono {α} {w w' : α → Nat} (l : List α) (h : ∀ x ∈ l, w' x ≤ w x) : sumW w' l ≤ sumW w l := by
  induction l with
  | nil => exact Nat.le_refl _
  | cons x xs ih => exact Nat.add_le_add (h x List.mem_cons_self) (ih fun y hy => h y (List.mem_cons_of_mem _ hy))

theorem sumW_le {α} (w : α → Nat) (c : Nat) (l : List α) (h : ∀ x ∈ l, w x ≤ c) : sumW w l ≤ l.length * c := by
  induction l with
  | nil => exact Nat.le_of_eq (Nat.zero_mul c).symm
  | cons x xs ih =>
    rw [List.length_cons, Nat.succ_mul, Nat.add_comm]
    exact Nat.add_le_add (h x List.mem_cons_self) (ih fun y hy => h y (List.mem_cons_of_mem _ hy))

theorem sumW_const {α} (c : Nat) : ∀ (l : List α), sumW (fun _ => c) l = l.length * c := by
  intro l
  induction l with
  | nil => exact (Nat.zero_mul c).symm
  | cons x xs ih => rw [List.length_cons, Nat.succ_mul, Nat.add_comm, ← ih]; rfl

/-- Weights of what is in flight (`N = nOut`; the `2 * N` pays the strikes and retransmissions one SACK can cause). A SACK behind
the ack point makes the sender repeat the FORWARD TSN (2 or 4), whose arrival is answered by another SACK (1 or 3): each must
weigh more than what it produces. `wSack_answer` (an arrival outweighs its SACK) and `fwd_paid` (a SACK behind the ack point
outweighs the FORWARD TSN for the current one) are the two inequalities the constants 1 / 3 and 2 / 4 are chosen for. -/
def wSack (adv : Int) (N : Nat) (p : Int × List (Nat × Nat)) : Nat :=
  if uint32_gte p.1 adv then 1 + 2 * N else 3 + 2 * N

def wArr (adv : Int) (N : Nat) : Arrival → Nat
  | .data _ => 4 + 2 * N
  | .fwd c _ => if uint32_gte c adv then 2 + 2 * N else 4 + 2 * N

theorem wSack_le (adv : Int) (N : Nat) (p : Int × List (Nat × Nat)) : wSack adv N p ≤ 3 + 2 * N := by
  unfold wSack; split <;> omega

theorem wSack_pos (adv : Int) (N : Nat) (p : Int × List (Nat × Nat)) : 1 ≤ wSack adv N p := by
  unfold wSack; split <;> omega

theorem wArr_le (adv : Int) (N : Nat) (a : Arrival) : wArr adv N a ≤ 4 + 2 * N := by
  cases a with
  | data d => exact Nat.le_refl _
  | fwd c st => simp only [wArr]; split <;> omega

theorem wSack_T (b : Int) {f k : Nat} (N : Nat) (gaps : List (Nat × Nat)) (hk : k < 2147483648) (hf : f < 2147483648) :
    wSack (T b f) N (T b k, gaps) = if f ≤ k then 1 + 2 * N else 3 + 2 * N := by
  unfold wSack
  rw [gte_T b k f hk hf]
  by_cases h : f ≤ k <;> simp [h]

theorem wArr_fwd_T (b : Int) {f k : Nat} (N : Nat) (st : List (Nat × Int)) (hk : k < 2147483648) (hf : f < 2147483648) :
    wArr (T b f) N (.fwd (T b k) st) = if f ≤ k then 2 + 2 * N else 4 + 2 * N := by
  simp only [wArr]
  rw [gte_T b k f hk hf]
  by_cases h : f ≤ k <;> simp [h]

/-- the ack point advances only when chunks leave the queues (`f' + N' ≤ f + N`): a weight that is `c + 2N` at or beyond the ack
point and `d + 2N` behind it, `d ≤ c + 2`, never grows -/
theorem weight_mono {c d f f' N N' : Nat} (k : Nat) (hcd : c ≤ d) (hdc : d ≤ c + 2) (hf : f ≤ f') (hN : f' + N' ≤ f + N) :
    (if f' ≤ k then c + 2 * N' else d + 2 * N') ≤ if f ≤ k then c + 2 * N else d + 2 * N := by
  by_cases h1 : f' ≤ k
  · rw [if_pos h1, if_pos (Nat.le_trans hf h1)]; omega
  · rw [if_neg h1]
    by_cases h2 : f ≤ k
    · rw [if_pos h2]; omega
    · rw [if_neg h2]; omega

theorem wSack_mono (b : Int) (f f' N N' k : Nat) (hf : f ≤ f') (hN : f' + N' ≤ f + N) (hk : k < 2147483648)
    (hf' : f' < 2147483648) (p : Int × List (Nat × Nat)) (hp : p.1 = T b k) : wSack (T b f') N' p ≤ wSack (T b f) N p := by
  obtain ⟨c, g⟩ := p
  subst hp
  rw [wSack_T b N' g hk hf', wSack_T b N g hk (Nat.lt_of_le_of_lt hf hf')]
  exact weight_mono k (by decide) (by decide) hf hN

theorem wArr_mono (b : Int) (f f' hi N N' : Nat) (hf : f ≤ f') (hN : f' + N' ≤ f + N) (hf' : f' < 2147483648)
    (a : Arrival) (ha : ArrOk b f hi a) : wArr (T b f') N' a ≤ wArr (T b f) N a := by
  cases a with
  | data d =>
    have hNN : N' ≤ N := by omega
    exact Nat.add_le_add_left (Nat.mul_le_mul_left 2 hNN) 4
  | fwd c st =>
    obtain ⟨k, k1, k2⟩ := ha
    subst k2
    have hf2 := Nat.lt_of_le_of_lt hf hf'
    rw [wArr_fwd_T b N' st (Nat.lt_of_le_of_lt k1 hf2) hf', wArr_fwd_T b N st (Nat.lt_of_le_of_lt k1 hf2) hf2]
    exact weight_mono k (by decide) (by decide) hf hN

theorem TxSeqP.hi_lt {b : Int} {κ f : Nat} {t : Tx} (h : TxSeqP b κ f t) : f + t.sentQ.length < 2147483648 := by
  have := h.bound; omega

theorem TxSeqP.adv_lt {b : Int} {κ f : Nat} {t : Tx} (h : TxSeqP b κ f t) : f < 2147483648 :=
  Nat.lt_of_le_of_lt (Nat.le_add_right _ _) h.hi_lt

theorem CohP.r_lt {b : Int} {κ f r : Nat} {s : PLink} (h : CohP b κ f r s) : r < 2147483648 :=
  Nat.lt_of_le_of_lt h.core.rhi h.core.seq.hi_lt

theorem SackIdx.f_le {b : Int} {k f f' : Nat} {t t' : Tx} {gaps : List (Nat × Nat)} (h : SackIdx b k f t t' gaps f') : f ≤ f' :=
  Nat.le_trans (Nat.le_max_right k f) h.fge

theorem SackIdx.nOut_le {b : Int} {k f f' : Nat} {t t' : Tx} {gaps : List (Nat × Nat)} (h : SackIdx b k f t t' gaps f') :
    t'.nOut ≤ t.nOut := by
  have := h.cons; have := h.f_le; omega

theorem wSack_answer (b : Int) {f k r' : Nat} (N : Nat) (gaps : List (Nat × Nat)) (st : List (Nat × Int)) (hkr : k ≤ r')
    (hr' : r' < 2147483648) (hf : f < 2147483648) :
    wSack (T b f) N (T b r', gaps) + 1 ≤ wArr (T b f) N (.fwd (T b k) st) := by
  rw [wSack_T b N gaps hr' hf, wArr_fwd_T b N st (Nat.lt_of_le_of_lt hkr hr') hf]
  by_cases h : f ≤ k
  · rw [if_pos h, if_pos (Nat.le_trans h hkr)]; omega
  · rw [if_neg h]; split <;> omega

theorem fwd_paid {f f' k N N' : Nat} (hf : f ≤ f') (hN : f' + N' ≤ f + N) (hlt : k < f') :
    2 + 2 * N' + 1 ≤ if f ≤ k then 1 + 2 * N else 3 + 2 * N := by
  by_cases h : f ≤ k
  · rw [if_pos h]; omega
  · rw [if_neg h]; omega

/-! ## honest SACKs, weights -/

def SafeP (s : PLink) (h : Nat) (t : Int) : Prop := RxHas s.rx t ∧ ∀ σ ∈ s.toTx.drop h, Below σ t → Cov σ t

structure HonP (b : Int) (h : Nat) (s : PLink) : Prop where
  hle : h ≤ s.toTx.length
  chain : Chain b s.rx (s.toTx.drop h)

noncomputable def PLink.U (s : PLink) (h : Nat) : Nat := usum (SafeP s h) s.tx.sentQ + 2 * s.tx.outQ.length
noncomputable def PLink.S2 (s : PLink) (h : Nat) : Nat := if h = 0 then s.U 0 else h + 2 * s.tx.nOut
noncomputable def PLink.pot2 (s : PLink) (h : Nat) : Nat := s.tx.flags + s.tx.nOut * s.S2 h

/-- what the pending `_transmit` task will cost: itself and the FORWARD TSN it may emit -/
def PLink.wPending (s : PLink) : Nat :=
  if s.pending then 1 + (if s.tx.forwardTsn.isSome then 4 + 2 * s.tx.nOut else 0) else 0

noncomputable def PLink.phi3 (s : PLink) (h : Nat) : Nat :=
  sumW (wArr s.tx.advAck s.tx.nOut) s.toRx + sumW (wSack s.tx.advAck s.tx.nOut) s.toTx + s.wPending
    + (4 + 2 * s.tx.nOut) * s.pot2 h

theorem PLink.S2_eq (s : PLink) (h : Nat) : s.S2 h = budget s.tx s.rx s.toTx h := rfl

theorem PLink.S2_le (s : PLink) (h : Nat) : s.S2 h ≤ h + 2 * s.tx.nOut := budget_le h

theorem PLink.pot2_le (s : PLink) (h : Nat) : s.pot2 h ≤ s.tx.nOut + s.tx.nOut * (h + 2 * s.tx.nOut) :=
  pot2_bound s.tx (s.S2_le h)

end Aiortc.Sctp
