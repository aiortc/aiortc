import Aiortc.Lemmas.C02.DrainStep
import Aiortc.Lemmas.C02.DrainIter
/-!
# The fault-free continuation drains (C02 drain)

Every non-T3 step lowers `phi` (`step_progress`); from a quiet state with something outstanding a T3 expiry and the queued
`_transmit` put the chunk after the cumulative ack into flight (`epoch`), so every epoch acknowledges at least one more
chunk.  `Link.drains_phi` hands these to the drain argument (`Drains`, `DrainIter.lean`); `Coh.drains` (bound `Link.drainBound`)
is its conclusion.
-/
namespace Aiortc.Sctp
-- `_transmit` and `_t3_expired` are used through their lemmas only; opaque, so that no unification step unfolds them
attribute [local irreducible] Tx.transmit Tx.t3Expired

theorem transmit_empty (t : Tx) (hs : t.sentQ = []) (ho : t.outQ = []) (hf : t.forwardTsn = none) :
    t.transmit.1.t3 = t.t3 ∧ dataOf t.transmit.2 = [] ∧ t.transmit.1.sentQ = [] ∧ t.transmit.1.outQ = [] := by
  -- nothing pending, both queues empty: neither loop of `_transmit` runs, so the definition can be evaluated
  unfold Tx.transmit
  simp [hs, ho, hf, rtxLoop, newLoop, dataOf]

theorem Coh.kick {b : Int} {a r : Nat} {s : Link} (h : Coh b a r s) :
    Coh b a r s.fireT3.runTask ∧ s.fireT3.runTask.tx.nOut = s.tx.nOut := by
  have sh := t3Expired_shape s.tx h.core.rel s.now1000
  exact ⟨h.fireT3.runTask, (transmit_nOut _).trans sh.nOut⟩

theorem epoch {b : Int} {a r : Nat} {s : Link} (h : Coh b a r s) (hq : s.Quiet) (hne : s.tx.sentQ ≠ []) :
    Coh b a r s.fireT3.runTask ∧ s.fireT3.runTask.tx.nOut = s.tx.nOut
    ∧ s.fireT3.runTask.phi ≤ 2 * (s.tx.nOut * 2 ^ s.tx.nOut) ∧ Ahead b a r s.fireT3.runTask := by
  have h1 := h.fireT3
  have sh := t3Expired_shape s.tx h.core.rel s.now1000
  obtain ⟨hpot, hn2⟩ := pot_transmit (s.tx.t3Expired s.now1000) h1.snd.flight.outQ
  have hple := pot_le (s.tx.t3Expired s.now1000)
  rw [sh.nOut] at hple
  refine ⟨h.kick.1, h.kick.2, ?_, ?_⟩
  · simp only [Link.phi, Link.runTask, Link.fireT3, hq.1, hq.2.1, List.nil_append, List.length_nil,
      Bool.false_eq_true, if_false]
    omega
  · obtain ⟨c, cs, hcs⟩ : ∃ c cs, (s.tx.t3Expired s.now1000).sentQ = c :: cs := by
      rw [sh.sentQ]
      cases hsq : s.tx.sentQ with
      | nil => exact absurd hsq hne
      | cons c cs => exact ⟨_, _, rfl⟩
    obtain ⟨_, _, _, _, _, _, more, hev⟩ := t3_then_transmit s.tx h.snd.flight.winv s.now1000 c cs hcs
    have hD : (rtxChunk c).toR ∈ dataOf (s.tx.t3Expired s.now1000).transmit.2 := by
      rw [hev, dataOf_append, dataOf_append]
      exact List.mem_append.mpr (Or.inl (List.mem_append.mpr (Or.inr (by simp [dataOf]))))
    have hseq : Seq b a (s.tx.t3Expired s.now1000).sentQ := h1.core.seq.sent
    rw [hcs] at hseq
    left
    refine ⟨?_, Or.inr ⟨(rtxChunk c).toR, ?_, hseq.1⟩⟩
    · simp only [Link.runTask, Link.fireT3]
      intro he
      rw [(List.append_eq_nil_iff.mp he).2] at hD
      cases hD
    · simp only [Link.runTask, Link.fireT3]
      exact List.mem_append.mpr (Or.inr hD)

theorem Coh.quiet_cases {b : Int} {a r : Nat} {s : Link} (h : Coh b a r s) (hq : s.Quiet) :
    s.Drained ∨ (s.tx.t3 = true ∧ Link.run 2 s = s.fireT3.runTask) := by
  cases h3 : s.tx.t3 with
  | false => exact Or.inl (Link.stuck_drained s h.snd (s.step_rest hq h3))
  | true => exact Or.inr ⟨rfl, s.run_t3 hq.2.2 hq.1 hq.2.1 h3⟩

theorem Coh.kick_drained {b : Int} {a r : Nat} {s : Link} (h : Coh b a r s) (hq : s.Quiet) (hsq : s.tx.sentQ = []) :
    s.fireT3.runTask.Drained := by
  have hoq : s.tx.outQ = [] := (h.snd.idle hq.2.2).1 hsq
  have sh := t3Expired_shape s.tx h.core.rel s.now1000
  obtain ⟨e1, e2, _, _⟩ := transmit_empty (s.tx.t3Expired s.now1000) (by rw [sh.sentQ, hsq]; rfl)
    (by rw [sh.outQ, hoq]) sh.rel.fwd
  have hq2 : s.fireT3.runTask.Quiet :=
    ⟨by simp only [Link.runTask, Link.fireT3]; rw [e2, hq.1]; rfl, hq.2.1, rfl⟩
  have h32 : s.fireT3.runTask.tx.t3 = false := by
    simp only [Link.runTask, Link.fireT3]; rw [e1, sh.t3]
  exact Link.stuck_drained _ h.kick.1.snd (Link.step_rest _ hq2 h32)

/-! ## the bound -/

def epochCost (m : Nat) : Nat := 2 + 2 * (m * 2 ^ m)
def quietBound (m : Nat) : Nat := m * epochCost m + 2

theorem epochCost_mono {m n : Nat} (h : m ≤ n) : epochCost m ≤ epochCost n := by
  have := Nat.mul_le_mul h (Nat.pow_le_pow_right (by omega : 0 < 2) h)
  unfold epochCost; omega

theorem Coh.drained {b : Int} {a r : Nat} {s : Link} (h : Coh b a r s) (hd : s.Drained) :
    s.tx.nOut = 0 ∧ s.rx.last = T b a ∧ s.tx.lastSacked = T b a ∧ s.tx.localTsn = T b (a + 1) := by
  have hr : r = a := by
    have := h.core.rlo; have := h.core.rhi; rw [hd.sentQ] at this; exact Nat.le_antisymm this ‹a ≤ r›
  refine ⟨by unfold Tx.nOut; rw [hd.sentQ, hd.outQ]; rfl, hr ▸ h.core.rlast, h.core.seq.ls, ?_⟩
  rw [h.core.seq.localTsn, hd.sentQ, hd.outQ]; rfl

def Link.drainBound (s : Link) : Nat :=
  2 * s.toRx.length + s.toTx.length + 1 + 2 * (s.tx.nOut * 2 ^ s.tx.nOut) + quietBound s.tx.nOut

theorem phi_le (s : Link) : s.phi ≤ 2 * s.toRx.length + s.toTx.length + 1 + 2 * (s.tx.nOut * 2 ^ s.tx.nOut) := by
  have := pot_le s.tx
  have := pending_le_one s.pending
  unfold Link.phi
  omega

/-- the ghost indices of a `Link` state: `a` chunks cumulatively acked at the sender, `r` at the receiver; `h` SACKs in flight
date from the fault history (`Hon`, used with `phi2` only) -/
structure Link.Ix where
  a : Nat
  r : Nat
  h : Nat := 0

theorem Track.nOut_le {b : Int} {a r a' r' : Nat} {s s' : Link} (h : Track b a r s a' r' s') : s'.tx.nOut ≤ s.tx.nOut := by
  have := h.le; have := h.nOut; omega

theorem Track.less {b : Int} {a r a' r' n : Nat} {s s' : Link} (h : Track b a r s a' r' s') (hq : s'.Quiet)
    (ha : Ahead b a r s) (hn : s.tx.nOut = n) : s'.tx.nOut < n := by
  have := h.quiet hq ha; have := h.nOut; omega

/-- a quiet coherent state is drained; or T3 and the queued task lead to a coherent state (nothing is promised in a quiet
state, so `Track` holds) that is drained unless something is outstanding -/
theorem Coh.quiet_next {b : Int} {a r : Nat} {s : Link} (h : Coh b a r s) (hq : s.Quiet) :
    s.Drained ∨ (Link.run 2 s = s.fireT3.runTask ∧ Coh b a r s.fireT3.runTask ∧ Track b a r s a r s.fireT3.runTask
      ∧ (s.fireT3.runTask.Drained ∨ s.tx.sentQ ≠ [])) := by
  refine (h.quiet_cases hq).imp_right fun ⟨_, hrun⟩ => ⟨hrun, h.kick.1,
    Tracks.of_not_ahead (Nat.le_refl _) (Nat.le_refl _) (by rw [h.kick.2]) (not_ahead_of_quiet hq), ?_⟩
  by_cases hsq : s.tx.sentQ = []
  · exact Or.inl (h.kick_drained hq hsq)
  · exact Or.inr hsq

theorem Link.drains_phi (b : Int) :
    Drains (step := Link.step) (run := Link.run) (Quiet := Link.Quiet) (Done := Link.Drained)
      (Inv := fun (i : Link.Ix) s => Coh b i.a i.r s) (mu := fun _ s => s.phi) (work := fun _ s => s.tx.nOut)
      (Along := fun i s i' s' => Track b i.a i.r s i'.a i'.r s') (cost := epochCost) where
  run_zero _ := rfl
  run_succ _ _ := rfl
  refl _ _ := Tracks.refl
  trans := Tracks.trans
  work_le := Track.nOut_le
  cost_mono := epochCost_mono
  progress hc hq := by
    obtain ⟨a1, r1, hc1, hphi, ht1⟩ := step_progress hc hq
    exact ⟨{ a := a1, r := r1 }, hc1, hphi, ht1⟩
  quiet {i s} hc hq := (hc.quiet_next hq).imp_right fun ⟨hrun, hc2, ht, hcase⟩ => by
    rw [hrun]
    refine ⟨i, hc2, ht, hcase.imp_right fun hne => ?_⟩
    obtain ⟨_, hn, hphi, hah⟩ := epoch hc hq hne
    exact ⟨by unfold epochCost; omega, fun ht2 hq2 => ht2.less hq2 hah hn⟩

theorem Coh.drains {b : Int} {a r : Nat} {s : Link} (h : Coh b a r s) :
    ∃ j, j ≤ s.drainBound ∧ (Link.run j s).Drained
      ∧ (Link.run j s).rx.last = T b (a + s.tx.nOut) ∧ (Link.run j s).tx.lastSacked = T b (a + s.tx.nOut)
      ∧ (Link.run j s).tx.localTsn = T b (a + s.tx.nOut + 1)
      ∧ ∃ r', Coh b (a + s.tx.nOut) r' (Link.run j s) := by
  obtain ⟨j, ⟨a2, r2, _⟩, hj, hc2, hd2, ht2⟩ := (Link.drains_phi b).drains (i := { a := a, r := r }) h
  obtain ⟨hz, e1, e2, e3⟩ := Coh.drained hc2 hd2
  have hn : a2 + (Link.run j s).tx.nOut = a + s.tx.nOut := ht2.nOut
  obtain rfl : a2 = a + s.tx.nOut := by omega
  have hphi := phi_le s
  exact ⟨j, by unfold Link.drainBound quietBound; omega, hd2, e1, e2, e3, r2, hc2⟩

end Aiortc.Sctp
