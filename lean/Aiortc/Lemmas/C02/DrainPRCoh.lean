import Aiortc.Lemmas.C02.DrainCoh
import Aiortc.Lemmas.C02.DrainPRRx
import Aiortc.Lemmas.C02.DrainPRSeq
/-!
# The two-sided system with partially reliable traffic, and its coherence invariant (C02 drain)

`PLink`: sender `Tx`, receiver `Rx`, DATA and FORWARD TSN chunks in flight (`toRx : List Arrival`), SACKs in flight, the
pending `_transmit` task, the clock (which expires lifetimes), and the list `got` of the TSNs that reached the receiver
as DATA.  `PLink.fault`: the adversary (any message parameters).  `CohP b κ f r s`: `lastSacked = T b κ`, advanced peer ack
point `T b f` (`κ ≤ f`, FORWARD TSN needed iff `κ < f`), `sentQ ++ outQ` carry `T b (f+1) …`, receiver's cumulative TSN `T b r`
with `κ ≤ r ≤ f + |sentQ|`, every DATA chunk in flight was transmitted, every FORWARD TSN in flight is at most `T b f`, every
SACK in flight at most `T b r`; and a FORWARD TSN that is needed is scheduled or covered by T3.  `PLink.Move` lists what a move of the
adversary can be (`fault_move`): five operations of the system, or a change of the network alone (`PLink.Net`).
-/
namespace Aiortc.Sctp
open Aiortc.Gen

-- `_transmit` is used through its lemmas only; opaque, so that no unification step unfolds it
attribute [local irreducible] Tx.transmit

structure PLink where
  tx : Tx
  rx : Rx
  toRx : List Arrival := []
  toTx : List (Int × List (Nat × Nat)) := []
  pending : Bool := false
  now1000 : Int := 0
  /-- TSNs of the DATA chunks that reached the receiver (ghost) -/
  got : List Int := []

/-- what a `_transmit` puts on the wire, in order: the FORWARD TSN (always first), then the DATA chunks -/
def arrOf (evs : List TxEv) : List Arrival :=
  (fwdOf evs).map (fun p => Arrival.fwd p.1 p.2) ++ (dataOf evs).map Arrival.data

def PLink.runTask (s : PLink) : PLink :=
  { s with tx := s.tx.transmit.1, toRx := s.toRx ++ arrOf s.tx.transmit.2, pending := false }

/-- the receiver handles one chunk (`_receive_data_chunk` / `_receive_forward_tsn_chunk`, cumulative-TSN part) -/
def rxArr (rx : Rx) : Arrival → Rx
  | .data d => (markReceived rx (d.tsn % 4294967296)).2
  | .fwd cum _ => rxFwdTsn rx (cum % 4294967296)

def gotArr (got : List Int) : Arrival → List Int
  | .data d => got ++ [d.tsn % 4294967296]
  | .fwd _ _ => got

/-- … and answers with a SACK (`_sack_needed` is set by both handlers) -/
def PLink.deliver (s : PLink) (a : Arrival) (rest : List Arrival) : PLink :=
  { s with rx := { rxArr s.rx a with dups := [] }, toRx := rest, got := gotArr s.got a,
           toTx := s.toTx ++ [((rxArr s.rx a).last, sackGapBlocks (rxArr s.rx a))] }

def PLink.deliverSack (s : PLink) (cum : Int) (gaps : List (Nat × Nat)) (rest : List (Int × List (Nat × Nat))) : PLink :=
  match s.tx.receiveSack cum gaps s.now1000 with
  | .ok (some (t', _)) => { s with tx := t'.transmit.1, toRx := s.toRx ++ arrOf t'.transmit.2, toTx := rest }
  | _ => { s with toTx := rest }

theorem PLink.deliverSack_toTx (s : PLink) (cum : Int) (gaps : List (Nat × Nat)) (rest : List (Int × List (Nat × Nat))) :
    (s.deliverSack cum gaps rest).toTx = rest := by
  unfold PLink.deliverSack; split <;> rfl

def PLink.fireT3 (s : PLink) : PLink := { s with tx := s.tx.t3Expired s.now1000, pending := true }

/-- one step of the canonical fault-free continuation -/
def PLink.step (s : PLink) : PLink :=
  if s.pending then s.runTask
  else match s.toRx with
    | a :: rest => s.deliver a rest
    | [] => match s.toTx with
      | (cum, gaps) :: rest => s.deliverSack cum gaps rest
      | [] => if s.tx.t3 then s.fireT3 else s

def PLink.run : Nat → PLink → PLink
  | 0, s => s
  | n + 1, s => PLink.run n s.step

theorem PLink.run_add (m n : Nat) (s : PLink) : PLink.run (m + n) s = PLink.run n (PLink.run m s) := by
  induction m generalizing s with
  | zero => simp [PLink.run]
  | succ m ih => rw [Nat.succ_add]; exact ih s.step

def PLink.sendMsg (s : PLink) (m : SendArgs) : PLink :=
  { s with tx := (s.tx.enqueue m.sid m.ppid m.data m.expiry m.maxRtx m.ordered).transmit.1
           toRx := s.toRx ++ arrOf (s.tx.enqueue m.sid m.ppid m.data m.expiry m.maxRtx m.ordered).transmit.2 }

/-- the moves of `Fault` on `PLink`; `toRx` holds DATA and FORWARD TSN chunks alike, so `deliverData` / `dropData` / `dupData` act on
either kind -/
def PLink.fault (s : PLink) : Fault → PLink
  | .send m => s.sendMsg m
  | .task => s.runTask
  | .fireT3 => s.fireT3
  | .deliverData i => match s.toRx[i]? with
    | some a => s.deliver a (s.toRx.eraseIdx i)
    | none => s
  | .deliverSack i => match s.toTx[i]? with
    | some p => s.deliverSack p.1 p.2 (s.toTx.eraseIdx i)
    | none => s
  | .dropData i => { s with toRx := s.toRx.eraseIdx i }
  | .dropSack i => { s with toTx := s.toTx.eraseIdx i }
  | .dupData i => match s.toRx[i]? with
    | some a => { s with toRx := s.toRx ++ [a] }
    | none => s
  | .dupSack i => match s.toTx[i]? with
    | some p => { s with toTx := s.toTx ++ [p] }
    | none => s
  | .tick now => { s with now1000 := now }

/-- chunks a move adds to the outbound queue -/
def newChunks (s : PLink) : Fault → List SChunk
  | .send m => (s.tx.enqueue m.sid m.ppid m.data m.expiry m.maxRtx m.ordered).outQ.drop s.tx.outQ.length
  | _ => []

/-- a move that touches neither endpoint: what is in flight afterwards was in flight before -/
structure PLink.Net (s s' : PLink) : Prop where
  tx : s'.tx = s.tx
  rx : s'.rx = s.rx
  pending : s'.pending = s.pending
  got : s'.got = s.got
  toRx : ∀ a ∈ s'.toRx, a ∈ s.toRx
  toTx : ∀ p ∈ s'.toTx, p ∈ s.toTx

/-- what a move of the adversary is: one of the five operations of the system, or a change of the network alone (drop, duplicate,
tick, an index that names nothing) -/
inductive PLink.Move (s : PLink) : Fault → PLink → Prop
  | send (m : SendArgs) : Move s (.send m) (s.sendMsg m)
  | task : Move s .task s.runTask
  | fireT3 : Move s .fireT3 s.fireT3
  | arrive {i : Nat} {a : Arrival} : s.toRx[i]? = some a → Move s (.deliverData i) (s.deliver a (s.toRx.eraseIdx i))
  | sack {i : Nat} {p : Int × List (Nat × Nat)} : s.toTx[i]? = some p →
      Move s (.deliverSack i) (s.deliverSack p.1 p.2 (s.toTx.eraseIdx i))
  | net {ft : Fault} {s' : PLink} : ft.sent = 0 → newChunks s ft = [] → s.Net s' → Move s ft s'

theorem PLink.fault_move (s : PLink) (ft : Fault) : s.Move ft (s.fault ft) := by
  have same : s.Net s := ⟨rfl, rfl, rfl, rfl, fun _ h => h, fun _ h => h⟩
  cases ft with
  | send m => exact .send m
  | task => exact .task
  | fireT3 => exact .fireT3
  | deliverData i =>
    simp only [PLink.fault]
    cases hi : s.toRx[i]? with
    | none => exact .net rfl rfl same
    | some a => exact .arrive hi
  | deliverSack i =>
    simp only [PLink.fault]
    cases hi : s.toTx[i]? with
    | none => exact .net rfl rfl same
    | some p => exact .sack hi
  | dropData i => exact .net rfl rfl ⟨rfl, rfl, rfl, rfl, fun _ h => List.mem_of_mem_eraseIdx h, fun _ h => h⟩
  | dropSack i => exact .net rfl rfl ⟨rfl, rfl, rfl, rfl, fun _ h => h, fun _ h => List.mem_of_mem_eraseIdx h⟩
  | dupData i =>
    simp only [PLink.fault]
    cases hi : s.toRx[i]? with
    | none => exact .net rfl rfl same
    | some a =>
      exact .net rfl rfl ⟨rfl, rfl, rfl, rfl, fun e he => (List.mem_append.mp he).elim id fun he =>
        List.mem_singleton.mp he ▸ List.mem_of_getElem? hi, fun _ h => h⟩
  | dupSack i =>
    simp only [PLink.fault]
    cases hi : s.toTx[i]? with
    | none => exact .net rfl rfl same
    | some p =>
      exact .net rfl rfl ⟨rfl, rfl, rfl, rfl, fun _ h => h, fun e he => (List.mem_append.mp he).elim id fun he =>
        List.mem_singleton.mp he ▸ List.mem_of_getElem? hi⟩
  | tick now => exact .net rfl rfl ⟨rfl, rfl, rfl, rfl, fun _ h => h, fun _ h => h⟩

/-! ## the invariant -/

def ArrOk (b : Int) (f hi : Nat) : Arrival → Prop
  | .data d => ∃ k, k ≤ hi ∧ d.tsn = T b k
  | .fwd c _ => ∃ k, k ≤ f ∧ c = T b k

theorem ArrOk.mono {b : Int} {f hi f' hi' : Nat} (h1 : f ≤ f') (h2 : hi ≤ hi') : ∀ {a : Arrival}, ArrOk b f hi a → ArrOk b f' hi' a
  | .data _, ⟨k, k1, k2⟩ => ⟨k, Nat.le_trans k1 h2, k2⟩
  | .fwd _ _, ⟨k, k1, k2⟩ => ⟨k, Nat.le_trans k1 h1, k2⟩

structure CoreP (b : Int) (κ f r : Nat) (s : PLink) : Prop where
  seq : TxSeqP b κ f s.tx
  rxok : RxOk s.rx
  rlast : s.rx.last = T b r
  rlo : κ ≤ r
  rhi : r ≤ f + s.tx.sentQ.length
  mis : ∀ x ∈ s.rx.mis, ∃ k, r < k ∧ k ≤ f + s.tx.sentQ.length ∧ x = T b k
  toRx : ∀ a ∈ s.toRx, ArrOk b f (f + s.tx.sentQ.length) a
  toTx : ∀ p ∈ s.toTx, ∃ k, k ≤ r ∧ p.1 = T b k

theorem CoreP.rxAt {b : Int} {κ f r : Nat} {s : PLink} (h : CoreP b κ f r s) (hlt : f + s.tx.sentQ.length < 2147483648) :
    RxAt b r (f + s.tx.sentQ.length) s.rx := ⟨h.rxok, h.rlast, h.rhi, hlt, h.mis⟩

/-- a FORWARD TSN that is needed is on its way out or covered by T3 -/
def NeedT3 (t : Tx) : Prop := t.forwardNeeded = true → t.t3 = true ∨ t.forwardTsn.isSome = true

structure CohP (b : Int) (κ f r : Nat) (s : PLink) : Prop where
  core : CoreP b κ f r s
  snd : SndInv { tx := s.tx, pending := s.pending }
  need : NeedT3 s.tx

theorem CoreP.grow {b : Int} {κ f r κ' f' : Nat} {s s' : PLink} (h : CoreP b κ f r s) (hseq : TxSeqP b κ' f' s'.tx)
    (hκ : κ' ≤ r) (hf : f ≤ f') (hhi : f + s.tx.sentQ.length ≤ f' + s'.tx.sentQ.length) (hrx : s'.rx = s.rx)
    (h1 : ∀ a ∈ s'.toRx, a ∈ s.toRx ∨ ArrOk b f' (f' + s'.tx.sentQ.length) a)
    (h2 : ∀ p ∈ s'.toTx, p ∈ s.toTx) : CoreP b κ' f' r s' := by
  exact ⟨hseq, hrx ▸ h.rxok, hrx ▸ h.rlast, hκ, Nat.le_trans h.rhi hhi,
    fun x hx => (h.mis x (hrx ▸ hx)).imp fun _ hk => ⟨hk.1, Nat.le_trans hk.2.1 hhi, hk.2.2⟩,
    fun a ha => (h1 a ha).elim (fun ha => (h.toRx a ha).mono hf hhi) id, fun p hp => h.toTx p (h2 p hp)⟩

/-- the pending FORWARD TSN as a chunk on the wire -/
def fwdArr : Option (Int × List (Nat × Int)) → List Arrival
  | some p => [Arrival.fwd p.1 p.2]
  | none => []

theorem arrOf_transmit (t : Tx) :
    arrOf t.transmit.2 = fwdArr t.forwardTsn ++ (dataOf t.transmit.2).map Arrival.data := by
  unfold arrOf
  rw [fwdOf_transmit]
  cases t.forwardTsn <;> rfl

theorem transmit_arrOk {b : Int} {κ f : Nat} {t : Tx} (h : TxSeqP b κ f t) :
    ∀ a ∈ arrOf t.transmit.2, ArrOk b f (f + t.transmit.1.sentQ.length) a := by
  intro a ha
  rw [arrOf_transmit, List.mem_append] at ha
  rcases ha with ha | ha
  · cases hp : t.forwardTsn with
    | none => rw [hp] at ha; cases ha
    | some p =>
      rw [hp] at ha
      simp only [fwdArr, List.mem_singleton] at ha
      subst ha
      exact h.fwdv p hp
  · simp only [List.mem_map] at ha
    obtain ⟨d, hd, rfl⟩ := ha
    obtain ⟨j, _, j2, j3⟩ := transmit_emitted_seq b f t h.seq d hd
    exact ⟨j, j2, j3⟩

theorem CoreP.transmit {b : Int} {κ f r : Nat} {s s' : PLink} (h : CoreP b κ f r s) (htx : s'.tx = s.tx.transmit.1)
    (hrx : s'.rx = s.rx) (h1 : ∀ a ∈ s'.toRx, a ∈ s.toRx ∨ a ∈ arrOf s.tx.transmit.2) (h2 : ∀ p ∈ s'.toTx, p ∈ s.toTx) :
    CoreP b κ f r s' := by
  exact h.grow (htx ▸ h.seq.transmit) h.rlo (Nat.le_refl _) (htx ▸ Nat.add_le_add_left (transmit_queues s.tx).1 f) hrx
    (fun a ha => (h1 a ha).imp_right fun ha => htx ▸ transmit_arrOk h.seq a ha) h2

theorem NeedT3.transmit {t : Tx} (h : NeedT3 t) : NeedT3 t.transmit.1 := by
  intro hn
  have tf := transmit_facts t
  exact Or.inl (tf.mono (tf.mono0 (h ((congrArg Tx.forwardNeeded tf.frame).symm.trans hn))))

theorem NeedT3.enqueue {t : Tx} (h : NeedT3 t) (sid ppid : Nat) (data : Bytes) (e m : Option Int) (o : Bool) :
    NeedT3 (t.enqueue sid ppid data e m o) := h

theorem CoreP.deliver {b : Int} {κ f r : Nat} {s : PLink} (h : CoreP b κ f r s) (a : Arrival) (ha : a ∈ s.toRx) :
    ∃ r', r ≤ r' ∧ (rxArr s.rx a).last = T b r' ∧ r' ≤ f + s.tx.sentQ.length ∧ RxOk (rxArr s.rx a)
      ∧ (∀ x ∈ (rxArr s.rx a).mis, ∃ j, r' < j ∧ j ≤ f + s.tx.sentQ.length ∧ x = T b j)
      ∧ (∀ j, j < 2147483648 → RxHas s.rx (T b j) → RxHas (rxArr s.rx a) (T b j))
      ∧ (match a with
          | .data d => ∃ k, k ≤ f + s.tx.sentQ.length ∧ d.tsn = T b k ∧ (k = r + 1 → r < r')
          | .fwd c _ => ∃ k, k ≤ f ∧ c = T b k ∧ k ≤ r')
      ∧ ∀ s' : PLink, s'.tx = s.tx → s'.rx = { rxArr s.rx a with dups := [] } →
          (∀ e ∈ s'.toRx, e ∈ s.toRx) → (∀ p ∈ s'.toTx, p ∈ s.toTx ∨ p.1 = T b r') → CoreP b κ f r' s' := by
  have hlt : f + s.tx.sentQ.length < 2147483648 :=
    Nat.lt_of_le_of_lt (Nat.add_le_add_left (Nat.le_add_right _ _) f) (Nat.lt_of_succ_lt h.seq.bound)
  have hok := h.toRx a ha
  have key : ∀ (rx' : Rx) (r' : Nat), r ≤ r' → rx'.last = T b r' → r' ≤ f + s.tx.sentQ.length → RxOk rx' →
      (∀ x ∈ rx'.mis, ∃ j, r' < j ∧ j ≤ f + s.tx.sentQ.length ∧ x = T b j) →
      ∀ s' : PLink, s'.tx = s.tx → s'.rx = { rx' with dups := [] } →
          (∀ e ∈ s'.toRx, e ∈ s.toRx) → (∀ p ∈ s'.toTx, p ∈ s.toTx ∨ p.1 = T b r') → CoreP b κ f r' s' := by
    intro rx' r' r1 r3 r2 hok' r4 s' htx hrx h1 h2
    exact ⟨htx ▸ h.seq, hrx ▸ ⟨hok'.last, hok'.mis, hok'.nodup, hok'.next⟩, hrx ▸ r3, Nat.le_trans h.rlo r1, htx ▸ r2,
      fun x hx => htx ▸ r4 x (by rw [hrx] at hx; exact hx), fun e he => htx ▸ h.toRx e (h1 e he),
      fun p hp => (h2 p hp).elim (fun hp => (h.toTx p hp).imp fun _ hj => ⟨Nat.le_trans hj.1 r1, hj.2⟩)
        fun hp => ⟨r', Nat.le_refl _, hp⟩⟩
  cases a with
  | data d =>
    obtain ⟨k, k1, k2⟩ := hok
    have hmod : d.tsn % 4294967296 = T b k := by rw [k2, T_mod]
    simp only [rxArr, hmod]
    obtain ⟨r', r1, ⟨hok', r3, r2, _, r4⟩, r5⟩ := rx_deliver (h.rxAt hlt) k1
    exact ⟨r', r1, r3, r2, hok', r4, rxHas_mono (h.rxAt hlt) k1, ⟨k, k1, k2, r5⟩, key _ r' r1 r3 r2 hok' r4⟩
  | fwd c st =>
    obtain ⟨k, k1, k2⟩ := hok
    have hmod : c % 4294967296 = T b k := by rw [k2, T_mod]
    simp only [rxArr, hmod]
    obtain ⟨r', r1, r2, ⟨r6, r4, r3, _, r5⟩, r7⟩ := rx_fwd (h.rxAt hlt) (Nat.le_trans k1 (Nat.le_add_right _ _))
    exact ⟨r', r1, r4, r3, r6, r5, r7, ⟨k, k1, k2, r2⟩, key _ r' r1 r4 r3 r6 r5⟩

end Aiortc.Sctp
