import Aiortc.Lemmas.C02.DrainPsi
/-!
# Weights of outstanding chunks (C02 drain, polynomial bound)

A chunk weighs 1 while it is not gap-acked, 0 when it is gap-acked and *safe* (the receiver has it and every SACK still
to come says so), 2 when it is gap-acked without being safe.  A SACK that newly gap-acks a chunk it covers makes it safe
(1 → 0); a chunk that loses its gap-ack in the strike loop was not covered by that SACK, hence was not safe (2 → 1).
"Covered" is `Cov`, a predicate on a SACK and a TSN (`Covered` of `SctpSack.lean` is about offsets and one block list).
`gapLimitOf` names the limit to which `sackList` clips the gap blocks (`sackList_eq`, by `rfl`); it is `Tx.gapLimit` as a function
of the sent queue (`gapLimit_eq` in `DrainPROps.lean`).
-/
namespace Aiortc.Sctp
open Aiortc.Gen

/-- the SACK `(cum, gaps)` reports TSN `t` as received -/
def Cov (σ : Int × List (Nat × Nat)) (t : Int) : Prop :=
  uint32_gte σ.1 t = true ∨ ∃ g ∈ σ.2, ∃ k, g.1 ≤ k ∧ k ≤ g.2 ∧ k < 2147483648 ∧ t = (σ.1 + (k : Int)) % 4294967296

open Classical in
noncomputable def wt (P : Int → Prop) (c : SChunk) : Nat := if c.acked then (if P c.tsn then 0 else 2) else 1

noncomputable def usum (P : Int → Prop) : List SChunk → Nat
  | [] => 0
  | c :: cs => wt P c + usum P cs

theorem wt_le_two (P : Int → Prop) (c : SChunk) : wt P c ≤ 2 := by
  unfold wt; split
  · split <;> omega
  · omega

theorem usum_le (P : Int → Prop) : ∀ l : List SChunk, usum P l ≤ 2 * l.length
  | [] => Nat.le_refl _
  | c :: cs => by have := usum_le P cs; have := wt_le_two P c; simp only [usum, List.length_cons]; omega

theorem usum_append (P : Int → Prop) : ∀ a b : List SChunk, usum P (a ++ b) = usum P a + usum P b
  | [], _ => by simp [usum]
  | c :: cs, b => by simp only [List.cons_append, usum, usum_append P cs b]; omega

theorem usum_drop (P : Int → Prop) (l : List SChunk) (k : Nat) : usum P (l.drop k) ≤ usum P l := by
  conv => rhs; rw [← List.take_append_drop k l, usum_append]
  omega

/-- how the weight of one chunk may change -/
def WRel (P Q : Int → Prop) (c d : SChunk) : Prop :=
  d.tsn = c.tsn ∧ (P c.tsn → Q c.tsn) ∧ (c.acked = false → d.acked = true → Q c.tsn)
    ∧ (c.acked = true → d.acked = false → ¬ P c.tsn)

theorem WRel.of_same {P Q : Int → Prop} {c d : SChunk} (ht : d.tsn = c.tsn) (ha : d.acked = c.acked)
    (hpq : P c.tsn → Q c.tsn) : WRel P Q c d :=
  ⟨ht, hpq, fun h1 h2 => (by rw [ha, h1] at h2; cases h2), fun h1 h2 => (by rw [ha, h1] at h2; cases h2)⟩

theorem wt_step {P Q : Int → Prop} {c d : SChunk} (h : WRel P Q c d) : wt Q d ≤ wt P c := by
  obtain ⟨h1, h2, h3, h4⟩ := h
  unfold wt
  rw [h1]
  cases hc : c.acked <;> cases hd : d.acked <;> simp only [Bool.false_eq_true, if_false, if_true]
  · omega
  · simp [h3 hc hd]
  · simp [h4 hc hd]
  · by_cases hp : P c.tsn
    · simp [h2 hp]
    · simp only [hp, if_false]; split <;> omega

theorem wt_step_lt {P Q : Int → Prop} {c d : SChunk} (h : WRel P Q c d) (hc : c.acked = false) (hd : d.acked = true) :
    wt Q d < wt P c := by
  obtain ⟨h1, _, h3, _⟩ := h
  unfold wt
  rw [h1]
  simp [hc, hd, h3 hc hd]

theorem usum_pw {P Q : Int → Prop} : ∀ {l l' : List SChunk}, PW (WRel P Q) l l' → usum Q l' ≤ usum P l
  | [], [], _ => Nat.le_refl _
  | c :: cs, d :: ds, h => by
    have := wt_step h.1
    have := usum_pw (l := cs) (l' := ds) h.2
    simp only [usum]; omega
  | [], _ :: _, h => h.elim
  | _ :: _, [], h => h.elim

theorem usum_lt {P Q : Int → Prop} {l l' : List SChunk} (hl : LexLt l l') (h : PW (WRel P Q) l l') :
    usum Q l' < usum P l := by
  induction hl with
  | here hc hd _ =>
    have := wt_step_lt h.1 hc hd
    have := usum_pw h.2
    simp only [usum]; omega
  | there _ ih =>
    have := wt_step h.1
    have := ih h.2
    simp only [usum]; omega

theorem htnaHna_mem (seen : List Int) (hs : Int) : ∀ (l : List SChunk) (hna0 : Int),
    htnaHna seen hs hna0 l = hna0 ∨ htnaHna seen hs hna0 l ∈ seen
  | [], _ => Or.inl rfl
  | c :: cs, hna0 => by
    unfold htnaHna
    split
    · exact Or.inl rfl
    · by_cases hc : (seen.contains c.tsn && !c.acked) = true
      · simp only [hc, if_true]
        rcases htnaHna_mem seen hs cs c.tsn with h | h
        · right; rw [h]
          simp only [Bool.and_eq_true, List.contains_iff_mem] at hc
          exact hc.1
        · exact Or.inr h
      · simp only [hc]
        exact htnaHna_mem seen hs cs hna0

/-- the limit `_receive_sack_chunk` clips gap blocks to -/
def gapLimitOf (cum : Int) (l : List SChunk) : Nat :=
  match l.getLast? with
  | some x => if uint32_gt x.tsn cum then ((x.tsn - cum) % 4294967296).toNat else 0
  | none => 0

theorem seq_getLast {b : Int} : ∀ {l : List SChunk} {k : Nat} (c : SChunk), Seq b k (c :: l) →
    ∃ x, (c :: l).getLast? = some x ∧ x.tsn = T b (k + (c :: l).length)
  | [], k, c, h => ⟨c, rfl, by simpa using h.1⟩
  | d :: ds, k, c, h => by
    obtain ⟨x, hx, ht⟩ := seq_getLast (l := ds) (k := k + 1) d h.2
    refine ⟨x, by rw [List.getLast?_cons_cons]; exact hx, ?_⟩
    rw [ht]; congr 1; simp only [List.length_cons]; omega

/-- what a SACK with cumulative TSN `T b k` finds: the sent queue `l` is the TSN run after `T b F`, at or beyond the cumulative TSN
(`k = F` after the cumulative-ack loop on reliable traffic) and within the half window -/
structure SackWin (b : Int) (k F : Nat) (l : List SChunk) : Prop where
  seq : Seq b F l
  le : k ≤ F
  lt : F + l.length < 2147483648

theorem SackWin.mem {b : Int} {k F : Nat} {l : List SChunk} (h : SackWin b k F l) {c : SChunk} (hc : c ∈ l) :
    ∃ j, k < j ∧ F < j ∧ j ≤ F + l.length ∧ j < 2147483648 ∧ c.tsn = T b j := by
  obtain ⟨j, j1, j2, j3⟩ := h.seq.mem hc
  exact ⟨j, Nat.lt_of_le_of_lt h.le j1, j1, j2, Nat.lt_of_le_of_lt j2 h.lt, j3⟩

theorem gapLimit_seq_le {b : Int} {l : List SChunk} {k F : Nat} (hw : SackWin b k F l)
    (hne : l ≠ []) : gapLimitOf (T b k) l = F + l.length - k := by
  obtain ⟨h, hk, hb⟩ := hw
  unfold gapLimitOf
  cases l with
  | nil => exact absurd rfl hne
  | cons c cs =>
    obtain ⟨x, hx, ht⟩ := seq_getLast c h
    have hlt : k < F + (c :: cs).length := Nat.lt_of_le_of_lt hk (Nat.lt_add_of_pos_right (Nat.succ_pos _))
    have hgt : uint32_gt (T b (F + (c :: cs).length)) (T b k) = true := by
      rw [gt_T b _ k hb (Nat.lt_trans hlt hb)]; exact decide_eq_true hlt
    rw [hx]; simp only
    rw [ht, if_pos hgt, T_sub b (Nat.le_of_lt hlt) (Nat.lt_of_lt_of_le (Nat.lt_trans hb (by decide)) (Nat.le_add_left _ _))]

theorem gapLimit_le {b : Int} {l : List SChunk} {k F : Nat} (hw : SackWin b k F l) :
    gapLimitOf (T b k) l ≤ F + l.length - k := by
  cases l with
  | nil => exact Nat.zero_le _
  | cons c cs => exact Nat.le_of_eq (gapLimit_seq_le hw (List.cons_ne_nil _ _))

theorem sackList_eq (cum : Int) (gaps : List (Nat × Nat)) (l : List SChunk) :
    sackList cum gaps l = if gaps.isEmpty then l else
      strikeList (gapSeen cum (gapLimitOf cum l) gaps).1
        (htnaHna (gapSeen cum (gapLimitOf cum l) gaps).1 (gapSeen cum (gapLimitOf cum l) gaps).2 cum l)
        (htnaList (gapSeen cum (gapLimitOf cum l) gaps).1 (gapSeen cum (gapLimitOf cum l) gaps).2 l) := rfl

end Aiortc.Sctp
