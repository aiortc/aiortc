import Aiortc.Lemmas.C02.DrainPRAw
/-!
# Every reliable chunk reaches the receiver (C02 drain, partial reliability)

`GotInv b f r H s`: `H` lists every chunk ever queued (`H[j]` has TSN `T b (j+1)`); the chunks still in `sentQ ++ outQ` are
`H.drop f` (same parameters and fragment flags); every chunk that left the queues (`j < f`) and every chunk up to the
receiver's cumulative TSN (`j < r`) was received as DATA (`∈ got`) or is partially reliable; only partially reliable chunks
are marked abandoned (`AW`).  Preserved by every move; at the end `f = |H|`.
-/
namespace Aiortc.Sctp
open Aiortc.Gen

variable {b : Int} {f r : Nat} {H : List SChunk} {s s' : PLink}

theorem consolidate_T (b : Int) (S : List Int) (a : Nat) :
    ∃ j, consolidate (T b a) S = T b (a + j) ∧ ∀ m, a < m → m ≤ a + j → T b m ∈ S := by
  induction S generalizing a with
  | nil => exact ⟨0, rfl, fun m h1 h2 => absurd h2 (Nat.not_le.mpr h1)⟩
  | cons t ts ih =>
    unfold consolidate
    split
    · rename_i ht
      rw [T_succ] at ht
      obtain ⟨j, he, hm⟩ := ih (a + 1)
      refine ⟨j + 1, by rw [ht, he, Nat.add_right_comm, Nat.add_assoc], fun m h1 h2 => ?_⟩
      rcases Nat.eq_or_lt_of_le h1 with h | h
      · rw [← h, ht]; exact List.mem_cons_self
      · exact List.mem_cons_of_mem _ (hm m h (by omega))
    · exact ⟨0, rfl, fun m h1 h2 => absurd h2 (Nat.not_le.mpr h1)⟩

theorem consolidate_upto {S : List Int} {a r' : Nat} (hr' : r' < 4294967296)
    (h : consolidate (T b a) S = T b r') (m : Nat) (h1 : a < m) (h2 : m ≤ r') : T b m ∈ S := by
  obtain ⟨j, hj, hm⟩ := consolidate_T b S a
  refine hm m h1 ((Nat.lt_or_ge (a + j) m).elim (fun hlt => ?_) id)
  have := T_inj (Nat.lt_trans (Nat.lt_of_lt_of_le hlt h2) hr') hr' (hj.symm.trans h)
  omega

/-- after a DATA chunk: every TSN the cumulative TSN moved over was misordered or is the chunk itself -/
theorem rx_deliver_got (b : Int) (rx : Rx) (r k r' : Nat) (hl : rx.last = T b r) (hr : r < 4294967296)
    (hr' : r' < 4294967296) (hl' : (markReceived rx (T b k)).2.last = T b r') :
    (∀ m, r < m → m ≤ r' → T b m ∈ rx.mis ++ [T b k])
    ∧ (∀ x ∈ (markReceived rx (T b k)).2.mis, x ∈ rx.mis ++ [T b k]) := by
  cases hdup : uint32_gte rx.last (T b k) || rx.mis.contains (T b k) with
  | true =>
    obtain ⟨e1, e2⟩ := markReceived_old rx (T b k) hdup
    rw [e1, hl] at hl'
    rw [e2, T_inj hr hr' hl']
    exact ⟨fun m h1 h2 => absurd h2 (Nat.not_le.mpr h1), fun x hx => List.mem_append_left _ hx⟩
  | false =>
    obtain ⟨e1, e2⟩ := markReceived_new rx (T b k) hdup
    rw [e1, hl] at hl'
    refine ⟨fun m h1 h2 => (mem_sortByKey _ _ _).mp (consolidate_upto hr' hl' m h1 h2), fun x hx => ?_⟩
    rw [e2] at hx
    exact (List.mem_filter.mp hx).1

/-- after a FORWARD TSN: every TSN beyond it that the cumulative TSN moved over was misordered -/
theorem rx_fwd_got (b : Int) (rx : Rx) (r c r' : Nat) (hl : rx.last = T b r) (hr : r < 2147483648) (hc : c < 2147483648)
    (hr' : r' < 4294967296) (hl' : (rxFwdTsn rx (T b c)).last = T b r') :
    (∀ m, r < m → c < m → m ≤ r' → T b m ∈ rx.mis) ∧ (∀ x ∈ (rxFwdTsn rx (T b c)).mis, x ∈ rx.mis) := by
  unfold rxFwdTsn at hl' ⊢
  rw [hl, gte_T b r c hr hc] at hl' ⊢
  by_cases hcr : c ≤ r
  · simp only [hcr, decide_true, if_true] at hl' ⊢
    rw [hl] at hl'
    rw [T_inj (Nat.lt_trans hr (by decide)) hr' hl']
    exact ⟨fun m h1 _ h2 => absurd h2 (Nat.not_le.mpr h1), fun x hx => hx⟩
  · simp only [hcr, decide_false, Bool.false_eq_true, if_false] at hl' ⊢
    refine ⟨fun m _ h1 h2 => ?_, fun x hx => ?_⟩
    · have := consolidate_upto hr' (show consolidate (T b c) (sortByKey (T b c) (rx.mis.filter _)) = T b r' from hl') m h1 h2
      exact (List.mem_filter.mp ((mem_sortByKey _ _ _).mp this)).1
    · have hx' : x ∈ (rx.mis.filter (fun x => uint32_gt x (T b c))).filter _ := hx
      exact (List.mem_filter.mp (List.mem_filter.mp hx').1).1

structure GotInv (b : Int) (f r : Nat) (H : List SChunk) (s : PLink) : Prop where
  aw : AW s.tx
  len : H.length = f + s.tx.nOut
  idq : PW SameT (H.drop f) (s.tx.sentQ ++ s.tx.outQ)
  tsn : ∀ j c0, H[j]? = some c0 → c0.tsn = T b (j + 1)
  left : ∀ j c0, H[j]? = some c0 → j < f → c0.tsn ∈ s.got ∨ c0.Unrel
  rcv : ∀ j c0, H[j]? = some c0 → j < r → c0.tsn ∈ s.got ∨ c0.Unrel
  mis : ∀ x ∈ s.rx.mis, x ∈ s.got

theorem GotInv.recv {r' : Nat} (h : GotInv b f r H s) (htx : s'.tx = s.tx)
    (hgot : ∀ x ∈ s.got, x ∈ s'.got)
    (hrcv : ∀ j c0, H[j]? = some c0 → r ≤ j → j < r' → c0.tsn ∈ s'.got ∨ c0.Unrel)
    (hmis : ∀ x ∈ s'.rx.mis, x ∈ s'.got) : GotInv b f r' H s' := by
  refine ⟨by rw [htx]; exact h.aw, by rw [htx]; exact h.len, by rw [htx]; exact h.idq, h.tsn,
    fun j c0 hj hlt => (h.left j c0 hj hlt).imp_left (hgot _), fun j c0 hj hlt => ?_, hmis⟩
  rcases Nat.lt_or_ge j r with h1 | h1
  · exact (h.rcv j c0 hj h1).imp_left (hgot _)
  · exact hrcv j c0 hj h1 hlt

theorem GotInv.net (h : GotInv b f r H s) (htx : s'.tx = s.tx)
    (hrx : s'.rx = s.rx) (hg : s'.got = s.got) : GotInv b f r H s' :=
  h.recv htx (fun x hx => by rw [hg]; exact hx) (fun j _ _ h1 h2 => absurd h2 (Nat.not_lt.mpr h1))
    (by rw [hrx, hg]; exact h.mis)

/-- the sender's queues change: `k` chunks leave at the head (each acknowledged or partially reliable), the rest keeps
its identity -/
theorem GotInv.advance {b : Int} {f r : Nat} {H : List SChunk} {s s' : PLink} (h : GotInv b f r H s) (k : Nat)
    (haw : AW s'.tx) (hn : f + k + s'.tx.nOut = f + s.tx.nOut)
    (hpw : PW SameT ((s.tx.sentQ ++ s.tx.outQ).drop k) (s'.tx.sentQ ++ s'.tx.outQ))
    (hleft : ∀ i c, (s.tx.sentQ ++ s.tx.outQ)[i]? = some c → i < k → f + i < r ∨ c.Unrel)
    (hrx : s'.rx = s.rx) (hg : s'.got = s.got) : GotInv b (f + k) r H s' := by
  refine ⟨haw, by rw [h.len]; omega, ?_, h.tsn, ?_, by rw [hg]; exact h.rcv, by rw [hrx, hg]; exact h.mis⟩
  · rw [← List.drop_drop]
    exact PW.trans_self SameT SameT.trans (PW.drop k h.idq) hpw
  · intro j c0 hj hlt
    rw [hg]
    rcases Nat.lt_or_ge j f with h1 | h1
    · exact h.left j c0 hj h1
    · have hjf := Nat.add_sub_cancel' h1
      have hd : (H.drop f)[j - f]? = some c0 := by rw [List.getElem?_drop, hjf]; exact hj
      obtain ⟨c, hc, hr⟩ := PW.getElem?_left h.idq (j - f) c0 hd
      rcases hleft (j - f) c hc (Nat.sub_lt_left_of_lt_add h1 hlt) with h2 | h2
      · exact h.rcv j c0 hj (hjf ▸ h2)
      · exact Or.inr (hr.lim.symm.unrel h2)

theorem GotInv.leaves {f' lo k : Nat} (h : GotInv b f r H s)
    (hl : Leaves s.tx s'.tx lo k) (hlo : lo ≤ r - f) (hf : f' = f + k) (hrx : s'.rx = s.rx) (hg : s'.got = s.got) :
    GotInv b f' r H s' := by
  subst hf
  have hn := PW.length hl.idq
  have hle := hl.le
  simp only [List.length_drop, List.length_append] at hn hle
  refine h.advance k hl.aw (by unfold Tx.nOut; omega) hl.idq (fun i c hc hi => ?_) hrx hg
  rcases Nat.lt_or_ge i lo with h' | h'
  · exact Or.inl (by omega)
  · exact Or.inr (hl.unrel i c hc h' hi)

end Aiortc.Sctp
