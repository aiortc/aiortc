import Aiortc.Lemmas.C02.DrainHonest
import Aiortc.Lemmas.C02.DrainStep
/-!
# One step of the continuation with the polynomial potential (C02 drain)

`step_hon`: every non-T3 step of `Link.step` keeps `Hon` (consuming one old SACK if the step handled a SACK) and strictly
decreases `phi2`.
-/
namespace Aiortc.Sctp

theorem safe_runTask (s : Link) (h : Nat) : Safe s.runTask h = Safe s h := rfl

theorem step_hon {b : Int} {a r h : Nat} {s : Link} (hc : Coh b a r s) (hh : Hon b h s) (hq : ¬ s.Quiet) :
    ∃ h', h' ≤ h ∧ Hon b h' s.step ∧ s.step.phi2 h' + 1 ≤ s.phi2 h := by
  have hb := hc.core.seq.bound
  rcases s.step_cases hq with ⟨hp, he⟩ | ⟨d, rest, hp, hr, he⟩ | ⟨cum, gaps, rest, hp, hr, ht, he⟩
  · have h2 : _ + s.runTask.pot2 h ≤ s.pot2 h := pot2_transmit s.tx hc.snd.flight.outQ s.rx s.toTx h
    refine ⟨h, Nat.le_refl _, he ▸ ⟨hh.hle, hh.chain⟩, ?_⟩
    have e1 : s.runTask.toRx.length = s.toRx.length + (dataOf s.tx.transmit.2).length := List.length_append
    rw [he]
    unfold Link.phi2
    rw [e1, show s.runTask.toTx = s.toTx from rfl, show s.runTask.pending = false from rfl, hp]
    simp only [if_true, Bool.false_eq_true, if_false]
    omega
  · -- the receiver takes the chunk and answers with the SACK for its new state
    obtain ⟨k, k1, k2⟩ := hc.core.toRx d (hr ▸ List.mem_cons_self)
    have hat := hc.core.rxAt (by omega)
    obtain ⟨r', _, hat', _⟩ := rx_deliver hat k1
    have e : T b k = d.tsn % 4294967296 := by rw [k2, T_mod]
    rw [e] at hat'
    obtain ⟨hle, hch, (h2 : (s.deliverData d rest).pot2 h ≤ s.pot2 h)⟩ :=
      pot2_answer (tx := s.tx) (rx'' := (s.deliverData d rest).rx) hc.core.seq.sent (Nat.le_refl _) hat'
        (e ▸ rxHas_mono hat k1) (fun _ => Iff.rfl) hh.hle hh.chain
    refine ⟨h, Nat.le_refl _, he ▸ ⟨hle, hch⟩, ?_⟩
    have e2 : (s.deliverData d rest).toTx.length = s.toTx.length + 1 := List.length_append
    rw [he]
    unfold Link.phi2
    rw [show (s.deliverData d rest).toRx = rest from rfl, e2, show (s.deliverData d rest).pending = s.pending from rfl,
      hp, hr]
    simp only [Bool.false_eq_true, if_false, List.length_cons]
    omega
  · obtain ⟨k, hk, hpk⟩ := hc.core.toTx _ (ht ▸ List.mem_cons_self)
    simp only at hpk
    subst hpk
    have hk2 := Nat.le_trans hk hc.core.rhi
    obtain ⟨hle, hchain⟩ := chain_pop (ht ▸ hh.hle) (ht ▸ hh.chain)
    refine ⟨h - 1, Nat.sub_le _ _, ?_⟩
    rw [he]
    rcases deliverSack_cases hc k hk gaps rest with ⟨_, he'⟩ | ⟨hge, t', evs, hrs, hsh, he'⟩
    · -- stale: dropped
      have h2 : ({ s with toTx := rest } : Link).pot2 (h - 1) ≤ s.pot2 h := by
        refine pot_mono (Nat.le_refl _) (Nat.le_refl _) ?_
        rw [Link.S2_eq, Link.S2_eq, ht]
        exact budget_pop _ _
      rw [he']
      refine ⟨⟨hle, hchain⟩, ?_⟩
      unfold Link.phi2
      rw [ht]
      simp only [List.length_cons]
      omega
    · have hn1 : t'.nOut ≤ s.tx.nOut := by
        have := (hc.core.seq.sack k hge hk2 gaps hsh).2
        unfold Tx.nOut; rw [hsh.outQ]; omega
      have h2 := pot2_sack (rx := s.rx) (rest := rest) (h := h) hc.core.seq.sent (by omega) hk2 (hsh.fx hc.core.seq hge hk2)
        (by rw [hsh.outQ]; exact hc.snd.flight.outQ) hn1 (ht ▸ hh.chain)
      rw [← ht] at h2
      rw [he']
      refine ⟨⟨hle, hchain⟩, ?_⟩
      change _ + _ + _ + 2 * pot2Of t'.transmit.1 s.rx rest (h - 1) + 1 ≤ _ + _ + _ + 2 * pot2Of s.tx s.rx s.toTx h
      rw [ht] at h2 ⊢
      simp only [List.length_append, List.length_cons]
      omega

end Aiortc.Sctp
