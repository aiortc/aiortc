import Aiortc.Lemmas.C02.DrainPRFault
import Aiortc.Lemmas.C02.DrainPRPot
import Aiortc.Lemmas.C02.DrainStep
/-!
# One step of the continuation with partially reliable traffic: coherence, conservation, the promise (C02 drain)

Indices: `lastSacked = T b κ`, `advAck = T b f`, the receiver is at `T b r`.  `Adv`, `AheadP`, `TrackP` are `Ahead`, `Track` of
`DrainStep` with a FORWARD TSN as a second way to move the receiver's cumulative TSN.  The potential is not here (`DrainPRPhi`).
-/
namespace Aiortc.Sctp
open Aiortc.Gen

variable {b : Int} {κ f r : Nat} {s : PLink}

def PLink.Quiet (s : PLink) : Prop := s.toRx = [] ∧ s.toTx = [] ∧ s.pending = false

/-- this chunk will move the receiver's cumulative TSN beyond `T b κ` -/
def Adv (b : Int) (κ : Nat) : Arrival → Prop
  | .data d => d.tsn = T b (κ + 1)
  | .fwd c _ => ∃ k, κ < k ∧ k < 2147483648 ∧ c = T b k

abbrev AheadP (b : Int) (κ r : Nat) (s : PLink) : Prop := AheadOf (Adv b κ) b κ r s.toRx s.toTx

theorem not_aheadP_of_quiet (hq : s.Quiet) : ¬ AheadP b κ r s := by
  rintro (⟨h, _⟩ | ⟨p, hp, _⟩)
  · exact h hq.1
  · rw [hq.2.1] at hp; cases hp

abbrev TrackP (b : Int) (κ f r : Nat) (s : PLink) (κ' f' r' : Nat) (s' : PLink) : Prop :=
  Tracks (fun s : PLink => s.tx.nOut) (AheadP b) κ f r s κ' f' r' s'

theorem TrackP.quiet {κ' f' r' : Nat} {s' : PLink} (h : TrackP b κ f r s κ' f' r' s') (hq : s'.Quiet)
    (ha : AheadP b κ r s) : κ < κ' :=
  h.arrived (not_aheadP_of_quiet hq) ha

theorem PLink.step_task (s : PLink) (hp : s.pending = true) : s.step = s.runTask := by
  unfold PLink.step; simp [hp]

theorem PLink.step_arr (s : PLink) (a : Arrival) (rest : List Arrival) (hp : s.pending = false) (hr : s.toRx = a :: rest) :
    s.step = s.deliver a rest := by
  unfold PLink.step; simp [hp, hr]

theorem PLink.step_sack (s : PLink) (cum : Int) (gaps : List (Nat × Nat)) (rest : List (Int × List (Nat × Nat)))
    (hp : s.pending = false) (hr : s.toRx = []) (ht : s.toTx = (cum, gaps) :: rest) :
    s.step = s.deliverSack cum gaps rest := by
  unfold PLink.step; simp [hp, hr, ht]

theorem PLink.step_t3 (s : PLink) (hq : s.Quiet) (h3 : s.tx.t3 = true) : s.step = s.fireT3 := by
  unfold PLink.step; simp [hq.1, hq.2.1, hq.2.2, h3]

theorem PLink.step_rest (s : PLink) (hq : s.Quiet) (h3 : s.tx.t3 = false) : s.step = s := by
  unfold PLink.step; simp [hq.1, hq.2.1, hq.2.2, h3]

theorem PLink.step_cases (s : PLink) (hq : ¬ s.Quiet) :
    (s.pending = true ∧ s.step = s.runTask)
    ∨ (∃ a rest, s.pending = false ∧ s.toRx = a :: rest ∧ s.step = s.deliver a rest)
    ∨ (∃ cum gaps rest, s.pending = false ∧ s.toRx = [] ∧ s.toTx = (cum, gaps) :: rest
        ∧ s.step = s.deliverSack cum gaps rest) := by
  cases hp : s.pending with
  | true => exact Or.inl ⟨rfl, s.step_task hp⟩
  | false =>
    cases hr : s.toRx with
    | cons a rest => exact Or.inr (Or.inl ⟨a, rest, rfl, rfl, s.step_arr a rest hp hr⟩)
    | nil =>
      cases ht : s.toTx with
      | nil => exact absurd ⟨hr, ht, hp⟩ hq
      | cons p rest => exact Or.inr (Or.inr ⟨p.1, p.2, rest, rfl, rfl, rfl, s.step_sack p.1 p.2 rest hp hr ht⟩)

theorem progressP_task (s : PLink) : TrackP b κ f r s κ f r s.runTask :=
  ⟨Nat.le_refl _, Nat.le_refl _, by simp only [PLink.runTask]; rw [(transmit_queues s.tx).2], fun ha =>
    Or.inr (ha.mono (fun _ ha => List.mem_append_left _ ha) (fun _ hp => hp) (Nat.le_refl _))⟩

theorem adv_fwd {k k' r'' : Nat} (hk : T b k = T b k') (k1 : k ≤ f) (hf : f < 2147483648) (q1 : κ < k')
    (q2 : k' < 2147483648) (k3 : k ≤ r'') : κ < r'' := by
  have hk' : k = k' := T_inj (by omega) (by omega) hk
  omega

theorem progressP_deliver (h : CohP b κ f r s) (a : Arrival) (rest : List Arrival)
    (hr : s.toRx = a :: rest) :
    ∃ r', CohP b κ f r' (s.deliver a rest) ∧ TrackP b κ f r s κ f r' (s.deliver a rest) := by
  have hhi := h.core.seq.hi_lt
  have ha : a ∈ s.toRx := hr ▸ List.mem_cons_self
  obtain ⟨r'', r1, hc, hlast, hmatch⟩ := h.arrive a ha rest (fun e he => hr ▸ List.mem_cons_of_mem _ he)
  refine ⟨r'', hc, Nat.le_refl _, r1, rfl, fun hah => Or.inr ?_⟩
  unfold AheadP at hah ⊢
  rw [hr] at hah
  rw [show (s.deliver a rest).toTx = s.toTx ++ [((rxArr s.rx a).last, sackGapBlocks (rxArr s.rx a))] from rfl, hlast]
  refine hah.arrive r1 fun hadv => ?_
  cases a with
  | data d =>
    obtain ⟨k, k1, k2, k3⟩ := hmatch
    exact adv_data (k2.symm.trans hadv) k1 h.core.rlo r1 h.core.rhi hhi k3
  | fwd c st =>
    obtain ⟨k, k1, k2, k3⟩ := hmatch
    obtain ⟨k', q1, q2, q3⟩ := hadv
    exact adv_fwd (k2.symm.trans q3) k1 h.core.seq.adv_lt q1 q2 k3

theorem progressP_sack (h : CohP b κ f r s) (cum : Int) (gaps : List (Nat × Nat))
    (rest : List (Int × List (Nat × Nat))) (hr : s.toRx = []) (ht : s.toTx = (cum, gaps) :: rest) :
    ∃ κ' f', CohP b κ' f' r (s.deliverSack cum gaps rest) ∧ TrackP b κ f r s κ' f' r (s.deliverSack cum gaps rest) := by
  obtain ⟨κ', f', k, hle, _, hk0, hkr, hcase, hc, hn⟩ :=
    h.deliverSack (cum, gaps) (ht ▸ List.mem_cons_self) rest (fun q hq => ht ▸ List.mem_cons_of_mem _ hq)
  simp only at hk0
  subst hk0
  refine ⟨κ', f', hc, hle, Nat.le_refl _, hn, fun hah => ?_⟩
  unfold AheadP at hah ⊢
  rw [hr, ht] at hah
  rw [s.deliverSack_toTx]
  exact hah.sack hkr h.r_lt hcase

theorem step_progressP (h : CohP b κ f r s) (hq : ¬ s.Quiet) :
    ∃ κ' f' r', CohP b κ' f' r' s.step ∧ TrackP b κ f r s κ' f' r' s.step := by
  rcases s.step_cases hq with ⟨_, he⟩ | ⟨a, rest, _, hr, he⟩ | ⟨cum, gaps, rest, _, hr, ht, he⟩
  · rw [he]
    exact ⟨κ, f, r, h.runTask, progressP_task s⟩
  · rw [he]
    obtain ⟨r', hc, ht⟩ := progressP_deliver h a rest hr
    exact ⟨κ, f, r', hc, ht⟩
  · rw [he]
    obtain ⟨κ', f', hc, htr⟩ := progressP_sack h cum gaps rest hr ht
    exact ⟨κ', f', r, hc, htr⟩

end Aiortc.Sctp
