import Aiortc.Lemmas.C02.DrainPot
import Aiortc.Lemmas.C02.DrainRx
import Aiortc.Lemmas.C02.SctpRxInv
/-!
# The two-sided system with an adversarial network, and its coherence invariant (C02 drain)

State: `Link` (sender `Tx`, receiver `Rx`, DATA chunks in flight, SACKs in flight).  `Link.fault` lets the network
deliver ANY datagram in flight (so: reorder), drop or duplicate it; T3 may fire at any time; the application may send
reliable messages at any time; a queued `_transmit` may run at any time.  `Coh b a r s`:

* the sender invariants `SndInv` and "reliable traffic only";
* TSN structure (`TxSeq`): `lastSacked = T b a`, `sentQ ++ outQ` carry `T b (a+1) …`, `localTsn` follows;
* the receiver's cumulative TSN is `T b r` with `a ≤ r ≤ a + |sentQ|` (never behind the sender's cumulative ack,
  never ahead of what was transmitted), its misordered TSNs lie in `(r, a + |sentQ|]`;
* every DATA chunk in flight carries a TSN that was transmitted (`≤ a + |sentQ|`), every SACK in flight a cumulative
  TSN the receiver has reached (`≤ r`).

`Coh.fault`: every move preserves it (as long as fewer than 2³¹ chunks were ever queued); `Coh.faults`, `Link.Fresh.coh`:
hence every state reached from a fresh pair is coherent.
-/
namespace Aiortc.Sctp
open Aiortc.Gen

/-- the two-sided part of coherence, in index form (`a`: chunks cumulatively acked at the sender, `r`: at the receiver). Of the
invariants on `Link`, `Link.Coherent` is the hypothesis of the one-epoch theorem, `Link.Inv` is `SndInv ∧ RxOk` (one-sided);
`Coh` = `Core` + `SndInv` is the one every move preserves and the drain theorems start from. -/
structure Core (b : Int) (a r : Nat) (s : Link) : Prop where
  rel : RelTx s.tx
  seq : TxSeq b a s.tx
  rxok : RxOk s.rx
  rlast : s.rx.last = T b r
  rlo : a ≤ r
  rhi : r ≤ a + s.tx.sentQ.length
  mis : ∀ x ∈ s.rx.mis, ∃ k, r < k ∧ k ≤ a + s.tx.sentQ.length ∧ x = T b k
  toRx : ∀ d ∈ s.toRx, ∃ k, k ≤ a + s.tx.sentQ.length ∧ d.tsn = T b k
  toTx : ∀ p ∈ s.toTx, ∃ k, k ≤ r ∧ p.1 = T b k

structure Coh (b : Int) (a r : Nat) (s : Link) : Prop where
  core : Core b a r s
  snd : SndInv { tx := s.tx, pending := s.pending }

theorem Core.rxAt {b : Int} {a r : Nat} {s : Link} (h : Core b a r s) (hlt : a + s.tx.sentQ.length < 2147483648) :
    RxAt b r (a + s.tx.sentQ.length) s.rx := ⟨h.rxok, h.rlast, h.rhi, hlt, h.mis⟩

theorem Core.rx_ahead {b : Int} {a r : Nat} {s : Link} (h : Core b a r s) :
    s.rx.last = (s.tx.lastSacked + ((r - a : Nat) : Int)) % 4294967296 := by
  rw [h.rlast, h.seq.ls, T_add, Nat.add_sub_cancel' h.rlo]

/-- the sender moved to the cumulative ack `a' ≤ r` without un-transmitting anything (enqueue, `_transmit`, T3, SACK), the
receiver did not move -/
theorem Core.grow {b : Int} {a a' r : Nat} {s s' : Link} (h : Core b a r s) (hrel : RelTx s'.tx) (hseq : TxSeq b a' s'.tx)
    (ha : a' ≤ r) (hlen : a + s.tx.sentQ.length ≤ a' + s'.tx.sentQ.length) (hrx : s'.rx = s.rx)
    (h1 : ∀ d ∈ s'.toRx, d ∈ s.toRx ∨ ∃ k, k ≤ a' + s'.tx.sentQ.length ∧ d.tsn = T b k)
    (h2 : ∀ p ∈ s'.toTx, p ∈ s.toTx) : Core b a' r s' := by
  refine ⟨hrel, hseq, hrx ▸ h.rxok, hrx ▸ h.rlast, ha, Nat.le_trans h.rhi hlen, fun x hx => ?_, fun d hd => ?_,
    fun p hp => h.toTx p (h2 p hp)⟩
  · obtain ⟨k, k1, k2, k3⟩ := h.mis x (hrx ▸ hx)
    exact ⟨k, k1, Nat.le_trans k2 hlen, k3⟩
  · rcases h1 d hd with hd | hd
    · obtain ⟨k, k1, k2⟩ := h.toRx d hd
      exact ⟨k, Nat.le_trans k1 hlen, k2⟩
    · exact hd

theorem Core.net {b : Int} {a r : Nat} {s s' : Link} (h : Core b a r s) (htx : s'.tx = s.tx) (hrx : s'.rx = s.rx)
    (h1 : ∀ d ∈ s'.toRx, d ∈ s.toRx) (h2 : ∀ p ∈ s'.toTx, p ∈ s.toTx) : Core b a r s' :=
  h.grow (htx ▸ h.rel) (htx ▸ h.seq) h.rlo (htx ▸ Nat.le_refl _) hrx (fun d hd => Or.inl (h1 d hd)) h2

theorem Core.transmit {b : Int} {a r : Nat} {s s' : Link} (h : Core b a r s) (htx : s'.tx = s.tx.transmit.1)
    (hrx : s'.rx = s.rx) (h1 : ∀ d ∈ s'.toRx, d ∈ s.toRx ∨ d ∈ dataOf s.tx.transmit.2) (h2 : ∀ p ∈ s'.toTx, p ∈ s.toTx) :
    Core b a r s' := by
  refine h.grow (htx ▸ h.rel.transmit) (htx ▸ h.seq.transmit h.rel.fwd) h.rlo
    (htx ▸ Nat.add_le_add_left (transmit_pw s.tx).2.1 a) hrx (fun d hd => (h1 d hd).imp id fun hd => ?_) h2
  obtain ⟨j, _, j2, j3⟩ := transmit_emitted_seq b a s.tx h.seq.seq d hd
  exact ⟨j, htx ▸ j2, j3⟩

theorem Core.sack {b : Int} {a r : Nat} {s s' : Link} (h : Core b a r s) (k : Nat) (hk1 : a ≤ k) (hk2 : k ≤ r)
    (gaps : List (Nat × Nat)) (hs : SackShape s.tx s'.tx (T b k) gaps) (hrx : s'.rx = s.rx)
    (h1 : ∀ d ∈ s'.toRx, d ∈ s.toRx) (h2 : ∀ p ∈ s'.toTx, p ∈ s.toTx) :
    Core b k r s' ∧ k + s'.tx.nOut = a + s.tx.nOut := by
  obtain ⟨hseq, hlen⟩ := h.seq.sack k hk1 (Nat.le_trans hk2 h.rhi) gaps hs
  exact ⟨h.grow hs.rel hseq hk2 (by omega) hrx (fun d hd => Or.inl (h1 d hd)) h2,
    by unfold Tx.nOut; rw [hs.outQ]; omega⟩

theorem Core.deliver {b : Int} {a r : Nat} {s : Link} (h : Core b a r s) (d : RChunk) (hd : d ∈ s.toRx) :
    ∃ r' k, r ≤ r' ∧ k ≤ a + s.tx.sentQ.length ∧ d.tsn = T b k ∧ (k = r + 1 → r < r')
      ∧ (markReceived s.rx (d.tsn % 4294967296)).2.last = T b r'
      ∧ ∀ s' : Link, s'.tx = s.tx → s'.rx = { (markReceived s.rx (d.tsn % 4294967296)).2 with dups := [] } →
          (∀ e ∈ s'.toRx, e ∈ s.toRx) → (∀ p ∈ s'.toTx, p ∈ s.toTx ∨ p.1 = T b r') → Core b a r' s' := by
  obtain ⟨k, k1, k2⟩ := h.toRx d hd
  have hb := h.seq.bound
  rw [k2, T_mod]
  obtain ⟨r', r1, ⟨hok, r3, r2, _, r4⟩, r5⟩ := rx_deliver (h.rxAt (by omega)) k1
  refine ⟨r', k, r1, k1, rfl, r5, r3, fun s' htx hrx h1 h2 => ?_⟩
  refine ⟨htx ▸ h.rel, htx ▸ h.seq, hrx ▸ ⟨hok.last, hok.mis, hok.nodup, hok.next⟩, hrx ▸ r3, Nat.le_trans h.rlo r1,
    htx ▸ r2, fun x hx => htx ▸ r4 x (by rw [hrx] at hx; exact hx), fun e he => htx ▸ h.toRx e (h1 e he), fun p hp => ?_⟩
  rcases h2 p hp with hp | hp
  · obtain ⟨j, j1, j2⟩ := h.toTx p hp
    exact ⟨j, Nat.le_trans j1 r1, j2⟩
  · exact ⟨r', Nat.le_refl _, hp⟩

/-! ## the adversary -/

inductive Fault where
  /-- the application sends a message (`_send`: fragment, queue, `_transmit`) -/
  | send (m : SendArgs)
  /-- a queued `_transmit` task runs -/
  | task
  /-- T3 fires -/
  | fireT3
  /-- the network delivers the `i`-th DATA chunk / SACK in flight (any order) -/
  | deliverData (i : Nat)
  | deliverSack (i : Nat)
  | dropData (i : Nat)
  | dropSack (i : Nat)
  | dupData (i : Nat)
  | dupSack (i : Nat)
  /-- time passes -/
  | tick (now : Int)

/-- number of chunks a move adds to the outbound queue -/
def Fault.sent : Fault → Nat
  | .send m => fragCount m.data.length
  | _ => 0

def Fault.Reliable : Fault → Prop
  | .send m => m.expiry = none ∧ m.maxRtx = none
  | _ => True

def Link.sendMsg (s : Link) (m : SendArgs) : Link :=
  { s with tx := (s.tx.enqueue m.sid m.ppid m.data m.expiry m.maxRtx m.ordered).transmit.1
           toRx := s.toRx ++ dataOf (s.tx.enqueue m.sid m.ppid m.data m.expiry m.maxRtx m.ordered).transmit.2 }

def Link.fault (s : Link) : Fault → Link
  | .send m => s.sendMsg m
  | .task => s.runTask
  | .fireT3 => s.fireT3
  | .deliverData i => match s.toRx[i]? with
    | some d => s.deliverData d (s.toRx.eraseIdx i)
    | none => s
  | .deliverSack i => match s.toTx[i]? with
    | some p => s.deliverSack p.1 p.2 (s.toTx.eraseIdx i)
    | none => s
  | .dropData i => { s with toRx := s.toRx.eraseIdx i }
  | .dropSack i => { s with toTx := s.toTx.eraseIdx i }
  | .dupData i => match s.toRx[i]? with
    | some d => { s with toRx := s.toRx ++ [d] }
    | none => s
  | .dupSack i => match s.toTx[i]? with
    | some p => { s with toTx := s.toTx ++ [p] }
    | none => s
  | .tick now => { s with now1000 := now }

/-- what `Link.deliverSack` does in a coherent state: a stale SACK is dropped, any other is processed -/
theorem deliverSack_cases {b : Int} {a r : Nat} {s : Link} (h : Coh b a r s) (k : Nat) (hk : k ≤ r) (gaps : List (Nat × Nat))
    (rest : List (Int × List (Nat × Nat))) :
    (k < a ∧ s.deliverSack (T b k) gaps rest = { s with toTx := rest })
    ∨ (a ≤ k ∧ ∃ t' evs, s.tx.receiveSack (T b k) gaps s.now1000 = .ok (some (t', evs))
        ∧ SackShape s.tx t' (T b k) gaps
        ∧ s.deliverSack (T b k) gaps rest
            = { s with tx := t'.transmit.1, toRx := s.toRx ++ dataOf t'.transmit.2, toTx := rest }) := by
  rcases Nat.lt_or_ge k a with hlt | hge
  · exact Or.inl ⟨hlt, by unfold Link.deliverSack; rw [receiveSack_stale h.core.seq k hlt]⟩
  · right
    have hrhi := h.core.rhi
    obtain ⟨t', evs, hrs⟩ := receiveSack_some s.tx (T b k) gaps s.now1000
      (not_stale h.core.seq k hge (by omega))
    refine ⟨hge, t', evs, hrs, receiveSack_shape s.tx h.core.rel _ _ _ t' evs hrs, ?_⟩
    unfold Link.deliverSack
    rw [hrs]

theorem Coh.sack {b : Int} {a r : Nat} {s : Link} (h : Coh b a r s) {k : Nat} (hge : a ≤ k) (hk : k ≤ r)
    {gaps : List (Nat × Nat)} {t' : Tx} {evs : List TxEv}
    (hrs : s.tx.receiveSack (T b k) gaps s.now1000 = .ok (some (t', evs))) (hsh : SackShape s.tx t' (T b k) gaps)
    (rest : List (Int × List (Nat × Nat))) (hrest : ∀ q ∈ rest, q ∈ s.toTx) :
    Coh b k r { s with tx := t'.transmit.1, toRx := s.toRx ++ dataOf t'.transmit.2, toTx := rest }
    ∧ k + t'.transmit.1.nOut = a + s.tx.nOut := by
  have hsnd : SndInv { tx := t'.transmit.1, pending := s.pending } := by
    -- the link's SACK step is `SOp.sack` with nothing flushed: `receiveSack`, then `transmit`
    have := h.snd.step (.sack (T b k) gaps s.now1000 [])
    simpa [Snd.step, hrs] using this
  obtain ⟨hc1, hn1⟩ := h.core.sack (s' := { s with tx := t', toTx := rest }) k hge hk gaps hsh rfl (fun d hd => hd) hrest
  refine ⟨⟨hc1.transmit rfl rfl (fun d hd => List.mem_append.mp hd) (fun q hq => hq), hsnd⟩, ?_⟩
  rw [transmit_nOut t']; exact hn1

theorem Coh.deliverSack {b : Int} {a r : Nat} {s : Link} (h : Coh b a r s) (p : Int × List (Nat × Nat)) (hp : p ∈ s.toTx)
    (rest : List (Int × List (Nat × Nat))) (hrest : ∀ q ∈ rest, q ∈ s.toTx) :
    ∃ a', Coh b a' r (s.deliverSack p.1 p.2 rest) ∧ a ≤ a' ∧ a' + (s.deliverSack p.1 p.2 rest).tx.nOut = a + s.tx.nOut := by
  obtain ⟨k, hk, hpk⟩ := h.core.toTx p hp
  rw [hpk]
  rcases deliverSack_cases h k hk p.2 rest with ⟨_, he⟩ | ⟨hge, t', evs, hrs, hsh, he⟩
  · rw [he]
    exact ⟨a, ⟨h.core.net rfl rfl (fun d hd => hd) hrest, h.snd⟩, Nat.le_refl _, rfl⟩
  · rw [he]
    exact ⟨k, (h.sack hge hk hrs hsh rest hrest).1, hge, (h.sack hge hk hrs hsh rest hrest).2⟩

theorem Coh.deliverData {b : Int} {a r : Nat} {s : Link} (h : Coh b a r s) (d : RChunk) (hd : d ∈ s.toRx)
    (rest : List RChunk) (hrest : ∀ e ∈ rest, e ∈ s.toRx) :
    ∃ r' k, r ≤ r' ∧ k ≤ a + s.tx.sentQ.length ∧ d.tsn = T b k ∧ (k = r + 1 → r < r') ∧ Coh b a r' (s.deliverData d rest)
      ∧ (s.deliverData d rest).toTx = s.toTx ++ [(T b r', sackGapBlocks (markReceived s.rx (d.tsn % 4294967296)).2)] := by
  obtain ⟨r', k, r1, r0, r2, r3, r4, r5⟩ := h.core.deliver d hd
  refine ⟨r', k, r1, r0, r2, r3, ⟨r5 _ rfl rfl hrest ?_, h.snd⟩, ?_⟩
  · intro p hp
    simp only [Link.deliverData, List.mem_append, List.mem_singleton] at hp
    rcases hp with hp | hp
    · exact Or.inl hp
    · right; rw [hp]; exact r4
  · simp only [Link.deliverData]; rw [r4]

theorem Coh.runTask {b : Int} {a r : Nat} {s : Link} (h : Coh b a r s) : Coh b a r s.runTask :=
  ⟨h.core.transmit rfl rfl (fun _ hd => List.mem_append.mp hd) (fun _ hp => hp), h.snd.step .task⟩

theorem Coh.fireT3 {b : Int} {a r : Nat} {s : Link} (h : Coh b a r s) : Coh b a r s.fireT3 := by
  have sh := t3Expired_shape s.tx h.core.rel s.now1000
  refine ⟨h.core.grow sh.rel (h.core.seq.t3 sh) h.core.rlo ?_ rfl (fun d hd => Or.inl hd) (fun p hp => hp),
    h.snd.step (.t3 s.now1000)⟩
  simp only [Link.fireT3]; rw [sh.sentQ, List.length_map]; exact Nat.le_refl _

theorem Coh.net {b : Int} {a r : Nat} {s s' : Link} (h : Coh b a r s) (htx : s'.tx = s.tx) (hrx : s'.rx = s.rx)
    (hp : s'.pending = s.pending) (h1 : ∀ d ∈ s'.toRx, d ∈ s.toRx) (h2 : ∀ p ∈ s'.toTx, p ∈ s.toTx) :
    ∃ a' r', Coh b a' r' s' ∧ a ≤ a' ∧ r ≤ r' ∧ a' + s'.tx.nOut = a + s.tx.nOut :=
  ⟨a, r, ⟨h.core.net htx hrx h1 h2, by rw [htx, hp]; exact h.snd⟩, Nat.le_refl _, Nat.le_refl _, by rw [htx]⟩

theorem mem_of_getElem?' {α} {l : List α} {i : Nat} {x : α} (h : l[i]? = some x) : x ∈ l := List.mem_of_getElem? h

theorem Coh.sendMsg {b : Int} {a r : Nat} {s : Link} (h : Coh b a r s) (m : SendArgs) (hrel : (Fault.send m).Reliable)
    (hb : a + s.tx.nOut + fragCount m.data.length + 1 < 2147483648) :
    Coh b a r (s.sendMsg m) ∧ a + (s.sendMsg m).tx.nOut = a + s.tx.nOut + fragCount m.data.length := by
  obtain ⟨he, hm⟩ := hrel
  have hn := enqueue_nOut s.tx m.sid m.ppid m.data m.expiry m.maxRtx m.ordered
  have hrelq : RelTx (s.tx.enqueue m.sid m.ppid m.data m.expiry m.maxRtx m.ordered) := by
    rw [he, hm]; exact h.core.rel.enqueue _ _ _ _
  have hc1 : Core b a r { s with tx := s.tx.enqueue m.sid m.ppid m.data m.expiry m.maxRtx m.ordered } :=
    h.core.grow hrelq (h.core.seq.enqueue _ _ _ _ _ _ hb) h.core.rlo (by simp only; rw [hn.2]; exact Nat.le_refl _) rfl
      (fun d hd => Or.inl hd) (fun p hp => hp)
  refine ⟨⟨hc1.transmit rfl rfl (fun d hd => List.mem_append.mp hd) (fun p hp => hp), h.snd.step (.send m)⟩, ?_⟩
  have := (transmit_pw (s.tx.enqueue m.sid m.ppid m.data m.expiry m.maxRtx m.ordered)).2.2
  simp only [Link.sendMsg, Tx.nOut] at hn ⊢
  omega

/-- The bound has `+ 1` for `localTsn`, the TSN after the last one assigned, which is compared too. -/
theorem Coh.fault {b : Int} {a r : Nat} {s : Link} (h : Coh b a r s) (f : Fault) (hrel : f.Reliable)
    (hb : a + s.tx.nOut + f.sent + 1 < 2147483648) :
    ∃ a' r', Coh b a' r' (s.fault f) ∧ a ≤ a' ∧ r ≤ r' ∧ a' + (s.fault f).tx.nOut = a + s.tx.nOut + f.sent := by
  cases f with
  | send m => exact ⟨a, r, (h.sendMsg m hrel hb).1, Nat.le_refl _, Nat.le_refl _, (h.sendMsg m hrel hb).2⟩
  | task =>
    exact ⟨a, r, h.runTask, Nat.le_refl _, Nat.le_refl _, congrArg (a + ·) (transmit_nOut s.tx)⟩
  | fireT3 =>
    exact ⟨a, r, h.fireT3, Nat.le_refl _, Nat.le_refl _, congrArg (a + ·) (t3Expired_shape s.tx h.core.rel s.now1000).nOut⟩
  | deliverData i =>
    simp only [Link.fault]
    cases hi : s.toRx[i]? with
    | none => exact ⟨a, r, h, Nat.le_refl _, Nat.le_refl _, rfl⟩
    | some d =>
      obtain ⟨r', k, hr', _, _, _, hc, _⟩ := h.deliverData d (List.mem_of_getElem? hi) (s.toRx.eraseIdx i)
        (fun e he => List.mem_of_mem_eraseIdx he)
      exact ⟨a, r', hc, Nat.le_refl _, hr', rfl⟩
  | deliverSack i =>
    simp only [Link.fault]
    cases hi : s.toTx[i]? with
    | none => exact ⟨a, r, h, Nat.le_refl _, Nat.le_refl _, rfl⟩
    | some p =>
      obtain ⟨a', hc, ha', hn⟩ := h.deliverSack p (List.mem_of_getElem? hi) (s.toTx.eraseIdx i)
        (fun e he => List.mem_of_mem_eraseIdx he)
      exact ⟨a', r, hc, ha', Nat.le_refl _, hn⟩
  | dropData i => exact h.net rfl rfl rfl (fun e he => List.mem_of_mem_eraseIdx he) (fun p hp => hp)
  | dropSack i => exact h.net rfl rfl rfl (fun e he => he) (fun p hp => List.mem_of_mem_eraseIdx hp)
  | dupData i =>
    simp only [Link.fault]
    cases hi : s.toRx[i]? with
    | none => exact ⟨a, r, h, Nat.le_refl _, Nat.le_refl _, rfl⟩
    | some d =>
      refine h.net rfl rfl rfl (fun e he => ?_) (fun p hp => hp)
      rcases List.mem_append.mp he with he | he
      · exact he
      · exact List.mem_singleton.mp he ▸ List.mem_of_getElem? hi
  | dupSack i =>
    simp only [Link.fault]
    cases hi : s.toTx[i]? with
    | none => exact ⟨a, r, h, Nat.le_refl _, Nat.le_refl _, rfl⟩
    | some p =>
      refine h.net rfl rfl rfl (fun e he => he) (fun e he => ?_)
      rcases List.mem_append.mp he with he | he
      · exact he
      · exact List.mem_singleton.mp he ▸ List.mem_of_getElem? hi
  | tick now => exact h.net rfl rfl rfl (fun e he => he) (fun p hp => hp)

/-- chunks queued by a sequence of moves -/
def sentTotal : List Fault → Nat
  | [] => 0
  | f :: fs => f.sent + sentTotal fs

theorem Coh.faults : ∀ (fs : List Fault) {b : Int} {a r : Nat} {s : Link}, Coh b a r s → (∀ f ∈ fs, f.Reliable) →
    a + s.tx.nOut + sentTotal fs + 1 < 2147483648 →
    ∃ a' r', Coh b a' r' (fs.foldl Link.fault s) ∧ a' + (fs.foldl Link.fault s).tx.nOut = a + s.tx.nOut + sentTotal fs := by
  intro fs
  induction fs with
  | nil => intro b a r s h _ _; exact ⟨a, r, h, rfl⟩
  | cons f fs ih =>
    intro b a r s h hrel hb
    rw [sentTotal, ← Nat.add_assoc] at hb
    obtain ⟨a1, r1, hc1, _, _, hn1⟩ := h.fault f (hrel f List.mem_cons_self) (by omega)
    obtain ⟨a2, r2, hc2, hn2⟩ := ih hc1 (fun g hg => hrel g (List.mem_cons_of_mem _ hg)) (hn1 ▸ hb)
    exact ⟨a2, r2, hc2, by rw [List.foldl_cons, hn2, hn1, sentTotal, Nat.add_assoc]⟩

/-- the pair right after the association is set up: nothing sent, the receiver's cumulative TSN is the sender's
initial TSN minus one (INIT / INIT-ACK), nothing in flight -/
structure Link.Fresh (s : Link) : Prop where
  init : s.tx.Initial
  needed : s.tx.forwardNeeded = false
  ls : R32 s.tx.lastSacked
  localTsn : s.tx.localTsn = tsn_plus_one s.tx.lastSacked
  rxLast : s.rx.last = s.tx.lastSacked
  rxMis : s.rx.mis = []
  toRx : s.toRx = []
  toTx : s.toTx = []
  pending : s.pending = false

theorem Link.Fresh.coh {s : Link} (h : s.Fresh) : Coh s.tx.lastSacked 0 0 s ∧ s.tx.nOut = 0 := by
  have hs := h.init.sentQ
  have ho := h.init.outQ
  have hT := (T_zero h.ls).symm
  have hn : s.tx.nOut = 0 := by unfold Tx.nOut; rw [hs, ho]; rfl
  have hnil : ∀ {α} {P : α → Prop}, ∀ x ∈ ([] : List α), P x := fun _ hx => nomatch hx
  refine ⟨⟨⟨⟨hs ▸ hnil, ho ▸ hnil, h.init.fwd, h.needed⟩, ⟨h.ls, hT, by rw [hs, ho]; trivial, ?_, by rw [hs, ho]; decide⟩,
    ⟨h.rxLast ▸ h.ls, h.rxMis ▸ hnil, h.rxMis ▸ List.nodup_nil, by rw [h.rxMis]; rfl⟩, h.rxLast.trans hT, Nat.le_refl _,
    Nat.zero_le _, h.rxMis ▸ hnil, h.toRx ▸ hnil, h.toTx ▸ hnil⟩, h.pending ▸ h.init.inv⟩, hn⟩
  rw [h.localTsn, hs, ho]
  exact (congrArg tsn_plus_one hT).trans (T_succ _ 0)

end Aiortc.Sctp
