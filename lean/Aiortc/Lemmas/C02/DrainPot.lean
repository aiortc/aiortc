import Aiortc.Lemmas.C02.DrainPsi
/-!
# The emission potential of the sender (C02 drain)

`Tx.pot` bounds the number of DATA chunks the sender can still emit before the next T3 expiry:
`flags` (chunks marked for retransmission + chunks never sent) plus `nOut` for every SACK that may still strike
(`strikeBudget`).  `_transmit` pays for every DATA chunk it emits (`pot_transmit`), `_receive_sack_chunk`
never increases the potential (`pot_sack`), and it is at most `nOut · 2 ^ nOut` in any state (`pot_le`).
-/
namespace Aiortc.Sctp

/-- emissions already paid for: marked chunks, chunks never sent -/
def Tx.flags (t : Tx) : Nat := flagCount t.sentQ + t.outQ.length
/-- number of SACKs that can still strike before the next T3 expiry: the gap-ack flags of `sentQ` read as a binary number.
The tail `2 ^ |outQ| - 1` counts every chunk not yet sent as one more cleared bit, so that moving chunks from `outQ` to
`sentQ` does not raise the budget (`pot_transmit`). -/
def Tx.strikeBudget (t : Tx) : Nat := psi t.sentQ (2 ^ t.outQ.length - 1)
def Tx.pot (t : Tx) : Nat := t.flags + t.nOut * t.strikeBudget

theorem strikeBudget_lt (t : Tx) : t.strikeBudget + 1 ≤ 2 ^ t.nOut := by
  have := psi_bound t.sentQ (2 ^ t.outQ.length - 1)
  have hp := Nat.two_pow_pos t.outQ.length
  rw [show 2 ^ t.outQ.length - 1 + 1 = 2 ^ t.outQ.length by omega, ← Nat.pow_add] at this
  exact this

theorem flags_le (t : Tx) : t.flags ≤ t.nOut := by
  have := flagCount_le_length t.sentQ
  unfold Tx.flags Tx.nOut; omega

theorem pot_le (t : Tx) : t.pot ≤ t.nOut * 2 ^ t.nOut := by
  have h1 := flags_le t
  have h2 := strikeBudget_lt t
  unfold Tx.pot
  calc t.flags + t.nOut * t.strikeBudget ≤ t.nOut + t.nOut * t.strikeBudget := by omega
    _ = t.nOut * (t.strikeBudget + 1) := by rw [Nat.mul_add, Nat.mul_one, Nat.add_comm]
    _ ≤ t.nOut * 2 ^ t.nOut := Nat.mul_le_mul_left _ h2

theorem pending_le_one (p : Bool) : (if p then 1 else 0) ≤ 1 := by cases p <;> decide

theorem pot_mono {f f' n n' s s' : Nat} (hf : f' ≤ f) (hn : n' ≤ n) (hs : s' ≤ s) : f' + n' * s' ≤ f + n * s := by
  have := Nat.mul_le_mul hn hs; omega

/-- arithmetic of `pot = flags + nOut · budget`: one unit less of budget pays for any number `f' ≤ n'` of flags -/
theorem hon_pot_strict {f f' n n' s s' : Nat} (hf : f' ≤ n') (hn : n' ≤ n) (hs : s' + 1 ≤ s) : f' + n' * s' ≤ f + n * s := by
  have h1 : n' * (s' + 1) ≤ n * s := Nat.mul_le_mul hn hs
  rw [Nat.mul_add, Nat.mul_one] at h1
  omega

theorem transmit_flags (t : Tx) (ho : ∀ c ∈ t.outQ, Idle c) :
    (dataOf t.transmit.2).length + t.transmit.1.flags = t.flags ∧ t.transmit.1.nOut = t.nOut := by
  obtain ⟨mid, es, k, h1, h2, h3, h4⟩ := (transmit_shape t).shape
  have hc := h1.count.1
  have hlen := PW.length h1.count.2
  have hnews : flagCount ((t.outQ.take k).map newChunk) = 0 := by
    apply flagCount_zero
    intro d hd
    obtain ⟨c, hc, rfl⟩ := List.mem_map.mp hd
    exact (ho c (List.mem_of_mem_take hc)).2.1
  have hk := List.take_drop_length t.outQ k
  unfold Tx.flags Tx.nOut
  rw [h4, h2, h3, flagCount_append, hnews]
  simp only [List.length_append, List.length_map]
  omega

theorem pot_transmit (t : Tx) (ho : ∀ c ∈ t.outQ, Idle c) :
    (dataOf t.transmit.2).length + t.transmit.1.pot ≤ t.pot ∧ t.transmit.1.nOut = t.nOut := by
  obtain ⟨hfl, hn⟩ := transmit_flags t ho
  obtain ⟨mid, es, k, h1, h2, h3, _⟩ := (transmit_shape t).shape
  have hs : t.transmit.1.strikeBudget ≤ t.strikeBudget := by
    unfold Tx.strikeBudget
    rw [h2, h3, psi_append]
    refine Nat.le_trans (psi_mono_tail mid ?_) (psi_le_of_pw _ h1.count.2)
    -- the chunks that moved to the sent queue are not gap-acked: `2 ^ k` binary numbers fit below them
    have := psi_bound ((t.outQ.take k).map newChunk) (2 ^ (t.outQ.drop k).length - 1)
    have hp := Nat.two_pow_pos (t.outQ.drop k).length
    rw [Nat.sub_add_cancel hp, ← Nat.pow_add, List.length_map, ← List.length_append, List.take_append_drop] at this
    omega
  refine ⟨?_, hn⟩
  unfold Tx.pot
  rw [hn]
  have := Nat.mul_le_mul_left t.nOut hs
  omega

/-- **a SACK never increases the potential**: either it changes no flag of the outstanding chunks, or it strictly
decreases the strike budget (and at most `nOut` chunks are marked) -/
theorem pot_sack {b : Int} {a : Nat} {t t' : Tx} (h : TxSeq b a t) (k : Nat) (h1 : a ≤ k) (h2 : k ≤ a + t.sentQ.length)
    (gaps : List (Nat × Nat)) (hs : SackShape t t' (T b k) gaps) : t'.pot ≤ t.pot ∧ t'.nOut ≤ t.nOut := by
  obtain ⟨l, hq, hl, hseq, hlen⟩ := h.acked h1 h2
  have hb := h.bound
  have hsq := hs.sentQ
  rw [hq] at hsq
  have hn : t'.nOut ≤ t.nOut := by
    have := PW.length (sackList_sameId (T b k) gaps l)
    unfold Tx.nOut; rw [hs.outQ, hsq]; omega
  refine ⟨?_, hn⟩
  rcases sackList_lex b k gaps l hseq (by omega) with he | hlex
  · rw [he, hl] at hsq
    unfold Tx.pot
    refine pot_mono ?_ hn ?_
    · unfold Tx.flags; rw [hsq, hs.outQ]; exact Nat.add_le_add_right (flagCount_drop _ _) _
    · unfold Tx.strikeBudget; rw [hsq, hs.outQ]; exact psi_drop _ _ _
  · rw [← hsq] at hlex
    have hlt : t'.strikeBudget + 1 ≤ t.strikeBudget := by
      unfold Tx.strikeBudget
      rw [hs.outQ]
      exact Nat.lt_of_lt_of_le (psi_lt_of_lex _ hlex) (hl ▸ psi_drop t.sentQ (k - a) _)
    exact hon_pot_strict (flags_le t') hn hlt

theorem transmit_emitted_seq (b : Int) (f : Nat) (t0 : Tx) (hseq : Seq b f (t0.sentQ ++ t0.outQ)) :
    ∀ d ∈ dataOf t0.transmit.2, ∃ j, f < j ∧ j ≤ f + t0.transmit.1.sentQ.length ∧ d.tsn = T b j := by
  obtain ⟨mid, es, k, h1, h2, h3, h4⟩ := (transmit_shape t0).shape
  obtain ⟨hpw, hle, _⟩ := transmit_pw t0
  have hseq' : Seq b f t0.transmit.1.sentQ := (Seq.append.mp (Seq.pw hpw hseq)).1
  intro d hd
  rw [h4, List.mem_append] at hd
  rcases hd with hd | hd
  · obtain ⟨c, hc, he⟩ := h1.tsn d hd
    obtain ⟨j, j1, j2, j3⟩ := Seq.mem (Seq.append.mp hseq).1 hc
    exact ⟨j, j1, Nat.le_trans j2 (Nat.add_le_add_left hle f), he.trans j3⟩
  · simp only [List.mem_map] at hd
    obtain ⟨c, hc, rfl⟩ := hd
    exact Seq.mem hseq' (by rw [h2]; exact List.mem_append.mpr (Or.inr (List.mem_map.mpr ⟨c, hc, rfl⟩)))

end Aiortc.Sctp
