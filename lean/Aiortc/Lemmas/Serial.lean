import Aiortc.Gen.Serial
/-!
# Serial numbers modulo an even modulus

`uint16_gt` and `uint32_gt` of `aiortc.utils` are one comparison `serialGt h` with `h = 2^15` and `h = 2^31`, over the
modulus `m = 2 * h`; the laws are proved once for any such `m`.  The sequence numbers the model deals in are all of the
form `(b + i) % m` — the `i`-th number after a base `b`; every area has its own definition of that shape —, and
`serialGt_idx` / `idx_inj` say what the areas need of them: inside a window of `h` indices the serial order is the
order of the indices, inside a window of `m` indices the number determines the index.  The lemmas speak of the bare
`(b + i) % m` and of `InRange m a` (reducible), so that they apply to each area's own definitions by unfolding.
-/
namespace Aiortc.Serial
open Aiortc.Gen

/-- the wire range of a number modulo `m`; the areas' `R16`, `R32`, `InRange32`, `U32` are definitionally equal to it -/
abbrev InRange (m a : Int) : Prop := 0 ≤ a ∧ a < m

def serialGt (h a b : Int) : Bool :=
  (decide (a < b) && decide (b - a > h)) || (decide (a > b) && decide (a - b < h))

theorem serialGt_def {h a b : Int} :
    serialGt h a b = true ↔ (a < b ∧ b - a > h) ∨ (a > b ∧ a - b < h) := by
  unfold serialGt
  simp only [Bool.or_eq_true, Bool.and_eq_true, decide_eq_true_eq]

/-- Never both (even at exactly half the space). -/
theorem serialGt_asymm {h a b : Int} (hab : serialGt h a b = true) : serialGt h b a = false := by
  rw [← Bool.not_eq_true, serialGt_def]
  rw [serialGt_def] at hab
  omega

theorem serialGt_irrefl {h a : Int} : serialGt h a a = false := by
  rw [← Bool.not_eq_true, serialGt_def]; omega

theorem sub_emod_range {m a b : Int} (ha : InRange m a) (hb : InRange m b) :
    (a - b) % m = if b ≤ a then a - b else a - b + m := by
  split
  · exact Int.emod_eq_of_lt (by omega) (by omega)
  · rw [← Int.add_emod_right]; exact Int.emod_eq_of_lt (by omega) (by omega)

theorem emod_range {m : Int} (hm : 0 < m) (x : Int) : InRange m (x % m) :=
  ⟨Int.emod_nonneg _ (by omega), Int.emod_lt_of_pos _ hm⟩

theorem emod_self {m a : Int} (ha : InRange m a) : a % m = a := Int.emod_eq_of_lt ha.1 ha.2

theorem eq_shift {m a b : Int} (c : Int) (ha : InRange m a) (hb : InRange m b) :
    (a + c) % m = (b + c) % m ↔ a = b := by
  rw [Int.emod_add_cancel_right, emod_self ha, emod_self hb]

theorem idx_sub (m b i j : Int) : ((b + i) % m - (b + j) % m) % m = (i - j) % m := by
  rw [Int.emod_sub_emod, Int.sub_emod_emod, Int.add_sub_add_left]

theorem idx_inj {m : Int} (b : Int) {i j : Int} (hw : -m < i - j ∧ i - j < m) (e : (b + i) % m = (b + j) % m) : i = j := by
  have h0 : (i - j) % m = 0 := by rw [← idx_sub m b i j, e, Int.sub_self]; rfl
  by_cases hn : i - j < 0
  · rw [← Int.add_emod_right, Int.emod_eq_of_lt (by omega) (by omega)] at h0; omega
  · rw [Int.emod_eq_of_lt (by omega) hw.2] at h0; omega

/-! The index of `x` counted from `b` is `(x - b) % m` (the sort key of the SCTP receiver). -/

theorem key_succ (m b x : Int) : ((x + 1) % m - b) % m = ((x - b) % m + 1) % m := by
  rw [Int.emod_sub_emod, Int.emod_add_emod, show x + 1 - b = x - b + 1 by omega]

theorem key_inv {m : Int} (b : Int) {x : Int} (hx : InRange m x) : (b + (x - b) % m) % m = x := by
  rw [Int.add_emod_emod, show b + (x - b) = x by omega, emod_self hx]

theorem key_inj {m b x y : Int} (hx : InRange m x) (hy : InRange m y) (h : (x - b) % m = (y - b) % m) : x = y := by
  rw [← key_inv b hx, h, key_inv b hy]

theorem emod_toNat_lt (x : Int) {c : Nat} (hc : 0 < c) : (x % (c : Int)).toNat < c := by
  have := emod_range (m := c) (by omega) x
  omega

section
variable {m h : Int} (hm : m = 2 * h) (hh : 0 < h)
include hm hh

theorem serialGt_iff {a b : Int} (ha : InRange m a) (hb : InRange m b) :
    serialGt h a b = true ↔ 0 < (a - b) % m ∧ (a - b) % m < h := by
  rw [serialGt_def, sub_emod_range ha hb]
  split <;> omega

theorem serialGt_eq_not {a b : Int} (hne : a ≠ b) (hhalf : (a - b) % m ≠ h) :
    serialGt h a b = !serialGt h b a := by
  have h1 : a - b ≠ h := fun e => hhalf (by rw [e]; exact Int.emod_eq_of_lt (by omega) (by omega))
  have h2 : b - a ≠ h := fun e => hhalf (by
    rw [← Int.add_emod_right (a - b) m, Int.emod_eq_of_lt (by omega) (by omega)]; omega)
  cases hba : serialGt h b a with
  | true => exact serialGt_asymm hba
  | false =>
    rw [← Bool.not_eq_true, serialGt_def] at hba
    rw [Bool.not_false, serialGt_def]
    omega

theorem serialGt_add {a k : Int} (ha : InRange m a) (hk : 0 < k) (hk' : k < h) :
    serialGt h ((a + k) % m) a = true := by
  rw [serialGt_iff hm hh (emod_range (by omega) _) ha, Int.emod_sub_emod,
    show a + k - a = k by omega, Int.emod_eq_of_lt (by omega) (by omega)]
  exact ⟨hk, hk'⟩

theorem serialGt_shift {a b : Int} (c : Int) (ha : InRange m a) (hb : InRange m b) :
    serialGt h ((a + c) % m) ((b + c) % m) = serialGt h a b := by
  rw [Bool.eq_iff_iff, serialGt_iff hm hh (emod_range (by omega) _) (emod_range (by omega) _), serialGt_iff hm hh ha hb,
    ← Int.sub_emod, show a + c - (b + c) = a - b by omega]

theorem serialGt_trans_window {a b c : Int} (ha : InRange m a) (hb : InRange m b) (hc : InRange m c)
    (hab : serialGt h a b = true) (hbc : serialGt h b c = true) (hwin : (a - c) % m < h) :
    serialGt h a c = true := by
  rw [serialGt_iff hm hh ha hb] at hab
  rw [serialGt_iff hm hh hb hc] at hbc
  -- the distances add up: both are below `h`, so their sum does not wrap
  have e : (a - c) % m = (a - b) % m + (b - c) % m := by
    rw [← Int.emod_eq_of_lt (a := (a - b) % m + (b - c) % m) (b := m) (by omega) (by omega), ← Int.add_emod,
      show a - b + (b - c) = a - c by omega]
  rw [serialGt_iff hm hh ha hc]
  omega

theorem serialGt_idx (b : Int) {i j : Int} (hw : -h ≤ i - j ∧ i - j < h) :
    serialGt h ((b + i) % m) ((b + j) % m) = decide (j < i) := by
  rw [Bool.eq_iff_iff, serialGt_iff hm hh (emod_range (by omega) _) (emod_range (by omega) _), idx_sub,
    decide_eq_true_eq]
  by_cases hn : i - j < 0
  · rw [← Int.add_emod_right, Int.emod_eq_of_lt (by omega) (by omega)]; omega
  · rw [Int.emod_eq_of_lt (by omega) (by omega)]; omega

theorem serialGte_idx (b : Int) {i j : Int} (hw : -h < i - j ∧ i - j < h) :
    (decide ((b + i) % m = (b + j) % m) || serialGt h ((b + i) % m) ((b + j) % m)) = decide (j ≤ i) := by
  rw [serialGt_idx hm hh b ⟨Int.le_of_lt hw.1, hw.2⟩, Bool.eq_iff_iff, Bool.or_eq_true, decide_eq_true_eq,
    decide_eq_true_eq, decide_eq_true_eq]
  exact ⟨fun e => e.elim (fun e => by have := idx_inj b (by omega) e; omega) (by omega),
    fun e => (Int.lt_or_eq_of_le e).elim .inr fun e => .inl (e ▸ rfl)⟩

end

/-! ## The two moduli of the code -/

theorem gt32 (b : Int) {i j : Int} (hw : -2147483648 ≤ i - j ∧ i - j < 2147483648) :
    uint32_gt ((b + i) % 4294967296) ((b + j) % 4294967296) = decide (j < i) :=
  serialGt_idx (by decide) (by decide) b hw

theorem gt32_irrefl (x : Int) : uint32_gt x x = false := serialGt_irrefl

theorem gte32_refl (x : Int) : uint32_gte x x = true := by simp [uint32_gte]

theorem gte32 (b : Int) {i j : Int} (hw : -2147483648 < i - j ∧ i - j < 2147483648) :
    uint32_gte ((b + i) % 4294967296) ((b + j) % 4294967296) = decide (j ≤ i) :=
  serialGte_idx (by decide) (by decide) b hw

theorem inj32 (b : Int) {i j : Int} (hw : -4294967296 < i - j ∧ i - j < 4294967296)
    (e : (b + i) % 4294967296 = (b + j) % 4294967296) : i = j :=
  idx_inj b hw e

theorem gt16 (b : Int) {i j : Int} (hw : -32768 ≤ i - j ∧ i - j < 32768) :
    uint16_gt ((b + i) % 65536) ((b + j) % 65536) = decide (j < i) :=
  serialGt_idx (by decide) (by decide) b hw

theorem inj16 (b : Int) {i j : Int} (hw : -65536 < i - j ∧ i - j < 65536)
    (e : (b + i) % 65536 = (b + j) % 65536) : i = j :=
  idx_inj b hw e

end Aiortc.Serial
