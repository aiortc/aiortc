import Aiortc.Lemmas.C03.Fold
/-!
C03 — which DTLS role one step (a section of `setRemoteDescription`, BUNDLE, creating a transport) may write.
`RoleStep v` : every transport keeps its id and either keeps its role or gets role `v`; transports may be appended
(role `auto` or `v`).  `RoleSame` : the same with no role change at all.
-/
namespace Aiortc.Model.Negotiate
open Aiortc (Outcome)
open Aiortc.Model.Jsep (Sig)

/-- `Pc.roleOf` on the transport list alone (`roleOf_eq`) -/
def lookupRole (id : Nat) (ts : List Transport) : Role :=
  match ts.find? (fun t => t.id == id) with
  | some t => t.role
  | none => .auto

theorem roleOf_eq (pc : Pc) (id : Nat) : pc.roleOf id = lookupRole id pc.transports := rfl

def RoleStep (v : Role) (ts ts' : List Transport) : Prop :=
  ∃ (h : Transport → Transport) (extra : List Transport), ts' = ts.map h ++ extra ∧
    (∀ x, (h x).id = x.id ∧ ((h x).role = x.role ∨ (h x).role = v)) ∧ (∀ e ∈ extra, e.role = .auto ∨ e.role = v)

def RoleSame (ts ts' : List Transport) : Prop :=
  ∃ (h : Transport → Transport) (extra : List Transport), ts' = ts.map h ++ extra ∧
    (∀ x, (h x).id = x.id ∧ (h x).role = x.role) ∧ (∀ e ∈ extra, e.role = .auto)

theorem RoleSame.refl (ts : List Transport) : RoleSame ts ts := ⟨id, [], by simp, fun _ => ⟨rfl, rfl⟩, by simp⟩

theorem RoleSame.trans {a b c : List Transport} (h1 : RoleSame a b) (h2 : RoleSame b c) : RoleSame a c := by
  obtain ⟨f, e1, rfl, hf, he1⟩ := h1
  obtain ⟨g, e2, rfl, hg, he2⟩ := h2
  refine ⟨g ∘ f, e1.map g ++ e2, by simp [List.map_append, List.map_map], ?_, ?_⟩
  · intro x; exact ⟨by rw [Function.comp, (hg _).1, (hf x).1], by rw [Function.comp, (hg _).2, (hf x).2]⟩
  · intro e he
    rcases List.mem_append.mp he with h | h
    · obtain ⟨e0, he0, rfl⟩ := List.mem_map.mp h
      rw [(hg e0).2]; exact he1 e0 he0
    · exact he2 e h

theorem RoleSame.toStep {ts ts' : List Transport} (h : RoleSame ts ts') (v : Role) : RoleStep v ts ts' := by
  obtain ⟨f, e, rfl, hf, he⟩ := h
  exact ⟨f, e, rfl, fun x => ⟨(hf x).1, .inl (hf x).2⟩, fun x hx => .inl (he x hx)⟩

theorem RoleStep.trans {v : Role} {a b c : List Transport} (h1 : RoleStep v a b) (h2 : RoleStep v b c) : RoleStep v a c := by
  obtain ⟨f, e1, rfl, hf, he1⟩ := h1
  obtain ⟨g, e2, rfl, hg, he2⟩ := h2
  refine ⟨g ∘ f, e1.map g ++ e2, by simp [List.map_append, List.map_map], ?_, ?_⟩
  · intro x
    refine ⟨by rw [Function.comp, (hg _).1, (hf x).1], ?_⟩
    rcases (hg (f x)).2 with h | h
    · rcases (hf x).2 with h' | h'
      · exact .inl (by rw [Function.comp, h, h'])
      · exact .inr (by rw [Function.comp, h, h'])
    · exact .inr h
  · intro e he
    rcases List.mem_append.mp he with h | h
    · obtain ⟨e0, he0, rfl⟩ := List.mem_map.mp h
      rcases (hg e0).2 with h' | h'
      · rw [h']; exact he1 e0 he0
      · exact .inr h'
    · exact he2 e h

theorem lookup_map {h : Transport → Transport} (hid : ∀ x, (h x).id = x.id) (id : Nat) :
    ∀ ts : List Transport, (ts.map h).find? (fun t => t.id == id) = (ts.find? (fun t => t.id == id)).map h := by
  intro ts
  induction ts with
  | nil => rfl
  | cons a as ih =>
    simp only [List.map_cons, List.find?, hid]
    split
    · rfl
    · exact ih

theorem RoleStep.lookup {v : Role} {ts ts' : List Transport} (h : RoleStep v ts ts') (id : Nat) :
    lookupRole id ts' = lookupRole id ts ∨ lookupRole id ts' = v := by
  obtain ⟨f, e, rfl, hf, he⟩ := h
  unfold lookupRole
  rw [List.find?_append, lookup_map (fun x => (hf x).1)]
  cases hfind : ts.find? (fun t => t.id == id) with
  | some x =>
    simp only [Option.map_some, Option.some_or]
    rcases (hf x).2 with h | h
    · exact .inl h
    · exact .inr h
  | none =>
    simp only [Option.map_none, Option.none_or]
    cases he2 : e.find? (fun t => t.id == id) with
    | none => exact .inl rfl
    | some y =>
      rcases he y (List.mem_of_find?_eq_some he2) with h | h
      · exact .inl h
      · exact .inr h

/-- a `RoleStep` towards the role the transport has anyway -/
theorem RoleSame.lookup {ts ts' : List Transport} (h : RoleSame ts ts') (id : Nat) : lookupRole id ts' = lookupRole id ts :=
  ((h.toStep (lookupRole id ts)).lookup id).elim (fun e => e) (fun e => e)

theorem RoleSame.roleOf_eq {pc pc' : Pc} (h : RoleSame pc.transports pc'.transports) (id : Nat) : pc'.roleOf id = pc.roleOf id :=
  h.lookup id

/-- all definite roles of the connection are `r` ("U": uniform) -/
def RolesU (r : Role) (ts : List Transport) : Prop := ∀ x ∈ ts, x.role = .auto ∨ x.role = r

theorem RoleStep.rolesU {v r : Role} {ts ts' : List Transport} (h : RoleStep v ts ts') (hu : RolesU r ts) (hv : v = .auto ∨ v = r) :
    RolesU r ts' := by
  obtain ⟨f, e, rfl, hf, he⟩ := h
  intro x hx
  rcases List.mem_append.mp hx with h1 | h1
  · obtain ⟨x0, hx0, rfl⟩ := List.mem_map.mp h1
    rcases (hf x0).2 with h2 | h2
    · rw [h2]; exact hu x0 hx0
    · rw [h2]; exact hv
  · rcases he x h1 with h2 | h2
    · exact .inl h2
    · rw [h2]; exact hv

theorem RoleSame.rolesU {r : Role} {ts ts' : List Transport} (h : RoleSame ts ts') (hu : RolesU r ts) : RolesU r ts' :=
  (h.toStep .auto).rolesU hu (.inl rfl)

theorem RolesU.lookup {r : Role} {ts : List Transport} (h : RolesU r ts) (id : Nat) : lookupRole id ts = .auto ∨ lookupRole id ts = r := by
  unfold lookupRole
  cases hf : ts.find? (fun t => t.id == id) with
  | none => exact .inl rfl
  | some x => exact h x (List.mem_of_find?_eq_some hf)

/-- "all roles `auto`" is `RolesU .auto` -/
theorem lookup_all_auto {ts : List Transport} (h : ∀ x ∈ ts, x.role = .auto) (id : Nat) : lookupRole id ts = .auto :=
  (RolesU.lookup (r := .auto) (fun x hx => .inl (h x hx)) id).elim (fun e => e) (fun e => e)

theorem roleSame_all_auto {ts ts' : List Transport} (h : RoleSame ts ts') (ha : ∀ x ∈ ts, x.role = .auto) : ∀ x ∈ ts', x.role = .auto :=
  fun x hx => (h.rolesU (r := .auto) (fun y hy => .inl (ha y hy)) x hx).elim id id

/-! ## the basic moves -/

theorem roleSame_newTransport (pc : Pc) : RoleSame pc.transports pc.newTransport.1.transports :=
  ⟨id, [{ id := pc.nextId, role := .auto, ice := none, live := true }], by simp [Pc.newTransport], fun _ => ⟨rfl, rfl⟩, by simp⟩

theorem roleSame_createTransceiver (pc : Pc) (d : Dir) (k : Kind) (tr : Bool) :
    RoleSame pc.transports (pc.createTransceiver d k tr).transports := by
  unfold Pc.createTransceiver
  split
  · exact RoleSame.refl _
  · exact roleSame_newTransport pc

theorem roleSame_createSctp (pc : Pc) : RoleSame pc.transports pc.createSctp.transports := by
  unfold Pc.createSctp
  split
  · exact RoleSame.refl _
  · exact roleSame_newTransport pc

theorem roleStep_modTransport (pc : Pc) (id0 : Nat) (f : Transport → Transport) (v : Role)
    (hf : ∀ x, (f x).id = x.id ∧ ((f x).role = x.role ∨ (f x).role = v)) :
    RoleStep v pc.transports (pc.modTransport id0 f).transports := by
  refine ⟨fun t => if t.id == id0 then f t else t, [], by simp [Pc.modTransport], ?_, by simp⟩
  intro x
  simp only
  split
  · exact hf x
  · exact ⟨rfl, .inl rfl⟩

theorem roleSame_modTransport (pc : Pc) (id0 : Nat) (f : Transport → Transport)
    (hf : ∀ x, (f x).id = x.id ∧ (f x).role = x.role) :
    RoleSame pc.transports (pc.modTransport id0 f).transports := by
  refine ⟨fun t => if t.id == id0 then f t else t, [], by simp [Pc.modTransport], ?_, by simp⟩
  intro x
  simp only
  split
  · exact hf x
  · exact ⟨rfl, rfl⟩

theorem remoteRoles_offer_auto (x : Transport) : (remoteRoles .offer .auto x).id = x.id ∧ (remoteRoles .offer .auto x).role = x.role := by
  unfold remoteRoles
  have b : (Role.auto == Role.client) = false := rfl
  simp only [b, Bool.false_eq_true, if_false]
  split <;> exact ⟨rfl, rfl⟩

/-- the role an offerer takes from an answer section -/
def oppRole (s : Role) : Role := if s == .client then .server else .client

theorem remoteRoles_answer (s : Role) (x : Transport) : (remoteRoles .answer s x).id = x.id ∧ (remoteRoles .answer s x).role = oppRole s := by
  unfold remoteRoles oppRole
  simp

theorem roleSame_bundleStep (pc : Pc) (p : Nat) (slaves : List String) : RoleSame pc.transports (bundleStep pc p slaves).transports := by
  refine ⟨fun x => if (bundleOld pc p slaves).contains x.id then { x with live := false } else x, [], by simp [bundleStep], ?_, by simp⟩
  intro x
  simp only
  split <;> exact ⟨rfl, rfl⟩

/-! ## one section of `setRemoteDescription` -/

theorem roleSame_ensureTransceiver (pc : Pc) (m : MSec) : RoleSame pc.transports (pc.ensureTransceiver m).transports := by
  unfold Pc.ensureTransceiver
  split
  · exact RoleSame.refl _
  · exact roleSame_createTransceiver pc _ _ _

theorem roleSame_ensureSctp (pc : Pc) : RoleSame pc.transports pc.ensureSctp.transports := by
  unfold Pc.ensureSctp
  split
  · exact RoleSame.refl _
  · exact roleSame_createSctp pc

theorem applyRemoteSec_roles {typ : DType} {pc pc' : Pc} {i : Nat} {m : MSec} (h : applyRemoteSec typ pc i m = .ok pc') :
    (typ = .offer → m.setup = .auto → RoleSame pc.transports pc'.transports) ∧
    (typ = .answer → RoleStep (oppRole m.setup) pc.transports pc'.transports) := by
  have key : ∃ (pcE : Pc) (id0 : Nat), RoleSame pc.transports pcE.transports ∧
      pc'.transports = (pcE.modTransport id0 (remoteRoles typ m.setup)).transports := by
    cases hk : m.kind.isMedia
    · obtain ⟨s, _, rfl⟩ := (applyRemoteSec_app_iff hk).mp h
      exact ⟨(pc.seeMid m.mid).ensureSctp, _, roleSame_ensureSctp (pc.seeMid m.mid), rfl⟩
    · obtain ⟨t, _, _, _, _, _, rfl⟩ := (applyRemoteSec_media_iff hk).mp h
      exact ⟨(pc.seeMid m.mid).ensureTransceiver m, _, roleSame_ensureTransceiver (pc.seeMid m.mid) m, rfl⟩
  obtain ⟨pcE, id0, hs, ht⟩ := key
  constructor
  · intro hty hm
    subst hty; rw [hm] at ht
    rw [ht]
    exact hs.trans (roleSame_modTransport pcE id0 _ remoteRoles_offer_auto)
  · intro hty
    subst hty
    rw [ht]
    exact (hs.toStep _).trans (roleStep_modTransport pcE id0 _ _ (fun x => ⟨(remoteRoles_answer m.setup x).1, .inr (remoteRoles_answer m.setup x).2⟩))

theorem applyRemote_roles_offer {ms : List MSec} {pc pc' : Pc} {i : Nat} (hauto : ∀ m ∈ ms, m.setup = .auto)
    (h : applyRemote .offer pc ms i = .ok pc') : RoleSame pc.transports pc'.transports :=
  applyRemote_rel (R := fun a b => RoleSame a.transports b.transports) (fun _ => RoleSame.refl _) RoleSame.trans
    (fun m hm _ _ _ h1 => (applyRemoteSec_roles h1).1 rfl (hauto m hm)) h

theorem applyRemote_roles_answer {w : Role} {ms : List MSec} {pc pc' : Pc} {i : Nat} (hw : ∀ m ∈ ms, oppRole m.setup = w)
    (h : applyRemote .answer pc ms i = .ok pc') : RoleStep w pc.transports pc'.transports :=
  applyRemote_rel (R := fun a b => RoleStep w a.transports b.transports) (fun _ => (RoleSame.refl _).toStep w) RoleStep.trans
    (fun m hm _ _ _ h1 => hw m hm ▸ (applyRemoteSec_roles h1).2 rfl) h

theorem applyBundle_roles {pc pc2 : Pc} {b : List String} (h : pc.applyBundleWith bundleStep b = .ok pc2) :
    RoleSame pc.transports pc2.transports := by
  rcases applyBundleWith_ok h with rfl | ⟨_, _, _, _, _, rfl⟩
  · exact RoleSame.refl _
  · exact roleSame_bundleStep _ _ _

end Aiortc.Model.Negotiate
