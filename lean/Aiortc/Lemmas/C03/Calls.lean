import Aiortc.Model.Jsep.Negotiate
import Aiortc.Lemmas.C03.Codecs
/-!
C03 — the calls on the abstract peer connection.  `createOffer`, `createAnswer`, `setRemoteDescription` and the whole
exchange are chains of `Outcome` matches in the model; each is rewritten once as a chain of `Outcome.bind` (`…_eq`), from
which "the call succeeded" is the conjunction of its steps (`…_iff`, by `bind_eq_ok`).  `setLocalDescription` gets its two
`…_iff` (offer, answer) directly.  The loops over media sections get their `cons` equation in the same form, with the loop
bodies cut out as `assignStep`, `sectionTransport`, `answerSec`; the loops of `createOffer` are unfolded where they are
specified (`Offer.lean`); what a successful bundling step did is `applyBundleWith_ok` below, that it succeeds follows from
`primary_of_owners` in `Remote.lean`.

Before the calls: `updFirst` (replace the first match), `Rel2` (two lists related pointwise), and the words the later
files share — `keysOfSecs` (kind and mid of each section), `Pc.slots`, `Pc.sctpMid`, `Refreshed`.
-/
namespace Aiortc.Model.Negotiate
open Aiortc (Outcome)
open Aiortc.Model.Jsep (Sig)

/-! ## updFirst -/

theorem updFirst_eq_some {α} {p : α → Bool} {f : α → α} : ∀ {l l' : List α}, updFirst p f l = some l' ↔
    ∃ a x b, l = a ++ x :: b ∧ (∀ y ∈ a, p y = false) ∧ p x = true ∧ l' = a ++ f x :: b := by
  intro l
  induction l with
  | nil => intro l'; simp [updFirst]
  | cons c cs ih =>
    intro l'
    rw [updFirst]
    by_cases hc : p c = true
    · simp only [hc, if_true, Option.some.injEq]
      constructor
      · rintro rfl; exact ⟨[], c, cs, rfl, by simp, hc, rfl⟩
      · rintro ⟨a, x, b, h1, h2, h3, rfl⟩
        cases a with
        | nil => cases h1; rfl
        | cons y ys => cases h1; rw [h2 c (by simp)] at hc; cases hc
    · simp only [hc, Bool.false_eq_true, if_false, Option.map_eq_some_iff, ih]
      constructor
      · rintro ⟨r, ⟨a, x, b, rfl, h2, h3, rfl⟩, rfl⟩
        exact ⟨c :: a, x, b, rfl, by simpa [hc] using h2, h3, rfl⟩
      · rintro ⟨a, x, b, h1, h2, h3, rfl⟩
        cases a with
        | nil => cases h1; exact absurd h3 hc
        | cons y ys =>
          cases h1
          exact ⟨_, ⟨ys, x, b, rfl, fun z hz => h2 z (by simp [hz]), h3, rfl⟩, rfl⟩

theorem updFirst_find {α} {p : α → Bool} {f : α → α} {l l' : List α} (h : updFirst p f l = some l') :
    ∃ a x b, l = a ++ x :: b ∧ l.find? p = some x ∧ (∀ y ∈ a, p y = false) ∧ l' = a ++ f x :: b := by
  obtain ⟨a, x, b, rfl, h2, h3, rfl⟩ := updFirst_eq_some.mp h
  refine ⟨a, x, b, rfl, ?_, h2, rfl⟩
  rw [List.find?_append, List.find?_eq_none.mpr (by simpa using h2)]
  simp [h3]

theorem updFirst_mem_first {α} {p : α → Bool} {f : α → α} {l l' : List α} (h : updFirst p f l = some l') :
    ∀ z ∈ l', z ∈ l ∨ ∃ x1, l.find? p = some x1 ∧ z = f x1 := by
  obtain ⟨a, x, b, rfl, hf, _, rfl⟩ := updFirst_find h
  intro z hz
  simp only [List.mem_append, List.mem_cons] at hz ⊢
  rcases hz with hz | rfl | hz
  · exact .inl (.inl hz)
  · exact .inr ⟨x, hf, rfl⟩
  · exact .inl (.inr (.inr hz))

theorem updFirst_mem {α} {p : α → Bool} {f : α → α} {l l' : List α} (h : updFirst p f l = some l') :
    ∀ y ∈ l', y ∈ l ∨ ∃ x ∈ l, p x = true ∧ y = f x := by
  intro y hy
  rcases updFirst_mem_first h y hy with h1 | ⟨x, hx, rfl⟩
  · exact .inl h1
  · exact .inr ⟨x, List.mem_of_find?_eq_some hx, List.find?_some hx, rfl⟩

theorem updFirst_keeps {α} {p : α → Bool} {f : α → α} {l l' : List α} (h : updFirst p f l = some l') :
    ∀ x ∈ l, p x = false → x ∈ l' := by
  obtain ⟨a, x0, b, rfl, _, h3, rfl⟩ := updFirst_eq_some.mp h
  intro x hx hpx
  simp only [List.mem_append, List.mem_cons] at hx ⊢
  rcases hx with hx | rfl | hx
  · exact .inl hx
  · rw [h3] at hpx; cases hpx
  · exact .inr (.inr hx)

theorem updFirst_has {α} {p : α → Bool} {f : α → α} {l l' : List α} (h : updFirst p f l = some l') :
    ∃ x, l.find? p = some x ∧ f x ∈ l' := by
  obtain ⟨a, x, b, rfl, hf, _, rfl⟩ := updFirst_find h
  exact ⟨x, hf, by simp⟩

theorem updFirst_isSome {α} {p : α → Bool} {f : α → α} {l : List α} {x : α} (h : l.find? p = some x) :
    ∃ l', updFirst p f l = some l' := by
  obtain ⟨_, a, b, rfl, ha⟩ := List.find?_eq_some_iff_append.mp h
  exact ⟨_, updFirst_eq_some.mpr ⟨a, x, b, rfl, by simpa using ha, List.find?_some h, rfl⟩⟩

theorem updFirst_id {α} {p : α → Bool} {f : α → α} {l l' : List α} (h : updFirst p f l = some l')
    (hf : ∀ x ∈ l, p x = true → f x = x) : l' = l := by
  obtain ⟨a, x, b, rfl, _, h3, rfl⟩ := updFirst_eq_some.mp h
  rw [hf x (by simp) h3]

theorem updFirst_pairwise_first {α} {R : α → α → Prop} {p : α → Bool} {f : α → α} {l l' : List α} {x0 : α}
    (h : updFirst p f l = some l') (hx : l.find? p = some x0) (hp : l.Pairwise R)
    (h1 : ∀ y ∈ l, R x0 y → R (f x0) y) (h2 : ∀ y ∈ l, p y = false → R y x0 → R y (f x0)) : l'.Pairwise R := by
  obtain ⟨a, x, b, rfl, hf, ha, rfl⟩ := updFirst_find h
  rw [hf] at hx; cases hx
  rw [List.pairwise_append, List.pairwise_cons] at hp ⊢
  obtain ⟨pa, ⟨px, pb⟩, pab⟩ := hp
  refine ⟨pa, ⟨fun y hy => h1 y (by simp [hy]) (px y hy), pb⟩, ?_⟩
  intro y hy z hz
  rcases List.mem_cons.mp hz with rfl | hz
  · exact h2 y (by simp [hy]) (ha y hy) (pab y hy _ (by simp))
  · exact pab y hy z (by simp [hz])

/-! ## pointwise relation of two lists of equal length -/

/-- `List.Forall₂`, which core Lean does not have -/
inductive Rel2 {α β} (R : α → β → Prop) : List α → List β → Prop where
  | nil : Rel2 R [] []
  | cons {a b l1 l2} : R a b → Rel2 R l1 l2 → Rel2 R (a :: l1) (b :: l2)

theorem Rel2.length {α β} {R : α → β → Prop} {l1 : List α} {l2 : List β} (h : Rel2 R l1 l2) : l1.length = l2.length := by
  induction h with
  | nil => rfl
  | cons _ _ ih => simp [ih]

theorem Rel2.imp {α β} {R S : α → β → Prop} {l1 : List α} {l2 : List β} (hi : ∀ a b, R a b → S a b) (h : Rel2 R l1 l2) :
    Rel2 S l1 l2 := by
  induction h with
  | nil => exact .nil
  | cons hr _ ih => exact .cons (hi _ _ hr) ih

theorem Rel2.flip {α β} {R : α → β → Prop} {l1 : List α} {l2 : List β} (h : Rel2 R l1 l2) : Rel2 (fun b a => R a b) l2 l1 := by
  induction h with
  | nil => exact .nil
  | cons hr _ ih => exact .cons hr ih

theorem Rel2.get_left {α β} {R : α → β → Prop} {l1 : List α} {l2 : List β} (h : Rel2 R l1 l2) :
    ∀ (i : Nat) (a : α), l1[i]? = some a → ∃ b, l2[i]? = some b ∧ R a b := by
  induction h with
  | nil => intro i a h1; simp at h1
  | cons hr _ ih =>
    intro i a h1
    cases i with
    | zero => simp at h1; subst h1; exact ⟨_, by simp, hr⟩
    | succ n => simp at h1; simpa using ih n a h1

theorem Rel2.get_right {α β} {R : α → β → Prop} {l1 : List α} {l2 : List β} (h : Rel2 R l1 l2) :
    ∀ (i : Nat) (b : β), l2[i]? = some b → ∃ a, l1[i]? = some a ∧ R a b := h.flip.get_left

theorem Rel2.get {α β} {R : α → β → Prop} {l1 : List α} {l2 : List β} (h : Rel2 R l1 l2) (i : Nat) (a : α) (b : β)
    (h1 : l1[i]? = some a) (h2 : l2[i]? = some b) : R a b := by
  obtain ⟨b', hb', hr⟩ := h.get_left i a h1
  rw [h2] at hb'; cases hb'; exact hr

theorem Rel2.mem_right {α β} {R : α → β → Prop} {l1 : List α} {l2 : List β} (h : Rel2 R l1 l2) :
    ∀ b ∈ l2, ∃ a ∈ l1, R a b := by
  intro b hb
  obtain ⟨i, hi⟩ := List.getElem?_of_mem hb
  obtain ⟨a, ha, hr⟩ := h.get_right i b hi
  exact ⟨a, List.mem_of_getElem? ha, hr⟩

theorem Rel2.mem_left {α β} {R : α → β → Prop} {l1 : List α} {l2 : List β} (h : Rel2 R l1 l2) :
    ∀ a ∈ l1, ∃ b ∈ l2, R a b := h.flip.mem_right

theorem Rel2.forall_right {α β} {R : α → β → Prop} {P : β → Prop} {l1 : List α} {l2 : List β} (h : Rel2 R l1 l2)
    (hp : ∀ a b, R a b → P b) : ∀ b ∈ l2, P b := by
  intro b hb
  obtain ⟨a, _, hr⟩ := h.mem_right b hb
  exact hp a b hr

theorem Rel2.pairwise {α β} {R : α → β → Prop} {P : α → α → Prop} {Q : β → β → Prop} {l1 : List α} {l2 : List β}
    (h : Rel2 R l1 l2) (hp : l1.Pairwise P)
    (hq : ∀ a ∈ l1, ∀ b ∈ l1, ∀ a' b', R a a' → R b b' → P a b → Q a' b') : l2.Pairwise Q := by
  induction h with
  | nil => exact .nil
  | @cons a a' l1 l2 hr hrest ih =>
    obtain ⟨ha, has⟩ := List.pairwise_cons.mp hp
    refine List.pairwise_cons.mpr ⟨?_, ih has (fun x hx y hy => hq x (by simp [hx]) y (by simp [hy]))⟩
    intro b' hb'
    obtain ⟨b, hb, hbb⟩ := hrest.mem_right b' hb'
    exact hq a (by simp) b (by simp [hb]) a' b' hr hbb (ha b hb)

/-! ## kind and mid of each section -/

def keysOfSecs (ms : List MSec) : List (Kind × String) := ms.map (fun m => (m.kind, m.mid))

theorem keysOf_eq (d : Desc) : keysOf d = keysOfSecs d.media := rfl

theorem keysOfSecs_append (a b : List MSec) : keysOfSecs (a ++ b) = keysOfSecs a ++ keysOfSecs b := List.map_append

theorem keysOfSecs_mids (ms : List MSec) : (keysOfSecs ms).map (·.2) = ms.map (·.mid) := by
  simp [keysOfSecs, List.map_map, Function.comp_def]

theorem mids_of_keys {l r : List MSec} (h : keysOfSecs l = keysOfSecs r) : l.map (·.mid) = r.map (·.mid) := by
  rw [← keysOfSecs_mids, h, keysOfSecs_mids]

theorem keys_getElem {d : List MSec} {j : Nat} {m : MSec} (h : d[j]? = some m) :
    (keysOfSecs d)[j]? = some (m.kind, m.mid) := by simp [keysOfSecs, h]

theorem keys_getElem_inv {d : List MSec} {j : Nat} {k : Kind} {x : String} (h : (keysOfSecs d)[j]? = some (k, x)) :
    ∃ m, d[j]? = some m ∧ m.kind = k ∧ m.mid = x := by
  simp only [keysOfSecs, List.getElem?_map, Option.map_eq_some_iff, Prod.mk.injEq] at h
  exact h

theorem keys_getElem_of_eq {d e : Desc} (h : keysOf e = keysOf d) {j : Nat} {s : MSec} (hj : e.media[j]? = some s) :
    ∃ m, d.media[j]? = some m ∧ s.kind = m.kind ∧ s.mid = m.mid := by
  have h1 := keys_getElem hj
  rw [← keysOf_eq e, h] at h1
  obtain ⟨m, hm, e1, e2⟩ := keys_getElem_inv h1
  exact ⟨m, hm, e1.symm, e2.symm⟩

/-! ## the loops over media sections, one section at a time -/

theorem applyRemote_cons (typ : DType) (pc : Pc) (m : MSec) (ms : List MSec) (i : Nat) :
    applyRemote typ pc (m :: ms) i = (applyRemoteSec typ pc i m).bind fun pc' => applyRemote typ pc' ms (i + 1) := by
  rw [applyRemote]; cases applyRemoteSec typ pc i m <;> rfl

/-- "assign MID" for one section -/
def assignStep (pc : Pc) (m : MSec) (i : Nat) : Outcome Pc :=
  if m.kind.isMedia then
    match updFirst (fun t => t.mline == some i) (fun t => { t with mid := some m.mid }) pc.transceivers with
    | none => .crash "AttributeError"
    | some ts => .ok { pc with seenMids := setAdd pc.seenMids m.mid, transceivers := ts }
  else
    match pc.sctp with
    | none => .crash "AttributeError"
    | some s => .ok { pc with seenMids := setAdd pc.seenMids m.mid, sctp := some { s with mid := some m.mid } }

theorem assignMids_cons (pc : Pc) (m : MSec) (ms : List MSec) (i : Nat) :
    assignMids pc (m :: ms) i = (assignStep pc m i).bind fun pc1 => assignMids pc1 ms (i + 1) := by
  rw [assignMids, assignStep]
  split
  · dsimp only; cases updFirst _ _ pc.transceivers <;> rfl
  · dsimp only; cases pc.sctp <;> rfl

theorem assignStep_eq_ok {pc pc1 : Pc} {m : MSec} {i : Nat} : assignStep pc m i = .ok pc1 ↔
    (m.kind.isMedia = true ∧ ∃ ts, updFirst (fun t => t.mline == some i) (fun t => { t with mid := some m.mid }) pc.transceivers = some ts ∧
      pc1 = { pc with seenMids := setAdd pc.seenMids m.mid, transceivers := ts }) ∨
    (m.kind.isMedia = false ∧ ∃ s, pc.sctp = some s ∧
      pc1 = { pc with seenMids := setAdd pc.seenMids m.mid, sctp := some { s with mid := some m.mid } }) := by
  unfold assignStep
  cases m.kind.isMedia
  · cases pc.sctp <;> simp [eq_comm]
  · cases updFirst _ _ pc.transceivers <;> simp [eq_comm]

theorem assignMids_rel {R : Pc → Pc → Prop} (hrefl : ∀ pc, R pc pc) (htrans : ∀ {a b c}, R a b → R b c → R a c)
    (hstep : ∀ {pc pc1 m i}, assignStep pc m i = .ok pc1 → R pc pc1) :
    ∀ (ms : List MSec) {pc pc' : Pc} {i : Nat}, assignMids pc ms i = .ok pc' → R pc pc' := by
  intro ms
  induction ms with
  | nil => intro pc pc' i h; cases h; exact hrefl pc
  | cons m ms ih =>
    intro pc pc' i h
    obtain ⟨pc1, h1, h2⟩ := bind_eq_ok.mp (assignMids_cons pc m ms i ▸ h)
    exact htrans (hstep h1) (ih h2)

/-- the transport whose parameters section `i` of a local description carries: that of the transceiver with m-line
index `i`, or of the SCTP transport -/
def sectionTransport (pc : Pc) (m : MSec) (i : Nat) : Outcome Nat :=
  if m.kind.isMedia then
    match pc.byMline i with
    | none => .crash "AttributeError"
    | some t => .ok t.transport
  else
    match pc.sctp with
    | none => .crash "AttributeError"
    | some s => .ok s.transport

theorem localRoles_cons (pc : Pc) (m : MSec) (ms : List MSec) (i : Nat) :
    localRoles pc (m :: ms) i = (sectionTransport pc m i).bind fun id =>
      localRoles (pc.modTransport id (fun x => { x with role := m.setup })) ms (i + 1) := by
  rw [localRoles, sectionTransport]
  split
  · cases pc.byMline i <;> rfl
  · cases pc.sctp <;> rfl

theorem refreshTransports_cons (pc : Pc) (m : MSec) (ms : List MSec) (i : Nat) :
    refreshTransports pc (m :: ms) i = (sectionTransport pc m i).bind fun id =>
      (refreshTransports pc ms (i + 1)).bind fun r => .ok ({ m with transport := id } :: r) := by
  rw [refreshTransports, sectionTransport]
  split
  · cases pc.byMline i <;> try rfl
    dsimp only [ok_bind]; cases refreshTransports pc ms (i + 1) <;> rfl
  · cases pc.sctp <;> try rfl
    dsimp only [ok_bind]; cases refreshTransports pc ms (i + 1) <;> rfl

/-! ## frame facts: signalling state and description slots -/

/-- the part of the state that only `setLocal` / `setRemote` themselves write -/
def Pc.slots (pc : Pc) : Sig × Option Desc × Option Desc × Option Desc × Option Desc :=
  (pc.sig, pc.pendingLocal, pc.currentLocal, pc.pendingRemote, pc.currentRemote)

def Pc.sctpMid (pc : Pc) : Option String := pc.sctp.bind (·.mid)

theorem assignMids_frame {ms : List MSec} {pc pc' : Pc} {i : Nat} (h : assignMids pc ms i = .ok pc') :
    pc' = { pc with transceivers := pc'.transceivers, sctp := pc'.sctp, seenMids := pc'.seenMids } := by
  refine assignMids_rel (R := fun a b => b = { a with transceivers := b.transceivers, sctp := b.sctp, seenMids := b.seenMids })
    (fun _ => rfl) (fun h1 h2 => by rw [h2, h1]) ?_ ms h
  intro pc pc1 m i h
  rcases assignStep_eq_ok.mp h with ⟨_, ts, _, rfl⟩ | ⟨_, s, _, rfl⟩ <;> rfl

theorem assignMids_slots {ms : List MSec} {pc pc' : Pc} {i : Nat} (h : assignMids pc ms i = .ok pc') : pc'.slots = pc.slots := by
  rw [assignMids_frame h]; rfl

theorem localRoles_rel {R : Pc → Pc → Prop} (hrefl : ∀ pc, R pc pc) (htrans : ∀ {a b c}, R a b → R b c → R a c) :
    ∀ {ms : List MSec}, (∀ m ∈ ms, ∀ pc id, R pc (pc.modTransport id (fun x => { x with role := m.setup }))) →
      ∀ {pc pc' : Pc} {i : Nat}, localRoles pc ms i = .ok pc' → R pc pc' := by
  intro ms
  induction ms with
  | nil => intro _ pc pc' i h; cases h; exact hrefl pc
  | cons m ms ih =>
    intro hstep pc pc' i h
    obtain ⟨id, _, h2⟩ := bind_eq_ok.mp (localRoles_cons pc m ms i ▸ h)
    exact htrans (hstep m (by simp) pc id) (ih (fun m' hm' => hstep m' (by simp [hm'])) h2)

theorem localRoles_frame {ms : List MSec} {pc pc' : Pc} {i : Nat} (h : localRoles pc ms i = .ok pc') :
    pc' = { pc with transports := pc'.transports } :=
  localRoles_rel (R := fun a b => b = { a with transports := b.transports }) (fun _ => rfl) (fun h1 h2 => by rw [h2, h1])
    (fun _ _ _ _ => rfl) h

def Refreshed : List MSec → List MSec → Prop := Rel2 (fun m m' => m' = { m with transport := m'.transport })

theorem refreshTransports_refreshed : ∀ {ms : List MSec} {pc : Pc} {i : Nat} {r : List MSec},
    refreshTransports pc ms i = .ok r → Refreshed ms r := by
  intro ms
  induction ms with
  | nil => intro pc i r h; cases h; exact .nil
  | cons m ms ih =>
    intro pc i r h
    obtain ⟨id, _, h⟩ := bind_eq_ok.mp (refreshTransports_cons pc m ms i ▸ h)
    obtain ⟨r', hr', h⟩ := bind_eq_ok.mp h
    cases h
    exact .cons rfl (ih hr')

theorem Refreshed.keys {ms r : List MSec} (h : Refreshed ms r) : keysOfSecs r = keysOfSecs ms := by
  induction h with
  | nil => rfl
  | cons h1 _ ih => rw [keysOfSecs, List.map_cons, ← keysOfSecs, ih, h1]; rfl

theorem Refreshed.mids {ms r : List MSec} (h : Refreshed ms r) : r.map (·.mid) = ms.map (·.mid) := mids_of_keys h.keys

theorem Refreshed.setup {ms r : List MSec} (h : Refreshed ms r) : ∀ m' ∈ r, ∃ m ∈ ms, m'.setup = m.setup := by
  intro m' hm'
  obtain ⟨m, hm, he⟩ := Rel2.mem_right h m' hm'
  exact ⟨m, hm, by rw [he]⟩

/-! ## __validate_description -/

theorem validate_answer_iff {pc : Pc} {d : Desc} {isLocal : Bool} (ht : d.type = .answer) :
    pc.validate d isLocal = .ok () ↔ stateAllows pc.sig isLocal .answer = true ∧ (∀ m ∈ d.media, m.setup ≠ .auto) ∧
      ∃ offer, (if isLocal then pc.remoteDesc else pc.localDesc) = some offer ∧ keysOf d = keysOf offer := by
  have hany : d.media.any (fun m => m.setup == .auto) = false ↔ ∀ m ∈ d.media, m.setup ≠ .auto := by
    simp [List.any_eq_false]
  unfold Pc.validate
  rw [ht]
  cases stateAllows pc.sig isLocal .answer
  · simp
  · cases ha : d.media.any (fun m => m.setup == .auto)
    · have := hany.mp ha
      cases (if isLocal then pc.remoteDesc else pc.localDesc) with
      | none => simp
      | some offer => simpa using fun _ => this
    · have : ¬ ∀ m ∈ d.media, m.setup ≠ .auto := fun h => by rw [hany.mpr h] at ha; cases ha
      simp [this]

theorem validate_offer_iff {pc : Pc} {d : Desc} {isLocal : Bool} (ht : d.type = .offer) :
    pc.validate d isLocal = .ok () ↔ stateAllows pc.sig isLocal .offer = true := by
  unfold Pc.validate
  rw [ht]
  cases stateAllows pc.sig isLocal .offer <;> simp

theorem validate_not_closed {pc : Pc} {d : Desc} {isLocal : Bool} (h : pc.validate d isLocal = .ok ()) : pc.sig ≠ .closed := by
  intro hc
  unfold Pc.validate at h
  have : stateAllows pc.sig isLocal d.type = false := by rw [hc]; cases isLocal <;> cases d.type <;> rfl
  simp [this] at h

/-! ## setLocalDescription -/

/-- `__gather` on the offering side: every live ICE transport without a role becomes controlling -/
def Pc.iceControlling (pc : Pc) : Pc :=
  { pc with transports := pc.transports.map (fun t => if t.live && t.ice.isNone then { t with ice := some true } else t) }

theorem setLocal_offer_iff {pc pc' : Pc} {d : Desc} (ht : d.type = .offer) :
    pc.setLocal d = .ok pc' ↔ pc.validate d true = .ok () ∧
      ∃ pc2 media, assignMids { pc with sig := .haveLocalOffer } d.media 0 = .ok pc2 ∧
        refreshTransports pc2.iceControlling d.media 0 = .ok media ∧
        pc' = { pc2.iceControlling with pendingLocal := some { d with media } } := by
  unfold Pc.setLocal
  by_cases hc : pc.sig = .closed
  · have : pc.validate d true ≠ .ok () := fun h => validate_not_closed h hc
    simp [hc, this]
  · have hb : (pc.sig == Sig.closed) = false := by simpa using hc
    have b1 : (DType.offer == DType.offer) = true := rfl
    have b2 : (DType.offer == DType.answer) = false := rfl
    simp only [hb, ht, b1, b2, Bool.false_eq_true, if_false, if_true]
    cases pc.validate d true <;> simp only [reduceCtorEq, false_and, true_and]
    cases assignMids { pc with sig := .haveLocalOffer } d.media 0 with
    | ok pc2 =>
      simp only [Outcome.ok.injEq, exists_and_left, exists_eq_left']
      unfold Pc.iceControlling
      cases refreshTransports _ d.media 0 with
      | ok media => simp only [Outcome.ok.injEq, exists_eq_left']; exact eq_comm
      | _ => simp
    | _ => simp

theorem setLocal_answer_iff {pc pc' : Pc} {d : Desc} (ht : d.type = .answer) :
    pc.setLocal d = .ok pc' ↔ pc.validate d true = .ok () ∧
      ∃ pc2 pc4 media, assignMids { pc with sig := .stable } d.media 0 = .ok pc2 ∧ localRoles pc2 d.media 0 = .ok pc4 ∧
        refreshTransports { pc4 with transceivers := localDirections pc4.transceivers } d.media 0 = .ok media ∧
        pc' = { pc4 with transceivers := localDirections pc4.transceivers, currentLocal := some { d with media },
                         pendingLocal := none } := by
  unfold Pc.setLocal
  by_cases hc : pc.sig = .closed
  · have : pc.validate d true ≠ .ok () := fun h => validate_not_closed h hc
    simp [hc, this]
  · have hb : (pc.sig == Sig.closed) = false := by simpa using hc
    have b1 : (DType.answer == DType.offer) = false := rfl
    have b2 : (DType.answer == DType.answer) = true := rfl
    simp only [hb, ht, b1, b2, Bool.false_eq_true, if_false, if_true]
    cases pc.validate d true <;> simp only [reduceCtorEq, false_and, true_and]
    cases assignMids { pc with sig := .stable } d.media 0 with
    | ok pc2 =>
      simp only [Outcome.ok.injEq, exists_and_left, exists_eq_left']
      cases localRoles pc2 d.media 0 with
      | ok pc4 =>
        simp only [Outcome.ok.injEq, exists_eq_left']
        cases refreshTransports _ d.media 0 with
        | ok media => simp only [Outcome.ok.injEq, exists_eq_left']; exact eq_comm
        | _ => simp
      | _ => simp
    | _ => simp

/-- what a successful `setLocalDescription(d)` leaves, with the intermediate states of `setLocal_offer_iff` /
`setLocal_answer_iff` forgotten: `d`, with the transports of its sections refreshed (`media`), is the local description;
the remote description is untouched -/
structure LocalSet (pc pc' : Pc) (d : Desc) (media : List MSec) : Prop where
  valid : pc.validate d true = .ok ()
  refreshed : Refreshed d.media media
  localDesc : pc'.localDesc = some { d with media }
  remoteDesc : pc'.remoteDesc = pc.remoteDesc

theorem setLocal_offer_spec {pc pc' : Pc} {d : Desc} (ht : d.type = .offer) (h : pc.setLocal d = .ok pc') :
    ∃ media, LocalSet pc pc' d media ∧ pc'.sig = .haveLocalOffer := by
  obtain ⟨hv, pc2, media, h2, hm, rfl⟩ := (setLocal_offer_iff ht).mp h
  have s2 := assignMids_slots h2
  simp only [Pc.slots, Prod.mk.injEq] at s2
  exact ⟨media, ⟨hv, refreshTransports_refreshed hm, rfl, by simp [Pc.remoteDesc, Pc.iceControlling, s2.2.2.2.1, s2.2.2.2.2]⟩, s2.1⟩

theorem setLocal_answer_spec {pc pc' : Pc} {d : Desc} (ht : d.type = .answer) (h : pc.setLocal d = .ok pc') :
    ∃ media, LocalSet pc pc' d media ∧ pc'.sig = .stable := by
  obtain ⟨hv, pc2, pc4, media, h2, h4, hm, rfl⟩ := (setLocal_answer_iff ht).mp h
  have s2 := assignMids_slots h2
  rw [localRoles_frame h4]
  simp only [Pc.slots, Prod.mk.injEq] at s2
  exact ⟨media, ⟨hv, refreshTransports_refreshed hm, rfl, by simp [Pc.remoteDesc, s2.2.2.2.1, s2.2.2.2.2]⟩, s2.1⟩

/-! ## setRemoteDescription -/

theorem applyBundleWith_ok {step : Pc → Nat → List String → Pc} {pc pc2 : Pc} {b : List String}
    (h : pc.applyBundleWith step b = .ok pc2) :
    pc2 = pc ∨ ∃ m sl p, b = m :: sl ∧ pc.primaryTransport m = some p ∧ pc2 = step pc p sl := by
  unfold Pc.applyBundleWith at h
  split at h
  · cases h; exact .inl rfl
  · split at h
    · rename_i p hp
      cases h; exact .inr ⟨_, _, p, rfl, hp, rfl⟩
    · split at h
      · cases h
      · cases h; exact .inl rfl

theorem setRemoteWith_eq (step : Pc → Nat → List String → Pc) (pc : Pc) (d : Desc) :
    pc.setRemoteWith step d = (pc.validate d false).bind fun _ => (applyRemote d.type pc d.media 0).bind fun pc1 =>
      (pc1.applyBundleWith step d.bundle).bind fun pc2 =>
        .ok (if d.type == .answer then { pc2 with sig := .stable, currentRemote := some d, pendingRemote := none }
             else { pc2 with sig := .haveRemoteOffer, pendingRemote := some d }) := by
  unfold Pc.setRemoteWith
  cases pc.validate d false <;> try rfl
  dsimp only [ok_bind]
  cases applyRemote d.type pc d.media 0 <;> try rfl
  dsimp only [ok_bind]
  cases Pc.applyBundleWith step _ d.bundle <;> try rfl
  dsimp only [ok_bind]
  split <;> rfl

theorem setRemoteWith_iff {step : Pc → Nat → List String → Pc} {pc pc' : Pc} {d : Desc} :
    pc.setRemoteWith step d = .ok pc' ↔ pc.validate d false = .ok () ∧
      ∃ pc1, applyRemote d.type pc d.media 0 = .ok pc1 ∧ ∃ pc2, pc1.applyBundleWith step d.bundle = .ok pc2 ∧
        (if d.type == .answer then { pc2 with sig := .stable, currentRemote := some d, pendingRemote := none }
         else { pc2 with sig := .haveRemoteOffer, pendingRemote := some d }) = pc' := by
  simp only [setRemoteWith_eq, bind_eq_ok, Outcome.ok.injEq]
  exact ⟨fun ⟨_, h⟩ => h, fun h => ⟨(), h⟩⟩

/-- `setRemoteWith_iff` read from left to right, with the `if` on the description type as two implications -/
theorem setRemoteWith_spec {step : Pc → Nat → List String → Pc} {pc pc' : Pc} {d : Desc} (h : pc.setRemoteWith step d = .ok pc') :
    ∃ pc1 pc2, applyRemote d.type pc d.media 0 = .ok pc1 ∧ pc1.applyBundleWith step d.bundle = .ok pc2 ∧
      (d.type = .offer → pc' = { pc2 with sig := .haveRemoteOffer, pendingRemote := some d }) ∧
      (d.type = .answer → pc' = { pc2 with sig := .stable, currentRemote := some d, pendingRemote := none }) := by
  obtain ⟨_, pc1, h1, pc2, h2, rfl⟩ := setRemoteWith_iff.mp h
  exact ⟨pc1, pc2, h1, h2, fun ht => by simp [ht], fun ht => by simp [ht]⟩

theorem bundleOld_ne (pc : Pc) (p : Nat) (slaves : List String) : ∀ y ∈ bundleOld pc p slaves, y ≠ p := by
  intro y hy
  simp only [bundleOld, List.mem_append, List.mem_map, List.mem_filter] at hy
  rcases hy with ⟨t, ⟨_, ht⟩, rfl⟩ | hy
  · simp at ht; exact ht.2
  · split at hy
    · split at hy
      · rename_i hm
        simp at hy hm
        rw [hy]; exact hm.2
      · cases hy
    · cases hy

/-! ## createOffer / createAnswer -/

/-- the "offer codecs" loop of `createOffer` in closed form -/
def offerFn (t : Transceiver) : Transceiver := { t with codecs := offered t.kind t.preferred, exts := extsOf t.kind }

theorem offerCodecs_eq (ts : List Transceiver) : offerCodecs ts = .ok (ts.map offerFn) := by
  induction ts with
  | nil => rfl
  | cons t ts ih =>
    simp only [offerCodecs, offered_eq, ih, List.map_cons]
    rfl

theorem createOffer_eq (pc : Pc) :
    pc.createOffer = if pc.sig == .closed then .crash "InvalidStateError" else
      (offerCodecs pc.transceivers).bind fun ts0 => (offerExisting { pc with transceivers := ts0 } pc.existingMedia 0).bind fun r =>
        (offerNew r.1 r.1.transceivers r.2.length r.1.seenMids).bind fun n =>
          Pc.offerFinish { r.1 with transceivers := n.1 } (r.2 ++ n.2.1) n.2.2 := by
  unfold Pc.createOffer
  split
  · rfl
  · cases offerCodecs pc.transceivers <;> try rfl
    dsimp only [ok_bind]
    cases offerExisting _ pc.existingMedia 0 <;> try rfl
    dsimp only [ok_bind]
    cases offerNew _ _ _ _ <;> rfl

theorem createOffer_iff {pc o1 : Pc} {d : Desc} :
    pc.createOffer = .ok (o1, d) ↔ pc.sig ≠ .closed ∧
      ∃ pc1 secs1, offerExisting { pc with transceivers := pc.transceivers.map offerFn } pc.existingMedia 0 = .ok (pc1, secs1) ∧
      ∃ ts2 secs2 mids2, offerNew pc1 pc1.transceivers secs1.length pc1.seenMids = .ok (ts2, secs2, mids2) ∧
        Pc.offerFinish { pc1 with transceivers := ts2 } (secs1 ++ secs2) mids2 = .ok (o1, d) := by
  rw [createOffer_eq, offerCodecs_eq]
  by_cases hc : pc.sig = .closed
  · simp [hc]
  · have hb : (pc.sig == Sig.closed) = false := by simpa using hc
    simp only [hb, Bool.false_eq_true, if_false, ok_bind, bind_eq_ok, Prod.exists, ne_eq, hc, not_false_eq_true, true_and]

theorem offerFinish_ok (pc : Pc) (media : List MSec) (mids : List String) :
    ∃ pc' d tail, pc.offerFinish media mids = .ok (pc', d) ∧ pc' = { pc with sctpMline := pc'.sctpMline } ∧
      d.type = .offer ∧ d.bundle = d.media.map (·.mid) ∧ d.media = media ++ tail ∧
      (∀ m ∈ tail, m.kind.isMedia = false ∧ m.setup = .auto ∧ m.mid ∉ mids ∧ pc.sctp.isSome = true ∧ pc.sctpMid = none) ∧
      (tail = [] ∨ ∃ x, tail = [x]) ∧ (pc.sctp.isSome = true → pc.sctpMid = none → tail ≠ []) := by
  unfold Pc.offerFinish
  split
  · rename_i s hs
    split
    · rename_i hsm
      have hsm : s.mid = none := by simpa using hsm
      obtain ⟨m, hal⟩ := allocateMid_ok mids
      rw [hal]
      refine ⟨_, _, [pc.secForSctp s m], rfl, rfl, rfl, rfl, rfl, ?_, .inr ⟨_, rfl⟩, by simp⟩
      intro x hx
      simp only [List.mem_singleton] at hx; subst hx
      exact ⟨rfl, rfl, (allocateMid_fresh hal).1, by simp [hs], by simp [Pc.sctpMid, hs, hsm]⟩
    · rename_i hsm
      exact ⟨pc, _, [], rfl, rfl, rfl, rfl, by simp, by simp, .inl rfl, fun _ hn => by simp [Pc.sctpMid, hs] at hn; simp [hn] at hsm⟩
  · rename_i hs
    exact ⟨pc, _, [], rfl, rfl, rfl, rfl, by simp, by simp, .inl rfl, by simp [hs]⟩

theorem createOffer_shape {pc pc' : Pc} {d : Desc} (h : pc.createOffer = .ok (pc', d)) :
    d.type = .offer ∧ d.bundle = d.media.map (·.mid) := by
  obtain ⟨_, _, _, _, _, _, _, _, hf⟩ := createOffer_iff.mp h
  obtain ⟨_, _, _, hf', _, h1, h2, _⟩ := offerFinish_ok _ _ _
  rw [hf] at hf'; cases hf'
  exact ⟨h1, h2⟩

theorem answerRole_definite (r : Role) : answerRole r ≠ .auto := by cases r <;> simp [answerRole]

/-- one section of `createAnswer` -/
def answerSec (pc : Pc) (m : MSec) : Outcome MSec :=
  if m.kind.isMedia then
    match pc.byMid m.mid with
    | none => .crash "AttributeError"
    | some t =>
      match t.offerDirection, t.mid with
      | some od, some mid =>
        .ok { pc.secForTransceiver t (andDir t.direction od) mid with setup := answerRole (pc.roleOf t.transport) }
      | _, _ => .valueError
  else
    match pc.sctp with
    | none => .crash "AttributeError"
    | some s =>
      match s.mid with
      | none => .crash "NoMid"
      | some mid => .ok { pc.secForSctp s mid with setup := answerRole (pc.roleOf s.transport) }

theorem answerSecs_cons (pc : Pc) (m : MSec) (ms : List MSec) :
    answerSecs pc (m :: ms) = (answerSec pc m).bind fun s => (answerSecs pc ms).bind fun r => .ok (s :: r) := by
  rw [answerSecs, answerSec]
  split
  · cases pc.byMid m.mid with
    | none => rfl
    | some t =>
      dsimp only
      cases t.offerDirection <;> cases t.mid <;> try rfl
      dsimp only [ok_bind]; cases answerSecs pc ms <;> rfl
  · cases pc.sctp with
    | none => rfl
    | some s =>
      dsimp only
      cases s.mid <;> try rfl
      dsimp only [ok_bind]; cases answerSecs pc ms <;> rfl

/-- what `createAnswer` says of a section on ANY connection (`AnswersSec` in `Answer.lean` is the form for a well-formed
connection, where the call is also shown to succeed) -/
structure AnswerOf (pc : Pc) (m s : MSec) : Prop where
  definite : s.setup ≠ .auto
  media : m.kind.isMedia = true → ∃ t od, pc.byMid m.mid = some t ∧ t.offerDirection = some od ∧ s.mid = m.mid ∧
    s.kind = t.kind ∧ s.direction = andDir t.direction od ∧ s.codecs = t.codecs ∧ s.exts = t.exts
  app : m.kind.isMedia = false → s.kind = .application

theorem answerSec_spec {pc : Pc} {m s : MSec} (h : answerSec pc m = .ok s) : AnswerOf pc m s := by
  unfold answerSec at h
  split at h
  · rename_i hk
    split at h
    · cases h
    · rename_i t ht
      split at h
      · rename_i od mid hod hmid
        cases h
        have hm : t.mid = some m.mid := by simpa using List.find?_some ht
        refine ⟨answerRole_definite _, fun _ => ⟨t, od, ht, hod, ?_, rfl, rfl, rfl, rfl⟩, fun hk' => by rw [hk] at hk'; cases hk'⟩
        rw [hmid] at hm; exact Option.some.inj hm
      · cases h
  · rename_i hk
    split at h
    · cases h
    · split at h
      · cases h
      · cases h
        exact ⟨answerRole_definite _, fun hk' => absurd hk' hk, fun _ => rfl⟩

theorem answerSecs_spec (pc : Pc) : ∀ (ms r : List MSec), answerSecs pc ms = .ok r →
    Rel2 (AnswerOf pc) ms r := by
  intro ms
  induction ms with
  | nil => intro r h; cases h; exact .nil
  | cons m ms ih =>
    intro r h
    obtain ⟨s, hs, h⟩ := bind_eq_ok.mp (answerSecs_cons pc m ms ▸ h)
    obtain ⟨r', hr', h⟩ := bind_eq_ok.mp h
    cases h
    exact .cons (answerSec_spec hs) (ih r' hr')

theorem createAnswer_eq (pc : Pc) :
    pc.createAnswer = if pc.sig != .haveRemoteOffer && pc.sig != .haveLocalPranswer then .crash "InvalidStateError" else
      match pc.remoteDesc with
      | none => .crash "AttributeError"
      | some rd => (answerSecs pc rd.media).bind fun media => .ok { type := .answer, media, bundle := media.map (·.mid) } := by
  unfold Pc.createAnswer
  split
  · rfl
  · cases pc.remoteDesc with
    | none => rfl
    | some rd => dsimp only; cases answerSecs pc _ <;> rfl

theorem createAnswer_iff {pc : Pc} {d : Desc} :
    pc.createAnswer = .ok d ↔ (pc.sig = .haveRemoteOffer ∨ pc.sig = .haveLocalPranswer) ∧
      ∃ rd, pc.remoteDesc = some rd ∧ ∃ media, answerSecs pc rd.media = .ok media ∧
        { type := .answer, media, bundle := media.map (·.mid) } = d := by
  rw [createAnswer_eq]
  by_cases hs : pc.sig = .haveRemoteOffer ∨ pc.sig = .haveLocalPranswer
  · have : (pc.sig != Sig.haveRemoteOffer && pc.sig != Sig.haveLocalPranswer) = false := by
      rcases hs with h | h <;> simp [h]
    simp only [this, Bool.false_eq_true, if_false, hs, true_and]
    cases pc.remoteDesc <;> simp [bind_eq_ok]
  · have : (pc.sig != Sig.haveRemoteOffer && pc.sig != Sig.haveLocalPranswer) = true := by
      simpa [not_or] using hs
    simp [this, hs]

theorem createAnswer_spec {pc : Pc} {d : Desc} (h : pc.createAnswer = .ok d) :
    d.type = .answer ∧ d.bundle = d.media.map (·.mid) ∧
    ∃ rd, pc.remoteDesc = some rd ∧
      Rel2 (AnswerOf pc) rd.media d.media := by
  obtain ⟨_, rd, hrd, media, hm, rfl⟩ := createAnswer_iff.mp h
  exact ⟨rfl, rfl, rd, hrd, answerSecs_spec pc _ _ hm⟩

/-! ## a complete exchange -/

theorem negotiateWith_eq (step : Pc → Nat → List String → Pc) (o a : Pc) :
    negotiateWith step o a = o.createOffer.bind fun r => (r.1.setLocal r.2).bind fun o2 =>
      match o2.localDesc with
      | none => .crash "AttributeError"
      | some offer => (a.setRemoteWith step offer).bind fun a1 => a1.createAnswer.bind fun answer0 =>
        (a1.setLocal answer0).bind fun a2 =>
          match a2.localDesc with
          | none => .crash "AttributeError"
          | some answer => (o2.setRemoteWith step answer).bind fun o3 =>
            .ok { offerer := o3, answerer := a2, offer, answer, offererMid := o2, answererMid := a1 } := by
  unfold negotiateWith
  cases o.createOffer <;> try rfl
  dsimp only [ok_bind]
  cases Pc.setLocal _ _ <;> try rfl
  dsimp only [ok_bind]
  cases Pc.localDesc _ <;> try rfl
  dsimp only
  cases Pc.setRemoteWith step a _ <;> try rfl
  dsimp only [ok_bind]
  cases Pc.createAnswer _ <;> try rfl
  dsimp only [ok_bind]
  cases Pc.setLocal _ _ <;> try rfl
  dsimp only [ok_bind]
  cases Pc.localDesc _ <;> try rfl
  dsimp only
  cases Pc.setRemoteWith step _ _ <;> rfl

theorem negotiateWith_iff {step : Pc → Nat → List String → Pc} {o a : Pc} {ex : Exchange} :
    negotiateWith step o a = .ok ex ↔
    ∃ o1 offer0 answer0,
      o.createOffer = .ok (o1, offer0) ∧ o1.setLocal offer0 = .ok ex.offererMid ∧ ex.offererMid.localDesc = some ex.offer ∧
      a.setRemoteWith step ex.offer = .ok ex.answererMid ∧ ex.answererMid.createAnswer = .ok answer0 ∧
      ex.answererMid.setLocal answer0 = .ok ex.answerer ∧ ex.answerer.localDesc = some ex.answer ∧
      ex.offererMid.setRemoteWith step ex.answer = .ok ex.offerer := by
  rw [negotiateWith_eq]
  constructor
  · intro h
    obtain ⟨⟨o1, offer0⟩, h1, h⟩ := bind_eq_ok.mp h
    obtain ⟨o2, h2, h⟩ := bind_eq_ok.mp h
    cases h3 : o2.localDesc with
    | none => rw [h3] at h; cases h
    | some offer =>
      rw [h3] at h
      obtain ⟨a1, h4, h⟩ := bind_eq_ok.mp h
      obtain ⟨answer0, h5, h⟩ := bind_eq_ok.mp h
      obtain ⟨a2, h6, h⟩ := bind_eq_ok.mp h
      cases h7 : a2.localDesc with
      | none => rw [h7] at h; cases h
      | some answer =>
        rw [h7] at h
        obtain ⟨o3, h8, h⟩ := bind_eq_ok.mp h
        cases h
        exact ⟨o1, offer0, answer0, h1, h2, h3, h4, h5, h6, h7, h8⟩
  · rintro ⟨o1, offer0, answer0, h1, h2, h3, h4, h5, h6, h7, h8⟩
    simp only [h1, ok_bind, h2, h3, h4, h5, h6, h7, h8]

/-- What `negotiateWith` threads through its six calls.  `offer0`, `answer0` are the descriptions as `createOffer` /
`createAnswer` made them (`o1` is the offerer after `createOffer`); `ex.offer`, `ex.answer` are the same with the
transports refreshed by `setLocalDescription`. -/
structure ExchangeFacts (step : Pc → Nat → List String → Pc) (o a : Pc) (ex : Exchange) (o1 : Pc) (offer0 answer0 : Desc) :
    Prop where
  offered : o.createOffer = .ok (o1, offer0)
  offerApplied : o1.setLocal offer0 = .ok ex.offererMid
  offerType : ex.offer.type = .offer
  offerBundle : ex.offer.bundle = ex.offer.media.map (·.mid)
  offerRefreshed : Refreshed offer0.media ex.offer.media
  remote : a.setRemoteWith step ex.offer = .ok ex.answererMid
  remoteDesc : ex.answererMid.remoteDesc = some ex.offer
  created : ex.answererMid.createAnswer = .ok answer0
  answerType : answer0.type = .answer
  answerBundle : answer0.bundle = answer0.media.map (·.mid)
  applied : ex.answererMid.setLocal answer0 = .ok ex.answerer
  answerRefreshed : Refreshed answer0.media ex.answer.media
  answerEq : ex.answer = { answer0 with media := ex.answer.media }
  keys : keysOf answer0 = keysOf ex.offer
  finished : ex.offererMid.setRemoteWith step ex.answer = .ok ex.offerer

theorem exchange_facts {step : Pc → Nat → List String → Pc} {o a : Pc} {ex : Exchange} (h : negotiateWith step o a = .ok ex) :
    ∃ o1 offer0 answer0, ExchangeFacts step o a ex o1 offer0 answer0 := by
  obtain ⟨o1, offer0, answer0, h1, h2, h3, h4, h5, h6, h7, h8⟩ := negotiateWith_iff.mp h
  obtain ⟨hot, hob⟩ := createOffer_shape h1
  obtain ⟨omedia, LO, _⟩ := setLocal_offer_spec hot h2
  have hof := LO.refreshed
  have hoffer : ex.offer = { offer0 with media := omedia } := Option.some.inj (h3.symm.trans LO.localDesc)
  have hoty : ex.offer.type = .offer := by rw [hoffer]; exact hot
  have hrd : ex.answererMid.remoteDesc = some ex.offer := by
    obtain ⟨_, pc1, _, pc2, _, he⟩ := setRemoteWith_iff.mp h4
    rw [← he]; simp [hoty, Pc.remoteDesc]
  obtain ⟨hat, hab, _⟩ := createAnswer_spec h5
  obtain ⟨amedia, LA, _⟩ := setLocal_answer_spec hat h6
  have haf := LA.refreshed
  have hv := LA.valid
  have hans : ex.answer = { answer0 with media := amedia } := Option.some.inj (h7.symm.trans LA.localDesc)
  refine ⟨o1, offer0, answer0, h1, h2, hoty, ?_, by rw [hoffer]; exact hof, h4, hrd, h5, hat, hab, h6,
    by rw [hans]; exact haf, by rw [hans], ?_, h8⟩
  · rw [hoffer]; simp only; rw [hob, hof.mids]
  · obtain ⟨_, _, offer, ho, hk⟩ := (validate_answer_iff hat).mp hv
    simp only [if_true, hrd] at ho
    cases ho; exact hk

end Aiortc.Model.Negotiate
