import Aiortc.Lemmas.C03.Compat
import Aiortc.Lemmas.C03.RoleInv
/-!
C03 — the set-up operations between exchanges: the two setters as total functions (a call that raises changes nothing),
and what each of them does when it does something.
-/
namespace Aiortc.Model.Negotiate
open Aiortc (Outcome)
open Aiortc.Model.Jsep (Sig)

/-- `setCodecPreferences`, treated as a no-op when the call raises (`IndexError`, `ValueError`: nothing was changed) -/
def Pc.trySetCodecPreferences (pc : Pc) (idx : Nat) (caps : List Cap) : Pc :=
  match pc.setCodecPreferences idx caps with
  | .ok pc' => pc'
  | _ => pc

/-- the direction setter, treated as a no-op when the index does not exist -/
def Pc.trySetDirection (pc : Pc) (idx : Nat) (d : Dir) : Pc :=
  match pc.setDirection idx d with
  | .ok pc' => pc'
  | _ => pc

theorem trySetCodecPreferences_eq (pc : Pc) (i : Nat) (caps : List Cap) : pc.trySetCodecPreferences i caps = pc ∨
    ∃ t, pc.transceivers[i]? = some t ∧ (caps.all fun c => (capsOf t.kind).contains c) = true ∧
      pc.trySetCodecPreferences i caps = { pc with transceivers := pc.transceivers.set i { t with preferred := dedupKeepLast caps } } := by
  unfold Pc.trySetCodecPreferences Pc.setCodecPreferences
  cases ht : pc.transceivers[i]? with
  | none => exact .inl rfl
  | some t =>
    by_cases hall : (caps.all fun c => (capsOf t.kind).contains c) = true
    · exact .inr ⟨t, rfl, hall, by simp only [hall, if_true]⟩
    · exact .inl (by simp only [hall]; rfl)

theorem trySetDirection_eq (pc : Pc) (i : Nat) (d : Dir) : pc.trySetDirection i d = pc ∨
    ∃ t, pc.transceivers[i]? = some t ∧
      pc.trySetDirection i d = { pc with transceivers := pc.transceivers.set i { t with direction := d } } := by
  unfold Pc.trySetDirection Pc.setDirection
  cases ht : pc.transceivers[i]? with
  | none => exact .inl rfl
  | some t => exact .inr ⟨t, rfl, rfl⟩

end Aiortc.Model.Negotiate
