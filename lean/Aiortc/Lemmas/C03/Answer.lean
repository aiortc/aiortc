import Aiortc.Lemmas.C03.Remote
/-!
C03 — the answerer: `createAnswer` and `setLocalDescription(answer)` after a successful
`setRemoteDescription(offer)` never fail; the answer, section by section; the answerer is well-formed again.
-/
namespace Aiortc.Model.Negotiate
open Aiortc (Outcome)
open Aiortc.Model.Jsep (Sig)

/-- one section `s` of the answer of a well-formed connection relative to the section `m` of the offer it answers
(`AnswerOf` in `Calls.lean` is what can be said on any connection) -/
structure AnswersSec (pc : Pc) (m s : MSec) : Prop where
  kind : s.kind = m.kind
  mid : s.mid = m.mid
  definite : s.setup ≠ .auto
  media : m.kind.isMedia = true → ∃ t ∈ pc.transceivers, Negotiated .offer m t ∧
    s.direction = andDir t.direction (revDir m.direction) ∧ s.codecs = t.codecs ∧ s.exts = t.exts ∧
    s.setup = answerRole (pc.roleOf t.transport)
  app : m.kind.isMedia = false → ∃ s0, pc.sctp = some s0 ∧ s.setup = answerRole (pc.roleOf s0.transport)

theorem answerSec_ok {pc : Pc} (hu : UniqueMid pc.transceivers) {m : MSec}
    (hown : m.kind.isMedia = true → ∃ t ∈ pc.transceivers, Negotiated .offer m t)
    (happ : m.kind.isMedia = false → pc.sctpMid = some m.mid) : ∃ s, answerSec pc m = .ok s ∧ AnswersSec pc m s := by
  unfold answerSec
  cases hk : m.kind.isMedia
  · have := happ hk
    simp only [Pc.sctpMid] at this
    cases hs : pc.sctp with
    | none => simp [hs] at this
    | some s =>
      simp only [hs, Option.bind_some] at this
      simp only [Bool.false_eq_true, if_false, this]
      exact ⟨_, rfl, by simp [Pc.secForSctp, kind_not_media hk], rfl, answerRole_definite _,
        fun hf => (by rw [hk] at hf; cases hf), fun _ => ⟨s, hs, rfl⟩⟩
  · obtain ⟨t, ht, hN⟩ := hown hk
    simp only [if_true, Pc.byMid, hu.byMid ht hN.mid, hN.off rfl, hN.mid]
    exact ⟨_, rfl, by simp [Pc.secForTransceiver, hN.kind], rfl, answerRole_definite _,
      fun _ => ⟨t, ht, hN, rfl, rfl, rfl, rfl⟩, fun hf => (by rw [hk] at hf; cases hf)⟩

theorem answerSecs_ok (pc : Pc) (hu : UniqueMid pc.transceivers) : ∀ (ms : List MSec),
    (∀ m ∈ ms, m.kind.isMedia = true → ∃ t ∈ pc.transceivers, Negotiated .offer m t) →
    (∀ m ∈ ms, m.kind.isMedia = false → pc.sctpMid = some m.mid) →
    ∃ r, answerSecs pc ms = .ok r ∧ Rel2 (AnswersSec pc) ms r := by
  intro ms
  induction ms with
  | nil => intro _ _; exact ⟨[], rfl, .nil⟩
  | cons m ms ih =>
    intro hown happ
    obtain ⟨s, hs, hA⟩ := answerSec_ok hu (hown m (by simp)) (happ m (by simp))
    obtain ⟨r, hr, hrel⟩ := ih (fun m2 hm2 hk => hown m2 (by simp [hm2]) hk) (fun m2 hm2 hk => happ m2 (by simp [hm2]) hk)
    exact ⟨s :: r, by rw [answerSecs_cons, hs, ok_bind, hr]; rfl, .cons hA hrel⟩

theorem answersSec_keys {pc : Pc} {ms r : List MSec} (h : Rel2 (AnswersSec pc) ms r) : keysOfSecs r = keysOfSecs ms := by
  induction h with
  | nil => rfl
  | cons hh _ ih =>
    simp only [keysOfSecs, List.map_cons] at ih ⊢
    rw [ih, hh.kind, hh.mid]

theorem createAnswer_ok {pc : Pc} {d : Desc} (hs : pc.sig = .haveRemoteOffer) (hr : pc.remoteDesc = some d)
    (hu : UniqueMid pc.transceivers)
    (hown : ∀ m ∈ d.media, m.kind.isMedia = true → ∃ t ∈ pc.transceivers, Negotiated .offer m t)
    (happ : ∀ m ∈ d.media, m.kind.isMedia = false → pc.sctpMid = some m.mid) :
    ∃ ans, pc.createAnswer = .ok ans ∧ ans.type = .answer ∧ ans.bundle = ans.media.map (·.mid) ∧
      Rel2 (AnswersSec pc) d.media ans.media := by
  obtain ⟨r, h1, hrel⟩ := answerSecs_ok pc hu d.media hown happ
  exact ⟨_, createAnswer_iff.mpr ⟨.inl hs, d, hr, r, h1, rfl⟩, rfl, rfl, hrel⟩

theorem localDirections_shape (ts : List Transceiver) : (localDirections ts).map shape = ts.map shape := by
  unfold localDirections
  rw [List.map_map]
  refine List.map_congr_left ?_
  intro t _
  simp only [Function.comp]
  split <;> rfl

theorem setLocal_answer_total {pc : Pc} {d : Desc} (ht : d.type = .answer)
    (hv : pc.validate d true = .ok ()) (hsv : Served pc d.media 0) : ∃ pc', pc.setLocal d = .ok pc' := by
  have hsv1 : Served { pc with sig := .stable } d.media 0 := hsv.of_eq
  obtain ⟨pc2, h2⟩ := assignMids_ok hsv1
  have hsv2 : Served pc2 d.media 0 := hsv1.mono (assignMids_keepsLines h2)
  obtain ⟨pc4, h4⟩ := localRoles_ok hsv2
  have e4 := localRoles_frame h4
  have hsv4 : Served { pc4 with transceivers := localDirections pc4.transceivers } d.media 0 := by
    refine hsv2.mono ⟨fun t ht' => ?_, fun h => by rw [e4]; exact h⟩
    have hm : shape t ∈ (localDirections pc4.transceivers).map shape := by
      rw [localDirections_shape, e4]; exact List.mem_map_of_mem ht'
    obtain ⟨t', ht'', he⟩ := List.mem_map.mp hm
    simp only [shape, Prod.mk.injEq] at he
    exact ⟨t', ht'', he.2.2⟩
  obtain ⟨r, hr⟩ := refreshTransports_ok hsv4
  exact ⟨_, (setLocal_answer_iff ht).mpr ⟨hv, pc2, pc4, r, h2, h4, hr, rfl⟩⟩

/-! ## the answerer as a whole -/

/-- one media section of the answer and the answerer's transceiver behind it -/
structure AnsweredSec (a a2 : Pc) (so sa : MSec) : Prop where
  key : sa.kind = so.kind ∧ sa.mid = so.mid
  tr : ∃ ta ∈ a2.transceivers, ta.mid = some so.mid ∧ ta.kind = so.kind ∧ InPrefs a.transceivers so.kind ta.preferred ∧
    filterPreferred (findCommon (codecsOf so.kind) so.codecs) ta.preferred = .ok sa.codecs ∧ sa.codecs ≠ [] ∧
    sa.exts = findCommonExt (extsOf so.kind) so.exts ∧ sa.direction = andDir ta.direction (revDir so.direction) ∧
    ta.currentDirection = some sa.direction

/-- the answerer `a2` after setRemoteDescription(offer `d`), createAnswer, setLocalDescription(answer); `ans` is the answer
as its local description holds it (transports refreshed) -/
structure AnswerApplied (a a2 : Pc) (d ans : Desc) : Prop where
  wf : WF a2
  keys : a2.keys = keysOf d
  akeys : keysOf ans = keysOf d
  type : ans.type = .answer
  bundle : ans.bundle = ans.media.map (·.mid)
  setup : ∀ s ∈ ans.media, s.setup ≠ .auto
  loc : a2.localDesc = some ans
  prefs : PrefsSub a2.transceivers a.transceivers
  seen : ∀ x, x ∈ a2.seenMids ↔ x ∈ a.seenMids ∨ x ∈ d.media.map (·.mid)
  secs : ∀ (j : Nat) (so sa : MSec), d.media[j]? = some so → ans.media[j]? = some sa → so.kind.isMedia = true → AnsweredSec a a2 so sa

/-- an offer `d` as the answerer `a` meets it -/
structure Offered (a : Pc) (d : Desc) : Prop where
  type : d.type = .offer
  bundle : d.bundle = d.media.map (·.mid)
  nodup : ((keysOf d).map (·.2)).Nodup
  ext : ∃ rest, keysOf d = a.keys ++ rest
  appSame : ∀ m1 ∈ d.media, ∀ m2 ∈ d.media, m1.kind.isMedia = false → m2.kind.isMedia = false → m1.mid = m2.mid
  accepts : ∀ m ∈ d.media, m.kind.isMedia = true → Accepts a.transceivers m

theorem answer_made {a : Pc} {d : Desc} (ha : WF a) (hd : Offered a d) :
    ∃ a1 ans0, a.setRemote d = .ok a1 ∧ RemoteApplied a a1 d ∧ a1.createAnswer = .ok ans0 ∧ ans0.type = .answer ∧
      ans0.bundle = ans0.media.map (·.mid) ∧ Rel2 (AnswersSec a1) d.media ans0.media ∧
      ∀ t ∈ a1.transceivers, ∀ j, t.mline = some j → ∃ m, ans0.media[j]? = some m ∧ t.mid = some m.mid := by
  obtain ⟨hty, hb, hnd, ⟨rest, hrest⟩, hsame, hacc⟩ := hd
  have hv : a.validate d false = .ok () := (validate_offer_iff hty).mpr (by simp [ha.stable, stateAllows])
  have hP : Pre (keysOf d) a.transceivers := by rw [hrest]; exact ha.pre.mono
  have hfit : SctpFits a d.media := by
    refine ⟨hsame, ?_⟩
    intro m hm hk y hy
    have hin : (Kind.application, y) ∈ keysOf d := by rw [hrest]; simp [ha.sctpIn y hy]
    obtain ⟨mm, hmm, he⟩ := List.mem_map.mp hin
    simp only [Prod.mk.injEq] at he
    have := hsame m hm mm hmm hk (by rw [he.1]; rfl)
    rw [this, he.2]
  obtain ⟨a1, h1, R⟩ := setRemote_ok hv hb hnd hP hacc hfit (fun x hx => by rw [hrest]; simp [ha.sctpIn x hx])
  obtain ⟨r1, r2, r3⟩ := R.offer hty
  have hown : ∀ m ∈ d.media, m.kind.isMedia = true → ∃ t ∈ a1.transceivers, Negotiated .offer m t := by
    intro m hm hk
    obtain ⟨j, hj⟩ := List.getElem?_of_mem hm
    obtain ⟨t, ht, hN, _⟩ := R.owners j m hj hk
    rw [hty] at hN
    exact ⟨t, ht, hN⟩
  obtain ⟨ans0, h2, aty, ab, hrel⟩ := createAnswer_ok r1 (by simp [Pc.remoteDesc, r2]) R.pre.unique hown R.sctpApp
  refine ⟨a1, ans0, h1, R, h2, aty, ab, hrel, ?_⟩
  exact fun t ht j hj => R.pre.lines.section (answersSec_keys hrel) ht hj

theorem answer_applied {a : Pc} {d : Desc} (ha : WF a) (hd : Offered a d) :
    ∃ a1 ans0 a2 ans, a.setRemote d = .ok a1 ∧ a1.createAnswer = .ok ans0 ∧ a1.setLocal ans0 = .ok a2 ∧
      AnswerApplied a a2 d ans := by
  obtain ⟨a1, ans0, h1, R, h2, aty, ab, hrel, hlines⟩ := answer_made ha hd
  obtain ⟨hty, hb, hnd, ⟨rest, hrest⟩, hsame, hacc⟩ := hd
  obtain ⟨r1, r2, r3⟩ := R.offer hty
  have hrd : a1.remoteDesc = some d := by simp [Pc.remoteDesc, r2]
  have hk0 : keysOf ans0 = keysOf d := answersSec_keys hrel
  have hnoauto : ∀ s ∈ ans0.media, s.setup ≠ .auto := hrel.forall_right (fun _ _ hh => hh.definite)
  have hv2 : a1.validate ans0 true = .ok () :=
    (validate_answer_iff aty).mpr ⟨by rw [r1]; rfl, hnoauto, d, by simpa using hrd, hk0⟩
  have hsv : Served a1 ans0.media 0 := by
    refine ⟨fun j s hj hk => ?_, fun s hs hk => ?_⟩
    · obtain ⟨m, hm, hms⟩ := hrel.get_right j s hj
      obtain ⟨t, ht, _, hl⟩ := R.owners j m hm (by rw [← hms.kind]; exact hk)
      exact ⟨t, ht, by simpa using hl⟩
    · obtain ⟨m, hm, hms⟩ := hrel.mem_right s hs
      have := R.sctpApp m hm (by rw [← hms.kind]; exact hk)
      simp only [Pc.sctpMid] at this
      cases hsc : a1.sctp with
      | none => simp [hsc] at this
      | some _ => rfl
  obtain ⟨a2, h3⟩ := setLocal_answer_total aty hv2 hsv
  obtain ⟨media, L, q3⟩ := setLocal_answer_spec aty h3
  have href := L.refreshed
  have hloc : a2.localDesc = some { ans0 with media } := L.localDesc
  have hk1 : keysOf { ans0 with media } = keysOf d := href.keys.trans hk0
  have hts := setLocal_answer_transceivers aty h3 hlines
  obtain ⟨pc2, hasg, p1, p2⟩ : ∃ pc2, assignMids { a1 with sig := .stable } ans0.media 0 = .ok pc2 ∧ a2.seenMids = pc2.seenMids ∧
      a2.sctp = pc2.sctp := by
    obtain ⟨_, pc2, pc4, _, hasg, h4, _, rfl⟩ := (setLocal_answer_iff aty).mp h3
    exact ⟨pc2, hasg, by rw [localRoles_frame h4], by rw [localRoles_frame h4]⟩
  have I := assignMids_mids hasg
  have hsm2 : a2.sctpMid = pc2.sctpMid := by simp [Pc.sctpMid, p2]
  have hshape : a2.transceivers.map shape = a1.transceivers.map shape := by rw [hts]; exact localDirections_shape _
  have hkeys2 : a2.keys = keysOf d := (Pc.keys_of_localDesc hloc).trans hk1
  have hrd2 : a2.remoteDesc = some d := L.remoteDesc.trans hrd
  have happmid : ∀ s ∈ ans0.media, s.kind.isMedia = false → a1.sctpMid = some s.mid := by
    intro s hs hk
    obtain ⟨m, hm, hms⟩ := hrel.mem_right s hs
    rw [hms.mid]; exact R.sctpApp m hm (by rw [← hms.kind]; exact hk)
  have hsctp2 : a2.sctpMid = a1.sctpMid := by
    rw [hsm2]
    rcases I.sctpOld with e | ⟨s, hs, hk, e⟩
    · exact e
    · rw [e, happmid s hs hk]
  refine ⟨a1, ans0, a2, { ans0 with media }, h1, h2, h3, ?_⟩
  refine { wf := ?_, keys := hkeys2, akeys := hk1, type := aty, bundle := ?_, setup := ?_, loc := hloc, prefs := ?_, seen := ?_, secs := ?_ }
  · have O1 : Owns (keysOf d) a1 := R.owns hnd (fun x hx => by rw [hrest]; simp [ha.sctpIn x hx]) ha.media
    exact Owns.wf (hkeys2 ▸ O1.congr hsctp2 (fun x hx => by rw [p1, I.seen]; exact .inl hx) (new := []) (fun _ hn => nomatch hn)
      (fun _ hn => nomatch hn) (by simpa using hshape)) q3 (by rw [hrd2, hkeys2]; rfl)
  · show ans0.bundle = media.map (·.mid)
    rw [ab, href.mids]
  · intro s' hs'
    obtain ⟨s, hs, he⟩ := href.setup s' hs'
    rw [he]; exact hnoauto s hs
  · intro t' ht'
    rw [hts] at ht'
    simp only [localDirections, List.mem_map] at ht'
    obtain ⟨t, ht, rfl⟩ := ht'
    have := R.prefs t ht
    split <;> exact this
  · intro x
    rw [p1, I.seen]
    show x ∈ a1.seenMids ∨ _ ↔ _
    rw [R.seen]
    have hm : ans0.media.map (·.mid) = d.media.map (·.mid) := mids_of_keys hk0
    rw [hm]
    rw [or_assoc, or_self]
  · intro j so sa hso hsa hk
    have hsa' : media[j]? = some sa := hsa
    obtain ⟨s0, hs0, hs0sa⟩ := href.get_right j sa hsa'
    have hA := hrel.get j so s0 hso hs0
    obtain ⟨t, ht, hN, hdir, hcod, hext, _⟩ := hA.media hk
    refine ⟨⟨by rw [hs0sa]; exact hA.kind, by rw [hs0sa]; exact hA.mid⟩, ?_⟩
    refine ⟨{ t with currentDirection := some (andDir t.direction (revDir so.direction)) }, ?_, hN.mid, hN.kind, ?_, ?_, ?_, ?_, ?_, ?_⟩
    · rw [hts]; exact localDirections_mem ht (hN.off rfl)
    · exact InPrefs.mono R.prefs (.inr ⟨t, ht, hN.kind, rfl⟩)
    · rw [hs0sa]; simp only; rw [hcod]; exact hN.codecs
    · rw [hs0sa]; simp only; rw [hcod]; exact hN.nonempty
    · rw [hs0sa]; simp only; rw [hext]; exact hN.exts
    · rw [hs0sa]; exact hdir
    · rw [hs0sa]; simp only; rw [hdir]

end Aiortc.Model.Negotiate
