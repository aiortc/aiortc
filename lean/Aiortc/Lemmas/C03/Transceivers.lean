import Aiortc.Lemmas.C03.Fold
/-!
C03 — what the calls do to the list of transceivers: BUNDLE only moves transports; `setLocalDescription(answer)` only
writes `currentDirection`; what "assign MID" does to the transceivers — nothing when they already carry their mids
(answerer), a map when m-line indices are not shared (offerer); `FreshPc`, a connection before its first exchange.
-/
namespace Aiortc.Model.Negotiate
open Aiortc (Outcome)
open Aiortc.Model.Jsep (Sig)

/-! ## BUNDLE only moves transports -/

def SameBut (t t2 : Transceiver) : Prop := t2 = { t with transport := t2.transport, bundled := t2.bundled }

theorem SameBut.refl (t : Transceiver) : SameBut t t := rfl

theorem Negotiated.sameBut {typ : DType} {m : MSec} {t t2 : Transceiver} (h : Negotiated typ m t) (hs : SameBut t t2) :
    Negotiated typ m t2 := by
  unfold SameBut at hs
  rw [hs]
  exact ⟨h.mid, h.kind, h.remoteSet, h.codecs, h.nonempty, h.exts, h.cur, h.off⟩

theorem applyBundle_transceivers {pc pc2 : Pc} {b : List String} (h : pc.applyBundleWith bundleStep b = .ok pc2) :
    ∃ g : Transceiver → Transceiver, (∀ t, SameBut t (g t)) ∧ pc2.transceivers = pc.transceivers.map g := by
  rcases applyBundleWith_ok h with rfl | ⟨_, slaves, p, _, _, rfl⟩
  · exact ⟨id, fun t => rfl, by simp⟩
  · refine ⟨fun t => if inSlaves slaves t.mid then { t with transport := p, bundled := true } else t, fun t => ?_, rfl⟩
    dsimp only
    split <;> rfl

theorem uniqueMid_map {ts : List Transceiver} {g : Transceiver → Transceiver} (hg : ∀ t, (g t).mid = t.mid)
    (h : UniqueMid ts) : UniqueMid (ts.map g) := by
  unfold UniqueMid at *
  refine List.pairwise_map.mpr (h.imp ?_)
  intro a b hab hne
  rw [hg a, hg b]
  exact hab (by rw [← hg a]; exact hne)

theorem SameBut.mline {t t2 : Transceiver} (h : SameBut t t2) : t2.mline = t.mline := by unfold SameBut at h; rw [h]

theorem SameBut.preferred {t t2 : Transceiver} (h : SameBut t t2) : t2.preferred = t.preferred := by
  unfold SameBut at h; rw [h]

theorem SameBut.kind {t t2 : Transceiver} (h : SameBut t t2) : t2.kind = t.kind := by
  unfold SameBut at h; rw [h]

theorem keysOf_mids (d : Desc) : (keysOf d).map (·.2) = d.media.map (·.mid) := keysOfSecs_mids d.media

theorem keysAt_keysOf (d : Desc) : KeysAt (keysOf d) 0 d.media := by
  intro j m hj
  simp [keysOf, hj]

/-! ## setLocalDescription(answer) leaves the transceivers alone except for currentDirection -/

theorem assignMids_noop : ∀ (ms : List MSec) (pc pc' : Pc) (i : Nat),
    (∀ t ∈ pc.transceivers, ∀ j, t.mline = some j → i ≤ j → ∃ m, ms[j - i]? = some m ∧ t.mid = some m.mid) →
    assignMids pc ms i = .ok pc' → pc'.transceivers = pc.transceivers := by
  intro ms
  induction ms with
  | nil => intro pc pc' i _ h; cases h; rfl
  | cons m ms ih =>
    intro pc pc' i hyp h
    obtain ⟨pc1, h1, h2⟩ := bind_eq_ok.mp (assignMids_cons pc m ms i ▸ h)
    have e1 : pc1.transceivers = pc.transceivers := by
      rcases assignStep_eq_ok.mp h1 with ⟨_, ts, hupd, rfl⟩ | ⟨_, s, _, rfl⟩
      · refine updFirst_id hupd ?_
        intro x hx hpx
        simp only [beq_iff_eq] at hpx
        obtain ⟨m', hm', hmid⟩ := hyp x hx i hpx (Nat.le_refl _)
        simp at hm'; subst hm'
        -- `x` has this mid already: `{ x with mid := x.mid } = x`
        cases x; dsimp only at hmid; subst hmid; rfl
      · rfl
    rw [← e1]
    refine ih pc1 pc' (i + 1) ?_ h2
    intro t ht j hj hij
    obtain ⟨m', hm', hmid⟩ := hyp t (e1 ▸ ht) j hj (by omega)
    have : j - i = (j - (i + 1)) + 1 := by omega
    rw [this] at hm'
    exact ⟨m', by simpa using hm', hmid⟩

theorem setLocal_answer_transceivers {pc pc' : Pc} {d : Desc} (ht : d.type = .answer) (h : pc.setLocal d = .ok pc')
    (hyp : ∀ t ∈ pc.transceivers, ∀ j, t.mline = some j → ∃ m, d.media[j]? = some m ∧ t.mid = some m.mid) :
    pc'.transceivers = localDirections pc.transceivers := by
  obtain ⟨_, pc2, pc4, media, h2, h4, _, rfl⟩ := (setLocal_answer_iff ht).mp h
  have e2 : pc2.transceivers = pc.transceivers :=
    assignMids_noop _ { pc with sig := .stable } pc2 0 (fun t ht j hj _ => by simpa using hyp t ht j hj) h2
  rw [localRoles_frame h4, ← e2]

theorem localDirections_mem {ts : List Transceiver} {t : Transceiver} {od : Dir} (ht : t ∈ ts) (ho : t.offerDirection = some od) :
    { t with currentDirection := some (andDir t.direction od) } ∈ localDirections ts := by
  unfold localDirections
  refine List.mem_map.mpr ⟨t, ht, ?_⟩
  simp [ho]

theorem localDirections_unique {ts : List Transceiver} (h : UniqueMid ts) : UniqueMid (localDirections ts) := by
  unfold localDirections
  refine uniqueMid_map ?_ h
  intro t
  split <;> rfl

theorem updFirst_eq_map {α} {p : α → Bool} {f : α → α} {l l' : List α}
    (hp : l.Pairwise (fun a b => ¬(p a = true ∧ p b = true))) (h : updFirst p f l = some l') :
    l' = l.map (fun x => if p x then f x else x) := by
  obtain ⟨a, x, b, rfl, ha, hx, rfl⟩ := updFirst_eq_some.mp h
  have hb : ∀ y ∈ b, p y = false := by
    intro y hy
    have := (List.pairwise_cons.mp (List.pairwise_append.mp hp).2.1).1 y hy
    simpa [hx] using this
  rw [List.map_append, List.map_cons, List.map_congr_left (g := id) (fun y hy => by simp [ha y hy]),
    List.map_congr_left (g := id) (l := b) (fun y hy => by simp [hb y hy])]
  simp [hx]

/-! ## "assign MID" as a map -/

/-- what "assign MID" does to one transceiver when m-line indices are not shared -/
def assignFn : List MSec → Nat → Transceiver → Transceiver
  | [], _, t => t
  | m :: ms, i, t => assignFn ms (i + 1) (if m.kind.isMedia && t.mline == some i then { t with mid := some m.mid } else t)

theorem assignFn_eq : ∀ (ms : List MSec) (i : Nat) (t : Transceiver), assignFn ms i t = { t with mid := (assignFn ms i t).mid } := by
  intro ms
  induction ms with
  | nil => intro i t; rfl
  | cons m ms ih => intro i t; simp only [assignFn]; rw [ih]; split <;> rfl

theorem assignFn_mline (ms : List MSec) (i : Nat) (t : Transceiver) : (assignFn ms i t).mline = t.mline := by rw [assignFn_eq]

theorem assignFn_kind (ms : List MSec) (i : Nat) (t : Transceiver) : (assignFn ms i t).kind = t.kind := by rw [assignFn_eq]

theorem assignFn_preferred (ms : List MSec) (i : Nat) (t : Transceiver) : (assignFn ms i t).preferred = t.preferred := by
  rw [assignFn_eq]

theorem assignFn_mid_out : ∀ (ms : List MSec) (i : Nat) (t : Transceiver), (∀ j, t.mline = some j → j < i) →
    (assignFn ms i t).mid = t.mid := by
  intro ms
  induction ms with
  | nil => intro i t _; rfl
  | cons m ms ih =>
    intro i t h
    simp only [assignFn]
    have hne : (t.mline == some i) = false := by
      cases hl : t.mline with
      | none => simp
      | some j => have := h j hl; simp; omega
    simp only [hne, Bool.and_false, Bool.false_eq_true, if_false]
    exact ih (i + 1) t (fun j hj => by have := h j hj; omega)

theorem assignFn_mid : ∀ (ms : List MSec) (i : Nat) (t : Transceiver) (j : Nat) (m : MSec),
    t.mline = some j → i ≤ j → ms[j - i]? = some m → m.kind.isMedia = true → (assignFn ms i t).mid = some m.mid := by
  intro ms
  induction ms with
  | nil => intro i t j m _ _ h; simp at h
  | cons m0 ms ih =>
    intro i t j m hj hij hm hk
    simp only [assignFn]
    by_cases hji : j = i
    · subst hji
      simp at hm; subst hm
      simp only [hk, hj, beq_self_eq_true, Bool.and_self, if_true]
      rw [assignFn_mid_out]
      intro j' hj'
      simp at hj'; omega
    · have hne : (t.mline == some i) = false := by rw [hj]; simp; omega
      simp only [hne, Bool.and_false, Bool.false_eq_true, if_false]
      have : j - i = (j - (i + 1)) + 1 := by omega
      rw [this] at hm
      exact ih (i + 1) t j m hj (by omega) (by simpa using hm) hk

/-- distinct m-line indices (a missing index counts as a value too: at most one transceiver lacks one) -/
def DistinctLines (ts : List Transceiver) : Prop := ts.Pairwise (fun a b => a.mline ≠ b.mline)

theorem assignMids_map : ∀ (ms : List MSec) (pc pc' : Pc) (i : Nat), DistinctLines pc.transceivers →
    assignMids pc ms i = .ok pc' → pc'.transceivers = pc.transceivers.map (assignFn ms i) := by
  intro ms
  induction ms with
  | nil => intro pc pc' i _ h; cases h; simp [assignFn]
  | cons m ms ih =>
    intro pc pc' i hd h
    obtain ⟨pc1, h1, h2⟩ := bind_eq_ok.mp (assignMids_cons pc m ms i ▸ h)
    have e1 : pc1.transceivers = pc.transceivers.map
        (fun t => if m.kind.isMedia && t.mline == some i then { t with mid := some m.mid } else t) := by
      rcases assignStep_eq_ok.mp h1 with ⟨hk, ts, hupd, rfl⟩ | ⟨hk, s, _, rfl⟩
      · simp only [hk, Bool.true_and]
        refine updFirst_eq_map (hd.imp ?_) hupd
        intro a b hab hboth
        simp only [beq_iff_eq] at hboth
        exact hab (hboth.1.trans hboth.2.symm)
      · simp [hk]
    have hd1 : DistinctLines pc1.transceivers := by
      rw [e1]
      refine List.pairwise_map.mpr (hd.imp ?_)
      intro a b hab
      have e : ∀ x : Transceiver, (if (m.kind.isMedia && x.mline == some i) = true then { x with mid := some m.mid } else x).mline = x.mline := by
        intro x; split <;> rfl
      rw [e a, e b]; exact hab
    rw [ih pc1 pc' (i + 1) hd1 h2, e1, List.map_map]
    rfl

theorem setLocal_offer_transceivers {pc pc' : Pc} {d : Desc} (ht : d.type = .offer) (h : pc.setLocal d = .ok pc')
    (hd : DistinctLines pc.transceivers) : pc'.transceivers = pc.transceivers.map (assignFn d.media 0) := by
  obtain ⟨_, pc2, media, h2, _, rfl⟩ := (setLocal_offer_iff ht).mp h
  exact assignMids_map _ { pc with sig := .haveLocalOffer } pc2 0 hd h2

/-- a connection that has not been through any exchange: no descriptions, no mids seen, nothing has a mid or an
m-line index yet (any transceivers / data channel / preferences / policy) -/
structure FreshPc (o : Pc) : Prop where
  un : Unnegotiated o.transceivers
  media : ∀ t ∈ o.transceivers, t.kind.isMedia = true
  noLocal : o.localDesc = none
  noRemote : o.remoteDesc = none
  noMids : o.seenMids = []
  sctpMid : ∀ s, o.sctp = some s → s.mid = none

end Aiortc.Model.Negotiate
