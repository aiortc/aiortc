import Aiortc.Lemmas.C03.OfferApplied
import Aiortc.Lemmas.C03.RoleInv
/-!
C03 — `setRemoteDescription` (offer or answer) on a connection that satisfies the structural invariant for
the description's sections: it never fails, and what it leaves.
-/
namespace Aiortc.Model.Negotiate
open Aiortc (Outcome)
open Aiortc.Model.Jsep (Sig)

/-! ## BUNDLE -/

theorem primary_of_owners {pc : Pc} {m0 : MSec} (hu : UniqueMid pc.transceivers)
    (hown : m0.kind.isMedia = true → ∃ t ∈ pc.transceivers, t.mid = some m0.mid)
    (happ : m0.kind.isMedia = false → pc.sctpMid = some m0.mid)
    (hnos : m0.kind.isMedia = true → ∀ s, pc.sctp = some s → s.mid ≠ some m0.mid) :
    ∃ p, pc.primaryTransport m0.mid = some p ∧
      (m0.kind.isMedia = true → ∀ t ∈ pc.transceivers, t.mid = some m0.mid → t.transport = p) ∧
      (m0.kind.isMedia = false → ∀ s, pc.sctp = some s → s.transport = p) := by
  unfold Pc.primaryTransport
  cases hk : m0.kind.isMedia
  · have := happ hk
    simp only [Pc.sctpMid] at this
    cases hs : pc.sctp with
    | none => simp [hs] at this
    | some s =>
      simp only [hs, Option.bind_some] at this
      refine ⟨s.transport, by simp [this], (fun hf => absurd hf (by decide)), ?_⟩
      intro _ s' hs'; cases hs'; rfl
  · obtain ⟨y, hym, hymid⟩ := hown hk
    have hy : pc.byMid m0.mid = some y := hu.byMid hym hymid
    have huniq : ∀ t ∈ pc.transceivers, t.mid = some m0.mid → t.transport = y.transport := by
      intro t ht htm
      rw [hu.eq t ht y hym (by rw [htm, hymid]) (by rw [htm]; simp)]
    cases hs : pc.sctp with
    | none =>
      refine ⟨y.transport, by simp [hy], fun _ => huniq, (fun hf => absurd hf (by decide))⟩
    | some s =>
      have := hnos hk s hs
      refine ⟨y.transport, ?_, fun _ => huniq, (fun hf => absurd hf (by decide))⟩
      simp only
      split
      · rename_i hh; simp at hh; exact absurd hh this
      · simp [hy]

theorem applyBundle_frame {pc pc2 : Pc} {b : List String} (h : pc.applyBundleWith bundleStep b = .ok pc2) :
    pc2.slots = pc.slots ∧ pc2.seenMids = pc.seenMids ∧ pc2.sctpMid = pc.sctpMid := by
  rcases applyBundleWith_ok h with rfl | ⟨_, _, _, _, _, rfl⟩
  · exact ⟨rfl, rfl, rfl⟩
  · refine ⟨rfl, rfl, ?_⟩
    simp only [Pc.sctpMid, bundleStep]
    cases hs : pc.sctp with
    | none => rfl
    | some s =>
      simp only [Option.map_some, Option.bind_some]
      split <;> rfl

/-! ## setRemoteDescription -/

theorem setRemote_leaves {pc pc' : Pc} {d : Desc} (h : pc.setRemoteWith bundleStep d = .ok pc')
    (hP : Pre (keysOf d) pc.transceivers) (hnd : ((keysOf d).map (·.2)).Nodup) :
    Pre (keysOf d) pc'.transceivers ∧
    ∀ (j : Nat) (m : MSec), d.media[j]? = some m → m.kind.isMedia = true →
      ∃ t ∈ pc'.transceivers, Negotiated d.type m t ∧ t.mline = some j := by
  obtain ⟨pc1, pc2, h1, h2, hO, hA⟩ := setRemoteWith_spec h
  have r := applyRemote_pre hnd d.media hP (keysAt_keysOf d) h1
  obtain ⟨g, hg, hmap⟩ := applyBundle_transceivers h2
  have hts : pc'.transceivers = pc1.transceivers.map g := by
    cases ht : d.type
    · rw [hO ht]; exact hmap
    · rw [hA ht]; exact hmap
  rw [hts]
  refine ⟨r.pre.congr (by rw [List.map_map]; exact List.map_congr_left (fun t _ => (hg t).shape)), fun j m hj hk => ?_⟩
  obtain ⟨t, ht, hN, hl⟩ := r.owners j m hj hk
  exact ⟨g t, List.mem_map_of_mem ht, hN.sameBut (hg t), by rw [(hg t).mline]; simpa using hl⟩

/-- what a successful `setRemoteDescription(d)` leaves -/
structure RemoteApplied (pc pc' : Pc) (d : Desc) : Prop where
  pre : Pre (keysOf d) pc'.transceivers
  owners : ∀ (j : Nat) (m : MSec), d.media[j]? = some m → m.kind.isMedia = true →
    ∃ t ∈ pc'.transceivers, Negotiated d.type m t ∧ t.mline = some j
  prefs : PrefsSub pc'.transceivers pc.transceivers
  media : AllMedia pc.transceivers → AllMedia pc'.transceivers
  seen : ∀ x, x ∈ pc'.seenMids ↔ x ∈ pc.seenMids ∨ x ∈ d.media.map (·.mid)
  sctpApp : ∀ m ∈ d.media, m.kind.isMedia = false → pc'.sctpMid = some m.mid
  sctpOld : pc'.sctpMid = pc.sctpMid ∨ ∃ m ∈ d.media, m.kind.isMedia = false ∧ pc'.sctpMid = some m.mid
  locals : pc'.pendingLocal = pc.pendingLocal ∧ pc'.currentLocal = pc.currentLocal
  offer : d.type = .offer → pc'.sig = .haveRemoteOffer ∧ pc'.pendingRemote = some d ∧ pc'.currentRemote = pc.currentRemote
  answer : d.type = .answer → pc'.sig = .stable ∧ pc'.currentRemote = some d ∧ pc'.pendingRemote = none
  /-- after BUNDLE every section of the description sits on one transport -/
  onPrimary : ∃ p, (∀ t ∈ pc'.transceivers, (∃ m ∈ d.media, m.kind.isMedia = true ∧ t.mid = some m.mid) → t.transport = p) ∧
    (∀ s, pc'.sctp = some s → (∃ m ∈ d.media, m.kind.isMedia = false) → s.transport = p) ∧
    /- it is the transport on which the first section already sat, if it was negotiated before -/
    (∀ m0 rest, d.media = m0 :: rest →
      (m0.kind.isMedia = true → ∀ t ∈ pc.transceivers, t.mid = some m0.mid → t.transport = p) ∧
      (m0.kind.isMedia = false → ∀ s, pc.sctp = some s → s.transport = p)) ∧
    /- and an answer leaves the role it dictates on it -/
    (∀ w, d.type = .answer → (∀ m ∈ d.media, oppRole m.setup = w) → TExist pc → d.media ≠ [] → pc'.roleOf p = w)
  rolesOffer : d.type = .offer → (∀ m ∈ d.media, m.setup = .auto) → RoleSame pc.transports pc'.transports
  rolesAnswer : ∀ w, d.type = .answer → (∀ m ∈ d.media, oppRole m.setup = w) → RoleStep w pc.transports pc'.transports

theorem RemoteApplied.owns {pc pc' : Pc} {d : Desc} (R : RemoteApplied pc pc' d) (hnd : ((keysOf d).map (·.2)).Nodup)
    (hin : ∀ x, pc.sctpMid = some x → (Kind.application, x) ∈ keysOf d) (hm : AllMedia pc.transceivers) : Owns (keysOf d) pc' where
  nodup := hnd
  pre := R.pre
  owned j k x hj hk := by
    obtain ⟨m, hm, e1, e2⟩ := keys_getElem_inv hj
    obtain ⟨t, ht, hN, _⟩ := R.owners j m hm (by rw [e1]; exact hk)
    exact ⟨t, ht, by rw [hN.mid, e2]⟩
  sctpHas x hx := by
    obtain ⟨m, hm, he⟩ := List.mem_map.mp hx
    simp only [Prod.mk.injEq] at he
    rw [← he.2]
    exact R.sctpApp m hm (by rw [he.1]; rfl)
  sctpIn x hx := by
    rcases R.sctpOld with e | ⟨m, hm, hk, e⟩
    · rw [e] at hx; exact hin x hx
    · rw [e] at hx; cases hx
      have : (m.kind, m.mid) ∈ keysOf d := List.mem_map_of_mem hm
      rw [kind_not_media hk] at this; exact this
  seen kx hkx := by
    obtain ⟨m, hm, rfl⟩ := List.mem_map.mp hkx
    rw [R.seen]; exact .inr (List.mem_map_of_mem hm)
  media := R.media hm

/-- a transceiver with a mid owns a media section of `d` (the form in which `onPrimary` is used) -/
theorem RemoteApplied.media_of_mid {pc pc' : Pc} {d : Desc} (R : RemoteApplied pc pc' d) (hmed : AllMedia pc'.transceivers) :
    ∀ t ∈ pc'.transceivers, t.mid ≠ none → ∃ m ∈ d.media, m.kind.isMedia = true ∧ t.mid = some m.mid := by
  intro t ht hm
  obtain ⟨j, x, hj, hx⟩ := R.pre.lines.of_mid ht hm
  obtain ⟨m, hmj, e1, e2⟩ := keys_getElem_inv hj
  exact ⟨m, List.mem_of_getElem? hmj, by rw [e1]; exact hmed t ht, by rw [hx, e2]⟩

theorem app_of_sctpMid {pc : Pc} {d : Desc} (hin : ∀ x, pc.sctpMid = some x → (Kind.application, x) ∈ keysOf d) :
    ∀ s, pc.sctp = some s → s.mid ≠ none → ∃ m ∈ d.media, m.kind.isMedia = false := by
  intro s hs hm
  cases hmid : s.mid with
  | none => exact absurd hmid hm
  | some x =>
    obtain ⟨m, hm', he⟩ := List.mem_map.mp (hin x (by simp [Pc.sctpMid, hs, hmid]))
    simp only [Prod.mk.injEq] at he
    exact ⟨m, hm', by rw [he.1]; rfl⟩

theorem setRemote_offer_roleSame {pc pc' : Pc} {d : Desc} (h : pc.setRemote d = .ok pc') (ht : d.type = .offer)
    (hauto : ∀ m ∈ d.media, m.setup = .auto) : RoleSame pc.transports pc'.transports := by
  obtain ⟨pc1, pc2, h1, h2, hO, _⟩ := setRemoteWith_spec h
  rw [ht] at h1
  have hb : RoleSame pc.transports pc2.transports := (applyRemote_roles_offer hauto h1).trans (applyBundle_roles h2)
  rw [hO ht]
  exact hb

/-- `setRemoteDescription` goes through once the description validates and every media section has codecs in common with
the transceiver that takes it (`Accepts`); the remaining hypotheses are structural: they hold when `d` extends the sections of a well-formed `pc`. -/
theorem setRemote_ok {pc : Pc} {d : Desc} (hv : pc.validate d false = .ok ()) (hb : d.bundle = d.media.map (·.mid))
    (hnd : ((keysOf d).map (·.2)).Nodup) (hP : Pre (keysOf d) pc.transceivers)
    (hacc : ∀ m ∈ d.media, m.kind.isMedia = true → Accepts pc.transceivers m) (hfit : SctpFits pc d.media)
    (hsin : ∀ x, pc.sctpMid = some x → (Kind.application, x) ∈ keysOf d) :
    ∃ pc', pc.setRemote d = .ok pc' ∧ RemoteApplied pc pc' d := by
  obtain ⟨pc1, h1⟩ := applyRemote_ok (typ := d.type) d.media pc 0 hacc
  have r := applyRemote_pre hnd d.media hP (keysAt_keysOf d) h1
  have hsctpApp := r.mids.sctpApp hfit
  -- the primary transport of the BUNDLE group: where the owner of the first section sits
  have hprim : ∀ m0 rest, d.media = m0 :: rest → ∃ p, pc1.primaryTransport m0.mid = some p ∧
      (m0.kind.isMedia = true → ∀ t ∈ pc1.transceivers, t.mid = some m0.mid → t.transport = p) ∧
      (m0.kind.isMedia = false → ∀ s, pc1.sctp = some s → s.transport = p) := by
    intro m0 rest hmed
    have hm0 : m0 ∈ d.media := by rw [hmed]; simp
    refine primary_of_owners r.pre.unique (fun hk => ?_) (hsctpApp m0 hm0) (fun hk s hs hsm => ?_)
    · obtain ⟨j, hj⟩ := List.getElem?_of_mem hm0
      obtain ⟨t, ht, hN, _⟩ := r.owners j m0 hj hk
      exact ⟨t, ht, hN.mid⟩
    · -- the SCTP transport does not carry the mid of a media section
      have hsm' : pc1.sctpMid = some m0.mid := by simp [Pc.sctpMid, hs, hsm]
      have hin : (Kind.application, m0.mid) ∈ keysOf d := by
        rcases r.mids.sctpOld with e | ⟨m', hm', hk', e⟩
        · rw [e] at hsm'; exact hsin _ hsm'
        · rw [e] at hsm'
          have : (m'.kind, m'.mid) ∈ keysOf d := List.mem_map_of_mem hm'
          rw [kind_not_media hk', Option.some.inj hsm'] at this; exact this
      obtain ⟨m', hm', he⟩ := List.mem_map.mp hin
      simp only [Prod.mk.injEq] at he
      obtain ⟨j1, hj1⟩ := List.getElem?_of_mem hm'
      obtain ⟨j2, hj2⟩ := List.getElem?_of_mem hm0
      have k1 := keys_getElem hj1
      rw [he.2] at k1
      have := (keys_index_inj hnd k1 (keys_getElem hj2)).2
      rw [he.1] at this
      rw [← this] at hk; simp [Kind.isMedia] at hk
  obtain ⟨pc2, h2⟩ : ∃ pc2, pc1.applyBundleWith bundleStep (d.media.map (·.mid)) = .ok pc2 := by
    cases hmed : d.media with
    | nil => exact ⟨pc1, rfl⟩
    | cons m0 rest =>
      obtain ⟨p, hp, _⟩ := hprim m0 rest hmed
      exact ⟨bundleStep pc1 p (rest.map (·.mid)), by simp [Pc.applyBundleWith, hp]⟩
  obtain ⟨g, hg, hmap⟩ := applyBundle_transceivers h2
  obtain ⟨f1, f2, f3⟩ := applyBundle_frame h2
  have hslots1 := r.slots
  simp only [Pc.slots, Prod.mk.injEq] at hslots1 f1
  have hres : ∃ pc', pc.setRemote d = .ok pc' ∧ pc'.transceivers = pc2.transceivers ∧ pc'.seenMids = pc2.seenMids ∧
      pc'.sctp = pc2.sctp ∧ pc'.pendingLocal = pc2.pendingLocal ∧ pc'.currentLocal = pc2.currentLocal ∧ pc'.transports = pc2.transports ∧
      (d.type = .offer → pc'.sig = .haveRemoteOffer ∧ pc'.pendingRemote = some d ∧ pc'.currentRemote = pc2.currentRemote) ∧
      (d.type = .answer → pc'.sig = .stable ∧ pc'.currentRemote = some d ∧ pc'.pendingRemote = none) := by
    have hb' : pc1.applyBundleWith bundleStep d.bundle = .ok pc2 := by rw [hb]; exact h2
    cases ht : d.type
    · exact ⟨{ pc2 with sig := .haveRemoteOffer, pendingRemote := some d }, setRemoteWith_iff.mpr ⟨hv, pc1, h1, pc2, hb', by simp [ht]⟩,
        rfl, rfl, rfl, rfl, rfl, rfl, fun _ => ⟨rfl, rfl, rfl⟩, fun hh => (by cases hh)⟩
    · exact ⟨{ pc2 with sig := .stable, currentRemote := some d, pendingRemote := none }, setRemoteWith_iff.mpr ⟨hv, pc1, h1, pc2, hb', by simp [ht]⟩,
        rfl, rfl, rfl, rfl, rfl, rfl, fun hh => (by cases hh), fun _ => ⟨rfl, rfl, rfl⟩⟩
  obtain ⟨pc', hok, e1, e2, e3, e4, e5, e6, e7, e8⟩ := hres
  have hsm : pc'.sctpMid = pc1.sctpMid := by simp [Pc.sctpMid, e3]; exact f3
  obtain ⟨hpre', hown'⟩ := setRemote_leaves hok hP hnd
  refine ⟨pc', hok, ?_⟩
  refine { pre := hpre', owners := hown', prefs := ?_, media := ?_, seen := ?_, sctpApp := ?_,
           sctpOld := ?_, locals := ?_, offer := ?_, answer := e8, onPrimary := ?_, rolesOffer := ?_, rolesAnswer := ?_ }
  · intro t' ht'
    rw [e1, hmap] at ht'
    obtain ⟨t, ht, rfl⟩ := List.mem_map.mp ht'
    rw [(hg t).preferred, (hg t).kind]
    exact r.prefs t ht
  · intro hall t' ht'
    rw [e1, hmap] at ht'
    obtain ⟨t, ht, rfl⟩ := List.mem_map.mp ht'
    rw [(hg t).kind]; exact r.media hall t ht
  · intro x; rw [e2, f2]; exact r.mids.seen x
  · intro m hm hk; rw [hsm]; exact hsctpApp m hm hk
  · rw [hsm]; exact r.mids.sctpOld
  · exact ⟨by rw [e4, f1.2.1, hslots1.2.1], by rw [e5, f1.2.2.1, hslots1.2.2.1]⟩
  · intro ht
    obtain ⟨a1, a2, a3⟩ := e7 ht
    exact ⟨a1, a2, by rw [a3, f1.2.2.2.2, hslots1.2.2.2.2]⟩
  · -- everything on the primary transport
    cases hmed : d.media with
    | nil => exact ⟨0, fun t _ hm => (by obtain ⟨m, hm, _⟩ := hm; cases hm), fun s _ hm => (by obtain ⟨m, hm, _⟩ := hm; cases hm),
        fun m0 rest he => (by simp at he), fun w _ _ _ hne => absurd rfl hne⟩
    | cons m0 rest =>
      have hm0 : m0 ∈ d.media := by rw [hmed]; simp
      obtain ⟨p, hp, hp1, hp2⟩ := hprim m0 rest hmed
      have hpc2 : pc2 = bundleStep pc1 p (rest.map (·.mid)) := by
        rw [hmed] at h2
        simp only [List.map_cons, Pc.applyBundleWith, hp] at h2
        cases h2; rfl
      refine ⟨p, ?_, ?_, ?_, ?_⟩
      · intro t' ht' hm
        rw [e1, hpc2] at ht'
        simp only [bundleStep, List.mem_map] at ht'
        obtain ⟨t, ht, rfl⟩ := ht'
        by_cases hin : inSlaves (rest.map (·.mid)) t.mid = true
        · simp [hin]
        · simp only [hin, Bool.false_eq_true, if_false] at hm ⊢
          obtain ⟨m, hmm, hk, htm⟩ := hm
          rcases List.mem_cons.mp hmm with rfl | hrest
          · exact hp1 hk t ht htm
          · exfalso; apply hin
            simp [inSlaves, htm]
            exact ⟨m, hrest, rfl⟩
      · intro s' hs' hm
        rw [e3, hpc2] at hs'
        simp only [bundleStep, Option.map_eq_some_iff] at hs'
        obtain ⟨s, hs, rfl⟩ := hs'
        by_cases hin : inSlaves (rest.map (·.mid)) s.mid = true
        · simp [hin]
        · simp only [hin, Bool.false_eq_true, if_false]
          obtain ⟨m, hmm, hk⟩ := hm
          have hsmid := hsctpApp m (by rw [hmed]; exact hmm) hk
          simp only [Pc.sctpMid, hs, Option.bind_some] at hsmid
          rcases List.mem_cons.mp hmm with rfl | hrest
          · exact hp2 hk s hs
          · exfalso; apply hin
            simp [inSlaves, hsmid]
            exact ⟨m, hrest, rfl⟩
      · intro m0' rest' he
        simp only [List.cons.injEq] at he
        obtain ⟨rfl, rfl⟩ := he
        refine ⟨?_, ?_⟩
        · intro hk t ht htm
          obtain ⟨t1, ht1, hm1, htr1⟩ := r.fwd t ht m0.mid htm
          rw [← htr1]; exact hp1 hk t1 ht1 hm1
        · intro hk s hs
          obtain ⟨s1, hs1, htr1⟩ := applyRemote_sctp_transport h1 s hs
          rw [← htr1]; exact hp2 hk s1 hs1
      · intro w ht hw hT _
        rw [ht] at h1
        obtain ⟨fo, fs⟩ := applyRemote_answer_owner_roles hnd d.media hP (keysAt_keysOf d) hT (fun m hm => hw m (by rw [← hmed]; exact hm)) h1
        have hr2 : RoleSame pc1.transports pc'.transports := by rw [e6]; exact applyBundle_roles h2
        have key : pc1.roleOf p = w := by
          cases hk : m0.kind.isMedia
          · obtain ⟨s', hs', hrole⟩ := fs m0 hm0 hk
            rw [← hp2 hk s' hs']; exact hrole
          · obtain ⟨t', ht', hmid, hrole⟩ := fo m0 hm0 hk
            rw [← hp1 hk t' ht' hmid]; exact hrole
        rw [hr2.roleOf_eq]; exact key
  · exact setRemote_offer_roleSame hok
  · intro w ht hw
    rw [e6]
    rw [ht] at h1
    exact (applyRemote_roles_answer hw h1).trans ((applyBundle_roles h2).toStep w)

end Aiortc.Model.Negotiate
