import Aiortc.Lemmas.C03.Transceivers
/-!
C03 — the well-formedness invariant `WF` of a connection state between exchanges, and `Owns K`, its part that says
which sections the connection carries: it only looks at the shape (kind, mid, m-line index) of the transceivers, and the
set-up operations keep it — they append an unnegotiated transceiver, replace one in place by one of the same shape, or
create the SCTP transport (`SetupMove.keeps` in `RoleEx.lean`; here what `addTrack` and a replacement in place do).
-/
namespace Aiortc.Model.Negotiate
open Aiortc (Outcome)
open Aiortc.Model.Jsep (Sig)

def Pc.keys (pc : Pc) : List (Kind × String) := (pc.localDesc.map keysOf).getD []

theorem Pc.keys_of_localDesc {pc : Pc} {d : Desc} (h : pc.localDesc = some d) : pc.keys = keysOf d := by
  rw [Pc.keys, h]; rfl

theorem Pc.keys_of_no_localDesc {pc : Pc} (h : pc.localDesc = none) : pc.keys = [] := by
  rw [Pc.keys, h]; rfl

theorem Pc.keys_congr {pc pc' : Pc} (h : pc'.localDesc = pc.localDesc) : pc'.keys = pc.keys := by
  rw [Pc.keys, Pc.keys, h]

theorem keys_of_slots {pc pc' : Pc} (h : pc'.slots = pc.slots) : pc'.keys = pc.keys := by
  simp only [Pc.slots, Prod.mk.injEq] at h
  exact Pc.keys_congr (by simp [Pc.localDesc, h.2.1, h.2.2.1])

/-- **Well-formed connection state between two exchanges.**  Holds for a new connection, is preserved by
addTransceiver / addTrack / createDataChannel / setCodecPreferences / direction changes (`SetupMove.keeps`) and by a
complete exchange on either side (`negotiate_ok`). -/
structure WF (pc : Pc) : Prop where
  stable : pc.sig = .stable
  rkeys : (pc.remoteDesc.map keysOf).getD [] = pc.keys
  nodup : (pc.keys.map (·.2)).Nodup
  /-- transceivers: unique mids, mids handed out in list order per kind, m-line index = position of the owned section -/
  pre : Pre pc.keys pc.transceivers
  owned : ∀ (j : Nat) (k : Kind) (x : String), pc.keys[j]? = some (k, x) → k.isMedia = true → ∃ t ∈ pc.transceivers, t.mid = some x
  /-- the application section and the SCTP transport carry the same mid (`sctpHas`, `sctpIn`) -/
  sctpHas : ∀ x, (Kind.application, x) ∈ pc.keys → pc.sctpMid = some x
  sctpIn : ∀ x, pc.sctpMid = some x → (Kind.application, x) ∈ pc.keys
  /-- `allocate_mid` draws against `seenMids`: a new mid differs from every mid in use -/
  seen : ∀ kx ∈ pc.keys, kx.2 ∈ pc.seenMids
  media : AllMedia pc.transceivers

/-- The part of `WF` that says which sections the connection carries, relative to explicit keys `K`.  For `WF` these are the
keys of `localDescription`; `createOffer_ok` needs it, `rkeys` and a state other than `closed` (`createOffer` does not look
at the signalling state otherwise), and the states in the middle of an exchange have it without being `stable`. -/
structure Owns (K : List (Kind × String)) (pc : Pc) : Prop where
  nodup : (K.map (·.2)).Nodup
  pre : Pre K pc.transceivers
  owned : ∀ (j : Nat) (k : Kind) (x : String), K[j]? = some (k, x) → k.isMedia = true → ∃ t ∈ pc.transceivers, t.mid = some x
  sctpHas : ∀ x, (Kind.application, x) ∈ K → pc.sctpMid = some x
  sctpIn : ∀ x, pc.sctpMid = some x → (Kind.application, x) ∈ K
  seen : ∀ kx ∈ K, kx.2 ∈ pc.seenMids
  media : AllMedia pc.transceivers

theorem WF.owns {pc : Pc} (h : WF pc) : Owns pc.keys pc := ⟨h.nodup, h.pre, h.owned, h.sctpHas, h.sctpIn, h.seen, h.media⟩

theorem Owns.wf {pc : Pc} (h : Owns pc.keys pc) (hs : pc.sig = .stable) (hr : (pc.remoteDesc.map keysOf).getD [] = pc.keys) :
    WF pc := ⟨hs, hr, h.nodup, h.pre, h.owned, h.sctpHas, h.sctpIn, h.seen, h.media⟩

theorem kind_not_media {k : Kind} (h : k.isMedia = false) : k = .application := by
  cases k <;> simp [Kind.isMedia] at h ⊢

/-! ## the shape of a transceiver list: what the invariant looks at -/

def shape (t : Transceiver) : Kind × Option String × Option Nat := (t.kind, t.mid, t.mline)

/-- `UniqueMid` and `Ordered` as relations on shapes (`uniqueMid_shape`, `ordered_shape`) -/
def MidDiff3 (a b : Kind × Option String × Option Nat) : Prop := a.2.1 ≠ none → a.2.1 ≠ b.2.1
def OrderRel3 (a b : Kind × Option String × Option Nat) : Prop := a.1 = b.1 → b.2.1 ≠ none → a.2.1 ≠ none

theorem offerFn_shape (t : Transceiver) : shape (offerFn t) = shape t := rfl

theorem SameBut.shape {t t2 : Transceiver} (h : SameBut t t2) : shape t2 = shape t := by
  unfold SameBut at h; rw [h]; rfl

theorem uniqueMid_shape (ts : List Transceiver) : UniqueMid ts ↔ (ts.map shape).Pairwise MidDiff3 := by
  unfold UniqueMid
  rw [List.pairwise_map]
  rfl

theorem ordered_shape (ts : List Transceiver) : Ordered ts ↔ (ts.map shape).Pairwise OrderRel3 := by
  unfold Ordered
  rw [List.pairwise_map]
  rfl

theorem mem_shape {ts ts' : List Transceiver} (h : ts'.map shape = ts.map shape) {t' : Transceiver} (ht' : t' ∈ ts') :
    ∃ t ∈ ts, t.kind = t'.kind ∧ t.mid = t'.mid ∧ t.mline = t'.mline := by
  have : shape t' ∈ ts'.map shape := List.mem_map_of_mem ht'
  rw [h] at this
  obtain ⟨t, ht, he⟩ := List.mem_map.mp this
  simp only [shape, Prod.mk.injEq] at he
  exact ⟨t, ht, he.1, he.2.1, he.2.2⟩

theorem Pre.congr {K : List (Kind × String)} {ts ts' : List Transceiver} (h : ts'.map shape = ts.map shape) (hp : Pre K ts) :
    Pre K ts' := by
  refine ⟨?_, ?_, ?_⟩
  · rw [uniqueMid_shape, h, ← uniqueMid_shape]; exact hp.unique
  · rw [ordered_shape, h, ← ordered_shape]; exact hp.order
  · intro t' ht'
    obtain ⟨t, ht, hk, hm, hl⟩ := mem_shape h ht'
    rw [← hk, ← hm, ← hl]
    exact hp.lines t ht

/-- `Owns K` only looks at the SCTP mid, the seen mids and the shape of the transceiver list, and tolerates
unnegotiated media transceivers at its end -/
theorem Owns.congr {K : List (Kind × String)} {pc pc' : Pc} (h : Owns K pc) (hsctp : pc'.sctpMid = pc.sctpMid)
    (hseen : ∀ x, x ∈ pc.seenMids → x ∈ pc'.seenMids) {new : List Transceiver}
    (hnew : Unnegotiated new) (hmedia : AllMedia new)
    (hts : pc'.transceivers.map shape = (pc.transceivers ++ new).map shape) : Owns K pc' := by
  refine ⟨h.nodup, (h.pre.append_new hnew).congr hts, ?_, fun x hx => hsctp ▸ h.sctpHas x hx, fun x hx => h.sctpIn x (hsctp ▸ hx),
    fun kx hkx => hseen _ (h.seen kx hkx), ?_⟩
  · intro j k x hj hkm
    obtain ⟨t, ht, hm⟩ := h.owned j k x hj hkm
    have : shape t ∈ pc'.transceivers.map shape := by rw [hts]; exact List.mem_map_of_mem (List.mem_append_left _ ht)
    obtain ⟨t', ht', he⟩ := List.mem_map.mp this
    simp only [shape, Prod.mk.injEq] at he
    exact ⟨t', ht', by rw [he.2.1]; exact hm⟩
  · intro t' ht'
    obtain ⟨t, ht, hkk, _, _⟩ := mem_shape hts ht'
    rw [← hkk]
    rcases List.mem_append.mp ht with ht | ht
    · exact h.media t ht
    · exact hmedia t ht

theorem WF.congr {pc pc' : Pc} (h : WF pc) (hslots : pc'.slots = pc.slots) (hsctp : pc'.sctpMid = pc.sctpMid)
    (hseen : ∀ x, x ∈ pc.seenMids → x ∈ pc'.seenMids) {new : List Transceiver}
    (hnew : Unnegotiated new) (hmedia : AllMedia new)
    (hts : pc'.transceivers.map shape = (pc.transceivers ++ new).map shape) : WF pc' := by
  have hk : pc'.keys = pc.keys := keys_of_slots hslots
  simp only [Pc.slots, Prod.mk.injEq] at hslots
  obtain ⟨e1, _, _, e4, e5⟩ := hslots
  exact Owns.wf (hk ▸ h.owns.congr hsctp hseen hnew hmedia hts) (e1 ▸ h.stable)
    (by rw [hk, ← h.rkeys]; simp [Pc.remoteDesc, e4, e5])

theorem Owns.no_mid_of_nil {K : List (Kind × String)} {pc : Pc} (hw : Owns K pc) (hk : K = []) :
    (∀ t ∈ pc.transceivers, t.mid = none) ∧ (∀ s, pc.sctp = some s → s.mid = none) := by
  refine ⟨?_, ?_⟩
  · intro t ht
    rcases hw.pre.lines t ht with ⟨h1, _⟩ | ⟨j, x, hj, _, _⟩
    · exact h1
    · rw [hk] at hj; simp at hj
  · intro s hs
    cases hm : s.mid with
    | none => rfl
    | some x =>
      have := hw.sctpIn x (by simp [Pc.sctpMid, hs, hm])
      rw [hk] at this; simp at this

/-! ## a new connection; `addTrack` and a replacement in place -/

theorem WF.new (p : Policy) : WF (Pc.new p) := by
  have hk : (Pc.new p).keys = [] := Pc.keys_of_no_localDesc rfl
  refine ⟨rfl, rfl, by rw [hk]; exact .nil, ⟨by simp [Pc.new, UniqueMid], by simp [Pc.new, Ordered], ?_⟩, ?_, ?_, ?_, ?_, ?_⟩
  · intro t ht; simp [Pc.new] at ht
  · intro j k x hj; rw [hk] at hj; simp at hj
  · intro x hx; rw [hk] at hx; cases hx
  · intro x hx; simp [Pc.sctpMid, Pc.new] at hx
  · intro kx hkx; rw [hk] at hkx; cases hkx
  · intro t ht; simp [Pc.new] at ht

theorem addTrack_eq (pc : Pc) (k : Kind) : pc.addTrack k = pc.createTransceiver .sendrecv k true ∨
    ∃ i t, pc.transceivers[i]? = some t ∧
      pc.addTrack k = { pc with transceivers := pc.transceivers.set i { t with hasTrack := true, direction := orDir t.direction .sendonly } } := by
  unfold Pc.addTrack
  cases h : updFirst _ _ pc.transceivers with
  | none => exact .inl rfl
  | some ts =>
    obtain ⟨a, x, b, hl, _, _, rfl⟩ := updFirst_eq_some.mp h
    exact .inr ⟨a.length, x, by simp [hl], by simp [hl]⟩

theorem set_shape {ts : List Transceiver} {i : Nat} {t t' : Transceiver} (hi : ts[i]? = some t) (hs : shape t' = shape t) :
    (ts.set i t').map shape = ts.map shape := by
  rw [List.map_set, hs]
  apply List.ext_getElem?
  intro j
  by_cases hj : i = j
  · subst hj
    have hlt : i < (ts.map shape).length := by
      simp; exact (List.getElem?_eq_some_iff.mp hi).1
    rw [List.getElem?_set_self hlt]
    simp [hi]
  · rw [List.getElem?_set_ne hj]

end Aiortc.Model.Negotiate
