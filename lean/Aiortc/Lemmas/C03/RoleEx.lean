import Aiortc.Lemmas.C03.Ops
/-!
C03 — DTLS roles through a complete exchange (the answerer's side first) and through the set-up operations:
the role invariant of a pair (`RolePair`) is preserved, a definite role never changes.  The set-up operations are four
moves (`SetupMove`); what the pair invariant needs of them is proved per move (`SetupMove.keeps`).
-/
namespace Aiortc.Model.Negotiate
open Aiortc (Outcome)
open Aiortc.Model.Jsep (Sig)

/-- what the answerer's half of an exchange does to roles and transports (for a non-empty offer) -/
structure AnswerRoles (a a2 : Pc) (d ans : Desc) (p : Nat) (s : Role) : Prop where
  definite : s = .client ∨ s = .server
  /-- the role is chosen from what the primary transport `p` had before the exchange -/
  val : s = answerRole (a.roleOf p)
  setups : ∀ m ∈ ans.media, m.setup = s
  step : RoleStep s a.transports a2.transports
  texist : TExist a2
  written : a2.roleOf p = s
  owners : ∀ t ∈ a2.transceivers, t.mid ≠ none → t.transport = p
  sctp : ∀ s', a2.sctp = some s' → s'.mid ≠ none → s'.transport = p
  /-- where `p` comes from: the transport the first section sat on before, if it was negotiated before -/
  prov : ∀ m0 rest, d.media = m0 :: rest →
    (m0.kind.isMedia = true → ∀ t ∈ a.transceivers, t.mid = some m0.mid → t.transport = p) ∧
    (m0.kind.isMedia = false → ∀ s0, a.sctp = some s0 → s0.transport = p)

/-- `AnswerRoles` for the answerer's three calls (the ones `answer_applied` shows to succeed); the offer says `actpass`
throughout. -/
theorem answer_roles {a a1 a2 : Pc} {d ans0 ans : Desc} (ha : WF a) (hT : TExist a) (hd : Offered a d)
    (hauto : ∀ m ∈ d.media, m.setup = .auto) (hne : d.media ≠ [])
    (c4 : a.setRemote d = .ok a1) (c5 : a1.createAnswer = .ok ans0) (c6 : a1.setLocal ans0 = .ok a2) (c7 : a2.localDesc = some ans) :
    ∃ p s, AnswerRoles a a2 d ans p s := by
  obtain ⟨a1', ans0', h1, R, h2, aty, ab, hrel, hlines⟩ := answer_made ha hd
  rw [c4] at h1; cases h1
  rw [c5] at h2; cases h2
  obtain ⟨hty, hb, hnd, ⟨rest, hrest⟩, hsame, hacc⟩ := hd
  have hk0 : keysOf ans0 = keysOf d := answersSec_keys hrel
  obtain ⟨media, L, _⟩ := setLocal_answer_spec aty c6
  have href := L.refreshed
  have hans : ans = { ans0 with media } := Option.some.inj (c7.symm.trans L.localDesc)
  have hts := setLocal_answer_transceivers aty c6 hlines
  have hT1 : TExist a1 := texist_setRemote hT c4
  have hstay := setLocal_stays c6
  have hT2 : TExist a2 := hstay.texist hT1
  -- the transport of the bundle
  obtain ⟨p, hon1, hon2, hon3, _⟩ := R.onPrimary
  have hrs : RoleSame a.transports a1.transports := R.rolesOffer hty hauto
  have hro1 : a1.roleOf p = a.roleOf p := hrs.roleOf_eq p
  -- a transceiver of a1 that has a mid owns a media section of the offer, hence sits on p
  have hmedia1 : AllMedia a1.transceivers := R.media ha.media
  have hown1 : ∀ t ∈ a1.transceivers, t.mid ≠ none → t.transport = p :=
    fun t ht hm => hon1 t ht (R.media_of_mid hmedia1 t ht hm)
  have hsctp1 : ∀ s', a1.sctp = some s' → s'.mid ≠ none → s'.transport = p :=
    fun s' hs' hm => hon2 s' hs' (app_of_sctpMid (R.owns hnd (fun y hy => by rw [hrest]; simp [ha.sctpIn y hy]) ha.media).sctpIn s' hs' hm)
  have hsetup0 : ∀ sec ∈ ans0.media, sec.setup = answerRole (a1.roleOf p) := by
    intro sec hsec
    obtain ⟨m, hm, hA⟩ := hrel.mem_right sec hsec
    cases hk : m.kind.isMedia
    · obtain ⟨s0, hs0, he⟩ := hA.app hk
      rw [he, hon2 s0 hs0 ⟨m, hm, hk⟩]
    · obtain ⟨t, ht, hN, _, _, _, he⟩ := hA.media hk
      rw [he, hon1 t ht ⟨m, hm, hk, hN.mid⟩]
  have hdef : answerRole (a1.roleOf p) = .client ∨ answerRole (a1.roleOf p) = .server := by
    cases a1.roleOf p <;> simp [answerRole]
  -- roles written by setLocalDescription(answer)
  obtain ⟨_, pc2, pc4, _, hasg, hlr, _, ha2⟩ := (setLocal_answer_iff aty).mp c6
  have htr : a2.transports = pc4.transports := by rw [ha2]
  have e2 := assignMids_frame hasg
  have etr2' : pc2.transports = a1.transports := by rw [e2]
  have ets2 : pc2.transceivers = a1.transceivers :=
    assignMids_noop _ { a1 with sig := .stable } pc2 0 (fun t ht j hj _ => by simpa using hlines t ht j hj) hasg
  have hstep12 : RoleStep (answerRole (a1.roleOf p)) a1.transports a2.transports := by
    rw [htr, ← etr2']; exact localRoles_roleStep hsetup0 hlr
  -- p exists and is written
  have hlen : ans0.media.length = d.media.length := by
    have := congrArg List.length hk0; simpa [keysOf] using this
  have hwritten : a2.roleOf p = answerRole (a1.roleOf p) := by
    cases hm0 : ans0.media with
    | nil => rw [hm0] at hlen; simp at hlen; exact absurd (List.length_eq_zero_iff.mp hlen.symm) hne
    | cons sec0 srest =>
      rw [hm0] at hlr
      obtain ⟨m0, hm0d, hA0⟩ := hrel.get_right 0 sec0 (by rw [hm0]; rfl)
      have hm0mem : m0 ∈ d.media := List.mem_of_getElem? hm0d
      have hp : sectionTransport pc2 sec0 0 = .ok p ∧ HasId a1.transports p := by
        unfold sectionTransport
        rw [hA0.kind]
        cases hk : m0.kind.isMedia
        · have hsm := R.sctpApp m0 hm0mem hk
          simp only [Pc.sctpMid] at hsm
          cases hs1 : a1.sctp with
          | none => simp [hs1] at hsm
          | some s1 =>
            obtain ⟨s2, hs2⟩ := Option.isSome_iff_exists.mp ((assignMids_keepsLines hasg).2 (by simp [hs1]))
            obtain ⟨s1', hs1', he⟩ := (assignMids_stays hasg).sctp s2 hs2
            have hps : s1.transport = p := hon2 s1 hs1 ⟨m0, hm0mem, hk⟩
            have : s1' = s1 := by
              have h' : a1.sctp = some s1' := hs1'
              rw [hs1] at h'; exact (Option.some.inj h').symm
            subst this
            exact ⟨by simp [hs2, he, hps], hps ▸ hT1.sctp s1' hs1⟩
        · obtain ⟨t, ht, hN, hl⟩ := R.owners 0 m0 hm0d hk
          obtain ⟨y, hy⟩ := List.find_some_of_mem (p := fun t : Transceiver => t.mline == some 0) ht (by simp [hl])
          have hym : y ∈ a1.transceivers := List.mem_of_find?_eq_some hy
          obtain ⟨mm, _, hymid⟩ := hlines y hym 0 (by simpa using List.find?_some hy)
          have hpy : y.transport = p := hown1 y hym (by rw [hymid]; simp)
          exact ⟨by simp [Pc.byMline, ets2, hy, hpy], hpy ▸ hT1.ts y hym⟩
      have := localRoles_writes (v := answerRole (a1.roleOf p)) (fun m hm => hsetup0 m (by rw [hm0]; exact hm)) hp.1 (by rw [etr2']; exact hp.2) hlr
      rw [roleOf_eq] at this ⊢
      rw [htr]; exact this
  refine ⟨p, answerRole (a1.roleOf p), hdef, by rw [hro1], ?_, (hrs.toStep _).trans hstep12, hT2, hwritten, ?_, ?_, hon3⟩
  · intro m hm
    rw [hans] at hm
    obtain ⟨m0, hm0, he⟩ := href.setup m hm
    rw [he]; exact hsetup0 m0 hm0
  · intro t ht hm
    rw [hts] at ht
    simp only [localDirections, List.mem_map] at ht
    obtain ⟨t1, ht1, rfl⟩ := ht
    -- `localDirections` touches neither mid nor transport, whatever `offerDirection` is
    cases hod : t1.offerDirection <;> simp only [hod] at hm ⊢ <;> exact hown1 t1 ht1 hm
  · intro s' hs' hm
    obtain ⟨s1, hs1, he⟩ := hstay.sctp s' hs'
    rw [he]
    cases hmid1 : s1.mid with
    | some x => exact hsctp1 s1 hs1 (by rw [hmid1]; simp)
    | none =>
      -- then a2's mid comes from an application section of the answer, i.e. of the offer
      cases hmid2 : s'.mid with
      | none => exact absurd hmid2 hm
      | some x =>
        have pA2 : a2.sctp = pc2.sctp := by rw [ha2, localRoles_frame hlr]
        have hsm2 : pc2.sctpMid = some x := by simp [Pc.sctpMid, ← pA2, hs', hmid2]
        rcases (assignMids_mids hasg).sctpOld with e | ⟨sec, hsec, hk, e⟩
        · rw [e] at hsm2
          simp [Pc.sctpMid, hs1, hmid1] at hsm2
        · obtain ⟨m, hm', hA⟩ := hrel.mem_right sec hsec
          exact hon2 s1 hs1 ⟨m, hm', by rw [← hA.kind]; exact hk⟩

/-! ## the role invariant of a pair and its preservation -/

def Opp (ro ra : Role) : Prop := (ro = .client ∧ ra = .server) ∨ (ro = .server ∧ ra = .client)

theorem Opp.symm {x y : Role} (h : Opp x y) : Opp y x := by
  rcases h with ⟨h1, h2⟩ | ⟨h1, h2⟩
  · exact .inr ⟨h2, h1⟩
  · exact .inl ⟨h2, h1⟩

theorem opp_oppRole {s : Role} (h : s = .client ∨ s = .server) : Opp (oppRole s) s := by
  rcases h with rfl | rfl
  · exact .inr ⟨rfl, rfl⟩
  · exact .inl ⟨rfl, rfl⟩

theorem Opp.oppRole_eq {ro ra : Role} (h : Opp ro ra) : oppRole ra = ro := by
  rcases h with ⟨rfl, rfl⟩ | ⟨rfl, rfl⟩ <;> rfl

theorem Opp.answerRole_eq {ro ra : Role} (h : Opp ro ra) : answerRole ra = ra := by
  rcases h with ⟨_, rfl⟩ | ⟨_, rfl⟩ <;> rfl

/-- role well-formedness of one connection: every definite role is `r`; negotiated sections sit on transports of role `r` -/
structure RWF (pc : Pc) (r : Role) : Prop where
  texist : TExist pc
  uniform : RolesU r pc.transports
  owners : ∀ t ∈ pc.transceivers, t.mid ≠ none → pc.roleOf t.transport = r
  sctpOwner : ∀ s, pc.sctp = some s → s.mid ≠ none → pc.roleOf s.transport = r
  fresh : pc.keys = [] → ∀ x ∈ pc.transports, x.role = .auto

def RolePair (o a : Pc) : Prop := ∃ ro ra, Opp ro ra ∧ RWF o ro ∧ RWF a ra

theorem RolePair.symm {o a : Pc} (h : RolePair o a) : RolePair a o := by
  obtain ⟨ro, ra, h1, h2, h3⟩ := h
  exact ⟨ra, ro, h1.symm, h3, h2⟩

theorem setRemote_roleSame_of_nil {pc pc' : Pc} {d : Desc} (h : pc.setRemote d = .ok pc') (hm : d.media = []) :
    RoleSame pc.transports pc'.transports := by
  obtain ⟨pc1, pc2, h1, h2, hO, hA⟩ := setRemoteWith_spec h
  rw [hm] at h1
  simp [applyRemote] at h1; subst h1
  have hb := applyBundle_roles h2
  cases ht : d.type
  · rw [hO ht]; exact hb
  · rw [hA ht]; exact hb

theorem setLocal_answer_roleSame_of_nil {pc pc' : Pc} {d : Desc} (ht : d.type = .answer) (h : pc.setLocal d = .ok pc') (hm : d.media = []) :
    RoleSame pc.transports pc'.transports := by
  obtain ⟨_, pc2, pc4, _, hasg, hlr, _, rfl⟩ := (setLocal_answer_iff ht).mp h
  rw [hm] at hasg hlr
  cases hasg; cases hlr
  exact RoleSame.refl _

/-- after a step that writes, if anything, role `w` — the connection's own role if it has sections — all definite roles are `w` -/
theorem RWF.uniform_step {pc pc' : Pc} {r0 w : Role} (R : RWF pc r0) (hstep : RoleStep w pc.transports pc'.transports)
    (hw : pc.keys ≠ [] → w = r0) : RolesU w pc'.transports := by
  by_cases hk : pc.keys = []
  · exact hstep.rolesU (fun x hx => .inl (R.fresh hk x hx)) (.inr rfl)
  · exact hstep.rolesU (hw hk ▸ R.uniform) (.inr rfl)

/-- a definite role stays under a step that writes, if anything, the connection's own role: a connection that has a
definite role has sections (`fresh`), so the written role is that role -/
theorem RWF.role_kept {pc pc' : Pc} {r0 w : Role} (R : RWF pc r0) (hstep : RoleStep w pc.transports pc'.transports)
    (hw : pc.keys ≠ [] → w = r0) {id : Nat} {r : Role} (hr : r = .client ∨ r = .server) (hid : pc.roleOf id = r) :
    pc'.roleOf id = r := by
  rw [roleOf_eq] at hid ⊢
  have hk : pc.keys ≠ [] := by
    intro h0
    rw [lookup_all_auto (R.fresh h0) id] at hid
    rcases hr with rfl | rfl <;> cases hid
  have hrr : r = r0 := by
    rcases R.uniform.lookup id with h1 | h1
    · rw [h1] at hid; rcases hr with rfl | rfl <;> cases hid
    · rw [← hid, h1]
  rcases hstep.lookup id with h1 | h1
  · rw [h1]; exact hid
  · rw [h1, hw hk, hrr]

/-- **Roles through an exchange**: the pair invariant is preserved, and a definite DTLS role never changes. -/
theorem exchange_roles {o a : Pc} {ex : Exchange} (ho : WF o) (ha : WF a) (hp : Paired o a) (hok : ExchangeOk o a ex) (hr : RolePair o a) :
    RolePair ex.offerer ex.answerer ∧
    (∀ id r, (r = .client ∨ r = .server) → o.roleOf id = r → ex.offerer.roleOf id = r) ∧
    (∀ id r, (r = .client ∨ r = .server) → a.roleOf id = r → ex.answerer.roleOf id = r) := by
  obtain ⟨ro, ra, hopp, Ro, Ra⟩ := hr
  obtain ⟨o1, d0, ans0, c1, c2, c3, c4, c5, c6, c7, c8⟩ := hok.calls
  have A := hok.offerA
  have B := hok.answerA
  have R := hok.remoteO
  obtain ⟨rest, hrest⟩ := A.pref
  -- the offerer up to the answer: nothing moves, no role changes
  obtain ⟨st1, etr1⟩ := createOffer_stays ho.rkeys ho.owns c1
  have st2 := setLocal_stays c2
  have hT2 : TExist ex.offererMid := (st1.trans st2).texist Ro.texist
  have hrs2 : RoleSame o.transports ex.offererMid.transports :=
    (etr1 ▸ RoleSame.refl _ : RoleSame o.transports o1.transports).trans (setLocal_offer_roleSame (by
      obtain ⟨h1, _⟩ := createOffer_shape c1; exact h1) c2)
  have hT3 : TExist ex.offerer := texist_setRemote hT2 c8
  have hTa1 : TExist ex.answererMid := texist_setRemote Ra.texist c4
  have hTa2 : TExist ex.answerer := (setLocal_stays c6).texist hTa1
  have hlen : ex.answer.media.length = ex.offer.media.length := by
    have := congrArg List.length B.akeys; simpa [keysOf] using this
  have hOkeys : ex.offerer.keys = keysOf ex.offer := hok.offerKeys.symm
  have hAkeys : ex.answerer.keys = keysOf ex.offer := B.keys
  cases hmed : ex.offer.media with
  | nil =>
    -- an exchange of empty descriptions: nothing is written
    have hamed : ex.answer.media = [] := by
      rw [hmed] at hlen; exact List.length_eq_zero_iff.mp hlen
    have hans0 : ans0.media = [] := by
      obtain ⟨media, L, _⟩ := setLocal_answer_spec (createAnswer_spec c5).1 c6
      have : ex.answer = { ans0 with media } := Option.some.inj (c7.symm.trans L.localDesc)
      rw [this] at hamed
      have hl := Rel2.length L.refreshed
      simp only at hamed
      rw [hamed] at hl
      exact List.length_eq_zero_iff.mp (by simpa using hl)
    have hra : RoleSame a.transports ex.answerer.transports :=
      (setRemote_roleSame_of_nil c4 hmed).trans (setLocal_answer_roleSame_of_nil (by
        obtain ⟨h1, _⟩ := createAnswer_spec c5; exact h1) c6 hans0)
    have hro : RoleSame o.transports ex.offerer.transports := hrs2.trans (setRemote_roleSame_of_nil c8 hamed)
    have hkO : ex.offerer.keys = [] := by rw [hOkeys]; simp [keysOf, hmed]
    have hkA : ex.answerer.keys = [] := by rw [hAkeys]; simp [keysOf, hmed]
    have hko : o.keys = [] := by
      have : keysOf ex.offer = [] := by simp [keysOf, hmed]
      rw [hrest] at this
      exact (List.append_eq_nil_iff.mp this).1
    have hka : a.keys = [] := by rw [← hp.keys]; exact hko
    refine ⟨⟨ro, ra, hopp, ?_, ?_⟩, ?_, ?_⟩
    · obtain ⟨n1, n2⟩ := hok.wfO.owns.no_mid_of_nil hkO
      exact ⟨hT3, hro.rolesU Ro.uniform, fun t ht hm => absurd (n1 t ht) hm, fun s hs hm => absurd (n2 s hs) hm,
        fun _ => roleSame_all_auto hro (Ro.fresh hko)⟩
    · obtain ⟨n1, n2⟩ := hok.wfA.owns.no_mid_of_nil hkA
      exact ⟨hTa2, hra.rolesU Ra.uniform, fun t ht hm => absurd (n1 t ht) hm, fun s hs hm => absurd (n2 s hs) hm,
        fun _ => roleSame_all_auto hra (Ra.fresh hka)⟩
    · exact fun id r _ hid => (hro.roleOf_eq id).trans hid
    · exact fun id r _ hid => (hra.roleOf_eq id).trans hid
  | cons m0 mrest =>
    have hne : ex.offer.media ≠ [] := by rw [hmed]; simp
    obtain ⟨p, s, AR⟩ := answer_roles ha Ra.texist (A.offered hp hok.accepts) A.setup hne c4 c5 c6 c7
    -- the first section was negotiated before iff the pair has sections; then `s` is the answerer's role
    have hsEq : a.keys ≠ [] → s = ra := by
      intro hk
      have hk0 : a.keys[0]? = some (m0.kind, m0.mid) := by
        have h1 : (keysOf ex.offer)[0]? = some (m0.kind, m0.mid) := by simp [keysOf, hmed]
        rw [hrest, hp.keys] at h1
        cases hka : a.keys with
        | nil => exact absurd hka hk
        | cons k0 ks => rw [hka] at h1; simpa using h1
      have hrole : a.roleOf p = ra := by
        obtain ⟨pm, pa⟩ := AR.prov m0 mrest hmed
        cases hkm : m0.kind.isMedia
        · have hsm := ha.sctpHas m0.mid (by
            have := List.mem_of_getElem? hk0
            rw [kind_not_media hkm] at this; exact this)
          simp only [Pc.sctpMid] at hsm
          cases hs0 : a.sctp with
          | none => simp [hs0] at hsm
          | some s0 =>
            simp only [hs0, Option.bind_some] at hsm
            rw [← pa hkm s0 hs0]
            exact Ra.sctpOwner s0 hs0 (by rw [hsm]; simp)
        · obtain ⟨t, ht, htm⟩ := ha.owned 0 m0.kind m0.mid hk0 hkm
          rw [← pm hkm t ht htm]
          exact Ra.owners t ht (by rw [htm]; simp)
      rw [AR.val, hrole, hopp.answerRole_eq]
    have hw : ∀ m ∈ ex.answer.media, oppRole m.setup = oppRole s := fun m hm => by rw [AR.setups m hm]
    have hane : ex.answer.media ≠ [] := by
      intro h0; rw [h0, hmed] at hlen; simp at hlen
    obtain ⟨p3, on1, on2, _, on4⟩ := R.onPrimary
    have hwr3 : ex.offerer.roleOf p3 = oppRole s := on4 (oppRole s) B.type hw hT2 hane
    have hstepO : RoleStep (oppRole s) o.transports ex.offerer.transports :=
      (hrs2.toStep _).trans (R.rolesAnswer (oppRole s) B.type hw)
    have hkne : ∀ {pc : Pc}, pc.keys = keysOf ex.offer → pc.keys ≠ [] := by
      intro pc h; rw [h]; simp [keysOf, hmed]
    have hwO : o.keys ≠ [] → oppRole s = ro := fun hk => by
      rw [hsEq (by rw [← hp.keys]; exact hk)]; exact hopp.oppRole_eq
    have huA : RolesU s ex.answerer.transports := Ra.uniform_step AR.step hsEq
    have huO : RolesU (oppRole s) ex.offerer.transports := Ro.uniform_step hstepO hwO
    have hmediaO : AllMedia ex.offerer.transceivers := hok.wfO.media
    refine ⟨⟨oppRole s, s, opp_oppRole AR.definite, ?_, ?_⟩, ?_, ?_⟩
    · refine ⟨hT3, huO, ?_, ?_, fun h0 => absurd h0 (hkne hOkeys)⟩
      · exact fun t ht hm => by rw [on1 t ht (R.media_of_mid hmediaO t ht hm)]; exact hwr3
      · exact fun s' hs' hm => by
          rw [on2 s' hs' (app_of_sctpMid (fun x hx => hok.answerKeys ▸ hok.wfO.sctpIn x hx) s' hs' hm)]; exact hwr3
    · exact ⟨AR.texist, huA, fun t ht hm => by rw [AR.owners t ht hm]; exact AR.written,
        fun s' hs' hm => by rw [AR.sctp s' hs' hm]; exact AR.written, fun h0 => absurd h0 (hkne hAkeys)⟩
    · exact fun id r hr hid => Ro.role_kept hstepO hwO hr hid
    · exact fun id r hr hid => Ra.role_kept AR.step hsEq hr hid

/-! ## set-up operations -/

theorem RWF.of_setup {pc pc' : Pc} {r : Role} (h : RWF pc r) (hT : TExist pc') (hr : RoleSame pc.transports pc'.transports)
    (hk : pc'.keys = pc.keys)
    (hts : ∀ t' ∈ pc'.transceivers, t'.mid ≠ none → ∃ t ∈ pc.transceivers, t.mid ≠ none ∧ t'.transport = t.transport)
    (hs : ∀ s', pc'.sctp = some s' → s'.mid ≠ none → ∃ s, pc.sctp = some s ∧ s.mid ≠ none ∧ s'.transport = s.transport) :
    RWF pc' r := by
  refine ⟨hT, hr.rolesU h.uniform, ?_, ?_, fun h0 => roleSame_all_auto hr (h.fresh (by rw [← hk]; exact h0))⟩
  · intro t' ht' hm
    obtain ⟨t, ht, hm0, he⟩ := hts t' ht' hm
    rw [he, hr.roleOf_eq]; exact h.owners t ht hm0
  · intro s' hs' hm
    obtain ⟨s, hs0, hm0, he⟩ := hs s' hs' hm
    rw [he, hr.roleOf_eq]; exact h.sctpOwner s hs0 hm0

theorem RWF.createTransceiver {pc : Pc} {r : Role} (h : RWF pc r) (d : Dir) (k : Kind) (tr : Bool) : RWF (pc.createTransceiver d k tr) r := by
  obtain ⟨n, hn, h1, _⟩ := createTransceiver_new pc d k tr
  obtain ⟨f1, _, f3⟩ := createTransceiver_frame pc d k tr
  refine h.of_setup (TExist.createTransceiver h.texist d k tr) (roleSame_createTransceiver pc d k tr) (keys_of_slots f1) ?_ ?_
  · intro t' ht' hm
    rw [hn] at ht'
    rcases List.mem_append.mp ht' with h2 | h2
    · exact ⟨t', h2, hm, rfl⟩
    · simp at h2; subst h2; exact absurd h1 hm
  · intro s' hs' hm
    rw [f3] at hs'
    exact ⟨s', hs', hm, rfl⟩

theorem RWF.set {pc : Pc} {r : Role} (h : RWF pc r) {i : Nat} {t t' : Transceiver} (hi : pc.transceivers[i]? = some t)
    (hm : t'.mid = t.mid) (htr : t'.transport = t.transport) : RWF { pc with transceivers := pc.transceivers.set i t' } r := by
  refine h.of_setup (TExist.set h.texist hi htr) (RoleSame.refl _) rfl ?_ (fun s' hs' hm => ⟨s', hs', hm, rfl⟩)
  intro x hx hxm
  rcases (List.mem_or_eq_of_mem_set hx).symm with rfl | h1
  · exact ⟨t, List.mem_of_getElem? hi, hm ▸ hxm, htr⟩
  · exact ⟨x, h1, hxm, rfl⟩

/-- What a set-up operation (addTransceiver / addTrack / createDataChannel / setCodecPreferences / the direction setter)
does to a connection: nothing, a new audio/video transceiver, the SCTP transport where there was none, or a change of one
transceiver that keeps kind, mid, m-line index and transport and stays inside the preference family. -/
inductive SetupMove (P : Kind → List Cap → Prop) (pc : Pc) : Pc → Prop
  | none : SetupMove P pc pc
  | transceiver (d : Dir) {k : Kind} (hk : k.isMedia = true) (tr : Bool) : SetupMove P pc (pc.createTransceiver d k tr)
  | sctp (h : pc.sctp = none) : SetupMove P pc pc.createSctp
  | set {i : Nat} {t t' : Transceiver} (hi : pc.transceivers[i]? = some t) (hs : shape t' = shape t)
      (htr : t'.transport = t.transport) (hp : PrefsIn P pc → P t'.kind t'.preferred) :
      SetupMove P pc { pc with transceivers := pc.transceivers.set i t' }

theorem SetupMove.of_addTrack {P : Kind → List Cap → Prop} (pc : Pc) {k : Kind} (hk : k.isMedia = true) : SetupMove P pc (pc.addTrack k) := by
  rcases addTrack_eq pc k with e | ⟨i, t, ht, e⟩ <;> rw [e]
  · exact .transceiver _ hk _
  · exact .set ht rfl rfl (fun hP => hP t (List.mem_of_getElem? ht))

theorem SetupMove.of_createDataChannel {P : Kind → List Cap → Prop} (pc : Pc) : SetupMove P pc pc.createDataChannel := by
  unfold Pc.createDataChannel
  split
  · exact .none
  · rename_i hs; exact .sctp (by simpa using hs)

theorem SetupMove.of_trySetCodecPreferences {P : Kind → List Cap → Prop} (pc : Pc) (i : Nat) {caps : List Cap}
    (hcaps : ∀ k : Kind, (caps.all fun c => (capsOf k).contains c) = true → P k (dedupKeepLast caps)) :
    SetupMove P pc (pc.trySetCodecPreferences i caps) := by
  rcases trySetCodecPreferences_eq pc i caps with e | ⟨t, ht, hall, e⟩ <;> rw [e]
  · exact .none
  · exact .set ht rfl rfl (fun _ => hcaps t.kind hall)

theorem SetupMove.of_trySetDirection {P : Kind → List Cap → Prop} (pc : Pc) (i : Nat) (d : Dir) :
    SetupMove P pc (pc.trySetDirection i d) := by
  rcases trySetDirection_eq pc i d with e | ⟨t, ht, e⟩ <;> rw [e]
  · exact .none
  · exact .set ht rfl rfl (fun hP => hP t (List.mem_of_getElem? ht))

/-- what the pair invariant needs of a set-up move -/
structure SetupKeeps (P : Kind → List Cap → Prop) (pc pc' : Pc) : Prop where
  /-- unnegotiated media transceivers are appended, every shape stays: the arguments of `Owns.congr` / `WF.congr` -/
  shapes : ∃ new, Unnegotiated new ∧ AllMedia new ∧ pc'.transceivers.map shape = (pc.transceivers ++ new).map shape
  sctpMid : pc'.sctpMid = pc.sctpMid
  slots : pc'.slots = pc.slots
  seen : pc'.seenMids = pc.seenMids
  prefs : PrefsIn P pc → PrefsIn P pc'
  roleSame : RoleSame pc.transports pc'.transports
  rwf : ∀ r, RWF pc r → RWF pc' r

theorem SetupKeeps.wf {P : Kind → List Cap → Prop} {pc pc' : Pc} (k : SetupKeeps P pc pc') (h : WF pc) : WF pc' := by
  obtain ⟨new, h1, h2, h3⟩ := k.shapes
  exact h.congr k.slots k.sctpMid (fun x hx => k.seen ▸ hx) h1 h2 h3

theorem SetupMove.keeps {P : Kind → List Cap → Prop} (hnil : ∀ k, P k []) {pc pc' : Pc} (m : SetupMove P pc pc') :
    SetupKeeps P pc pc' := by
  have inPlace : ∀ {ts : List Transceiver}, ts.map shape = pc.transceivers.map shape →
      ∃ new, Unnegotiated new ∧ AllMedia new ∧ ts.map shape = (pc.transceivers ++ new).map shape :=
    fun h => ⟨[], (fun _ hn => nomatch hn), (fun _ hn => nomatch hn), by simpa using h⟩
  cases m with
  | none => exact ⟨inPlace rfl, rfl, rfl, rfl, id, RoleSame.refl _, fun _ => id⟩
  | transceiver d hk tr =>
    obtain ⟨n, hn, h1, h2, h3, h4, _⟩ := createTransceiver_new pc d _ tr
    obtain ⟨f1, f2, f3⟩ := createTransceiver_frame pc d _ tr
    refine ⟨⟨[n], by simpa [Unnegotiated] using And.intro h1 h2, by simpa [AllMedia, h3] using hk, by rw [hn]⟩,
      by simp [Pc.sctpMid, f3], f1, f2, fun hp t ht => ?_, roleSame_createTransceiver pc d _ tr,
      fun _ h => RWF.createTransceiver h d _ tr⟩
    rw [hn] at ht
    rcases List.mem_append.mp ht with h | h
    · exact hp t h
    · simp only [List.mem_singleton] at h; subst h; rw [h4]; exact hnil _
  | sctp hs =>
    obtain ⟨f1, f2, f3⟩ := createSctp_frame pc
    obtain ⟨s0, hs0, hmid0⟩ := createSctp_sctp pc
    refine ⟨inPlace (by rw [f1]), by simp [Pc.sctpMid, hs0, hmid0, hs], f2, f3, fun hp t ht => hp t (f1 ▸ ht), roleSame_createSctp pc,
      fun r h => ?_⟩
    exact h.of_setup (TExist.createSctp h.texist) (roleSame_createSctp pc) (keys_of_slots f2)
      (fun t' ht' hm => ⟨t', f1 ▸ ht', hm, rfl⟩) (fun s' hs' hm => by rw [hs0] at hs'; cases hs'; exact absurd hmid0 hm)
  | set hi hs htr hp =>
    refine ⟨inPlace (set_shape hi hs), rfl, rfl, rfl, fun hP x hx => ?_, RoleSame.refl _,
      fun _ h => RWF.set h hi (congrArg (·.2.1) hs) htr⟩
    rcases (List.mem_or_eq_of_mem_set hx).symm with rfl | h1
    · exact hp hP
    · exact hP x h1

/-! `WF` through the operations themselves: each is a set-up move -/

theorem WF.addTransceiver {pc : Pc} (h : WF pc) {k : Kind} (hk : k.isMedia = true) (d : Dir) (tr : Bool) :
    WF (pc.addTransceiver k d tr) :=
  ((SetupMove.transceiver (P := fun _ _ => True) d hk tr).keeps fun _ => trivial).wf h

theorem WF.addTrack {pc : Pc} (h : WF pc) {k : Kind} (hk : k.isMedia = true) : WF (pc.addTrack k) :=
  ((SetupMove.of_addTrack (P := fun _ _ => True) pc hk).keeps fun _ => trivial).wf h

theorem WF.createDataChannel {pc : Pc} (h : WF pc) : WF pc.createDataChannel :=
  ((SetupMove.of_createDataChannel (P := fun _ _ => True) pc).keeps fun _ => trivial).wf h

theorem WF.setCodecPreferences {pc pc' : Pc} (h : WF pc) {i : Nat} {caps : List Cap} (hok : pc.setCodecPreferences i caps = .ok pc') :
    WF pc' := by
  unfold Pc.setCodecPreferences at hok
  split at hok
  · cases hok
  · rename_i t ht
    split at hok
    · cases hok
      exact ((SetupMove.set (P := fun _ _ => True) (t' := { t with preferred := dedupKeepLast caps }) ht rfl rfl
        fun _ => trivial).keeps fun _ => trivial).wf h
    · cases hok

theorem RWF.new (p : Policy) (r : Role) : RWF (Pc.new p) r :=
  ⟨TExist.new p, fun x hx => by simp [Pc.new] at hx, fun t ht => by simp [Pc.new] at ht, fun s hs => by simp [Pc.new] at hs,
    fun _ x hx => by simp [Pc.new] at hx⟩

theorem RolePair.new (p1 p2 : Policy) : RolePair (Pc.new p1) (Pc.new p2) :=
  ⟨.server, .client, .inr ⟨rfl, rfl⟩, RWF.new p1 _, RWF.new p2 _⟩

end Aiortc.Model.Negotiate
