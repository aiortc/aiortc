import Aiortc.Lemmas.C03.WF
/-!
C03 — `createOffer` on a connection that owns its sections (`Owns`): "handle existing transceivers / sctp", "handle new
transceivers", and the whole call: it succeeds, and what the offer and the connection look like.
-/
namespace Aiortc.Model.Negotiate
open Aiortc (Outcome)
open Aiortc.Model.Jsep (Sig)

theorem offerExisting_ok {K : List (Kind × String)} (hnd : (K.map (·.2)).Nodup) : ∀ (ms : List MSec) (pc : Pc) (i : Nat),
    Lines K pc.transceivers →
    KeysAt K i ms →
    (∀ m ∈ ms, m.kind.isMedia = true → ∃ t ∈ pc.transceivers, t.mid = some m.mid) →
    (∀ m ∈ ms, m.kind.isMedia = false → pc.sctp.isSome = true) →
    ∃ pc' secs, offerExisting pc ms i = .ok (pc', secs) ∧ pc' = { pc with sctpMline := pc'.sctpMline } ∧
      keysOfSecs secs = keysOfSecs ms ∧
      (∀ s ∈ secs, s.setup = .auto) ∧
      (∀ s ∈ secs, s.kind.isMedia = true → ∃ t ∈ pc.transceivers, t.kind = s.kind ∧ s.codecs = t.codecs) := by
  intro ms
  induction ms with
  | nil =>
    intro pc i _ _ _ _
    exact ⟨pc, [], by rw [offerExisting], rfl, rfl, by simp, by simp⟩
  | cons m ms ih =>
    intro pc i hlines hidx hown hsctp
    have hK : K[i]? = some (m.kind, m.mid) := hidx.head
    have hidx' : KeysAt K (i + 1) ms := hidx.tail
    simp only [offerExisting]
    cases hk : m.kind.isMedia
    · -- application
      simp only [Bool.false_eq_true, if_false]
      have hs := hsctp m (by simp) hk
      split
      · rename_i hnone; rw [hnone] at hs; cases hs
      rename_i s hs'
      obtain ⟨pc', secs, h1, h2, h6, h7, h8⟩ := ih { pc with sctpMline := some i } (i + 1) hlines hidx'
        (fun m2 hm2 hk2 => hown m2 (by simp [hm2]) hk2) (fun m2 hm2 hk2 => hsctp m2 (by simp [hm2]) hk2)
      rw [h1]
      refine ⟨pc', _, rfl, by rw [h2], ?_, ?_, ?_⟩
      · simp only [keysOfSecs, List.map_cons] at h6 ⊢
        rw [h6]
        simp [Pc.secForSctp, kind_not_media hk]
      · intro x hx
        rcases List.mem_cons.mp hx with rfl | hx
        · rfl
        · exact h7 x hx
      · intro x hx hkx
        rcases List.mem_cons.mp hx with rfl | hx
        · simp [Pc.secForSctp, Kind.isMedia] at hkx
        · exact h8 x hx hkx
    · -- audio / video
      simp only [if_true]
      obtain ⟨t0, ht0, ht0m⟩ := hown m (by simp) hk
      obtain ⟨t, ht⟩ : ∃ t, pc.byMid m.mid = some t :=
        List.find_some_of_mem (p := fun t : Transceiver => t.mid == some m.mid) ht0 (by simp [ht0m])
      rw [ht]
      simp only
      have htmem : t ∈ pc.transceivers := List.mem_of_find?_eq_some ht
      have htmid : t.mid = some m.mid := by simpa using List.find?_some ht
      have hall : ∀ x ∈ pc.transceivers, x.mid = some m.mid → x.kind = m.kind ∧ x.mline = some i :=
        fun x hx hxm => hlines.owner hnd hK hx hxm
      obtain ⟨ts, hupd⟩ := updFirst_isSome (f := fun t : Transceiver => { t with mline := some i }) ht
      rw [hupd]
      simp only
      have hid : ts = pc.transceivers := by
        refine updFirst_id hupd ?_
        intro x hx hpx
        have hxm : x.mid = some m.mid := by simpa using hpx
        have := (hall x hx hxm).2
        -- `x` has this index already: `{ x with mline := x.mline } = x`
        cases x; dsimp only at this; subst this; rfl
      subst hid
      obtain ⟨pc', secs, h1, h2, h6, h7, h8⟩ := ih pc (i + 1) hlines hidx'
        (fun m2 hm2 hk2 => hown m2 (by simp [hm2]) hk2) (fun m2 hm2 hk2 => hsctp m2 (by simp [hm2]) hk2)
      have : ({ pc with transceivers := pc.transceivers } : Pc) = pc := rfl
      rw [this, h1]
      refine ⟨pc', _, rfl, h2, ?_, ?_, ?_⟩
      · simp only [keysOfSecs, List.map_cons] at h6 ⊢
        rw [h6]
        simp [Pc.secForTransceiver, (hall t htmem htmid).1]
      · intro x hx
        rcases List.mem_cons.mp hx with rfl | hx
        · rfl
        · exact h7 x hx
      · intro x hx hkx
        rcases List.mem_cons.mp hx with rfl | hx
        · exact ⟨t, htmem, rfl, rfl⟩
        · exact h8 x hx hkx

/-! ## "handle new transceivers" -/

/-- result of "handle new transceivers" starting at m-line index `n` -/
structure NewSpec (ts ts' : List Transceiver) (secs : List MSec) (n : Nat) (mids mids' : List String) : Prop where
  /-- nothing but m-line indices changes, and only on transceivers without a mid: such a transceiver gets the index of
  its own new section, the `k`-th of `secs`, counted from the start index `n` -/
  rel : Rel2 (fun t t' => t' = { t with mline := t'.mline } ∧ (t.mid ≠ none → t'.mline = t.mline) ∧
      (t.mid = none → ∃ (k : Nat) (s : MSec), t'.mline = some (n + k) ∧ secs[k]? = some s ∧ s.kind = t.kind ∧ s.codecs = t.codecs)) ts ts'
  each : ∀ (k : Nat), k < secs.length → ∃ t' ∈ ts', t'.mid = none ∧ t'.mline = some (n + k)
  distinct : ts'.Pairwise (fun a b => a.mid = none → b.mid = none → a.mline ≠ b.mline)
  setup : ∀ s ∈ secs, s.setup = .auto
  mids' : mids' = mids ++ secs.map (·.mid)
  nodup : (secs.map (·.mid)).Nodup
  fresh : ∀ x ∈ secs.map (·.mid), x ∉ mids

theorem offerNew_ok (pc : Pc) : ∀ (ts : List Transceiver) (n : Nat) (mids : List String),
    ∃ ts' secs mids', offerNew pc ts n mids = .ok (ts', secs, mids') ∧ NewSpec ts ts' secs n mids mids' := by
  intro ts
  induction ts with
  | nil =>
    intro n mids
    exact ⟨[], [], mids, rfl, .nil, fun k hk => by simp at hk, .nil, by simp, by simp, by simp, by simp⟩
  | cons t ts ih =>
    intro n mids
    simp only [offerNew]
    by_cases htm : t.mid = none
    case neg =>
      have hisn : t.mid.isNone = false := by simpa [Option.isSome_iff_ne_none] using htm
      simp only [hisn, Bool.false_eq_true, if_false]
      obtain ⟨ts', secs, mids', h1, r⟩ := ih n mids
      rw [h1]
      refine ⟨t :: ts', secs, mids', rfl, ?_, ?_, ?_, r.setup, r.mids', r.nodup, r.fresh⟩
      · exact .cons ⟨rfl, fun _ => rfl, fun h => absurd h htm⟩ r.rel
      · intro k hk
        obtain ⟨t', ht', h2, h3⟩ := r.each k hk
        exact ⟨t', by simp [ht'], h2, h3⟩
      · refine List.pairwise_cons.mpr ⟨?_, r.distinct⟩
        intro b _ ha; exact absurd ha htm
    case pos =>
      have hisn : t.mid.isNone = true := by simp [htm]
      simp only [hisn, if_true]
      obtain ⟨m, hal⟩ := allocateMid_ok mids
      rw [hal]
      simp only
      obtain ⟨ts', secs, mids', h1, r⟩ := ih (n + 1) (mids ++ [m])
      rw [h1]
      have hfresh := (allocateMid_fresh hal).1
      refine ⟨_, _, mids', rfl, ?_, ?_, ?_, ?_, ?_, ?_, ?_⟩
      · refine .cons ⟨rfl, fun h => absurd htm h, fun _ => ⟨0, pc.secForTransceiver t t.direction m, rfl, by simp, rfl, rfl⟩⟩ ?_
        -- shift the index of the tail's sections by one
        refine r.rel.imp (fun u u' hh => ⟨hh.1, hh.2.1, fun hn => ?_⟩)
        obtain ⟨k, s, e1, e2, e3, e4⟩ := hh.2.2 hn
        exact ⟨k + 1, s, by rw [e1]; congr 1; omega, by simpa using e2, e3, e4⟩
      · intro k hk
        cases k with
        | zero => exact ⟨{ t with mline := some n }, by simp, htm, rfl⟩
        | succ k' =>
          obtain ⟨t', ht', h2, h3⟩ := r.each k' (by simpa using hk)
          exact ⟨t', by simp [ht'], h2, by rw [h3]; congr 1; omega⟩
      · refine List.pairwise_cons.mpr ⟨?_, r.distinct⟩
        intro b hb _ hbn
        -- b is a transceiver of the tail without mid: its index is ≥ n + 1
        obtain ⟨t0, _, hsame, _, hplaced⟩ := r.rel.mem_right b hb
        have hb0 : t0.mid = none := by rw [hsame] at hbn; exact hbn
        obtain ⟨k, s, e1, _⟩ := hplaced hb0
        simp only
        rw [e1]
        intro h; simp at h; omega
      · intro s hs
        rcases List.mem_cons.mp hs with rfl | hs
        · rfl
        · exact r.setup s hs
      · rw [r.mids']; simp [Pc.secForTransceiver]
      · simp only [List.map_cons, List.nodup_cons]
        refine ⟨?_, r.nodup⟩
        intro hmem
        exact r.fresh _ hmem (by simp [Pc.secForTransceiver])
      · intro x hx
        simp only [List.map_cons, List.mem_cons] at hx
        rcases hx with rfl | hx
        · simpa [Pc.secForTransceiver] using hfresh
        · intro hxm
          exact r.fresh x hx (by simp [hxm])

theorem mergeMedia_same_keys : ∀ (l r : List MSec), keysOfSecs r = keysOfSecs l → mergeMedia l r = l := by
  intro l
  induction l with
  | nil =>
    intro r h
    cases r with
    | nil => rfl
    | cons b bs => simp [keysOfSecs] at h
  | cons a as ih =>
    intro r h
    cases r with
    | nil => simp [keysOfSecs] at h
    | cons b bs =>
      simp only [keysOfSecs, List.map_cons, List.cons.injEq] at h
      simp only [mergeMedia]
      rw [ih bs h.2]

theorem existingMedia_keys {pc : Pc} (hr : (pc.remoteDesc.map keysOf).getD [] = pc.keys) :
    keysOfSecs pc.existingMedia = pc.keys := by
  unfold Pc.existingMedia Pc.keys at *
  cases hl : pc.localDesc with
  | none =>
    rw [hl] at hr
    cases hrd : pc.remoteDesc with
    | none => simp [mergeMedia, keysOfSecs]
    | some r =>
      rw [hrd] at hr
      simp only [Option.map_some, Option.getD_some, Option.map_none, Option.getD_none] at hr
      have : r.media = [] := by simpa [keysOf] using hr
      simp [mergeMedia, keysOfSecs, this]
  | some l =>
    rw [hl] at hr
    cases hrd : pc.remoteDesc with
    | none =>
      rw [hrd] at hr
      simp only [Option.map_some, Option.getD_some, Option.map_none, Option.getD_none] at hr
      have : l.media = [] := by simpa [keysOf] using hr.symm
      simp [mergeMedia, keysOfSecs, this, keysOf]
    | some r =>
      rw [hrd] at hr
      simp only [Option.map_some, Option.getD_some] at hr ⊢
      rw [mergeMedia_same_keys l.media r.media (by simpa [keysOf, keysOfSecs] using hr)]
      rfl

/-- What `createOffer` leaves: the offer `d` and the connection `o1` (only `sctpMline` and the m-line indices, codecs and
header extensions of the transceivers differ from `o`). -/
structure OfferMade (o o1 : Pc) (d : Desc) : Prop where
  type : d.type = .offer
  bundle : d.bundle = d.media.map (·.mid)
  /-- existing sections keep kind, mid and position -/
  pref : ∃ rest, keysOf d = o.keys ++ rest
  nodup : ((keysOf d).map (·.2)).Nodup
  /-- mids of new sections were never seen before -/
  fresh : ∀ (j : Nat) (kx : Kind × String), o.keys.length ≤ j → (keysOf d)[j]? = some kx → kx.2 ∉ o.seenMids
  setup : ∀ m ∈ d.media, m.setup = .auto
  codecs : ∀ m ∈ d.media, m.kind.isMedia = true → ∃ t ∈ o.transceivers, t.kind = m.kind ∧ m.codecs = offered t.kind t.preferred
  app : ∀ m ∈ d.media, m.kind.isMedia = false → o.sctp.isSome = true ∧ (o.sctpMid = some m.mid ∨ o.sctpMid = none)
  appSame : ∀ m1 ∈ d.media, ∀ m2 ∈ d.media, m1.kind.isMedia = false → m2.kind.isMedia = false → m1.mid = m2.mid
  appOld : ∀ x, o.sctpMid = some x → (Kind.application, x) ∈ keysOf d
  slots : o1.slots = o.slots
  seen : o1.seenMids = o.seenMids
  sctp : o1.sctp = o.sctp
  lines : ∀ t ∈ o1.transceivers, ∃ (j : Nat) (m : MSec), t.mline = some j ∧ d.media[j]? = some m ∧ m.kind = t.kind ∧
    m.kind.isMedia = true ∧ (t.mid = some m.mid ∨ t.mid = none)
  each : ∀ (j : Nat) (m : MSec), d.media[j]? = some m → m.kind.isMedia = true → ∃ t ∈ o1.transceivers, t.mline = some j
  distinct : DistinctLines o1.transceivers
  prefs : PrefsSub o1.transceivers o.transceivers
  media : AllMedia o1.transceivers

/-- **`createOffer` never fails on a connection that owns its sections**, whatever its signalling state short of
`closed`: `createOffer` itself does not look at it. -/
theorem createOffer_ok {o : Pc} (hs : o.sig ≠ .closed) (hr : (o.remoteDesc.map keysOf).getD [] = o.keys) (h : Owns o.keys o) :
    ∃ o1 d, o.createOffer = .ok (o1, d) ∧ OfferMade o o1 d ∧ o1.transports = o.transports ∧
      ∀ t' ∈ o1.transceivers, ∃ t ∈ o.transceivers, t'.transport = t.transport := by
  have hex : keysOfSecs o.existingMedia = o.keys := existingMedia_keys hr
  have hpre := h.pre
  have hnd := h.nodup
  have howned := h.owned
  have hsctpHas := h.sctpHas
  have hsctpIn := h.sctpIn
  have hmedia := h.media
  have hshape : (o.transceivers.map offerFn).map shape = o.transceivers.map shape := by
    rw [List.map_map]; rfl
  have hpre0 : Pre o.keys (o.transceivers.map offerFn) := hpre.congr hshape
  -- "handle existing"
  have hidx : ∀ (j : Nat) (m : MSec), o.existingMedia[j]? = some m → o.keys[0 + j]? = some (m.kind, m.mid) := by
    intro j m hj
    rw [← hex]; simpa using keys_getElem hj
  obtain ⟨pc1, secs1, hE, efr, e5, e6, e7⟩ := offerExisting_ok hnd o.existingMedia
    { o with transceivers := o.transceivers.map offerFn } 0 hpre0.lines hidx
    (by
      intro m hm hk
      obtain ⟨j, hj⟩ := List.getElem?_of_mem hm
      have := hidx j m hj
      obtain ⟨t, ht, htm⟩ := howned (0 + j) m.kind m.mid this hk
      exact ⟨offerFn t, List.mem_map_of_mem ht, htm⟩)
    (by
      intro m hm hk
      obtain ⟨j, hj⟩ := List.getElem?_of_mem hm
      have := hidx j m hj
      rw [kind_not_media hk] at this
      have := hsctpHas m.mid (List.mem_of_getElem? this)
      simp only [Pc.sctpMid] at this
      cases hs : o.sctp with
      | none => simp [hs] at this
      | some s => rfl)
  have hts1 : pc1.transceivers = o.transceivers.map offerFn := by rw [efr]
  have e2 : pc1.sctp = o.sctp := by rw [efr]
  have hseen1 : pc1.seenMids = o.seenMids := by rw [efr]
  have e4 : pc1.slots = o.slots := by rw [efr]; rfl
  -- "handle new"
  obtain ⟨ts2, secs2, mids2, hN, r⟩ := offerNew_ok pc1 pc1.transceivers secs1.length pc1.seenMids
  have hlen1 : secs1.length = o.keys.length := by
    have := congrArg List.length e5
    simp only [keysOfSecs, List.length_map] at this
    rw [this, ← hex]; simp [keysOfSecs]
  have hk1 : keysOfSecs secs1 = o.keys := e5.trans hex
  -- the SCTP section
  obtain ⟨o1, d, tail, hF, hfr, f5, f6, f7, f8, f9, f10⟩ := offerFinish_ok { pc1 with transceivers := ts2 } (secs1 ++ secs2) mids2
  have f1 : o1.transceivers = ts2 := by rw [hfr]
  have f2 : o1.slots = o.slots := by rw [hfr]; exact e4
  have f3 : o1.seenMids = o.seenMids := by rw [hfr]; exact hseen1
  have f4 : o1.sctp = o.sctp := by rw [hfr]; exact e2
  have f8 : ∀ m ∈ tail, m.kind.isMedia = false ∧ m.setup = .auto ∧ m.mid ∉ mids2 ∧ o.sctp.isSome = true ∧ o.sctpMid = none := by
    intro m hm; have := f8 m hm; simp only [e2] at this; exact this
  have f10 : o.sctp.isSome = true → o.sctpMid = none → tail ≠ [] := by
    simp only [e2] at f10; exact f10
  have hco : o.createOffer = .ok (o1, d) := createOffer_iff.mpr ⟨hs, pc1, secs1, hE, ts2, secs2, mids2, hN, hF⟩
  refine ⟨o1, d, hco, ?_, by rw [hfr, efr], ?_⟩
  rotate_left
  · -- createOffer moves nothing
    intro t' ht'
    rw [f1] at ht'
    obtain ⟨t0, ht0, hsame, _⟩ := r.rel.mem_right t' ht'
    rw [hts1] at ht0
    obtain ⟨t, ht, rfl⟩ := List.mem_map.mp ht0
    exact ⟨t, ht, by rw [hsame]; rfl⟩
  have hkd : keysOf d = o.keys ++ (keysOfSecs secs2 ++ keysOfSecs tail) := by
    rw [keysOf_eq, f7, keysOfSecs_append, keysOfSecs_append, hk1, List.append_assoc]
  have hmids2 : mids2 = o.seenMids ++ secs2.map (·.mid) := by rw [r.mids', hseen1]
  have hback : ∀ t0 ∈ pc1.transceivers, ∃ t ∈ o.transceivers, t0 = offerFn t := by
    intro t0 ht0; rw [hts1] at ht0
    obtain ⟨t, ht, rfl⟩ := List.mem_map.mp ht0
    exact ⟨t, ht, rfl⟩
  have hlines1 : Lines o.keys pc1.transceivers := by rw [hts1]; exact hpre0.lines
  have hsecs2 : ∀ (k : Nat) (s : MSec), secs2[k]? = some s → ∃ t ∈ o.transceivers, t.mid = none ∧ s.kind = t.kind ∧
      s.codecs = offered t.kind t.preferred := by
    intro k s hk
    obtain ⟨t', ht', hm', hl'⟩ := r.each k (List.getElem?_eq_some_iff.mp hk).1
    obtain ⟨t0, ht0, hsame, _, hplaced⟩ := r.rel.mem_right t' ht'
    have ht0m : t0.mid = none := by rw [hsame] at hm'; exact hm'
    obtain ⟨k', s', el, es, ek, ec⟩ := hplaced ht0m
    rw [hl'] at el
    have : k = k' := by simp at el; omega
    subst this
    rw [hk] at es; cases es
    obtain ⟨t, ht, rfl⟩ := hback t0 ht0
    exact ⟨t, ht, ht0m, ek, ec⟩
  have hsecs2media : ∀ s ∈ secs2, s.kind.isMedia = true := by
    intro s hs
    obtain ⟨k, hk⟩ := List.getElem?_of_mem hs
    obtain ⟨t, ht, _, e, _⟩ := hsecs2 k s hk
    rw [e]; exact hmedia t ht
  have hKmids : ∀ kx ∈ o.keys, kx.2 ∈ o.seenMids := h.seen
  have hsecs1app : ∀ m ∈ secs1, m.kind.isMedia = false → o.sctpMid = some m.mid := by
    intro m hm hk
    have : (m.kind, m.mid) ∈ o.keys := by rw [← hk1]; exact List.mem_map_of_mem hm
    rw [kind_not_media hk] at this
    exact hsctpHas m.mid this
  have hmem_d : ∀ m ∈ d.media, m ∈ secs1 ∨ m ∈ secs2 ∨ m ∈ tail := by
    intro m hm; rw [f7] at hm
    simp only [List.mem_append] at hm
    rcases hm with (h1 | h1) | h1
    · exact .inl h1
    · exact .inr (.inl h1)
    · exact .inr (.inr h1)
  have hget1 : ∀ (j : Nat) (m : MSec), secs1[j]? = some m → d.media[j]? = some m := by
    intro j m hj
    rw [f7, List.append_assoc, List.getElem?_append_left (List.getElem?_eq_some_iff.mp hj).1]; exact hj
  have hget2 : ∀ (k : Nat) (m : MSec), secs2[k]? = some m → d.media[secs1.length + k]? = some m := by
    intro k m hk
    rw [f7, List.append_assoc, List.getElem?_append_right (by omega)]
    simp only [Nat.add_sub_cancel_left]
    rw [List.getElem?_append_left (List.getElem?_eq_some_iff.mp hk).1]; exact hk
  have hts2 : ∀ t2 ∈ ts2, ∃ t ∈ o.transceivers, t2 = { offerFn t with mline := t2.mline } ∧
      ((t.mid ≠ none ∧ t2.mline = t.mline) ∨
       (t.mid = none ∧ ∃ (k : Nat) (s : MSec), t2.mline = some (secs1.length + k) ∧ secs2[k]? = some s ∧ s.kind = t.kind)) := by
    intro t2 ht2
    obtain ⟨t0, ht0, hsame, hkept, hplaced⟩ := r.rel.mem_right t2 ht2
    obtain ⟨t, ht, rfl⟩ := hback t0 ht0
    refine ⟨t, ht, hsame, ?_⟩
    by_cases hm : t.mid = none
    · obtain ⟨k, s, e1', e2', e3', _⟩ := hplaced hm
      exact .inr ⟨hm, k, s, e1', e2', e3'⟩
    · exact .inl ⟨hm, hkept hm⟩
  refine { type := f5, bundle := f6, pref := ⟨_, hkd⟩, nodup := ?_, fresh := ?_, setup := ?_, codecs := ?_, app := ?_, appSame := ?_,
           appOld := ?_, slots := f2, seen := f3, sctp := f4, lines := ?_, each := ?_, distinct := ?_, prefs := ?_, media := ?_ }
  · rw [hkd]
    simp only [List.map_append]
    refine List.nodup_append.mpr ⟨hnd, ?_, ?_⟩
    · refine List.nodup_append.mpr ⟨by simpa [keysOfSecs, Function.comp_def] using r.nodup, ?_, ?_⟩
      · rcases f9 with rfl | ⟨x, rfl⟩ <;> simp [keysOfSecs]
      · intro a ha b hb hab
        simp only [keysOfSecs, List.map_map, List.mem_map, Function.comp] at ha hb
        obtain ⟨mb, hmb, rfl⟩ := hb
        obtain ⟨ma, hma, rfl⟩ := ha
        have := (f8 mb hmb).2.2.1
        rw [hmids2] at this
        apply this
        simp only [List.mem_append, List.mem_map]
        exact .inr ⟨ma, hma, hab⟩
    · intro a ha b hb hab
      obtain ⟨kx, hkx, rfl⟩ := List.mem_map.mp ha
      have hseen := hKmids kx hkx
      rcases List.mem_append.mp hb with hb | hb
      · simp only [keysOfSecs, List.map_map, List.mem_map, Function.comp] at hb
        obtain ⟨mb, hmb, hmbe⟩ := hb
        refine r.fresh mb.mid (List.mem_map_of_mem hmb) ?_
        rw [hseen1, hmbe, ← hab]; exact hseen
      · simp only [keysOfSecs, List.map_map, List.mem_map, Function.comp] at hb
        obtain ⟨mb, hmb, hmbe⟩ := hb
        have := (f8 mb hmb).2.2.1
        rw [hmids2] at this
        apply this
        rw [hmbe, ← hab]
        simp [hseen]
  · intro j kx hj hkx
    rw [hkd, List.getElem?_append_right hj] at hkx
    have hmem := List.mem_of_getElem? hkx
    rcases List.mem_append.mp hmem with hb | hb
    · simp only [keysOfSecs, List.mem_map] at hb
      obtain ⟨mb, hmb, rfl⟩ := hb
      have := r.fresh mb.mid (List.mem_map_of_mem hmb)
      rw [hseen1] at this; exact this
    · simp only [keysOfSecs, List.mem_map] at hb
      obtain ⟨mb, hmb, rfl⟩ := hb
      have := (f8 mb hmb).2.2.1
      rw [hmids2] at this
      intro hh; exact this (by simp [hh])
  · intro m hm
    rcases hmem_d m hm with h1 | h1 | h1
    · exact e6 m h1
    · exact r.setup m h1
    · exact (f8 m h1).2.1
  · intro m hm hk
    rcases hmem_d m hm with h1 | h1 | h1
    · obtain ⟨t0, ht0, ek, ec⟩ := e7 m h1 hk
      obtain ⟨t, ht, rfl⟩ := hback t0 (by rw [hts1]; exact ht0)
      exact ⟨t, ht, ek, ec⟩
    · obtain ⟨k, hk2⟩ := List.getElem?_of_mem h1
      obtain ⟨t, ht, _, ek, ec⟩ := hsecs2 k m hk2
      exact ⟨t, ht, ek.symm, ec⟩
    · rw [(f8 m h1).1] at hk; cases hk
  · intro m hm hk
    rcases hmem_d m hm with h1 | h1 | h1
    · have := hsecs1app m h1 hk
      refine ⟨?_, .inl this⟩
      simp only [Pc.sctpMid] at this
      cases hs : o.sctp with
      | none => simp [hs] at this
      | some s => rfl
    · rw [hsecs2media m h1] at hk; cases hk
    · exact ⟨(f8 m h1).2.2.2.1, .inr (f8 m h1).2.2.2.2⟩
  · intro m1 hm1 m2 hm2 hk1' hk2'
    rcases hmem_d m1 hm1 with a1 | a1 | a1
    · rcases hmem_d m2 hm2 with a2 | a2 | a2
      · have := hsecs1app m1 a1 hk1'
        rw [hsecs1app m2 a2 hk2'] at this
        exact (Option.some.inj this).symm
      · rw [hsecs2media m2 a2] at hk2'; cases hk2'
      · have := hsecs1app m1 a1 hk1'
        rw [(f8 m2 a2).2.2.2.2] at this; cases this
    · rw [hsecs2media m1 a1] at hk1'; cases hk1'
    · rcases hmem_d m2 hm2 with a2 | a2 | a2
      · have := hsecs1app m2 a2 hk2'
        rw [(f8 m1 a1).2.2.2.2] at this; cases this
      · rw [hsecs2media m2 a2] at hk2'; cases hk2'
      · rcases f9 with rfl | ⟨x, rfl⟩
        · cases a1
        · simp only [List.mem_singleton] at a1 a2; rw [a1, a2]
  · intro x hx
    have := hsctpIn x hx
    rw [hkd]; simp [this]
  · intro t2 ht2
    rw [f1] at ht2
    obtain ⟨t, ht, he, hcase⟩ := hts2 t2 ht2
    have hk2 : t2.kind = t.kind := by rw [he]; rfl
    have hm2 : t2.mid = t.mid := by rw [he]; rfl
    rcases hcase with ⟨hm, hl⟩ | ⟨hm, k, s, hl, hs, hsk⟩
    · rcases hpre.lines t ht with ⟨h1, _⟩ | ⟨j, x, hj, hx, hl0⟩
      · exact absurd h1 hm
      · have hjs : (keysOfSecs secs1)[j]? = some (t.kind, x) := by rw [hk1]; exact hj
        obtain ⟨m, hmj, e1, e2⟩ := keys_getElem_inv hjs
        refine ⟨j, m, by rw [hl, hl0], hget1 j m hmj, by rw [hk2, e1], by rw [e1]; exact hmedia t ht, .inl ?_⟩
        rw [hm2, hx, e2]
    · exact ⟨secs1.length + k, s, hl, hget2 k s hs, by rw [hk2, hsk], by rw [hsk]; exact hmedia t ht, .inr (by rw [hm2, hm])⟩
  · intro j m hj hk
    rw [f1]
    by_cases hjn : j < secs1.length
    · have hj1 : secs1[j]? = some m := by
        rw [f7, List.append_assoc, List.getElem?_append_left hjn] at hj; exact hj
      have hKj : o.keys[j]? = some (m.kind, m.mid) := by rw [← hk1]; exact keys_getElem hj1
      obtain ⟨t, ht, htm⟩ := howned j m.kind m.mid hKj hk
      obtain ⟨t0', ht0', _, hkept, _⟩ := r.rel.mem_left (offerFn t) (by rw [hts1]; exact List.mem_map_of_mem ht)
      refine ⟨t0', ht0', ?_⟩
      rw [hkept (by show t.mid ≠ none; rw [htm]; simp)]
      exact (hpre.lines.owner hnd hKj ht htm).2
    · have hjn' : secs1.length ≤ j := by omega
      rw [f7, List.append_assoc, List.getElem?_append_right hjn'] at hj
      by_cases hj2 : j - secs1.length < secs2.length
      · obtain ⟨t', ht', _, hl'⟩ := r.each (j - secs1.length) hj2
        exact ⟨t', ht', by rw [hl']; congr 1; omega⟩
      · rw [List.getElem?_append_right (by omega)] at hj
        have := (f8 m (List.mem_of_getElem? hj)).1
        rw [this] at hk; cases hk
  · -- distinct m-line indices: a transceiver with a mid keeps an index below `o.keys.length` (`hbound`), one without gets
    -- `secs1.length + k`, and `secs1.length = o.keys.length` (`hlen1`)
    rw [f1]
    unfold DistinctLines
    have hA : ts2.Pairwise (fun a b => (a.mid ≠ none ∨ b.mid ≠ none) → a.mline ≠ b.mline) := by
      refine Rel2.pairwise r.rel (by rw [hts1]; exact hpre0.unique) ?_
      intro a ha b hb a' b' hra hrb hab hor
      have hma : a'.mid = a.mid := by rw [hra.1]
      have hmb : b'.mid = b.mid := by rw [hrb.1]
      have hbound : ∀ x ∈ pc1.transceivers, x.mid ≠ none → ∃ (j : Nat) (y : String), o.keys[j]? = some (x.kind, y) ∧ x.mid = some y ∧ x.mline = some j := by
        intro x hx hxm
        rcases hlines1 x hx with ⟨h1, _⟩ | hh
        · exact absurd h1 hxm
        · exact hh
      by_cases hna : a.mid = none
      · obtain ⟨k, _, ela, _⟩ := hra.2.2 hna
        have hnb : b.mid ≠ none := by
          rcases hor with h1 | h1
          · rw [hma] at h1; exact absurd hna h1
          · rw [hmb] at h1; exact h1
        obtain ⟨j, y, hj, _, hl⟩ := hbound b hb hnb
        rw [ela, hrb.2.1 hnb, hl]
        have : j < o.keys.length := (List.getElem?_eq_some_iff.mp hj).1
        intro hh; simp at hh; omega
      · obtain ⟨ja, ya, hja, hya, hla⟩ := hbound a ha hna
        by_cases hnb : b.mid = none
        · obtain ⟨k, _, elb, _⟩ := hrb.2.2 hnb
          rw [elb, hra.2.1 hna, hla]
          have : ja < o.keys.length := (List.getElem?_eq_some_iff.mp hja).1
          intro hh; simp at hh; omega
        · obtain ⟨jb, yb, hjb, hyb, hlb⟩ := hbound b hb hnb
          rw [hra.2.1 hna, hrb.2.1 hnb, hla, hlb]
          intro hh
          have : ja = jb := by simpa using hh
          subst this
          rw [hja] at hjb
          simp only [Option.some.injEq, Prod.mk.injEq] at hjb
          exact hab hna (by rw [hya, hyb, hjb.2])
    refine (hA.and r.distinct).imp ?_
    intro a b hab
    by_cases hna : a.mid = none
    · by_cases hnb : b.mid = none
      · exact hab.2 hna hnb
      · exact hab.1 (.inr hnb)
    · exact hab.1 (.inl hna)
  · intro t2 ht2
    rw [f1] at ht2
    obtain ⟨t, ht, he, _⟩ := hts2 t2 ht2
    exact .inr ⟨t, ht, by rw [he]; rfl, by rw [he]; rfl⟩
  · intro t2 ht2
    rw [f1] at ht2
    obtain ⟨t, ht, he, _⟩ := hts2 t2 ht2
    rw [he]; exact hmedia t ht

end Aiortc.Model.Negotiate
