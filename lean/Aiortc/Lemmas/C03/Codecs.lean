import Aiortc.Model.Jsep.Codecs
import Aiortc.Lemmas.Outcome
import Std.Data.String.ToNat
/-!
C03 — the module-level helpers: `find_common_codecs`, `filter_preferred_codecs`, `allocate_mid`
(`find_common_header_extensions`: `Props.C03.header_extensions_offered`) — for ALL input lists: what they select, that they never raise on lists
whose RTX entries carry an `apt`; the facts about aiortc's own tables (`tableOk`, by evaluation).
-/
namespace Aiortc.Model.Negotiate
open Aiortc (Outcome)

export Aiortc.Outcome (ok_bind bind_eq_ok)

/-! ## is_rtx only depends on the lower-cased mime type -/

theorem isRtxMime_congr {a b : String} (h : a.toLower = b.toLower) : isRtxMime a = isRtxMime b := by
  unfold isRtxMime; rw [h]

theorem compatible_mime {a b : Codec} (h : isCodecCompatible a b = true) : a.mime.toLower = b.mime.toLower := by
  unfold isCodecCompatible at h
  by_cases hm : a.mime.toLower = b.mime.toLower
  · exact hm
  · simp [hm] at h

theorem compatible_clock {a b : Codec} (h : isCodecCompatible a b = true) : a.clockRate = b.clockRate := by
  unfold isCodecCompatible at h
  by_cases hm : a.clockRate = b.clockRate
  · exact hm
  · simp [hm] at h

theorem compatible_isRtx {a b : Codec} (h : isCodecCompatible a b = true) : a.isRtx = b.isRtx :=
  isRtxMime_congr (compatible_mime h)

@[simp] theorem adapt_mime (l c : Codec) : (adapt l c).mime = l.mime := rfl
@[simp] theorem adapt_clock (l c : Codec) : (adapt l c).clockRate = l.clockRate := rfl
@[simp] theorem adapt_params (l c : Codec) : (adapt l c).params = l.params := rfl
@[simp] theorem adapt_channels (l c : Codec) : (adapt l c).channels = l.channels := rfl
@[simp] theorem adapt_isRtx (l c : Codec) : (adapt l c).isRtx = l.isRtx := rfl

/-- the payload type of a selected codec is the offered one whenever that is dynamic -/
theorem adapt_pt (l c : Codec) : (adapt l c).pt = if isDynamicPt c.pt then c.pt else l.pt := rfl

/-- feedback of a selected codec ⊆ offered feedback (and ⊆ the local codec's) -/
theorem adapt_fb_offered (l c : Codec) : ∀ f ∈ (adapt l c).fb, f ∈ c.fb ∧ f ∈ l.fb := by
  intro f hf
  simp only [adapt, List.mem_filter, List.contains_iff_mem] at hf
  exact ⟨hf.2, hf.1⟩

/-! ## find_common_codecs -/

/-- What `find_common_codecs` may put into its result for a remote list: a local codec adapted to a compatible,
non-RTX remote codec, or a remote RTX codec itself. -/
inductive Selected (loc remote : List Codec) : Codec → Prop where
  | base (l r : Codec) : l ∈ loc → r ∈ remote → r.isRtx = false → isCodecCompatible l r = true → Selected loc remote (adapt l r)
  | rtx (r : Codec) : r ∈ remote → r.isRtx = true → Selected loc remote r

theorem selected_mono {loc remote remote' : List Codec} (h : ∀ r ∈ remote, r ∈ remote') {c : Codec}
    (hc : Selected loc remote c) : Selected loc remote' c := by
  cases hc with
  | base l r hl hr h1 h2 => exact .base l r hl (h r hr) h1 h2
  | rtx _ hr h1 => exact .rtx _ (h _ hr) h1

/-- `base` maps payload types to codecs that were appended to `common` earlier; `acc` stands for that earlier part of
`common`, which `findCommonGo` itself does not carry along. -/
def BaseOk (acc : List Codec) (base : List (Nat × Codec)) : Prop :=
  ∀ k b, (k, b) ∈ base → b ∈ acc ∧ b.pt = k ∧ b.isRtx = false

theorem baseLookup_mem {pt : Int} {base : List (Nat × Codec)} {b : Codec} (h : baseLookup pt base = some b) :
    ∃ k, (k, b) ∈ base ∧ (k : Int) = pt := by
  induction base with
  | nil => simp [baseLookup] at h
  | cons x xs ih =>
    obtain ⟨k, c⟩ := x
    simp only [baseLookup] at h
    split at h
    · rename_i hk
      simp only [beq_iff_eq] at hk
      cases h
      exact ⟨k, by simp, hk⟩
    · obtain ⟨k', hm, hk'⟩ := ih h
      exact ⟨k', by simp [hm], hk'⟩

def RtxHasBase (l : List Codec) : Prop :=
  ∀ c ∈ l, c.isRtx = true → ∃ b ∈ l, b.isRtx = false ∧ plookup "apt" c.params = some (.inl (b.pt : Int)) ∧ b.clockRate = c.clockRate

theorem findCommonGo_spec (loc : List Codec) :
    ∀ (remote : List Codec) (base : List (Nat × Codec)) (acc : List Codec), BaseOk acc base →
      (∀ c ∈ findCommonGo loc remote base, Selected loc remote c) ∧
      (∀ c ∈ findCommonGo loc remote base, c.isRtx = true →
        ∃ b ∈ acc ++ findCommonGo loc remote base, b.isRtx = false ∧ plookup "apt" c.params = some (.inl (b.pt : Int)) ∧ b.clockRate = c.clockRate) := by
  intro remote
  induction remote with
  | nil => intro base acc _; simp [findCommonGo]
  | cons c rs ih =>
    intro base acc hb
    have mono : ∀ x, Selected loc rs x → Selected loc (c :: rs) x := fun x hx => selected_mono (fun r hr => List.mem_cons_of_mem _ hr) hx
    unfold findCommonGo
    by_cases hrtx : c.isRtx = true
    · simp only [hrtx, if_true]
      -- RTX: three ways to skip, one way to keep
      have skip : (∀ x ∈ findCommonGo loc rs base, Selected loc (c :: rs) x) ∧
          (∀ x ∈ findCommonGo loc rs base, x.isRtx = true →
            ∃ b ∈ acc ++ findCommonGo loc rs base, b.isRtx = false ∧ plookup "apt" x.params = some (.inl (b.pt : Int)) ∧ b.clockRate = x.clockRate) :=
        ⟨fun x hx => mono x ((ih base acc hb).1 x hx), (ih base acc hb).2⟩
      split
      · rename_i apt hapt
        split
        · rename_i b hbl
          split
          · rename_i hclk
            simp only [beq_iff_eq] at hclk
            obtain ⟨k, hk, hkp⟩ := baseLookup_mem hbl
            obtain ⟨hbacc, hbpt, hbr⟩ := hb k b hk
            constructor
            · intro x hx
              rcases List.mem_cons.mp hx with rfl | hx
              · exact .rtx _ (by simp) hrtx
              · exact mono x ((ih base acc hb).1 x hx)
            · intro x hx hxr
              rcases List.mem_cons.mp hx with rfl | hx
              · refine ⟨b, by simp [hbacc], hbr, ?_, hclk.symm⟩
                rw [hapt, hbpt, hkp]
              · obtain ⟨b', hb', h1, h2, h3⟩ := (ih base acc hb).2 x hx hxr
                refine ⟨b', ?_, h1, h2, h3⟩
                rcases List.mem_append.mp hb' with h | h
                · simp [h]
                · simp [h]
          · exact skip
        · exact skip
      · exact skip
    · simp only [hrtx]
      have hrtx' : c.isRtx = false := by simpa using hrtx
      simp only [Bool.false_eq_true, if_false]
      split
      · rename_i l hfind
        have hl : l ∈ loc := List.mem_of_find?_eq_some hfind
        have hcomp : isCodecCompatible l c = true := by simpa using List.find?_some hfind
        have hnr : (adapt l c).isRtx = false := by rw [adapt_isRtx, compatible_isRtx hcomp]; exact hrtx'
        have hb' : BaseOk (acc ++ [adapt l c]) (((adapt l c).pt, adapt l c) :: base) := by
          intro k b hkb
          rcases List.mem_cons.mp hkb with h | h
          · cases h; exact ⟨by simp, rfl, hnr⟩
          · obtain ⟨h1, h2, h3⟩ := hb k b h
            exact ⟨by simp [h1], h2, h3⟩
        have ih' := ih (((adapt l c).pt, adapt l c) :: base) (acc ++ [adapt l c]) hb'
        constructor
        · intro x hx
          rcases List.mem_cons.mp hx with rfl | hx
          · exact .base l c hl (by simp) hrtx' hcomp
          · exact mono x (ih'.1 x hx)
        · intro x hx hxr
          rcases List.mem_cons.mp hx with rfl | hx
          · rw [hnr] at hxr; cases hxr
          · obtain ⟨b', hb'', h1, h2, h3⟩ := ih'.2 x hx hxr
            refine ⟨b', ?_, h1, h2, h3⟩
            simpa [List.append_assoc] using hb''
      · exact ⟨fun x hx => mono x ((ih base acc hb).1 x hx), (ih base acc hb).2⟩

/-- Every codec `find_common_codecs` returns was offered: a local codec adapted to a compatible offered non-RTX codec
(offerer's payload type when dynamic, feedback ⊆ offered), or an offered RTX codec itself. -/
theorem findCommon_selected (loc remote : List Codec) : ∀ c ∈ findCommon loc remote, Selected loc remote c :=
  (findCommonGo_spec loc remote [] [] (by intro k b h; cases h)).1

/-- RTX is accepted only behind its accepted base codec (`apt` = base payload type, equal clock rate). -/
theorem findCommon_rtxHasBase (loc remote : List Codec) : RtxHasBase (findCommon loc remote) := by
  intro c hc hr
  have := (findCommonGo_spec loc remote [] [] (by intro k b h; cases h)).2 c hc hr
  simpa [findCommon] using this

theorem findCommonGo_mem (loc : List Codec) : ∀ (remote : List Codec) (base : List (Nat × Codec)) (r l : Codec),
    r ∈ remote → r.isRtx = false → loc.find? (fun x => isCodecCompatible x r) = some l → adapt l r ∈ findCommonGo loc remote base := by
  intro remote
  induction remote with
  | nil => intro base r l hr; cases hr
  | cons c cs ih =>
    intro base r l hr hnr hf
    rcases List.mem_cons.mp hr with rfl | hr'
    · unfold findCommonGo
      simp only [hnr, Bool.false_eq_true, if_false, hf]
      simp
    · unfold findCommonGo
      split
      · split
        · split
          · split
            · simp [ih base r l hr' hnr hf]
            · exact ih base r l hr' hnr hf
          · exact ih base r l hr' hnr hf
        · exact ih base r l hr' hnr hf
      · split
        · simp [ih _ r l hr' hnr hf]
        · exact ih base r l hr' hnr hf

theorem findCommon_mem {loc remote : List Codec} {r l : Codec} (hr : r ∈ remote) (hnr : r.isRtx = false)
    (hf : loc.find? (fun x => isCodecCompatible x r) = some l) : adapt l r ∈ findCommon loc remote :=
  findCommonGo_mem loc remote [] r l hr hnr hf

/-! ## filter_preferred_codecs -/

theorem rtxFor_spec {rtxs : List Codec} {pt : Nat} {r : Option Codec} (h : rtxFor rtxs pt = .ok r) :
    ∀ x, r = some x → x ∈ rtxs ∧ plookup "apt" x.params = some (.inl (pt : Int)) := by
  induction rtxs with
  | nil =>
    intro x hx
    simp only [rtxFor] at h
    cases h; cases hx
  | cons y ys ih =>
    simp only [rtxFor] at h
    split at h
    · cases h
    · rename_i v hv
      split at h
      · rename_i hveq
        cases h
        intro x hx; cases hx
        exact ⟨by simp, by rw [hv, hveq]⟩
      · intro x hx
        obtain ⟨h1, h2⟩ := ih h x hx
        exact ⟨by simp [h1], h2⟩

theorem pickCodec_spec {codecs : List Codec} {p : Cap} {c : Codec} (h : pickCodec codecs p = some c) :
    c ∈ codecs ∧ c.mime.toLower = p.mime.toLower ∧ c.params = p.params := by
  unfold pickCodec at h
  have := List.find?_some h
  simp only [Bool.and_eq_true] at this
  exact ⟨List.mem_of_find?_eq_some h, eq_of_beq this.1, of_decide_eq_true this.2⟩

theorem filterGo_cons (codecs rtxs : List Codec) (en : Bool) (p : Cap) (ps : List Cap) :
    filterGo codecs rtxs en (p :: ps) = match pickCodec codecs p with
      | none => filterGo codecs rtxs en ps
      | some c => (if en then rtxFor rtxs c.pt else .ok none).bind fun r =>
          (filterGo codecs rtxs en ps).bind fun rest => .ok (c :: (r.toList ++ rest)) := by
  rw [filterGo]
  cases pickCodec codecs p with
  | none => rfl
  | some c =>
    cases en
    · dsimp only [Bool.false_eq_true, if_false, ok_bind]; cases filterGo codecs rtxs false ps <;> rfl
    · dsimp only [if_true]
      cases rtxFor rtxs c.pt <;> try rfl
      dsimp only [ok_bind]; cases filterGo codecs rtxs true ps <;> rfl

theorem filterGo_cons_ok {codecs rtxs : List Codec} {en : Bool} {p : Cap} {ps : List Cap} {out : List Codec}
    (h : filterGo codecs rtxs en (p :: ps) = .ok out) :
    (pickCodec codecs p = none ∧ filterGo codecs rtxs en ps = .ok out) ∨
    ∃ c r rest, pickCodec codecs p = some c ∧ (if en then rtxFor rtxs c.pt else .ok none) = .ok r ∧
      filterGo codecs rtxs en ps = .ok rest ∧ out = c :: (r.toList ++ rest) := by
  rw [filterGo_cons] at h
  cases hp : pickCodec codecs p with
  | none => rw [hp] at h; exact .inl ⟨rfl, h⟩
  | some c =>
    rw [hp] at h
    obtain ⟨r, hr, h⟩ := bind_eq_ok.mp h
    obtain ⟨rest, hrest, h⟩ := bind_eq_ok.mp h
    cases h
    exact .inr ⟨c, r, rest, rfl, hr, hrest, rfl⟩

theorem filterGo_spec (codecs rtxs : List Codec) (en : Bool) :
    ∀ (prefs : List Cap) (out : List Codec), (∀ p ∈ prefs, p.isRtx = false) → filterGo codecs rtxs en prefs = .ok out →
      ∀ c ∈ out, (c ∈ codecs ∧ c.isRtx = false) ∨
        (c ∈ rtxs ∧ ∃ b ∈ out, b ∈ codecs ∧ b.isRtx = false ∧ plookup "apt" c.params = some (.inl (b.pt : Int))) := by
  intro prefs
  induction prefs with
  | nil => intro out _ h; cases h; simp
  | cons p ps ih =>
    intro out hp h
    have hps : ∀ q ∈ ps, q.isRtx = false := fun q hq => hp q (by simp [hq])
    rcases filterGo_cons_ok h with ⟨_, h'⟩ | ⟨c, r, rest, hpick, hr, hrest, rfl⟩
    · exact ih out hps h'
    · obtain ⟨hcm, hcmime, _⟩ := pickCodec_spec hpick
      have hcr : c.isRtx = false := (isRtxMime_congr hcmime).trans (hp p (by simp))
      intro x hx
      rcases List.mem_cons.mp hx with rfl | hx
      · exact .inl ⟨hcm, hcr⟩
      · rcases List.mem_append.mp hx with hx | hx
        · have hrx : r = some x := by simpa using hx
          subst hrx
          cases en with
          | false => simp at hr
          | true =>
            obtain ⟨h1, h2⟩ := rtxFor_spec hr x rfl
            exact .inr ⟨h1, c, by simp, hcm, hcr, h2⟩
        · rcases ih rest hps hrest x hx with h1 | ⟨h1, b, hb, h2⟩
          · exact .inl h1
          · exact .inr ⟨h1, b, by simp [hb], h2⟩

/-- `filter_preferred_codecs` only selects from `codecs`; an RTX codec in a filtered (non-trivially filtered) list
directly belongs to a selected base codec. -/
theorem filterPreferred_spec {codecs : List Codec} {prefs : List Cap} {out : List Codec}
    (h : filterPreferred codecs prefs = .ok out) :
    (∀ c ∈ out, c ∈ codecs) ∧
    (prefs ≠ [] → ∀ c ∈ out, c.isRtx = true →
      ∃ b ∈ out, b.isRtx = false ∧ plookup "apt" c.params = some (.inl (b.pt : Int))) := by
  unfold filterPreferred at h
  split at h
  · rename_i he
    cases h
    exact ⟨fun c hc => hc, fun hne => absurd (by simpa using he) hne⟩
  · have hp : ∀ p ∈ prefs.filter (fun p => !p.isRtx), p.isRtx = false := by
      intro p hp; simpa using (List.mem_filter.mp hp).2
    have spec := filterGo_spec codecs (codecs.filter Codec.isRtx) (prefs.any Cap.isRtx) _ out hp h
    constructor
    · intro c hc
      rcases spec c hc with h1 | ⟨h1, _⟩
      · exact h1.1
      · exact (List.mem_filter.mp h1).1
    · intro _ c hc hcr
      rcases spec c hc with h1 | ⟨_, b, hb, _, hbr, hapt⟩
      · rw [h1.2] at hcr; cases hcr
      · exact ⟨b, hb, hbr, hapt⟩

theorem filterGo_mem (codecs rtxs : List Codec) (en : Bool) : ∀ (prefs : List Cap) (out : List Codec) (p : Cap) (c : Codec),
    p ∈ prefs → pickCodec codecs p = some c → filterGo codecs rtxs en prefs = .ok out → c ∈ out := by
  intro prefs
  induction prefs with
  | nil => intro out p c hp; cases hp
  | cons q qs ih =>
    intro out p c hp hpick h
    rcases filterGo_cons_ok h with ⟨hq, h'⟩ | ⟨c', r, rest, hq, _, hrest, rfl⟩
    · rcases List.mem_cons.mp hp with rfl | hp'
      · rw [hpick] at hq; cases hq
      · exact ih out p c hp' hpick h'
    · rcases List.mem_cons.mp hp with rfl | hp'
      · rw [hpick] at hq; cases hq; simp
      · simp [ih rest p c hp' hpick hrest]

theorem filterPreferred_mem {codecs : List Codec} {prefs : List Cap} {out : List Codec} {p : Cap} {c : Codec}
    (h : filterPreferred codecs prefs = .ok out) (hp : p ∈ prefs) (hr : p.isRtx = false) (hpick : pickCodec codecs p = some c) : c ∈ out := by
  unfold filterPreferred at h
  split at h
  · rename_i he
    simp at he; subst he; cases hp
  · exact filterGo_mem _ _ _ _ out p c (List.mem_filter.mpr ⟨hp, by simp [hr]⟩) hpick h

/-! ## allocate_mid -/

theorem allocateMidGo_fresh {mids : List String} : ∀ {fuel i : Nat} {m : String},
    allocateMidGo mids fuel i = some m → m ∉ mids := by
  intro fuel
  induction fuel with
  | zero => intro i m h; simp [allocateMidGo] at h
  | succ n ih =>
    intro i m h
    simp only [allocateMidGo] at h
    split at h
    · exact ih h
    · rename_i hc
      cases h
      simpa using hc

theorem allocateMid_fresh {mids : List String} {m : String} {mids' : List String}
    (h : allocateMid mids = .ok (m, mids')) : m ∉ mids ∧ mids' = mids ++ [m] := by
  unfold allocateMid at h
  split at h
  · rename_i m' hm
    cases h
    exact ⟨allocateMidGo_fresh hm, rfl⟩
  · cases h

theorem toString_nat_inj {a b : Nat} (h : toString a = toString b) : a = b := Nat.repr_inj.mp h

theorem allocateMidGo_none {mids : List String} : ∀ {fuel i : Nat},
    allocateMidGo mids fuel i = none → ∀ j, i ≤ j → j < i + fuel → toString j ∈ mids := by
  intro fuel
  induction fuel with
  | zero => intro i _ j h1 h2; omega
  | succ n ih =>
    intro i h j h1 h2
    simp only [allocateMidGo] at h
    split at h
    · rename_i hc
      by_cases hj : j = i
      · subst hj; simpa using hc
      · exact ih h j (by omega) (by omega)
    · cases h

/-- The `while True` loop of `allocate_mid` terminates: among `|mids| + 1` candidates one is free. -/
theorem allocateMid_no_hang (mids : List String) : allocateMid mids ≠ .hang := by
  unfold allocateMid
  split
  · intro h; cases h
  · rename_i hnone
    exfalso
    have hall := allocateMidGo_none hnone
    -- the injective image of `range (|mids|+1)` would be a duplicate-free sublist of `mids` longer than `mids`
    have hsub : ((List.range (mids.length + 1)).map (fun j => toString j)) ⊆ mids := by
      intro s hs
      obtain ⟨j, hj, rfl⟩ := List.mem_map.mp hs
      exact hall j (Nat.zero_le _) (by simpa using List.mem_range.mp hj)
    have hnd : ((List.range (mids.length + 1)).map (fun j => toString j)).Nodup := by
      refine List.Pairwise.map _ ?_ List.nodup_range
      intro a b hab hs
      exact hab (toString_nat_inj hs)
    have := hnd.length_le_of_subset hsub
    simp at this
    omega

theorem allocateMid_ok (mids : List String) : ∃ m, allocateMid mids = .ok (m, mids ++ [m]) := by
  have hh := allocateMid_no_hang mids
  unfold allocateMid at hh ⊢
  split
  · exact ⟨_, rfl⟩
  · rename_i hnone
    simp [hnone] at hh

/-! ## filter_preferred_codecs never raises when every RTX codec names its base -/

def RtxHaveApt (codecs : List Codec) : Prop := ∀ c ∈ codecs, c.isRtx = true → (plookup "apt" c.params).isSome = true

theorem rtxFor_ok : ∀ (rtxs : List Codec) (pt : Nat), (∀ c ∈ rtxs, (plookup "apt" c.params).isSome = true) →
    ∃ r, rtxFor rtxs pt = .ok r := by
  intro rtxs
  induction rtxs with
  | nil => intro pt _; exact ⟨none, rfl⟩
  | cons c cs ih =>
    intro pt h
    simp only [rtxFor]
    have hc := h c (by simp)
    cases hp : plookup "apt" c.params with
    | none => rw [hp] at hc; cases hc
    | some v =>
      simp only
      split
      · exact ⟨_, rfl⟩
      · exact ih pt (fun x hx => h x (by simp [hx]))

theorem filterGo_ok (codecs rtxs : List Codec) (en : Bool) (h : ∀ c ∈ rtxs, (plookup "apt" c.params).isSome = true) :
    ∀ prefs : List Cap, ∃ out, filterGo codecs rtxs en prefs = .ok out := by
  intro prefs
  induction prefs with
  | nil => exact ⟨[], rfl⟩
  | cons p ps ih =>
    obtain ⟨rest, hrest⟩ := ih
    rw [filterGo_cons]
    cases pickCodec codecs p with
    | none => exact ⟨rest, hrest⟩
    | some c =>
      obtain ⟨r, hr⟩ : ∃ r, (if en then rtxFor rtxs c.pt else .ok none) = .ok r := by
        cases en
        · exact ⟨none, rfl⟩
        · exact rtxFor_ok rtxs c.pt h
      exact ⟨_, by dsimp only; rw [hr, hrest]; rfl⟩

theorem filterPreferred_ok {codecs : List Codec} (h : RtxHaveApt codecs) (prefs : List Cap) :
    ∃ out, filterPreferred codecs prefs = .ok out := by
  unfold filterPreferred
  split
  · exact ⟨_, rfl⟩
  · exact filterGo_ok _ _ _ (fun c hc => by
      obtain ⟨h1, h2⟩ := List.mem_filter.mp hc
      exact h c h1 h2) _

/-! ## aiortc's tables: real codecs are pairwise incompatible and determined by (mime type, parameters); RTX entries carry an `apt` -/

structure TableOk (T : List Codec) : Prop where
  compat : ∀ l ∈ T, ∀ r ∈ T, r.isRtx = false → isCodecCompatible l r = true → l = r
  refl : ∀ r ∈ T, r.isRtx = false → isCodecCompatible r r = true
  /-- a table codec offered unchanged is answered unchanged -/
  adaptSelf : ∀ c ∈ T, adapt c c = c
  /-- a capability picks at most one codec of the table -/
  byCap : ∀ x ∈ T, ∀ y ∈ T, x.mime.toLower = y.mime.toLower → x.params = y.params → x = y
  rtxApt : RtxHaveApt T

/-- `TableOk` as one decidable proposition -/
abbrev TableFacts (T : List Codec) : Prop :=
  (∀ l ∈ T, ∀ r ∈ T, r.isRtx = false → isCodecCompatible l r = true → l = r) ∧
  (∀ r ∈ T, r.isRtx = false → isCodecCompatible r r = true) ∧ (∀ c ∈ T, adapt c c = c) ∧
  (∀ x ∈ T, ∀ y ∈ T, x.mime.toLower = y.mime.toLower → x.params = y.params → x = y) ∧
  (∀ c ∈ T, c.isRtx = true → (plookup "apt" c.params).isSome = true)

theorem TableFacts.ok {T : List Codec} (h : TableFacts T) : TableOk T := ⟨h.1, h.2.1, h.2.2.1, h.2.2.2.1, h.2.2.2.2⟩

theorem tableOk (k : Kind) : TableOk (codecsOf k) := by
  cases k
  · exact TableFacts.ok (by decide +kernel)
  · exact TableFacts.ok (by decide +kernel)
  · exact TableFacts.ok (by decide)

theorem findCommon_rtxHaveApt (loc remote : List Codec) : RtxHaveApt (findCommon loc remote) := by
  intro c hc hr
  obtain ⟨b, _, _, hapt, _⟩ := findCommon_rtxHasBase loc remote c hc hr
  rw [hapt]; rfl

/-- `filter_preferred_codecs(CODECS[kind][:], preferences)` -/
def offered (k : Kind) (p : List Cap) : List Codec :=
  match filterPreferred (codecsOf k) p with
  | .ok cs => cs
  | _ => []

theorem offered_eq (k : Kind) (p : List Cap) : filterPreferred (codecsOf k) p = .ok (offered k p) := by
  obtain ⟨out, h⟩ := filterPreferred_ok (tableOk k).rtxApt p
  simp [offered, h]

end Aiortc.Model.Negotiate
