import Aiortc.Lemmas.C03.Offer
/-!
C03 — `setLocalDescription(offer)` after `createOffer` on a well-formed connection: totality of the loops of
`setLocalDescription` ("assign MID", for an answer "set DTLS role", the transport refresh) on a connection that can serve the sections
(`Served`; `Answer.lean` uses them for the answer), and the state the offerer is in while it waits for the answer; the
first offer of a fresh connection as a special case.
-/
namespace Aiortc.Model.Negotiate
open Aiortc (Outcome)
open Aiortc.Model.Jsep (Sig)

theorem updFirst_mline_mem {p : Transceiver → Bool} {f : Transceiver → Transceiver} (hf : ∀ t, (f t).mline = t.mline)
    {l l' : List Transceiver} (h : updFirst p f l = some l') : ∀ t ∈ l, ∃ t' ∈ l', t'.mline = t.mline := by
  obtain ⟨a, x, b, rfl, _, _, rfl⟩ := updFirst_eq_some.mp h
  intro t ht
  simp only [List.mem_append, List.mem_cons] at ht ⊢
  rcases ht with ht | rfl | ht
  · exact ⟨t, .inl ht, rfl⟩
  · exact ⟨f t, .inr (.inl rfl), hf t⟩
  · exact ⟨t, .inr (.inr ht), rfl⟩

/-- the connection can serve the sections `ms` from m-line index `i` on: every media section has a transceiver with its
index, and the SCTP transport exists if there is an application section -/
structure Served (pc : Pc) (ms : List MSec) (i : Nat) : Prop where
  media : ∀ (j : Nat) (m : MSec), ms[j]? = some m → m.kind.isMedia = true → ∃ t ∈ pc.transceivers, t.mline = some (i + j)
  app : ∀ m ∈ ms, m.kind.isMedia = false → pc.sctp.isSome = true

theorem Served.tail {pc : Pc} {m : MSec} {ms : List MSec} {i : Nat} (h : Served pc (m :: ms) i) : Served pc ms (i + 1) where
  media j mj hj hk := by
    obtain ⟨t, ht, hl⟩ := h.media (j + 1) mj (by simpa using hj) hk
    exact ⟨t, ht, by rw [hl]; congr 1; omega⟩
  app m2 hm2 hk2 := h.app m2 (by simp [hm2]) hk2

theorem Served.head {pc : Pc} {m : MSec} {ms : List MSec} {i : Nat} (h : Served pc (m :: ms) i) :
    (m.kind.isMedia = true → ∃ y, pc.transceivers.find? (fun t => t.mline == some i) = some y) ∧
    (m.kind.isMedia = false → ∃ s, pc.sctp = some s) := by
  refine ⟨fun hk => ?_, fun hk => Option.isSome_iff_exists.mp (h.app m (by simp) hk)⟩
  obtain ⟨t, ht, hl⟩ := h.media 0 m (by simp) hk
  exact List.find_some_of_mem (p := fun t : Transceiver => t.mline == some i) ht (by simpa using hl)

/-- what `Served` depends on: every m-line index of `pc` survives in `pc'`, and so does the SCTP transport -/
structure KeepsLines (pc pc' : Pc) : Prop where
  lines : ∀ t ∈ pc.transceivers, ∃ t' ∈ pc'.transceivers, t'.mline = t.mline
  sctp : pc.sctp.isSome = true → pc'.sctp.isSome = true

theorem KeepsLines.refl (pc : Pc) : KeepsLines pc pc := ⟨fun t ht => ⟨t, ht, rfl⟩, fun h => h⟩

theorem KeepsLines.trans {a b c : Pc} (h1 : KeepsLines a b) (h2 : KeepsLines b c) : KeepsLines a c where
  lines t ht := by
    obtain ⟨t1, ht1, e1⟩ := h1.lines t ht
    obtain ⟨t2, ht2, e2⟩ := h2.lines t1 ht1
    exact ⟨t2, ht2, e2.trans e1⟩
  sctp h := h2.sctp (h1.sctp h)

theorem Served.mono {pc pc' : Pc} {ms : List MSec} {i : Nat} (h : Served pc ms i) (hk : KeepsLines pc pc') : Served pc' ms i where
  media j m hj hm := by
    obtain ⟨t, ht, hl⟩ := h.media j m hj hm
    obtain ⟨t', ht', hl'⟩ := hk.lines t ht
    exact ⟨t', ht', hl'.trans hl⟩
  app m hm hkm := hk.sctp (h.app m hm hkm)

/-- `Served` reads the transceivers and the SCTP transport only -/
theorem Served.of_eq {pc pc' : Pc} {ms : List MSec} {i : Nat} (h : Served pc ms i)
    (ht : pc'.transceivers = pc.transceivers := by rfl) (hs : pc'.sctp = pc.sctp := by rfl) : Served pc' ms i :=
  ⟨ht ▸ h.media, hs ▸ h.app⟩

theorem sectionTransport_ok {pc : Pc} {m : MSec} {ms : List MSec} {i : Nat} (h : Served pc (m :: ms) i) :
    ∃ id, sectionTransport pc m i = .ok id := by
  unfold sectionTransport
  cases hk : m.kind.isMedia
  · obtain ⟨s, hs⟩ := h.head.2 hk
    simp [hs]
  · obtain ⟨y, hy⟩ := h.head.1 hk
    simp [Pc.byMline, hy]

theorem assignStep_keepsLines {pc pc1 : Pc} {m : MSec} {i : Nat} (h : assignStep pc m i = .ok pc1) : KeepsLines pc pc1 := by
  rcases assignStep_eq_ok.mp h with ⟨_, ts, hupd, rfl⟩ | ⟨_, s, _, rfl⟩
  · exact ⟨updFirst_mline_mem (f := fun t : Transceiver => { t with mid := some m.mid }) (fun _ => rfl) hupd, fun h => h⟩
  · exact ⟨fun t ht => ⟨t, ht, rfl⟩, fun _ => rfl⟩

theorem assignMids_keepsLines {ms : List MSec} {pc pc' : Pc} {i : Nat} (h : assignMids pc ms i = .ok pc') : KeepsLines pc pc' :=
  assignMids_rel (R := KeepsLines) KeepsLines.refl KeepsLines.trans assignStep_keepsLines ms h

theorem assignMids_ok : ∀ {ms : List MSec} {pc : Pc} {i : Nat}, Served pc ms i → ∃ pc', assignMids pc ms i = .ok pc' := by
  intro ms
  induction ms with
  | nil => intro pc i _; exact ⟨pc, rfl⟩
  | cons m ms ih =>
    intro pc i h
    have hstep : ∃ pc1, assignStep pc m i = .ok pc1 := by
      cases hk : m.kind.isMedia
      · obtain ⟨s, hs⟩ := h.head.2 hk
        exact ⟨_, assignStep_eq_ok.mpr (.inr ⟨hk, s, hs, rfl⟩)⟩
      · obtain ⟨y, hy⟩ := h.head.1 hk
        obtain ⟨ts, hupd⟩ := updFirst_isSome (f := fun t : Transceiver => { t with mid := some m.mid }) hy
        exact ⟨_, assignStep_eq_ok.mpr (.inl ⟨hk, ts, hupd, rfl⟩)⟩
    obtain ⟨pc1, h1⟩ := hstep
    obtain ⟨pc', h2⟩ := ih (h.tail.mono (assignStep_keepsLines h1))
    exact ⟨pc', by rw [assignMids_cons, h1]; exact h2⟩

theorem refreshTransports_ok : ∀ {ms : List MSec} {pc : Pc} {i : Nat}, Served pc ms i → ∃ r, refreshTransports pc ms i = .ok r := by
  intro ms
  induction ms with
  | nil => intro pc i _; exact ⟨[], rfl⟩
  | cons m ms ih =>
    intro pc i h
    obtain ⟨id, hid⟩ := sectionTransport_ok h
    obtain ⟨r, hr⟩ := ih h.tail
    exact ⟨_, by rw [refreshTransports_cons, hid, ok_bind, hr]; rfl⟩

theorem localRoles_ok : ∀ {ms : List MSec} {pc : Pc} {i : Nat}, Served pc ms i → ∃ pc', localRoles pc ms i = .ok pc' := by
  intro ms
  induction ms with
  | nil => intro pc i _; exact ⟨pc, rfl⟩
  | cons m ms ih =>
    intro pc i h
    obtain ⟨id, hid⟩ := sectionTransport_ok h
    obtain ⟨pc', h2⟩ := ih (pc := pc.modTransport id (fun x => { x with role := m.setup })) h.tail.of_eq
    exact ⟨pc', by rw [localRoles_cons, hid]; exact h2⟩

theorem assignStep_midStep {pc pc1 : Pc} {m : MSec} {i : Nat} (h : assignStep pc m i = .ok pc1) : MidStep m pc pc1 := by
  rcases assignStep_eq_ok.mp h with ⟨hk, ts, _, rfl⟩ | ⟨hk, s, _, rfl⟩
  · exact ⟨rfl, fun _ => rfl, fun h => (by rw [hk] at h; cases h)⟩
  · exact ⟨rfl, fun h => (by rw [hk] at h; cases h), fun _ => .inl rfl⟩

theorem assignMids_mids : ∀ {ms : List MSec} {pc pc' : Pc} {i : Nat}, assignMids pc ms i = .ok pc' → MidFacts ms pc pc' := by
  intro ms
  induction ms with
  | nil => intro pc pc' i h; cases h; exact .nil pc
  | cons m ms ih =>
    intro pc pc' i h
    obtain ⟨pc1, h1, h2⟩ := bind_eq_ok.mp (assignMids_cons pc m ms i ▸ h)
    exact .cons (assignStep_midStep h1) (ih h2)

theorem setLocal_offer_total {pc : Pc} {d : Desc} (ht : d.type = .offer) (hs : pc.sig = .stable ∨ pc.sig = .haveLocalOffer)
    (hsv : Served pc d.media 0) : ∃ pc', pc.setLocal d = .ok pc' := by
  have hsv1 : Served { pc with sig := .haveLocalOffer } d.media 0 := hsv.of_eq
  obtain ⟨pc2, h2⟩ := assignMids_ok hsv1
  have hsv2 : Served pc2 d.media 0 := hsv1.mono (assignMids_keepsLines h2)
  obtain ⟨r, hr⟩ := refreshTransports_ok (pc := pc2.iceControlling) hsv2.of_eq
  refine ⟨_, (setLocal_offer_iff ht).mpr ⟨(validate_offer_iff ht).mpr ?_, pc2, r, h2, hr, rfl⟩⟩
  rcases hs with h | h <;> simp [h, stateAllows]

/-- The offerer between `setLocalDescription(offer)` and the answer. -/
structure OfferApplied (o o2 : Pc) (d : Desc) : Prop where
  type : d.type = .offer
  bundle : d.bundle = d.media.map (·.mid)
  pref : ∃ rest, keysOf d = o.keys ++ rest
  nodup : ((keysOf d).map (·.2)).Nodup
  fresh : ∀ (j : Nat) (kx : Kind × String), o.keys.length ≤ j → (keysOf d)[j]? = some kx → kx.2 ∉ o.seenMids
  setup : ∀ m ∈ d.media, m.setup = .auto
  codecs : ∀ m ∈ d.media, m.kind.isMedia = true → ∃ t ∈ o.transceivers, t.kind = m.kind ∧ m.codecs = offered t.kind t.preferred
  appSame : ∀ m1 ∈ d.media, ∀ m2 ∈ d.media, m1.kind.isMedia = false → m2.kind.isMedia = false → m1.mid = m2.mid
  sig : o2.sig = .haveLocalOffer
  loc : o2.localDesc = some d
  remote : o2.remoteDesc = o.remoteDesc
  pre : Pre (keysOf d) o2.transceivers
  allMid : ∀ t ∈ o2.transceivers, t.mid ≠ none
  owned : ∀ m ∈ d.media, m.kind.isMedia = true → ∃ t ∈ o2.transceivers, t.mid = some m.mid
  prefs : PrefsSub o2.transceivers o.transceivers
  media : AllMedia o2.transceivers
  sctpApp : ∀ m ∈ d.media, m.kind.isMedia = false → o2.sctpMid = some m.mid
  sctpIn : ∀ x, o2.sctpMid = some x → (Kind.application, x) ∈ keysOf d
  seen : ∀ x, x ∈ o2.seenMids ↔ x ∈ o.seenMids ∨ x ∈ d.media.map (·.mid)

theorem pre_assignFn {d : Desc} {ts : List Transceiver} (hnd : ((keysOf d).map (·.2)).Nodup) (hd : DistinctLines ts)
    (hl : ∀ t ∈ ts, ∃ (j : Nat) (m : MSec), t.mline = some j ∧ d.media[j]? = some m ∧ m.kind = t.kind ∧ m.kind.isMedia = true) :
    Pre (keysOf d) (ts.map (assignFn d.media 0)) ∧
    ∀ t ∈ ts, ∃ (j : Nat) (m : MSec), d.media[j]? = some m ∧ m.kind = t.kind ∧ t.mline = some j ∧
      (assignFn d.media 0 t).mid = some m.mid := by
  have hmidOf : ∀ t ∈ ts, ∃ (j : Nat) (m : MSec), d.media[j]? = some m ∧ m.kind = t.kind ∧ t.mline = some j ∧
      (assignFn d.media 0 t).mid = some m.mid := by
    intro t ht
    obtain ⟨j, m, hl, hj, hk, hmk⟩ := hl t ht
    exact ⟨j, m, hj, hk, hl, assignFn_mid d.media 0 t j m hl (Nat.zero_le _) (by simpa using hj) hmk⟩
  refine ⟨⟨?_, ?_, ?_⟩, hmidOf⟩
  · -- two transceivers with the same mid would have the same m-line index
    refine List.pairwise_map.mpr (List.Pairwise.imp_of_mem ?_ hd)
    intro a b ha' hb' hab _ heq
    obtain ⟨ja, ma, hja, _, hla, hma⟩ := hmidOf a ha'
    obtain ⟨jb, mb, hjb, _, hlb, hmb⟩ := hmidOf b hb'
    rw [hma, hmb] at heq
    have e1 := keys_getElem hja
    have e2 := keys_getElem hjb
    rw [Option.some.inj heq] at e1
    exact hab (by rw [hla, hlb, (keys_index_inj hnd e1 e2).1])
  · refine List.pairwise_map.mpr (List.pairwise_of_forall_mem_list ?_)
    intro a ha' b _ _ _
    obtain ⟨_, ma, _, _, _, hma⟩ := hmidOf a ha'
    rw [hma]; simp
  · intro t' ht'
    obtain ⟨t, ht, rfl⟩ := List.mem_map.mp ht'
    obtain ⟨j, m, hj, hk, hl, hm⟩ := hmidOf t ht
    exact .inr ⟨j, m.mid, by rw [assignFn_kind, ← hk]; exact keys_getElem hj, hm, by rw [assignFn_mline]; exact hl⟩

theorem offer_applied {o : Pc} (h : WF o) : ∃ o1 d0 o2 d, o.createOffer = .ok (o1, d0) ∧ o1.setLocal d0 = .ok o2 ∧
    o2.localDesc = some d ∧ OfferApplied o o2 d := by
  obtain ⟨o1, d0, hco, M, _⟩ := createOffer_ok (by rw [h.stable]; decide) h.rkeys h.owns
  have hslots := M.slots
  simp only [Pc.slots, Prod.mk.injEq] at hslots
  obtain ⟨s1, s2, s3, s4, s5⟩ := hslots
  have hsv : Served o1 d0.media 0 :=
    ⟨fun j m hj hk => by simpa using M.each j m hj hk, fun m hm hk => by rw [M.sctp]; exact (M.app m hm hk).1⟩
  obtain ⟨o2, h2⟩ := setLocal_offer_total M.type (.inl (by rw [s1]; exact h.stable)) hsv
  obtain ⟨_, pc2, media, ha, hm, ho2⟩ := (setLocal_offer_iff M.type).mp h2
  have hrel := refreshTransports_refreshed hm
  have hts : o2.transceivers = o1.transceivers.map (assignFn d0.media 0) := setLocal_offer_transceivers M.type h2 M.distinct
  have e2 := assignMids_frame ha
  have I := assignMids_mids ha
  have hloc : o2.localDesc = some { d0 with media } := by rw [ho2, e2]; simp [Pc.localDesc, Pc.iceControlling]
  refine ⟨o1, d0, o2, { d0 with media }, hco, h2, hloc, ?_⟩
  have hkeys : keysOf { d0 with media } = keysOf d0 := hrel.keys
  have hmids : media.map (·.mid) = d0.media.map (·.mid) := hrel.mids
  have hback : ∀ m' ∈ media, ∃ m ∈ d0.media, m' = { m with transport := m'.transport } := hrel.mem_right
  obtain ⟨hpre, hmidOf⟩ := pre_assignFn M.nodup M.distinct (fun t ht => by
    obtain ⟨j, m, hl, hj, hk, hmk, _⟩ := M.lines t ht
    exact ⟨j, m, hl, hj, hk, hmk⟩)
  have hsm2 : o2.sctpMid = pc2.sctpMid := by rw [ho2]; rfl
  have hsm1 : (({ o1 with sig := Sig.haveLocalOffer } : Pc)).sctpMid = o.sctpMid := by simp [Pc.sctpMid, M.sctp]
  refine { type := M.type, bundle := ?_, pref := by rw [hkeys]; exact M.pref, nodup := by rw [hkeys]; exact M.nodup,
           fresh := by rw [hkeys]; exact M.fresh, setup := ?_, codecs := ?_, appSame := ?_, sig := ?_, loc := hloc, remote := ?_,
           pre := by rw [hkeys, hts]; exact hpre, allMid := ?_, owned := ?_, prefs := ?_, media := ?_, sctpApp := ?_, sctpIn := ?_,
           seen := ?_ }
  · show d0.bundle = media.map (·.mid)
    rw [M.bundle, hmids]
  · intro m' hm'
    obtain ⟨m, hm, he⟩ := hback m' hm'
    rw [he]; exact M.setup m hm
  · intro m' hm' hk
    obtain ⟨m, hm, he⟩ := hback m' hm'
    rw [he] at hk ⊢
    exact M.codecs m hm hk
  · intro a ha' b hb' hka hkb
    obtain ⟨ma, hma, hea⟩ := hback a ha'
    obtain ⟨mb, hmb, heb⟩ := hback b hb'
    rw [hea] at hka ⊢; rw [heb] at hkb ⊢
    exact M.appSame ma hma mb hmb hka hkb
  · rw [ho2, e2]; rfl
  · rw [ho2, e2]; simp [Pc.remoteDesc, Pc.iceControlling, s4, s5]
  · intro t' ht'
    rw [hts] at ht'
    obtain ⟨t, ht, rfl⟩ := List.mem_map.mp ht'
    obtain ⟨_, m, _, _, _, hm⟩ := hmidOf t ht
    rw [hm]; simp
  · intro m' hm' hk
    obtain ⟨m, hm, he⟩ := hback m' hm'
    have hk' : m.kind.isMedia = true := by rw [he] at hk; exact hk
    obtain ⟨j, hj⟩ := List.getElem?_of_mem hm
    obtain ⟨t, ht, hl⟩ := M.each j m hj hk'
    obtain ⟨j2, m2, hj2, _, hl2, hm2⟩ := hmidOf t ht
    rw [hl] at hl2
    have : j = j2 := by simpa using hl2
    subst this
    rw [hj] at hj2; cases hj2
    exact ⟨assignFn d0.media 0 t, by rw [hts]; exact List.mem_map_of_mem ht, by rw [hm2, he]⟩
  · intro t' ht'
    rw [hts] at ht'
    obtain ⟨t, ht, rfl⟩ := List.mem_map.mp ht'
    rw [assignFn_preferred, assignFn_kind]
    exact M.prefs t ht
  · intro t' ht'
    rw [hts] at ht'
    obtain ⟨t, ht, rfl⟩ := List.mem_map.mp ht'
    rw [assignFn_kind]; exact M.media t ht
  · intro m' hm' hk
    obtain ⟨m, hm, he⟩ := hback m' hm'
    have hk' : m.kind.isMedia = false := by rw [he] at hk; exact hk
    rw [hsm2, he]
    refine I.sctpApp ⟨M.appSame, fun m2 hm2 hk2 y hy => ?_⟩ m hm hk'
    rw [hsm1] at hy
    rcases (M.app m2 hm2 hk2).2 with e | e <;> rw [e] at hy <;> cases hy
    rfl
  · intro x hx
    rw [hkeys]
    rw [hsm2] at hx
    rcases I.sctpOld with a | ⟨m, hm, hk, a⟩
    · rw [a, hsm1] at hx
      exact M.appOld x hx
    · rw [a] at hx; cases hx
      have : (m.kind, m.mid) ∈ keysOf d0 := List.mem_map_of_mem hm
      rw [kind_not_media hk] at this; exact this
  · intro x
    have : o2.seenMids = pc2.seenMids := by rw [ho2]; rfl
    rw [this, I.seen x]
    show x ∈ o1.seenMids ∨ _ ↔ _
    rw [M.seen, hmids]

theorem FreshPc.rkeys {o : Pc} (hf : FreshPc o) : (o.remoteDesc.map keysOf).getD [] = o.keys := by
  rw [hf.noRemote, Pc.keys_of_no_localDesc hf.noLocal]; rfl

theorem FreshPc.owns {o : Pc} (hf : FreshPc o) : Owns o.keys o := by
  rw [Pc.keys_of_no_localDesc hf.noLocal]
  refine ⟨.nil, unnegotiated_pre hf.un, fun j k x hj => (by simp at hj), fun x hx => (by cases hx), ?_, fun kx hkx => (by cases hkx),
    hf.media⟩
  intro x hx
  cases hs : o.sctp with
  | none => simp [Pc.sctpMid, hs] at hx
  | some s => simp [Pc.sctpMid, hs, hf.sctpMid s hs] at hx

theorem applied_offer_owned {o o1 o2 : Pc} {offer0 : Desc} (hr : (o.remoteDesc.map keysOf).getD [] = o.keys) (hw : Owns o.keys o)
    (h1 : o.createOffer = .ok (o1, offer0)) (h2 : o1.setLocal offer0 = .ok o2) :
    (offer0.media.map (·.mid)).Nodup ∧ Pre (keysOf offer0) o2.transceivers := by
  obtain ⟨o1', d, h1', M, _⟩ := createOffer_ok (createOffer_iff.mp h1).1 hr hw
  rw [h1] at h1'; cases h1'
  refine ⟨keysOf_mids offer0 ▸ M.nodup, ?_⟩
  rw [setLocal_offer_transceivers M.type h2 M.distinct]
  refine (pre_assignFn M.nodup M.distinct (fun t ht => ?_)).1
  obtain ⟨j, m, hl, hj, hk, hmk, _⟩ := M.lines t ht
  exact ⟨j, m, hl, hj, hk, hmk⟩

end Aiortc.Model.Negotiate
