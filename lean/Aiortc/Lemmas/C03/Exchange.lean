import Aiortc.Lemmas.C03.Answer
/-!
C03 — a complete exchange between two well-formed connections with the same sections and compatible codec
preferences: all six calls succeed, both sides are well-formed again.
-/
namespace Aiortc.Model.Negotiate
open Aiortc (Outcome)
open Aiortc.Model.Jsep (Sig)

/-- `filter_preferred_codecs(find_common_codecs(CODECS[kind], offered), preferences)`: what an answer section carries -/
def answered (k : Kind) (po pa : List Cap) : List Codec :=
  match filterPreferred (findCommon (codecsOf k) (offered k po)) pa with
  | .ok cs => cs
  | _ => []

theorem answered_eq (k : Kind) (po pa : List Cap) {cs : List Codec}
    (h : filterPreferred (findCommon (codecsOf k) (offered k po)) pa = .ok cs) : answered k po pa = cs := by
  simp [answered, h]

/-- Codec preferences of the offering side `o` and the answering side `a` are compatible: whatever transceivers meet
(any preference list of `o` of kind `k` against any of `a`, the empty list standing for a transceiver created on the
fly), the answer keeps a codec, and what the offerer then stores keeps a codec. -/
def CompatDir (o a : List Transceiver) : Prop :=
  ∀ k : Kind, k.isMedia = true → ∀ po pa : List Cap, InPrefs o k po → InPrefs a k pa →
    (∃ c cs, filterPreferred (findCommon (codecsOf k) (offered k po)) pa = .ok (c :: cs)) ∧
    (∀ p, InPrefs o k p → ∃ c cs, filterPreferred (findCommon (codecsOf k) (answered k po pa)) p = .ok (c :: cs))

/-- compatible in both directions (either side may offer) -/
def Compatible (o a : Pc) : Prop := CompatDir o.transceivers a.transceivers ∧ CompatDir a.transceivers o.transceivers

theorem CompatDir.mono {o a o' a' : List Transceiver} (h : CompatDir o a) (ho : PrefsSub o' o) (ha : PrefsSub a' a) : CompatDir o' a' := by
  intro k hk po pa hpo hpa
  obtain ⟨h1, h2⟩ := h k hk po pa (hpo.mono ho) (hpa.mono ha)
  exact ⟨h1, fun p hp => h2 p (hp.mono ho)⟩

theorem Compatible.symm {o a : Pc} (h : Compatible o a) : Compatible a o := ⟨h.2, h.1⟩

structure Paired (o a : Pc) : Prop where
  keys : o.keys = a.keys
  /-- makes "a new mid was never used before" (`ExchangeOk.fresh`, against the offerer's `seenMids`) hold on the other
  side as well, whichever side offers next -/
  seen : ∀ x, x ∈ o.seenMids ↔ x ∈ a.seenMids

theorem Paired.symm {o a : Pc} (h : Paired o a) : Paired a o := ⟨h.keys.symm, fun x => (h.seen x).symm⟩

theorem OfferApplied.offered {o o2 a : Pc} {d : Desc} (A : OfferApplied o o2 d) (hp : Paired o a)
    (hacc : ∀ m ∈ d.media, m.kind.isMedia = true → Accepts a.transceivers m) : Offered a d :=
  ⟨A.type, A.bundle, A.nodup, hp.keys ▸ A.pref, A.appSame, hacc⟩

/-- one media section after an exchange: answer vs offer, and the two transceivers that own it (`Props.C03.SectionOutcome`
has the same fields; `Props.C03.sectionOutcome_of_done` converts) -/
structure SectionDone (ex : Exchange) (so sa : MSec) : Prop where
  kind : sa.kind = so.kind
  mid : sa.mid = so.mid
  codecs : ∃ prefs, filterPreferred (findCommon (codecsOf so.kind) so.codecs) prefs = .ok sa.codecs
  nonempty : sa.codecs ≠ []
  exts : sa.exts = findCommonExt (extsOf so.kind) so.exts
  answerer : ∃ ta ∈ ex.answerer.transceivers, ta.mid = some so.mid ∧ ta.currentDirection = some sa.direction ∧
    sa.direction = andDir ta.direction (revDir so.direction)
  offerer : ∃ to ∈ ex.offerer.transceivers, to.mid = some so.mid ∧ to.currentDirection = some (revDir sa.direction)

/-- everything a successful exchange between well-formed, paired, compatible connections establishes -/
structure ExchangeOk (o a : Pc) (ex : Exchange) : Prop where
  wfO : WF ex.offerer
  wfA : WF ex.answerer
  paired : Paired ex.offerer ex.answerer
  compat : Compatible ex.offerer ex.answerer
  prefsO : PrefsSub ex.offerer.transceivers o.transceivers
  prefsA : PrefsSub ex.answerer.transceivers a.transceivers
  /-- sections are only ever appended: kind, mid and position of an existing section never change -/
  ext : ∃ rest, ex.offerer.keys = o.keys ++ rest
  offerKeys : keysOf ex.offer = ex.offerer.keys
  answerKeys : keysOf ex.answer = ex.offerer.keys
  /-- mids of new sections have never been used before -/
  fresh : ∀ (j : Nat) (kx : Kind × String), o.keys.length ≤ j → ex.offerer.keys[j]? = some kx → kx.2 ∉ o.seenMids
  seen : ∀ x, x ∈ ex.offerer.seenMids ↔ x ∈ o.seenMids ∨ x ∈ ex.offerer.keys.map (·.2)
  offerAuto : ∀ m ∈ ex.offer.media, m.setup = .auto
  answerDefinite : ∀ m ∈ ex.answer.media, m.setup ≠ .auto
  sections : ∀ (j : Nat) (so sa : MSec), ex.offer.media[j]? = some so → ex.answer.media[j]? = some sa → so.kind.isMedia = true →
    SectionDone ex so sa
  /-- the six calls, with the two `localDescription`s that are handed over; the four fields after it are what the halves established and the premise of the answerer's half
  (`exchange_roles` runs that half again from them) -/
  calls : ∃ o1 d0 ans0, o.createOffer = .ok (o1, d0) ∧ o1.setLocal d0 = .ok ex.offererMid ∧ ex.offererMid.localDesc = some ex.offer ∧
    a.setRemote ex.offer = .ok ex.answererMid ∧ ex.answererMid.createAnswer = .ok ans0 ∧ ex.answererMid.setLocal ans0 = .ok ex.answerer ∧
    ex.answerer.localDesc = some ex.answer ∧ ex.offererMid.setRemote ex.answer = .ok ex.offerer
  offerA : OfferApplied o ex.offererMid ex.offer
  answerA : AnswerApplied a ex.answerer ex.offer ex.answer
  remoteO : RemoteApplied ex.offererMid ex.offerer ex.answer
  accepts : ∀ m ∈ ex.offer.media, m.kind.isMedia = true → Accepts a.transceivers m

/-- **An offer/answer exchange between well-formed, paired, compatible connections succeeds**, and leaves such a pair. -/
theorem negotiate_ok {o a : Pc} (ho : WF o) (ha : WF a) (hp : Paired o a) (hc : Compatible o a) :
    ∃ ex, negotiate o a = .ok ex ∧ ExchangeOk o a ex := by
  obtain ⟨o1, d0, o2, d, c1, c2, c3, A⟩ := offer_applied ho
  have hacc : ∀ m ∈ d.media, m.kind.isMedia = true → Accepts a.transceivers m := by
    intro m hm hk p hp
    obtain ⟨t, ht, htk, hcod⟩ := A.codecs m hm hk
    have := (hc.1 m.kind hk t.preferred p (.inr ⟨t, ht, htk, rfl⟩) hp).1
    rw [hcod, htk]; exact this
  obtain ⟨rest, hrest⟩ := A.pref
  obtain ⟨a1, ans0, a2, ans, c4, c5, c6, B⟩ := answer_applied ha (A.offered hp hacc)
  have c7 := B.loc
  -- the offerer applies the answer
  have hkeq : keysOf ans = keysOf d := B.akeys
  have hv : o2.validate ans false = .ok () :=
    (validate_answer_iff B.type).mpr ⟨by rw [A.sig]; rfl, B.setup, d, by simpa using A.loc, hkeq⟩
  have hacc2 : ∀ sa ∈ ans.media, sa.kind.isMedia = true → Accepts o2.transceivers sa := by
    intro sa hsa hk p hp
    obtain ⟨j, hj⟩ := List.getElem?_of_mem hsa
    obtain ⟨so, hso, ek, _⟩ := keys_getElem_of_eq hkeq hj
    have hkso : so.kind.isMedia = true := by rw [← ek]; exact hk
    obtain ⟨_, ta, _, _, _, hin, hcod, _⟩ := B.secs j so sa hso hj hkso
    obtain ⟨t, ht, htk, hoc⟩ := A.codecs so (List.mem_of_getElem? hso) hkso
    have hp' : InPrefs o.transceivers so.kind p := by
      rw [← ek]; exact InPrefs.mono A.prefs hp
    have := (hc.1 so.kind hkso t.preferred ta.preferred (.inr ⟨t, ht, htk, rfl⟩) hin).2 p hp'
    rw [hoc, htk] at hcod
    rw [answered_eq _ _ _ hcod] at this
    rw [ek]; exact this
  have hfit2 : SctpFits o2 ans.media := by
    refine ⟨?_, ?_⟩
    · intro s1 hs1 s2 hs2 hk1 hk2
      obtain ⟨j1, hj1⟩ := List.getElem?_of_mem hs1
      obtain ⟨j2, hj2⟩ := List.getElem?_of_mem hs2
      obtain ⟨m1, hm1, e1, e1'⟩ := keys_getElem_of_eq hkeq hj1
      obtain ⟨m2, hm2, e2, e2'⟩ := keys_getElem_of_eq hkeq hj2
      rw [e1', e2']
      exact A.appSame m1 (List.mem_of_getElem? hm1) m2 (List.mem_of_getElem? hm2) (by rw [← e1]; exact hk1) (by rw [← e2]; exact hk2)
    · intro s hs hk y hy
      obtain ⟨j, hj⟩ := List.getElem?_of_mem hs
      obtain ⟨m, hm, e1, e1'⟩ := keys_getElem_of_eq hkeq hj
      have := A.sctpApp m (List.mem_of_getElem? hm) (by rw [← e1]; exact hk)
      rw [this] at hy
      rw [e1']; exact (Option.some.inj hy).symm
  obtain ⟨o3, c8, R⟩ := setRemote_ok hv B.bundle (by rw [hkeq]; exact A.nodup) (by rw [hkeq]; exact A.pre) hacc2 hfit2
    (fun x hx => by rw [hkeq]; exact A.sctpIn x hx)
  obtain ⟨r1, r2, r3⟩ := R.answer B.type
  have hneg : negotiate o a = .ok { offerer := o3, answerer := a2, offer := d, answer := ans, offererMid := o2, answererMid := a1 } :=
    negotiateWith_iff.mpr ⟨o1, d0, ans0, c1, c2, c3, c4, c5, c6, c7, c8⟩
  refine ⟨_, hneg, ?_⟩
  -- the offerer afterwards
  have hloc3 : o3.localDesc = some d := by
    have := A.loc
    simp only [Pc.localDesc] at this ⊢
    rw [R.locals.1, R.locals.2]; exact this
  have hrd3 : o3.remoteDesc = some ans := by simp [Pc.remoteDesc, r2, r3]
  have hkeys3 : o3.keys = keysOf d := Pc.keys_of_localDesc hloc3
  have hmids : ans.media.map (·.mid) = d.media.map (·.mid) := mids_of_keys hkeq
  have hkeys3' : o3.keys = keysOf ans := hkeys3.trans hkeq.symm
  have hwf3 : WF o3 :=
    Owns.wf (hkeys3' ▸ R.owns (hkeq ▸ A.nodup) (fun x hx => hkeq ▸ A.sctpIn x hx) A.media) r1 (by rw [hrd3, hkeys3]; exact hkeq)
  have hseen3 : ∀ x, x ∈ o3.seenMids ↔ x ∈ o.seenMids ∨ x ∈ d.media.map (·.mid) := by
    intro x
    rw [R.seen, A.seen, hmids]
    rw [or_assoc, or_self]
  have hkm := keysOf_mids d
  refine { wfO := hwf3, wfA := B.wf, paired := ⟨by rw [hkeys3, B.keys], ?_⟩, compat := ?_, prefsO := R.prefs.trans A.prefs, prefsA := B.prefs,
           ext := ⟨rest, by rw [hkeys3]; exact hrest⟩, offerKeys := hkeys3.symm, answerKeys := by rw [hkeys3]; exact hkeq,
           fresh := by rw [hkeys3]; exact A.fresh, seen := ?_, offerAuto := A.setup, answerDefinite := B.setup, sections := ?_,
           calls := ⟨o1, d0, ans0, c1, c2, c3, c4, c5, c6, c7, c8⟩, offerA := A, answerA := B, remoteO := R, accepts := hacc }
  · intro x
    rw [hseen3, B.seen, hp.seen]
  · exact ⟨hc.1.mono (R.prefs.trans A.prefs) B.prefs, hc.2.mono B.prefs (R.prefs.trans A.prefs)⟩
  · intro x; rw [hseen3, hkeys3, hkm]
  · intro j so sa hso hsa hk
    obtain ⟨⟨e1, e2⟩, ta, hta, h1, _, _, h4, h5, h6, h7, h8⟩ := B.secs j so sa hso hsa hk
    obtain ⟨t, ht, hN, _⟩ := R.owners j sa hsa (by rw [e1]; exact hk)
    rw [B.type] at hN
    exact { kind := e1, mid := e2, codecs := ⟨_, h4⟩, nonempty := h5, exts := h6,
            answerer := ⟨ta, hta, h1, h8, h7⟩,
            offerer := ⟨t, ht, by rw [hN.mid, e2], hN.cur rfl⟩ }

/-- the exchange that took place is the one `negotiate_ok` speaks of -/
theorem exchangeOk_of_eq {o a : Pc} {ex : Exchange} (ho : WF o) (ha : WF a) (hp : Paired o a) (hc : Compatible o a)
    (h : negotiate o a = .ok ex) : ExchangeOk o a ex := by
  obtain ⟨ex', h', r⟩ := negotiate_ok ho ha hp hc
  rw [h] at h'; cases h'
  exact r

end Aiortc.Model.Negotiate
