import Aiortc.Lemmas.C03.Section
/-!
C03 — the "apply description" loop of `setRemoteDescription` for any state whose transceivers satisfy `Pre K`
(`applyRemote_ok`, `applyRemote_pre : FoldResult`):
it never fails when every section finds a common codec, it negotiates a transceiver for every media section,
and it keeps the structural invariant (`Pre`) that links transceivers, mids and m-line indices.  The words of the whole
region start here: `Ordered`, `Pre`, `Lines`, `KeysAt`, `Unnegotiated`, `InPrefs`, `Accepts`, `PrefsSub`, `SctpFits`, `MidStep`,
`MidFacts`, `AllMedia`.
-/
namespace Aiortc.Model.Negotiate
open Aiortc (Outcome)
open Aiortc.Model.Jsep (Sig)

/-- `a` before `b`, same kind: if `b` has a mid so has `a` (transceivers get their mids in list order, kind by kind) -/
def OrderRel (a b : Transceiver) : Prop := a.kind = b.kind → b.mid ≠ none → a.mid ≠ none

def Ordered (ts : List Transceiver) : Prop := ts.Pairwise OrderRel

/-- every transceiver is either untouched by negotiation (no mid, no m-line index) or owns the section of `K` at its
m-line index (same kind, its mid) -/
def Lines (K : List (Kind × String)) (ts : List Transceiver) : Prop :=
  ∀ t ∈ ts, (t.mid = none ∧ t.mline = none) ∨ ∃ (j : Nat) (x : String), K[j]? = some (t.kind, x) ∧ t.mid = some x ∧ t.mline = some j

structure Pre (K : List (Kind × String)) (ts : List Transceiver) : Prop where
  unique : UniqueMid ts
  order : Ordered ts
  lines : Lines K ts

theorem Pre.mono {K rest : List (Kind × String)} {ts : List Transceiver} (h : Pre K ts) : Pre (K ++ rest) ts := by
  refine ⟨h.unique, h.order, ?_⟩
  intro t ht
  rcases h.lines t ht with h1 | ⟨j, x, hj, hx, hl⟩
  · exact .inl h1
  · exact .inr ⟨j, x, by rw [List.getElem?_append_left (List.getElem?_eq_some_iff.mp hj).1]; exact hj, hx, hl⟩

/-- the preference lists a section of kind `k` can meet on this side: none, or those of a transceiver of that kind -/
def InPrefs (ts : List Transceiver) (k : Kind) (p : List Cap) : Prop := p = [] ∨ ∃ t ∈ ts, t.kind = k ∧ t.preferred = p

/-- every preference list that can meet section `m` (`InPrefs ts m.kind p`: those of the same-kind transceivers, and the
empty list of a transceiver created on the fly) leaves at least one codec -/
def Accepts (ts : List Transceiver) (m : MSec) : Prop :=
  ∀ p : List Cap, (p = [] ∨ ∃ t ∈ ts, t.kind = m.kind ∧ t.preferred = p) →
    ∃ c cs, filterPreferred (findCommon (codecsOf m.kind) m.codecs) p = .ok (c :: cs)

/-- preference lists (per kind) do not grow: what `Accepts` depends on; it says `InPrefs ts t'.kind t'.preferred` of
every `t' ∈ ts'` -/
def PrefsSub (ts' ts : List Transceiver) : Prop :=
  ∀ t' ∈ ts', t'.preferred = [] ∨ ∃ t ∈ ts, t.kind = t'.kind ∧ t.preferred = t'.preferred

theorem InPrefs.mono {ts ts' : List Transceiver} {k : Kind} {p : List Cap} (hs : PrefsSub ts' ts) (h : InPrefs ts' k p) : InPrefs ts k p := by
  rcases h with rfl | ⟨t', ht', hk, rfl⟩
  · exact .inl rfl
  · rcases hs t' ht' with he | ⟨t, ht, hk2, hp2⟩
    · exact .inl he
    · exact .inr ⟨t, ht, by rw [hk2, hk], hp2⟩

theorem Accepts.mono {ts ts' : List Transceiver} {m : MSec} (h : Accepts ts m) (hs : PrefsSub ts' ts) : Accepts ts' m :=
  fun p hp => h p (InPrefs.mono hs hp)

theorem PrefsSub.refl (ts : List Transceiver) : PrefsSub ts ts := fun t ht => .inr ⟨t, ht, rfl, rfl⟩

theorem PrefsSub.trans {a b c : List Transceiver} (h1 : PrefsSub a b) (h2 : PrefsSub b c) : PrefsSub a c :=
  fun t ht => InPrefs.mono h2 (h1 t ht)

theorem first_match_has_mid {m : MSec} : ∀ {l : List Transceiver} {t y : Transceiver}, Ordered l →
    l.find? (matchesSec m) = some t → y ∈ l → matchesSec m y = true → y.mid ≠ none → t.mid ≠ none := by
  intro l
  induction l with
  | nil => intro t y _ h; simp at h
  | cons a as ih =>
    intro t y ho hf hy hmy hyn
    obtain ⟨ha, has⟩ := List.pairwise_cons.mp ho
    by_cases hma : matchesSec m a = true
    · simp only [List.find?, hma] at hf
      obtain rfl : a = t := by simpa using hf
      rcases List.mem_cons.mp hy with rfl | hy
      · exact hyn
      · have hk : a.kind = y.kind := by
          simp only [matchesSec, Bool.and_eq_true, beq_iff_eq] at hma hmy
          rw [hma.1, hmy.1]
        exact ha y hy hk hyn
    · have hma' : matchesSec m a = false := by simpa using hma
      simp only [List.find?, hma'] at hf
      rcases List.mem_cons.mp hy with rfl | hy
      · rw [hmy] at hma'; cases hma'
      · exact ih has hf hy hmy hyn

/-! ## totality of one section -/

theorem ensureTransceiver_finds (pc : Pc) (m : MSec) :
    ∃ t, (pc.ensureTransceiver m).transceivers.find? (matchesSec m) = some t := by
  rcases (ensureTransceiver_spec pc m).1 with ⟨he, hany⟩ | ⟨_, n, he, h1, _, h3, _⟩
  · rw [he]
    obtain ⟨t, ht, hmt⟩ := List.any_eq_true.mp hany
    exact List.find_some_of_mem ht hmt
  · rw [he]
    exact List.find_some_of_mem (x := n) (by simp) (by simp [matchesSec, h3, h1])

theorem ensureTransceiver_prefs (pc : Pc) (m : MSec) : PrefsSub (pc.ensureTransceiver m).transceivers pc.transceivers := by
  rcases (ensureTransceiver_spec pc m).1 with ⟨he, _⟩ | ⟨_, n, he, _, _, _, h4⟩
  · rw [he]; exact PrefsSub.refl _
  · rw [he]
    intro t ht
    rcases List.mem_append.mp ht with h | h
    · exact .inr ⟨t, h, rfl, rfl⟩
    · simp at h; subst h; exact .inl h4

theorem applyRemoteSec_media_ok {typ : DType} {pc : Pc} {i : Nat} {m : MSec} (hk : m.kind.isMedia = true)
    (hacc : Accepts pc.transceivers m) : ∃ pc', applyRemoteSec typ pc i m = .ok pc' := by
  obtain ⟨t, hfind⟩ := ensureTransceiver_finds (pc.seeMid m.mid) m
  have hm : matchesSec m t = true := List.find?_some hfind
  have hkt : t.kind = m.kind := by
    simp only [matchesSec, Bool.and_eq_true, beq_iff_eq] at hm; exact hm.1
  obtain ⟨c, cs, hc⟩ := (hacc.mono (ensureTransceiver_prefs (pc.seeMid m.mid) m)) t.preferred
    (.inr ⟨t, List.mem_of_find?_eq_some hfind, hkt, rfl⟩)
  have hneg : ∃ t', negotiateTransceiver typ t m i = .ok t' := by
    unfold negotiateTransceiver; rw [hc]; simp
  obtain ⟨t', hneg⟩ := hneg
  obtain ⟨ts, hupd⟩ := updFirst_isSome (f := fun _ => t') hfind
  exact ⟨_, (applyRemoteSec_media_iff hk).mpr ⟨t, t', ts, hfind, hneg, hupd, rfl⟩⟩

theorem applyRemoteSec_app_ok {typ : DType} {pc : Pc} {i : Nat} {m : MSec} (hk : m.kind.isMedia = false) :
    ∃ pc', applyRemoteSec typ pc i m = .ok pc' := by
  obtain ⟨s, hs, _⟩ := ensureSctp_sctp (pc.seeMid m.mid)
  exact ⟨_, (applyRemoteSec_app_iff hk).mpr ⟨s, hs, rfl⟩⟩

/-! ## frame facts of one section -/

theorem applyRemoteSec_frame {typ : DType} {pc pc' : Pc} {i : Nat} {m : MSec} (h : applyRemoteSec typ pc i m = .ok pc') :
    pc'.slots = pc.slots ∧ pc'.seenMids = setAdd pc.seenMids m.mid ∧
    (m.kind.isMedia = true → pc'.sctp = pc.sctp) ∧
    (m.kind.isMedia = false → pc'.transceivers = pc.transceivers ∧
      ∃ s', pc'.sctp = some s' ∧ s'.mid = some (pc.sctpMid.getD m.mid)) := by
  cases hk : m.kind.isMedia
  · obtain ⟨s, hs, rfl⟩ := (applyRemoteSec_app_iff hk).mp h
    obtain ⟨e1, e2, e3⟩ := ensureSctp_frame (pc.seeMid m.mid)
    refine ⟨e2, e3, fun hf => absurd hf (by decide), fun _ => ⟨e1, _, rfl, ?_⟩⟩
    obtain ⟨s1, hs1, hcase⟩ := ensureSctp_sctp (pc.seeMid m.mid)
    rw [hs] at hs1; cases hs1
    rcases hcase with h1 | ⟨h1, h2⟩
    · have : pc.sctp = some s := h1
      simp [Pc.sctpMid, this]
    · have : pc.sctp = none := h1
      simp [Pc.sctpMid, this, h2]
  · obtain ⟨t, t', ts, _, _, _, rfl⟩ := (applyRemoteSec_media_iff hk).mp h
    obtain ⟨_, e2, e3, e4⟩ := ensureTransceiver_spec (pc.seeMid m.mid) m
    exact ⟨e2, e3, fun _ => e4, fun hf => absurd hf (by decide)⟩

theorem applyRemoteSec_sctp_transport {typ : DType} {pc pc' : Pc} {i : Nat} {m : MSec} (h : applyRemoteSec typ pc i m = .ok pc') :
    ∀ s, pc.sctp = some s → ∃ s', pc'.sctp = some s' ∧ s'.transport = s.transport := by
  intro s hs
  cases hk : m.kind.isMedia
  · obtain ⟨s1, hs1, rfl⟩ := (applyRemoteSec_app_iff hk).mp h
    obtain ⟨s2, hs2, hcase⟩ := ensureSctp_sctp (pc.seeMid m.mid)
    rw [hs1] at hs2; cases hs2
    rcases hcase with h1 | ⟨h1, _⟩
    · have : pc.sctp = some s1 := h1
      rw [hs] at this; cases this; exact ⟨_, rfl, rfl⟩
    · have : pc.sctp = none := h1
      rw [hs] at this; cases this
  · obtain ⟨_, _, _, _, _, _, rfl⟩ := (applyRemoteSec_media_iff hk).mp h
    exact ⟨s, ((ensureTransceiver_spec (pc.seeMid m.mid) m).2.2.2).trans hs, rfl⟩

theorem applyRemote_sctp_transport {typ : DType} {ms : List MSec} {pc pc' : Pc} {i : Nat} (h : applyRemote typ pc ms i = .ok pc') :
    ∀ s, pc.sctp = some s → ∃ s', pc'.sctp = some s' ∧ s'.transport = s.transport := by
  refine applyRemote_rel (R := fun a b => ∀ s, a.sctp = some s → ∃ s', b.sctp = some s' ∧ s'.transport = s.transport)
    (fun _ s hs => ⟨s, hs, rfl⟩) ?_ (fun _ _ _ _ _ h1 => applyRemoteSec_sctp_transport h1) h
  intro a b c h1 h2 s hs
  obtain ⟨s1, hs1, e1⟩ := h1 s hs
  obtain ⟨s2, hs2, e2⟩ := h2 s1 hs1
  exact ⟨s2, hs2, e2.trans e1⟩

/-! ## one section and the structural invariant -/

/-- transceivers have been created but none of them has been through an exchange: no mid, no m-line index -/
def Unnegotiated (ts : List Transceiver) : Prop := ∀ t ∈ ts, t.mid = none ∧ t.mline = none

theorem Pre.append_new {K : List (Kind × String)} {ts new : List Transceiver} (hp : Pre K ts) (hn : Unnegotiated new) :
    Pre K (ts ++ new) := by
  refine ⟨?_, ?_, ?_⟩
  · refine List.pairwise_append.mpr ⟨hp.unique, List.pairwise_of_forall_mem_list fun a ha _ _ hne => absurd (hn a ha).1 hne, ?_⟩
    intro a _ b hb hne
    rw [(hn b hb).1]; exact hne
  · refine List.pairwise_append.mpr ⟨hp.order, List.pairwise_of_forall_mem_list fun _ _ b hb _ hne => absurd (hn b hb).1 hne, ?_⟩
    exact fun a _ b hb _ hne => absurd (hn b hb).1 hne
  · intro t ht
    rcases List.mem_append.mp ht with h | h
    · exact hp.lines t h
    · exact .inl (hn t h)

theorem Pre.nil (K : List (Kind × String)) : Pre K [] :=
  ⟨List.Pairwise.nil, List.Pairwise.nil, fun _ ht => nomatch ht⟩

theorem unnegotiated_pre {K : List (Kind × String)} {ts : List Transceiver} (h : Unnegotiated ts) : Pre K ts :=
  List.nil_append ts ▸ Pre.append_new (K := K) (ts := []) (new := ts) (Pre.nil K) h

theorem keys_index_inj {K : List (Kind × String)} (hnd : (K.map (·.2)).Nodup) {i j : Nat} {k1 k2 : Kind} {x : String}
    (hi : K[i]? = some (k1, x)) (hj : K[j]? = some (k2, x)) : i = j ∧ k1 = k2 := by
  obtain ⟨hi', ei⟩ := List.getElem?_eq_some_iff.mp hi
  obtain ⟨hj', ej⟩ := List.getElem?_eq_some_iff.mp hj
  have : i = j := (List.getElem_inj (h₀ := by simpa using hi') (h₁ := by simpa using hj') hnd).mp (by simp [ei, ej])
  subst this
  rw [hi] at hj
  simp only [Option.some.injEq, Prod.mk.injEq] at hj
  exact ⟨rfl, hj.1⟩

theorem Lines.of_mid {K : List (Kind × String)} {ts : List Transceiver} (h : Lines K ts) {t : Transceiver} (ht : t ∈ ts)
    (hm : t.mid ≠ none) : ∃ (j : Nat) (x : String), K[j]? = some (t.kind, x) ∧ t.mid = some x := by
  rcases h t ht with ⟨h0, _⟩ | ⟨j, x, hj, hx, _⟩
  · exact absurd h0 hm
  · exact ⟨j, x, hj, hx⟩

theorem Lines.owner {K : List (Kind × String)} {ts : List Transceiver} (h : Lines K ts) (hnd : (K.map (·.2)).Nodup)
    {j : Nat} {k : Kind} {x : String} (hK : K[j]? = some (k, x)) {t : Transceiver} (ht : t ∈ ts) (hm : t.mid = some x) :
    t.kind = k ∧ t.mline = some j := by
  rcases h t ht with ⟨h1, _⟩ | ⟨j', y, hj, hy, hl⟩
  · rw [h1] at hm; cases hm
  · rw [hy] at hm; cases hm
    obtain ⟨rfl, hk⟩ := keys_index_inj hnd hj hK
    exact ⟨hk, hl⟩

theorem Lines.section {K : List (Kind × String)} {ts : List Transceiver} (h : Lines K ts) {ms : List MSec} (hk : keysOfSecs ms = K)
    {t : Transceiver} (ht : t ∈ ts) {j : Nat} (hj : t.mline = some j) : ∃ m, ms[j]? = some m ∧ t.mid = some m.mid := by
  rcases h t ht with ⟨_, h0⟩ | ⟨j', x, hj', hx, hl⟩
  · rw [h0] at hj; cases hj
  · rw [hl] at hj; cases hj
    rw [← hk] at hj'
    obtain ⟨m, hm, _, e2⟩ := keys_getElem_inv hj'
    exact ⟨m, hm, by rw [hx, e2]⟩

def AllMedia (ts : List Transceiver) : Prop := ∀ t ∈ ts, t.kind.isMedia = true

theorem applyRemoteSec_transceivers {typ : DType} {pc pc' : Pc} {i : Nat} {m : MSec} (h : applyRemoteSec typ pc i m = .ok pc') :
    PrefsSub pc'.transceivers pc.transceivers ∧
    (∀ x ∈ pc.transceivers, x.mid ≠ none → x.mid ≠ some m.mid → x ∈ pc'.transceivers) ∧
    (AllMedia pc.transceivers → AllMedia pc'.transceivers) := by
  cases hk : m.kind.isMedia
  · rw [applyRemoteSec_app h hk]
    exact ⟨PrefsSub.refl _, fun x hx _ _ => hx, fun hm => hm⟩
  · obtain ⟨new, t, t', hnew, hfind, hneg, hupd⟩ := applyRemoteSec_media h hk
    have hmatch : matchesSec m t = true := by simpa using List.find?_some hfind
    have htmem := List.mem_append.mp (List.mem_of_find?_eq_some hfind)
    have htk : t.kind = m.kind := by
      have := hmatch
      simp only [matchesSec, Bool.and_eq_true, beq_iff_eq] at this
      exact this.1
    obtain ⟨hN, _, _, hpref, _⟩ := negotiateTransceiver_spec hneg hmatch
    have hnewmem : ∀ y ∈ pc'.transceivers, y = t' ∨ y ∈ pc.transceivers ∨ y ∈ new := by
      intro y hy
      rcases updFirst_mem hupd y hy with h1 | ⟨_, _, _, rfl⟩
      · exact .inr (List.mem_append.mp h1)
      · exact .inl rfl
    refine ⟨fun y hy => ?_, fun x hx hxn hxm => ?_, fun hall y hy => ?_⟩
    · rcases hnewmem y hy with rfl | hy0 | hy0
      · rcases htmem with ht | ht
        · exact .inr ⟨t, ht, by rw [hN.kind, htk], hpref.symm⟩
        · exact .inl (by rw [hpref]; exact (hnew t ht).2.2.2)
      · exact .inr ⟨y, hy0, rfl, rfl⟩
      · exact .inl (hnew y hy0).2.2.2
    · refine updFirst_keeps hupd x (List.mem_append_left _ hx) ?_
      cases hxmid : x.mid with
      | none => exact absurd hxmid hxn
      | some v =>
        have hv : v ≠ m.mid := by intro hv; rw [hxmid, hv] at hxm; exact hxm rfl
        simp [matchesSec, hxmid, hv]
    · rcases hnewmem y hy with rfl | hy0 | hy0
      · rw [hN.kind]; exact hk
      · exact hall y hy0
      · rw [(hnew y hy0).2.2.1]; exact hk

theorem applyRemoteSec_pre {typ : DType} {K : List (Kind × String)} {pc pc' : Pc} {i : Nat} {m : MSec}
    (hP : Pre K pc.transceivers) (hK : K[i]? = some (m.kind, m.mid)) (hnd : (K.map (·.2)).Nodup)
    (h : applyRemoteSec typ pc i m = .ok pc') :
    Pre K pc'.transceivers ∧
    (m.kind.isMedia = true → ∃ t' ∈ pc'.transceivers, Negotiated typ m t' ∧ t'.mline = some i) ∧
    (∀ t ∈ pc.transceivers, ∀ x, t.mid = some x → ∃ t' ∈ pc'.transceivers, t'.mid = some x ∧ t'.transport = t.transport) := by
  cases hk : m.kind.isMedia
  · have := applyRemoteSec_app h hk
    rw [this]
    exact ⟨hP, fun hf => absurd hf (by decide), fun t ht x hx => ⟨t, ht, hx, rfl⟩⟩
  · obtain ⟨new, t, t', hnew, hfind, hneg, hupd⟩ := applyRemoteSec_media h hk
    generalize hts0 : pc.transceivers ++ new = ts0 at hfind hupd
    have hmatch : matchesSec m t = true := by simpa using List.find?_some hfind
    have htmem : t ∈ ts0 := List.mem_of_find?_eq_some hfind
    have hmatch' := hmatch
    simp only [matchesSec, Bool.and_eq_true, beq_iff_eq, Bool.or_eq_true] at hmatch'
    have holdsub : ∀ x ∈ pc.transceivers, x ∈ ts0 := fun x hx => hts0 ▸ List.mem_append_left _ hx
    have hP0 : Pre K ts0 := hts0 ▸ hP.append_new fun n hn => ⟨(hnew n hn).1, (hnew n hn).2.1⟩
    have hlines0 := hP0.lines
    have owner_matches : ∀ y ∈ ts0, y.mid = some m.mid → matchesSec m y = true := by
      intro y hy hym
      simp [matchesSec, (hlines0.owner hnd hK hy hym).1, hym]
    obtain ⟨hN, hdir, htr, hpref, hline_none, hline_some, _, _⟩ := negotiateTransceiver_spec hneg hmatch
    have ht'k : t'.kind = m.kind := hN.kind
    -- the update function is constantly `t'`, so the updated element is `t'` whichever element was hit
    have ht'mem : t' ∈ pc'.transceivers := (updFirst_has hupd).choose_spec.2
    have hnewmem : ∀ y ∈ pc'.transceivers, y = t' ∨ y ∈ ts0 := by
      intro y hy
      rcases updFirst_mem hupd y hy with h1 | ⟨_, _, _, rfl⟩
      · exact .inr h1
      · exact .inl rfl
    -- two cases: the first match already owns the mid, or it has no mid and then nobody owns the mid
    have hcases : t.mid = some m.mid ∨ (t.mid = none ∧ ∀ y ∈ ts0, y.mid ≠ some m.mid) := by
      rcases hmatch'.2 with h1 | h1
      · right
        have htn : t.mid = none := Option.isNone_iff_eq_none.mp h1
        refine ⟨htn, ?_⟩
        intro y hy hym
        have := first_match_has_mid hP0.order hfind hy (owner_matches y hy hym) (by rw [hym]; simp)
        exact this htn
      · exact .inl h1
    -- the negotiated transceiver has index `i`: the index its mid already had, or the one it is given now
    have ht'line : t'.mline = some i := by
      rcases hcases with h1 | ⟨h1, _⟩
      · rw [hline_some (by rw [h1]; simp)]; exact (hlines0.owner hnd hK htmem h1).2
      · exact hline_none h1
    have hpair : ∀ (R : Transceiver → Transceiver → Prop), ts0.Pairwise R →
        (∀ y ∈ ts0, R t y → R t' y) → (∀ y ∈ ts0, matchesSec m y = false → R y t → R y t') →
        pc'.transceivers.Pairwise R :=
      fun R hR h1 h2 => updFirst_pairwise_first (f := fun _ => t') hupd hfind hR h1 h2
    refine ⟨⟨?_, ?_, ?_⟩, fun _ => ⟨t', ht'mem, hN, ht'line⟩, ?_⟩
    · refine hpair MidDiff hP0.unique ?_ ?_
      · intro y hy hR hne
        rcases hcases with h1 | ⟨_, hnone⟩
        · rw [hN.mid, ← h1]; exact hR (by rw [h1]; simp)
        · rw [hN.mid]; exact (hnone y hy).symm
      · intro y hy _ hR hne
        rcases hcases with h1 | ⟨_, hnone⟩
        · rw [hN.mid, ← h1]; exact hR hne
        · rw [hN.mid]; exact hnone y hy
    · refine hpair OrderRel hP0.order ?_ ?_
      · intro y _ _ _ _
        rw [hN.mid]; simp
      · intro y hy hnm _ hky _
        -- y has the kind of `m` and does not match: it has another mid
        have hyk : y.kind = m.kind := by rw [hky, ht'k]
        intro hyn
        simp [matchesSec, hyk, hyn] at hnm
    · intro y hy
      rcases hnewmem y hy with rfl | hy0
      · exact .inr ⟨i, m.mid, by rw [ht'k]; exact hK, hN.mid, ht'line⟩
      · exact hlines0 y hy0
    · -- the owner of a mid stays on its transport
      intro u hu x hux
      by_cases hxm : x = m.mid
      · subst hxm
        have hum := owner_matches u (holdsub u hu) hux
        have htn := first_match_has_mid hP0.order hfind (holdsub u hu) hum (by rw [hux]; simp)
        have htm : t.mid = some m.mid := by
          rcases hcases with h1 | ⟨h1, _⟩
          · exact h1
          · exact absurd h1 htn
        have : t = u := hP0.unique.eq t htmem u (holdsub u hu) (by rw [htm, hux]) (by rw [htm]; simp)
        subst this
        exact ⟨t', ht'mem, hN.mid, htr⟩
      · exact ⟨u, updFirst_keeps hupd u (holdsub u hu) (by
            cases hum : u.mid with
            | none => rw [hum] at hux; cases hux
            | some v =>
              rw [hum] at hux; cases hux
              simp [matchesSec, hum, hxm]), hux, rfl⟩

/-! ## the whole loop -/

/-- the application sections of `ms` agree with each other and with the mid the SCTP transport already has -/
structure SctpFits (pc : Pc) (ms : List MSec) : Prop where
  same : ∀ m1 ∈ ms, ∀ m2 ∈ ms, m1.kind.isMedia = false → m2.kind.isMedia = false → m1.mid = m2.mid
  old : ∀ m ∈ ms, m.kind.isMedia = false → ∀ y, pc.sctpMid = some y → y = m.mid

/-- what one section does to the seen mids and to the mid of the SCTP transport, in "apply description" (which keeps an
SCTP mid that is there) as in "assign MID" (which overwrites it) -/
structure MidStep (m : MSec) (pc pc1 : Pc) : Prop where
  seen : pc1.seenMids = setAdd pc.seenMids m.mid
  media : m.kind.isMedia = true → pc1.sctpMid = pc.sctpMid
  app : m.kind.isMedia = false → pc1.sctpMid = some m.mid ∨ ∃ y, pc.sctpMid = some y ∧ pc1.sctpMid = some y

/-- what a list of sections does to the seen mids and to the SCTP mid: one `MidStep` per section (`MidFacts.cons`) -/
structure MidFacts (ms : List MSec) (pc pc' : Pc) : Prop where
  seen : ∀ x, x ∈ pc'.seenMids ↔ x ∈ pc.seenMids ∨ x ∈ ms.map (·.mid)
  sctpApp : SctpFits pc ms → ∀ m ∈ ms, m.kind.isMedia = false → pc'.sctpMid = some m.mid
  sctpOld : pc'.sctpMid = pc.sctpMid ∨ ∃ m ∈ ms, m.kind.isMedia = false ∧ pc'.sctpMid = some m.mid

theorem mem_setAdd {s : List String} {m x : String} : x ∈ setAdd s m ↔ x ∈ s ∨ x = m := by
  unfold setAdd
  split
  · rename_i h
    exact ⟨.inl, fun hx => hx.elim id (fun e => e ▸ by simpa using h)⟩
  · simp

theorem MidFacts.nil (pc : Pc) : MidFacts [] pc pc := ⟨fun x => by simp, fun _ m hm => (by cases hm), .inl rfl⟩

theorem MidFacts.cons {m : MSec} {ms : List MSec} {pc pc1 pc' : Pc} (s : MidStep m pc pc1) (r : MidFacts ms pc1 pc') :
    MidFacts (m :: ms) pc pc' := by
  refine ⟨fun x => ?_, fun hfit => ?_, ?_⟩
  · rw [r.seen x, s.seen, mem_setAdd, List.map_cons, List.mem_cons, or_assoc]
  · have hhead : m.kind.isMedia = false → pc1.sctpMid = some m.mid := by
      intro hk
      rcases s.app hk with e | ⟨y, hy, e⟩
      · exact e
      · rw [e, hfit.old m (by simp) hk y hy]
    have hfit1 : SctpFits pc1 ms := by
      refine ⟨fun a ha b hb => hfit.same a (by simp [ha]) b (by simp [hb]), ?_⟩
      intro m2 hm2 hk2 y hy
      cases hk : m.kind.isMedia
      · rw [hhead hk] at hy
        cases hy
        exact hfit.same m (by simp) m2 (by simp [hm2]) hk hk2
      · rw [s.media hk] at hy
        exact hfit.old m2 (by simp [hm2]) hk2 y hy
    intro m2 hm2 hk2
    rcases List.mem_cons.mp hm2 with rfl | hm2
    · rcases r.sctpOld with h | ⟨m3, hm3, hk3, h⟩
      · rw [h]; exact hhead hk2
      · rw [h, hfit.same m2 (by simp) m3 (by simp [hm3]) hk2 hk3]
    · exact r.sctpApp hfit1 m2 hm2 hk2
  · rcases r.sctpOld with h | ⟨m3, hm3, hk3, h⟩
    · cases hk : m.kind.isMedia
      · rcases s.app hk with e | ⟨y, hy, e⟩
        · exact .inr ⟨m, by simp, hk, by rw [h]; exact e⟩
        · exact .inl (by rw [h, e, hy])
      · exact .inl (by rw [h, s.media hk])
    · exact .inr ⟨m3, by simp [hm3], hk3, h⟩

theorem applyRemoteSec_midStep {typ : DType} {pc pc1 : Pc} {i : Nat} {m : MSec} (h : applyRemoteSec typ pc i m = .ok pc1) :
    MidStep m pc pc1 := by
  obtain ⟨_, hseen, hsctpM, hsctpA⟩ := applyRemoteSec_frame h
  refine ⟨hseen, fun hk => by simp [Pc.sctpMid, hsctpM hk], fun hk => ?_⟩
  obtain ⟨_, s', hs', hmid⟩ := hsctpA hk
  rw [show pc1.sctpMid = some (pc.sctpMid.getD m.mid) by simp [Pc.sctpMid, hs', hmid]]
  cases hy : pc.sctpMid with
  | none => exact .inl rfl
  | some y => exact .inr ⟨y, rfl, rfl⟩

/-- what the "apply description" loop over `ms`, started at m-line index `i`, leaves (`applyRemote_pre`) -/
structure FoldResult (typ : DType) (K : List (Kind × String)) (pc pc' : Pc) (ms : List MSec) (i : Nat) : Prop where
  pre : Pre K pc'.transceivers
  prefs : PrefsSub pc'.transceivers pc.transceivers
  keep : ∀ x ∈ pc.transceivers, x.mid ≠ none → (∀ m ∈ ms, x.mid ≠ some m.mid) → x ∈ pc'.transceivers
  owners : ∀ (j : Nat) (m : MSec), ms[j]? = some m → m.kind.isMedia = true →
    ∃ t' ∈ pc'.transceivers, Negotiated typ m t' ∧ t'.mline = some (i + j)
  media : AllMedia pc.transceivers → AllMedia pc'.transceivers
  slots : pc'.slots = pc.slots
  mids : MidFacts ms pc pc'
  /-- the owner of a mid stays on its transport during the loop (BUNDLE comes afterwards) -/
  fwd : ∀ t ∈ pc.transceivers, ∀ x, t.mid = some x → ∃ t' ∈ pc'.transceivers, t'.mid = some x ∧ t'.transport = t.transport

def KeysAt (K : List (Kind × String)) (i : Nat) (ms : List MSec) : Prop :=
  ∀ (j : Nat) (m : MSec), ms[j]? = some m → K[i + j]? = some (m.kind, m.mid)

theorem KeysAt.head {K : List (Kind × String)} {i : Nat} {m : MSec} {ms : List MSec} (h : KeysAt K i (m :: ms)) :
    K[i]? = some (m.kind, m.mid) := by simpa using h 0 m (by simp)

theorem KeysAt.tail {K : List (Kind × String)} {i : Nat} {m : MSec} {ms : List MSec} (h : KeysAt K i (m :: ms)) :
    KeysAt K (i + 1) ms := by
  intro j mj hj
  have := h (j + 1) mj (by simpa using hj)
  rw [← this]; congr 1; omega

theorem KeysAt.head_notin {K : List (Kind × String)} (hnd : (K.map (·.2)).Nodup) {i : Nat} {m : MSec} {ms : List MSec}
    (h : KeysAt K i (m :: ms)) : m.mid ∉ ms.map (·.mid) := by
  intro hmem
  obtain ⟨m2, hm2, hmm⟩ := List.mem_map.mp hmem
  obtain ⟨j, hj⟩ := List.getElem?_of_mem hm2
  have h3 := h.tail j m2 hj
  have hK := h.head
  rw [← hmm] at hK
  have := (keys_index_inj hnd hK h3).1
  omega

theorem applyRemote_pre {typ : DType} {K : List (Kind × String)} (hnd : (K.map (·.2)).Nodup) : ∀ (ms : List MSec) {pc pc' : Pc} {i : Nat},
    Pre K pc.transceivers → KeysAt K i ms → applyRemote typ pc ms i = .ok pc' → FoldResult typ K pc pc' ms i := by
  intro ms
  induction ms with
  | nil =>
    intro pc pc' i hP _ h
    cases h
    exact ⟨hP, PrefsSub.refl _, fun x hx _ _ => hx, fun j m hj => (by simp at hj), fun h => h, rfl, .nil pc, fun t ht x hx => ⟨t, ht, hx, rfl⟩⟩
  | cons m ms ih =>
    intro pc pc' i hP hidx h
    obtain ⟨pc1, h1, h2⟩ := bind_eq_ok.mp (applyRemote_cons typ pc m ms i ▸ h)
    obtain ⟨hP1, hown1, hfwd1⟩ := applyRemoteSec_pre hP hidx.head hnd h1
    obtain ⟨hpref1, hkeep1, hmedia1⟩ := applyRemoteSec_transceivers h1
    have hslots1 := (applyRemoteSec_frame h1).1
    have r := ih hP1 hidx.tail h2
    have hmnot := hidx.head_notin hnd
    refine ⟨r.pre, r.prefs.trans hpref1, ?_, ?_, fun h => r.media (hmedia1 h), r.slots.trans hslots1, .cons (applyRemoteSec_midStep h1) r.mids, ?_⟩
    · intro x hx hxn hxm
      exact r.keep x (hkeep1 x hx hxn (hxm m (by simp))) hxn (fun m2 hm2 => hxm m2 (by simp [hm2]))
    · intro j mj hj hk
      cases j with
      | zero =>
        simp at hj; subst hj
        obtain ⟨t', ht', hN, hl⟩ := hown1 hk
        refine ⟨t', r.keep t' ht' (by rw [hN.mid]; simp) ?_, hN, by simpa using hl⟩
        intro m2 hm2
        rw [hN.mid]
        intro hh
        exact hmnot (by rw [Option.some.inj hh]; exact List.mem_map_of_mem hm2)
      | succ n =>
        obtain ⟨t', ht', hN, hl⟩ := r.owners n mj (by simpa using hj) hk
        exact ⟨t', ht', hN, by rw [hl]; congr 1; omega⟩
    · intro t ht x hx
      obtain ⟨t1, ht1, hm1, htr1⟩ := hfwd1 t ht x hx
      obtain ⟨t2, ht2, hm2, htr2⟩ := r.fwd t1 ht1 x hm1
      exact ⟨t2, ht2, hm2, htr2.trans htr1⟩

theorem applyRemote_ok {typ : DType} : ∀ (ms : List MSec) (pc : Pc) (i : Nat),
    (∀ m ∈ ms, m.kind.isMedia = true → Accepts pc.transceivers m) → ∃ pc', applyRemote typ pc ms i = .ok pc' := by
  intro ms
  induction ms with
  | nil => intro pc i _; exact ⟨pc, rfl⟩
  | cons m ms ih =>
    intro pc i hacc
    have hstep : ∃ pc1, applyRemoteSec typ pc i m = .ok pc1 := by
      cases hk : m.kind.isMedia
      · exact applyRemoteSec_app_ok hk
      · exact applyRemoteSec_media_ok hk (hacc m (by simp) hk)
    obtain ⟨pc1, h1⟩ := hstep
    have hpref1 := (applyRemoteSec_transceivers h1).1
    obtain ⟨pc', h2⟩ := ih pc1 (i + 1) (fun m2 hm2 hk2 => (hacc m2 (by simp [hm2]) hk2).mono hpref1)
    exact ⟨pc', by rw [applyRemote_cons, h1]; exact h2⟩

end Aiortc.Model.Negotiate
