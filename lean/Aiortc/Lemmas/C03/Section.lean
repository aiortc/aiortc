import Aiortc.Lemmas.C03.Calls
import Aiortc.Lemmas.Util.List
/-!
C03 — one media section of `setRemoteDescription` — which transceiver negotiates it, what
"find or create" leaves, and the two characterisations of `applyRemoteSec` (a media section, the application section)
everything about the loop rests on.  First, `UniqueMid` (at most one transceiver per mid): the later files state their
invariants with it.
-/
namespace Aiortc.Model.Negotiate
open Aiortc (Outcome)
open Aiortc.Model.Jsep (Sig)

def MidDiff (a b : Transceiver) : Prop := a.mid ≠ none → a.mid ≠ b.mid

/-- at most one transceiver per mid (positionally: two list positions never carry the same mid) -/
def UniqueMid (ts : List Transceiver) : Prop := ts.Pairwise MidDiff

theorem UniqueMid.eq {ts : List Transceiver} (h : UniqueMid ts) :
    ∀ t1 ∈ ts, ∀ t2 ∈ ts, t1.mid = t2.mid → t1.mid ≠ none → t1 = t2 := by
  unfold UniqueMid at h
  induction h with
  | nil => intro t1 h1; cases h1
  | @cons a as ha _ ih =>
    intro t1 h1 t2 h2 heq hne
    rcases List.mem_cons.mp h1 with e1 | h1'
    · rcases List.mem_cons.mp h2 with e2 | h2'
      · rw [e1, e2]
      · subst e1; exact absurd heq (ha t2 h2' hne)
    · rcases List.mem_cons.mp h2 with e2 | h2'
      · subst e2; exact absurd heq.symm (ha t1 h1' (by rw [← heq]; exact hne))
      · exact ih t1 h1' t2 h2' heq hne

/-- `__getTransceiverByMid` returns THE transceiver of that mid -/
theorem UniqueMid.byMid {ts : List Transceiver} (h : UniqueMid ts) {t : Transceiver} {x : String} (ht : t ∈ ts) (hm : t.mid = some x) :
    ts.find? (fun u => u.mid == some x) = some t := by
  obtain ⟨y, hy⟩ := List.find_some_of_mem (p := fun u : Transceiver => u.mid == some x) ht (by simp [hm])
  have hym : y.mid = some x := by simpa using List.find?_some hy
  rw [hy, h.eq y (List.mem_of_find?_eq_some hy) t ht (by rw [hym, hm]) (by rw [hym]; simp)]

/-- What `setRemoteDescription` establishes for the transceiver that answers media section `m`. -/
structure Negotiated (typ : DType) (m : MSec) (t : Transceiver) : Prop where
  mid : t.mid = some m.mid
  kind : t.kind = m.kind
  remoteSet : t.remoteSet = true
  codecs : filterPreferred (findCommon (codecsOf m.kind) m.codecs) t.preferred = .ok t.codecs
  nonempty : t.codecs ≠ []
  exts : t.exts = findCommonExt (extsOf m.kind) m.exts
  cur : typ = .answer → t.currentDirection = some (revDir m.direction)
  off : typ = .offer → t.offerDirection = some (revDir m.direction)

theorem negotiateTransceiver_spec {typ : DType} {t t' : Transceiver} {m : MSec} {i : Nat}
    (h : negotiateTransceiver typ t m i = .ok t') (hm : matchesSec m t = true) :
    Negotiated typ m t' ∧ t'.direction = t.direction ∧ t'.transport = t.transport ∧ t'.preferred = t.preferred ∧
    (t.mid = none → t'.mline = some i) ∧ (t.mid ≠ none → t'.mline = t.mline) ∧
    (typ = .offer → t'.currentDirection = t.currentDirection) ∧ (typ = .answer → t'.offerDirection = t.offerDirection) := by
  unfold negotiateTransceiver at h
  split at h
  · rename_i common hc
    split at h
    · cases h
    · rename_i hne
      cases h
      simp only [matchesSec, Bool.and_eq_true, beq_iff_eq, Bool.or_eq_true] at hm
      refine ⟨⟨?_, hm.1, rfl, hc, ?_, rfl, ?_, ?_⟩, rfl, rfl, rfl, ?_, ?_, ?_, ?_⟩
      · rcases hm.2 with h1 | h1
        · -- a matching transceiver has no mid or this mid: `getD` yields `m.mid` either way
          cases ht : t.mid <;> simp_all
        · simp [h1]
      · intro he; exact hne (by simpa using he)
      · intro ht; simp [ht]
      · intro ht; simp [ht]
      · intro ht; simp [ht]
      · intro ht; cases hx : t.mid <;> simp_all
      · intro ht; simp [ht]
      · intro ht; simp [ht]
  · cases h
  · cases h
  · cases h

/-! ## creating transceivers and the SCTP transport on the fly -/

theorem createTransceiver_frame (pc : Pc) (d : Dir) (k : Kind) (tr : Bool) :
    (pc.createTransceiver d k tr).slots = pc.slots ∧ (pc.createTransceiver d k tr).seenMids = pc.seenMids ∧
    (pc.createTransceiver d k tr).sctp = pc.sctp := by
  unfold Pc.createTransceiver
  split <;> exact ⟨rfl, rfl, rfl⟩

theorem createTransceiver_new (pc : Pc) (d : Dir) (k : Kind) (tr : Bool) :
    ∃ n, (pc.createTransceiver d k tr).transceivers = pc.transceivers ++ [n] ∧ n.mid = none ∧ n.mline = none ∧ n.kind = k ∧
      n.preferred = [] ∧ n.direction = d ∧ n.hasTrack = tr := by
  unfold Pc.createTransceiver
  split <;> exact ⟨_, rfl, rfl, rfl, rfl, rfl, rfl, rfl⟩

theorem ensureTransceiver_spec (pc : Pc) (m : MSec) :
    ((pc.ensureTransceiver m).transceivers = pc.transceivers ∧ pc.transceivers.any (matchesSec m) = true ∨
      (pc.transceivers.any (matchesSec m) = false ∧ ∃ n, (pc.ensureTransceiver m).transceivers = pc.transceivers ++ [n] ∧
        n.mid = none ∧ n.mline = none ∧ n.kind = m.kind ∧ n.preferred = [])) ∧
    (pc.ensureTransceiver m).slots = pc.slots ∧ (pc.ensureTransceiver m).seenMids = pc.seenMids ∧
    (pc.ensureTransceiver m).sctp = pc.sctp := by
  unfold Pc.ensureTransceiver
  split
  · rename_i hany; exact ⟨.inl ⟨rfl, hany⟩, rfl, rfl, rfl⟩
  · rename_i hany
    obtain ⟨n, hn, h1, h2, h3, h4, _⟩ := createTransceiver_new pc .recvonly m.kind false
    exact ⟨.inr ⟨by simpa using hany, n, hn, h1, h2, h3, h4⟩, createTransceiver_frame pc _ _ _⟩

theorem createSctp_frame (pc : Pc) :
    pc.createSctp.transceivers = pc.transceivers ∧ pc.createSctp.slots = pc.slots ∧ pc.createSctp.seenMids = pc.seenMids := by
  unfold Pc.createSctp
  split <;> exact ⟨rfl, rfl, rfl⟩

theorem createSctp_sctp (pc : Pc) : ∃ s, pc.createSctp.sctp = some s ∧ s.mid = none := by
  unfold Pc.createSctp
  split <;> exact ⟨_, rfl, rfl⟩

theorem ensureSctp_frame (pc : Pc) :
    pc.ensureSctp.transceivers = pc.transceivers ∧ pc.ensureSctp.slots = pc.slots ∧ pc.ensureSctp.seenMids = pc.seenMids := by
  unfold Pc.ensureSctp
  split
  · exact ⟨rfl, rfl, rfl⟩
  · exact createSctp_frame pc

theorem ensureSctp_sctp (pc : Pc) : ∃ s, pc.ensureSctp.sctp = some s ∧ (pc.sctp = some s ∨ (pc.sctp = none ∧ s.mid = none)) := by
  unfold Pc.ensureSctp
  cases hs : pc.sctp with
  | some s => exact ⟨s, by simp [hs], .inl rfl⟩
  | none =>
    obtain ⟨s, h1, h2⟩ := createSctp_sctp pc
    exact ⟨s, by simp [h1], .inr ⟨rfl, h2⟩⟩

/-! ## one section of "apply description" -/

theorem applyRemoteSec_media_iff {typ : DType} {pc pc' : Pc} {i : Nat} {m : MSec} (hk : m.kind.isMedia = true) :
    applyRemoteSec typ pc i m = .ok pc' ↔ ∃ t t' ts,
      ((pc.seeMid m.mid).ensureTransceiver m).transceivers.find? (matchesSec m) = some t ∧
      negotiateTransceiver typ t m i = .ok t' ∧
      updFirst (matchesSec m) (fun _ => t') ((pc.seeMid m.mid).ensureTransceiver m).transceivers = some ts ∧
      pc' = ({ (pc.seeMid m.mid).ensureTransceiver m with transceivers := ts }).modTransport t.transport (remoteRoles typ m.setup) := by
  unfold applyRemoteSec applyRemoteMedia
  simp only [hk, if_true]
  constructor
  · intro h
    split at h
    · cases h
    · rename_i t ht
      split at h
      · rename_i t' hn
        split at h
        · cases h
        · rename_i ts hu
          cases h; exact ⟨t, t', ts, ht, hn, hu, rfl⟩
      all_goals cases h
  · rintro ⟨t, t', ts, ht, hn, hu, rfl⟩
    simp only [ht, hn, hu]

theorem applyRemoteSec_app_iff {typ : DType} {pc pc' : Pc} {i : Nat} {m : MSec} (hk : m.kind.isMedia = false) :
    applyRemoteSec typ pc i m = .ok pc' ↔ ∃ s, (pc.seeMid m.mid).ensureSctp.sctp = some s ∧
      pc' = ({ (pc.seeMid m.mid).ensureSctp with
                sctp := some { s with mid := some (s.mid.getD m.mid), remoteSet := true },
                sctpMline := if s.mid.isNone then some i else (pc.seeMid m.mid).ensureSctp.sctpMline }).modTransport
              s.transport (remoteRoles typ m.setup) := by
  unfold applyRemoteSec applyRemoteApp
  simp only [hk, Bool.false_eq_true, if_false]
  constructor
  · intro h
    split at h
    · cases h
    · rename_i s hs
      cases h; exact ⟨s, hs, rfl⟩
  · rintro ⟨s, hs, rfl⟩
    simp only [hs]

theorem applyRemote_rel {typ : DType} {R : Pc → Pc → Prop} (hrefl : ∀ pc, R pc pc) (htrans : ∀ {a b c}, R a b → R b c → R a c) :
    ∀ {ms : List MSec}, (∀ m ∈ ms, ∀ {pc pc1 i}, applyRemoteSec typ pc i m = .ok pc1 → R pc pc1) →
      ∀ {pc pc' : Pc} {i : Nat}, applyRemote typ pc ms i = .ok pc' → R pc pc' := by
  intro ms
  induction ms with
  | nil => intro _ pc pc' i h; cases h; exact hrefl pc
  | cons m ms ih =>
    intro hstep pc pc' i h
    obtain ⟨pc1, h1, h2⟩ := bind_eq_ok.mp (applyRemote_cons typ pc m ms i ▸ h)
    exact htrans (hstep m (by simp) h1) (ih (fun m' hm' => hstep m' (by simp [hm'])) h2)

theorem applyRemoteSec_media {typ : DType} {pc pc' : Pc} {i : Nat} {m : MSec}
    (h : applyRemoteSec typ pc i m = .ok pc') (hk : m.kind.isMedia = true) :
    ∃ new t t', (∀ n ∈ new, n.mid = none ∧ n.mline = none ∧ n.kind = m.kind ∧ n.preferred = []) ∧
      (pc.transceivers ++ new).find? (matchesSec m) = some t ∧ negotiateTransceiver typ t m i = .ok t' ∧
      updFirst (matchesSec m) (fun _ => t') (pc.transceivers ++ new) = some pc'.transceivers := by
  obtain ⟨t, t', ts, hfind, hneg, hupd, rfl⟩ := (applyRemoteSec_media_iff hk).mp h
  rcases (ensureTransceiver_spec (pc.seeMid m.mid) m).1 with ⟨he, _⟩ | ⟨_, n, he, hn⟩
  · have he' : ((pc.seeMid m.mid).ensureTransceiver m).transceivers = pc.transceivers ++ [] := he.trans (List.append_nil _).symm
    exact ⟨[], t, t', List.forall_mem_nil _, by rw [← he']; exact hfind, hneg, by rw [← he']; exact hupd⟩
  · have he' : ((pc.seeMid m.mid).ensureTransceiver m).transceivers = pc.transceivers ++ [n] := he
    exact ⟨[n], t, t', fun x hx => by rw [List.mem_singleton.mp hx]; exact hn, by rw [← he']; exact hfind, hneg,
      by rw [← he']; exact hupd⟩

theorem applyRemoteSec_app {typ : DType} {pc pc' : Pc} {i : Nat} {m : MSec}
    (h : applyRemoteSec typ pc i m = .ok pc') (hk : m.kind.isMedia = false) : pc'.transceivers = pc.transceivers := by
  obtain ⟨s, _, rfl⟩ := (applyRemoteSec_app_iff hk).mp h
  exact (ensureSctp_frame (pc.seeMid m.mid)).1

end Aiortc.Model.Negotiate
