import Aiortc.Lemmas.C03.Exchange
/-!
C03 — sufficient, checkable conditions for `Compatible`: a family of preference lists (per kind) any three
of which leave a codec through offer → answer → what the offerer stores (`PrefsOk`); the family "no preference, or a list
containing one fixed real capability of the kind" is such a family.
-/
namespace Aiortc.Model.Negotiate
open Aiortc (Outcome)

def okOut (r : Outcome (List Codec)) : Bool :=
  match r with
  | .ok (_ :: _) => true
  | _ => false

theorem okOut_iff {r : Outcome (List Codec)} : okOut r = true ↔ ∃ c cs, r = .ok (c :: cs) := by
  unfold okOut
  split
  · rename_i c cs; exact ⟨fun _ => ⟨c, cs, rfl⟩, fun _ => rfl⟩
  · rename_i h
    constructor
    · intro hh; cases hh
    · rintro ⟨c, cs, rfl⟩; exact absurd rfl (h c cs)

/-- one offer / answer / offerer round of preference lists on kind `k` -/
def roundOk (k : Kind) (po pa p : List Cap) : Bool :=
  okOut (filterPreferred (findCommon (codecsOf k) (offered k po)) pa) &&
  okOut (filterPreferred (findCommon (codecsOf k) (answered k po pa)) p)

/-- **The `Compatible` hypothesis in checkable form**: `P k` is a family of preference lists for transceivers of kind
`k` (containing the empty list = "no preference") such that any offerer list / answerer list / offerer list of the
same kind leaves at least one codec in the answer and in what the offerer keeps. -/
structure PrefsOk (P : Kind → List Cap → Prop) : Prop where
  nil : ∀ k, P k []
  round : ∀ k, k.isMedia = true → ∀ po pa p, P k po → P k pa → P k p → roundOk k po pa p = true

theorem PrefsOk.mono {P Q : Kind → List Cap → Prop} (h : PrefsOk P) (hnil : ∀ k, Q k []) (hsub : ∀ k p, Q k p → P k p) : PrefsOk Q :=
  ⟨hnil, fun k hk po pa p a b c => h.round k hk po pa p (hsub k po a) (hsub k pa b) (hsub k p c)⟩

def PrefsIn (P : Kind → List Cap → Prop) (pc : Pc) : Prop := ∀ t ∈ pc.transceivers, P t.kind t.preferred

theorem PrefsIn.sub {P : Kind → List Cap → Prop} (hnil : ∀ k, P k []) {pc pc' : Pc} (h : PrefsIn P pc)
    (hs : PrefsSub pc'.transceivers pc.transceivers) : PrefsIn P pc' := by
  intro t ht
  rcases hs t ht with he | ⟨t0, ht0, hk, hp⟩
  · rw [he]; exact hnil _
  · rw [← hk, ← hp]; exact h t0 ht0

theorem compatible_of_prefsOk {P : Kind → List Cap → Prop} (hP : PrefsOk P) {o a : Pc} (ho : PrefsIn P o) (ha : PrefsIn P a) :
    Compatible o a := by
  have key : ∀ {x y : Pc}, PrefsIn P x → PrefsIn P y → CompatDir x.transceivers y.transceivers := by
    intro x y hx hy k hk po pa hpo hpa
    have inP : ∀ {z : Pc}, PrefsIn P z → ∀ q, InPrefs z.transceivers k q → P k q := by
      intro z hz q hq
      rcases hq with rfl | ⟨t, ht, htk, rfl⟩
      · exact hP.nil k
      · rw [← htk]; exact hz t ht
    refine ⟨?_, fun p hp => ?_⟩
    · have := hP.round k hk po pa [] (inP hx po hpo) (inP hy pa hpa) (hP.nil k)
      simp only [roundOk, Bool.and_eq_true] at this
      exact okOut_iff.mp this.1
    · have := hP.round k hk po pa p (inP hx po hpo) (inP hy pa hpa) (inP hx p hp)
      simp only [roundOk, Bool.and_eq_true] at this
      exact okOut_iff.mp this.2
  exact ⟨key ho ha, key ha ho⟩

/-- a finite family given as lists, checked by evaluation -/
def checkPrefs (L : Kind → List (List Cap)) : Bool :=
  [Kind.audio, Kind.video].all fun k => (L k).all fun po => (L k).all fun pa => (L k).all fun p => roundOk k po pa p

theorem prefsOk_of_check {L : Kind → List (List Cap)} (hnil : ∀ k, [] ∈ L k) (h : checkPrefs L = true) :
    PrefsOk (fun k p => p ∈ L k) := by
  refine ⟨hnil, ?_⟩
  intro k hk po pa p hpo hpa hp
  simp only [checkPrefs, List.all_eq_true] at h
  have hk' : k ∈ [Kind.audio, Kind.video] := by cases k <;> simp [Kind.isMedia] at hk ⊢
  exact h k hk' po hpo pa hpa p hp

theorem prefsOk_none : PrefsOk (fun _ p => p = []) := by
  have := prefsOk_of_check (L := fun _ => [[]]) (fun _ => by simp) (by decide +kernel)
  refine ⟨fun _ => rfl, ?_⟩
  intro k hk po pa p hpo hpa hp
  exact this.round k hk po pa p (by simp [hpo]) (by simp [hpa]) (by simp [hp])

/-! ## a table codec kept by both selection functions -/

def Keeps (T : List Codec) (c0 : Codec) (X : List Codec) : Prop := (∀ x ∈ X, x ∈ T) ∧ c0 ∈ X

theorem keeps_findCommon {T : List Codec} (hT : TableOk T) {c0 : Codec} (hr0 : c0.isRtx = false) {X : List Codec}
    (hX : Keeps T c0 X) : Keeps T c0 (findCommon T X) := by
  have h0 : c0 ∈ T := hX.1 c0 hX.2
  refine ⟨?_, ?_⟩
  · intro x hx
    cases findCommon_selected T X x hx with
    | base l r hl hr hnr hc =>
      have : l = r := hT.compat l hl r (hX.1 r hr) hnr hc
      subst this
      rw [hT.adaptSelf l hl]; exact hl
    | rtx r hr _ => exact hX.1 x hr
  · have hfind : ∃ l, T.find? (fun x => isCodecCompatible x c0) = some l := List.find_some_of_mem h0 (hT.refl c0 h0 hr0)
    obtain ⟨l, hl⟩ := hfind
    have hlm : l ∈ T := List.mem_of_find?_eq_some hl
    have hlc : isCodecCompatible l c0 = true := by simpa using List.find?_some hl
    have : l = c0 := hT.compat l hlm c0 h0 hr0 hlc
    subst this
    have := findCommon_mem hX.2 hr0 hl
    rw [hT.adaptSelf l h0] at this
    exact this

theorem keeps_filterPreferred {T : List Codec} (hT : TableOk T) {c0 : Codec} {cap0 : Cap} (hr0 : cap0.isRtx = false)
    (hmatch : c0.mime.toLower = cap0.mime.toLower ∧ c0.params = cap0.params) {X out : List Codec} {q : List Cap}
    (hX : Keeps T c0 X) (hq : q = [] ∨ cap0 ∈ q) (h : filterPreferred X q = .ok out) : Keeps T c0 out := by
  obtain ⟨hsub, _⟩ := filterPreferred_spec h
  refine ⟨fun x hx => hX.1 x (hsub x hx), ?_⟩
  rcases hq with rfl | hq
  · simp [filterPreferred] at h; subst h; exact hX.2
  · -- the first codec of X matching the capability is c0 itself
    have hex : ∃ y, pickCodec X cap0 = some y := by
      unfold pickCodec
      exact List.find_some_of_mem hX.2 (by simp [hmatch.1, hmatch.2])
    obtain ⟨y, hy⟩ := hex
    obtain ⟨hym, hy1, hy2⟩ := pickCodec_spec hy
    have : y = c0 := hT.byCap y (hX.1 y hym) c0 (hX.1 c0 hX.2) (by rw [hy1, hmatch.1]) (by rw [hy2, hmatch.2])
    subst this
    exact filterPreferred_mem h hq hr0 hy

/-- **At least one real codec in common.**  Fix for every media kind a real capability `cap k` of aiortc's tables.
The family "no preference, or a list containing `cap k`" is compatible: whatever lists of the family meet on a section
of kind `k`, offer, answer and what the offerer keeps all contain that codec. -/
theorem prefsOk_common (cap : Kind → Cap)
    (hcap : ∀ k, k.isMedia = true → (cap k).isRtx = false ∧ ∃ c0 ∈ codecsOf k, c0.isRtx = false ∧
      c0.mime.toLower = (cap k).mime.toLower ∧ c0.params = (cap k).params) :
    PrefsOk (fun k p => p = [] ∨ cap k ∈ p) := by
  refine ⟨fun _ => .inl rfl, ?_⟩
  intro k hk po pa p hpo hpa hp
  obtain ⟨hr0, c0, h0, hcr, hm1, hm2⟩ := hcap k hk
  have hT := tableOk k
  have hbase : Keeps (codecsOf k) c0 (codecsOf k) := ⟨fun x hx => hx, h0⟩
  have hoff : Keeps (codecsOf k) c0 (offered k po) := keeps_filterPreferred hT hr0 ⟨hm1, hm2⟩ hbase hpo (offered_eq k po)
  obtain ⟨ans, hans⟩ := filterPreferred_ok (findCommon_rtxHaveApt (codecsOf k) (offered k po)) pa
  have hk2 : Keeps (codecsOf k) c0 ans := keeps_filterPreferred hT hr0 ⟨hm1, hm2⟩ (keeps_findCommon hT hcr hoff) hpa hans
  have hansw : answered k po pa = ans := answered_eq k po pa hans
  obtain ⟨fin, hfin⟩ := filterPreferred_ok (findCommon_rtxHaveApt (codecsOf k) ans) p
  have hk3 : Keeps (codecsOf k) c0 fin := keeps_filterPreferred hT hr0 ⟨hm1, hm2⟩ (keeps_findCommon hT hcr hk2) hp hfin
  have ne : ∀ {X : List Codec}, Keeps (codecsOf k) c0 X → ∃ c cs, X = c :: cs := by
    intro X hX
    cases X with
    | nil => exact absurd hX.2 (by simp)
    | cons c cs => exact ⟨c, cs, rfl⟩
  simp only [roundOk, Bool.and_eq_true]
  refine ⟨okOut_iff.mpr ?_, okOut_iff.mpr ?_⟩
  · obtain ⟨c, cs, he⟩ := ne hk2
    exact ⟨c, cs, by rw [hans, he]⟩
  · obtain ⟨c, cs, he⟩ := ne hk3
    exact ⟨c, cs, by rw [hansw, hfin, he]⟩

/-- instance: every transceiver prefers (among others, in any order, with or without RTX) Opus resp. VP8, or has no
preference at all -/
theorem prefsOk_opus_vp8 : PrefsOk (fun k p => p = [] ∨ (match k with
    | .audio => (capsOf .audio)[0]! | _ => (capsOf .video)[0]!) ∈ p) := by
  refine prefsOk_common _ ?_
  -- Opus and VP8 are real codecs of the tables
  have h : (∀ cap ∈ [(capsOf .audio)[0]!], cap.isRtx = false ∧ ∃ c0 ∈ codecsOf .audio, c0.isRtx = false ∧
        c0.mime.toLower = cap.mime.toLower ∧ c0.params = cap.params) ∧
      (∀ cap ∈ [(capsOf .video)[0]!], cap.isRtx = false ∧ ∃ c0 ∈ codecsOf .video, c0.isRtx = false ∧
        c0.mime.toLower = cap.mime.toLower ∧ c0.params = cap.params) := by decide +kernel
  intro k hk
  cases k
  · exact h.1 _ (by simp)
  · exact h.2 _ (by simp)
  · simp [Kind.isMedia] at hk

/-- a richer family: no preference, or (video) VP8 with/without RTX, H264 first then VP8, RTX then VP8 then both H264
profiles; (audio) opus only, PCMU+opus, all four in another order — any of them on either side, in any exchange -/
def sampleFamily (k : Kind) : List (List Cap) :=
  match k with
  | .video => [[], [(capsOf .video)[0]!], [(capsOf .video)[0]!, (capsOf .video)[1]!], [(capsOf .video)[2]!, (capsOf .video)[0]!],
               [(capsOf .video)[1]!, (capsOf .video)[0]!, (capsOf .video)[3]!, (capsOf .video)[2]!]]
  | .audio => [[], [(capsOf .audio)[0]!], [(capsOf .audio)[2]!, (capsOf .audio)[0]!],
               [(capsOf .audio)[3]!, (capsOf .audio)[2]!, (capsOf .audio)[1]!, (capsOf .audio)[0]!]]
  | .application => [[]]

/-- every list of the sample family is empty or contains Opus resp. VP8 -/
theorem prefsOk_sample : PrefsOk (fun k p => p ∈ sampleFamily k) := by
  refine prefsOk_opus_vp8.mono (fun k => by cases k <;> simp [sampleFamily]) ?_
  intro k p hp
  cases k <;> simp only [sampleFamily, List.mem_cons, List.not_mem_nil, or_false] at hp
  · rcases hp with rfl | rfl | rfl | rfl
    · exact .inl rfl
    · exact .inr (.head _)
    · exact .inr (.tail _ (.head _))
    · exact .inr (.tail _ (.tail _ (.tail _ (.head _))))
  · rcases hp with rfl | rfl | rfl | rfl | rfl
    · exact .inl rfl
    · exact .inr (.head _)
    · exact .inr (.head _)
    · exact .inr (.tail _ (.head _))
    · exact .inr (.tail _ (.head _))
  · exact .inl hp

end Aiortc.Model.Negotiate
