import Aiortc.Lemmas.C03.OfferApplied
import Aiortc.Lemmas.C03.Roles
/-!
C03 — every transceiver / the SCTP transport refers to a transport the connection knows (`TExist`), through all
operations and calls; `createOffer` and `setLocalDescription` move nothing (`Stays`); which transport an answer and
`setLocalDescription(answer)` write a role on.
-/
namespace Aiortc.Model.Negotiate
open Aiortc (Outcome)
open Aiortc.Model.Jsep (Sig)

def HasId (ts : List Transport) (id : Nat) : Prop := ∃ x ∈ ts, x.id = id

def IdsKept (ts ts' : List Transport) : Prop := ∀ id, HasId ts id → HasId ts' id

theorem IdsKept.refl (ts : List Transport) : IdsKept ts ts := fun _ h => h
theorem IdsKept.trans {a b c : List Transport} (h1 : IdsKept a b) (h2 : IdsKept b c) : IdsKept a c := fun id h => h2 id (h1 id h)

theorem RoleStep.idsKept {v : Role} {ts ts' : List Transport} (h : RoleStep v ts ts') : IdsKept ts ts' := by
  obtain ⟨f, e, rfl, hf, _⟩ := h
  rintro _ ⟨x, hx, rfl⟩
  exact ⟨f x, by simp [List.mem_map_of_mem hx], (hf x).1⟩

theorem RoleSame.idsKept {ts ts' : List Transport} (h : RoleSame ts ts') : IdsKept ts ts' := (h.toStep .auto).idsKept

theorem idsKept_map {ts : List Transport} {f : Transport → Transport} (hf : ∀ x, (f x).id = x.id) : IdsKept ts (ts.map f) := by
  intro id ⟨x, hx, he⟩
  exact ⟨f x, List.mem_map_of_mem hx, by rw [hf, he]⟩

theorem idsKept_modTransport (pc : Pc) (id : Nat) {f : Transport → Transport} (hid : ∀ x, (f x).id = x.id) :
    IdsKept pc.transports (pc.modTransport id f).transports := by
  refine idsKept_map (f := fun t => if t.id == id then f t else t) ?_
  intro x; split
  · exact hid x
  · rfl

structure TExist (pc : Pc) : Prop where
  ts : ∀ t ∈ pc.transceivers, HasId pc.transports t.transport
  sctp : ∀ s, pc.sctp = some s → HasId pc.transports s.transport

theorem TExist.new (p : Policy) : TExist (Pc.new p) := ⟨fun t ht => by simp [Pc.new] at ht, fun s hs => by simp [Pc.new] at hs⟩

theorem roleOf_modTransport_self {pc : Pc} {id : Nat} (h : HasId pc.transports id) (f : Transport → Transport)
    (hid : ∀ x, (f x).id = x.id) {v : Role} (hv : ∀ x, (f x).role = v) : (pc.modTransport id f).roleOf id = v := by
  obtain ⟨y, hy, hyid⟩ := h
  obtain ⟨x, hx⟩ := List.find_some_of_mem (p := fun t : Transport => t.id == id) hy (by simp [hyid])
  have hidm : ∀ t : Transport, (if t.id == id then f t else t).id = t.id := by
    intro t; split
    · exact hid t
    · rfl
  rw [roleOf_eq]
  show lookupRole id (pc.transports.map _) = v
  unfold lookupRole
  rw [lookup_map hidm, hx]
  have : x.id = id := by simpa using List.find?_some hx
  simp [this, hv]

/-! ## TExist through the set-up operations -/

theorem newTransport_hasId (pc : Pc) : HasId pc.newTransport.1.transports pc.newTransport.2 :=
  ⟨{ id := pc.nextId, role := .auto, ice := none, live := true }, by simp [Pc.newTransport], rfl⟩

theorem TExist.createTransceiver {pc : Pc} (h : TExist pc) (d : Dir) (k : Kind) (tr : Bool) : TExist (pc.createTransceiver d k tr) := by
  unfold Pc.createTransceiver
  cases hsh : pc.sharedTransport k with
  | some tid =>
    simp only
    have hex : HasId pc.transports tid := by
      unfold Pc.sharedTransport at hsh
      split at hsh
      · split at hsh
        · rename_i t ts heq
          cases hsh
          exact h.ts t (by rw [heq]; simp)
        · simp only [Option.map_eq_some_iff] at hsh
          obtain ⟨s, hs, rfl⟩ := hsh
          exact h.sctp s hs
      · simp only [Option.map_eq_some_iff] at hsh
        obtain ⟨t, ht, rfl⟩ := hsh
        exact h.ts t (List.mem_of_find?_eq_some ht)
      · cases hsh
    refine ⟨?_, h.sctp⟩
    intro t' ht'
    rcases List.mem_append.mp ht' with h1 | h1
    · exact h.ts t' h1
    · simp at h1; subst h1; exact hex
  | none =>
    simp only
    have hr := roleSame_newTransport pc
    refine ⟨?_, ?_⟩
    · intro t' ht'
      rcases List.mem_append.mp ht' with h1 | h1
      · exact hr.idsKept _ (h.ts t' h1)
      · simp at h1; subst h1; exact newTransport_hasId pc
    · intro s hs
      exact hr.idsKept _ (h.sctp s hs)

theorem TExist.createSctp {pc : Pc} (h : TExist pc) : TExist pc.createSctp := by
  unfold Pc.createSctp
  split
  · rename_i t ts _ heq
    refine ⟨h.ts, ?_⟩
    intro s hs; cases hs
    exact h.ts t (by rw [heq]; simp)
  · have hr := roleSame_newTransport pc
    refine ⟨fun t ht => hr.idsKept _ (h.ts t ht), ?_⟩
    intro s hs; cases hs
    exact newTransport_hasId pc

theorem updFirst_transport {p : Transceiver → Bool} {f : Transceiver → Transceiver} (hf : ∀ t, (f t).transport = t.transport)
    {l l' : List Transceiver} (h : updFirst p f l = some l') : ∀ t' ∈ l', ∃ t ∈ l, t'.transport = t.transport := by
  intro t' ht'
  rcases updFirst_mem h t' ht' with h1 | ⟨x, hx, _, rfl⟩
  · exact ⟨t', h1, rfl⟩
  · exact ⟨x, hx, hf x⟩

theorem TExist.set {pc : Pc} (h : TExist pc) {i : Nat} {t t' : Transceiver} (hi : pc.transceivers[i]? = some t)
    (htr : t'.transport = t.transport) : TExist { pc with transceivers := pc.transceivers.set i t' } := by
  refine ⟨fun x hx => ?_, h.sctp⟩
  rcases (List.mem_or_eq_of_mem_set hx).symm with rfl | h1
  · rw [htr]; exact h.ts t (List.mem_of_getElem? hi)
  · exact h.ts x h1

theorem texist_createDataChannel {pc : Pc} (h : TExist pc) : TExist pc.createDataChannel := by
  unfold Pc.createDataChannel
  split
  · exact h
  · exact TExist.createSctp h

/-- how a call may change where things sit -/
structure TrFrame (pc pc' : Pc) : Prop where
  ids : IdsKept pc.transports pc'.transports
  ts : ∀ t' ∈ pc'.transceivers, (∃ t ∈ pc.transceivers, t'.transport = t.transport) ∨ HasId pc'.transports t'.transport
  sctp : ∀ s', pc'.sctp = some s' → (∃ s, pc.sctp = some s ∧ s'.transport = s.transport) ∨ HasId pc'.transports s'.transport

theorem TrFrame.texist {pc pc' : Pc} (f : TrFrame pc pc') (h : TExist pc) : TExist pc' := by
  refine ⟨?_, ?_⟩
  · intro t' ht'
    rcases f.ts t' ht' with ⟨t, ht, he⟩ | h2
    · rw [he]; exact f.ids _ (h.ts t ht)
    · exact h2
  · intro s' hs'
    rcases f.sctp s' hs' with ⟨s, hs0, he⟩ | h2
    · rw [he]; exact f.ids _ (h.sctp s hs0)
    · exact h2

theorem texist_of {pc pc' : Pc} (h : TExist pc) (hr : RoleStep .auto pc.transports pc'.transports)
    (hts : ∀ t' ∈ pc'.transceivers, (∃ t ∈ pc.transceivers, t'.transport = t.transport) ∨ HasId pc'.transports t'.transport)
    (hs : ∀ s', pc'.sctp = some s' → (∃ s, pc.sctp = some s ∧ s'.transport = s.transport) ∨ HasId pc'.transports s'.transport) :
    TExist pc' := by
  exact TrFrame.texist ⟨hr.idsKept, hts, hs⟩ h

theorem remoteRoles_id (typ : DType) (s : Role) (x : Transport) : (remoteRoles typ s x).id = x.id := by
  cases typ
  · unfold remoteRoles
    simp only
    split <;> split <;> rfl
  · exact (remoteRoles_answer s x).1

theorem texist_modTransport {pc : Pc} (h : TExist pc) (id : Nat) (f : Transport → Transport) (hid : ∀ x, (f x).id = x.id) :
    TExist (pc.modTransport id f) := by
  have hk := idsKept_modTransport pc id hid
  exact ⟨fun t ht => hk _ (h.ts t ht), fun s hs => hk _ (h.sctp s hs)⟩

theorem texist_ensureTransceiver {pc : Pc} (h : TExist pc) (m : MSec) : TExist (pc.ensureTransceiver m) := by
  unfold Pc.ensureTransceiver
  split
  · exact h
  · exact TExist.createTransceiver h _ _ _

theorem texist_ensureSctp {pc : Pc} (h : TExist pc) : TExist pc.ensureSctp := by
  unfold Pc.ensureSctp
  split
  · exact h
  · exact TExist.createSctp h

theorem texist_applyRemoteSec {typ : DType} {pc pc' : Pc} {i : Nat} {m : MSec} (h : TExist pc)
    (hok : applyRemoteSec typ pc i m = .ok pc') : TExist pc' := by
  cases hk : m.kind.isMedia
  · obtain ⟨s, hs, rfl⟩ := (applyRemoteSec_app_iff hk).mp hok
    -- `seeMid` changes `seenMids` only, which `TExist` does not read: `⟨h.ts, h.sctp⟩` is `TExist (pc.seeMid _)`
    have hE : TExist (pc.seeMid m.mid).ensureSctp := texist_ensureSctp (pc := pc.seeMid m.mid) ⟨h.ts, h.sctp⟩
    refine texist_modTransport ?_ _ _ (remoteRoles_id typ m.setup)
    exact ⟨hE.ts, fun s' hs' => by cases hs'; exact hE.sctp s hs⟩
  · obtain ⟨t, t', ts, hfind, hneg, hupd, rfl⟩ := (applyRemoteSec_media_iff hk).mp hok
    have hE : TExist ((pc.seeMid m.mid).ensureTransceiver m) := texist_ensureTransceiver (pc := pc.seeMid m.mid) ⟨h.ts, h.sctp⟩ m
    obtain ⟨_, _, htr, _⟩ := negotiateTransceiver_spec hneg (List.find?_some hfind)
    refine texist_modTransport ?_ _ _ (remoteRoles_id typ m.setup)
    refine ⟨?_, hE.sctp⟩
    intro x (hx : x ∈ ts)
    rcases updFirst_mem hupd x hx with h1 | ⟨_, _, _, he⟩
    · exact hE.ts x h1
    · rw [he]
      show HasId _ t'.transport
      rw [htr]; exact hE.ts t (List.mem_of_find?_eq_some hfind)

theorem texist_applyRemote {typ : DType} {ms : List MSec} {pc pc' : Pc} {i : Nat} (h : TExist pc)
    (hok : applyRemote typ pc ms i = .ok pc') : TExist pc' :=
  applyRemote_rel (R := fun a b => TExist a → TExist b) (fun _ h => h) (fun h1 h2 h => h2 (h1 h))
    (fun _ _ _ _ _ h1 h => texist_applyRemoteSec h h1) hok h

theorem primaryTransport_hasId {pc : Pc} (h : TExist pc) {mid : String} {p : Nat} (hp : pc.primaryTransport mid = some p) :
    HasId pc.transports p := by
  unfold Pc.primaryTransport at hp
  have hby : ∀ q, (pc.byMid mid).map (·.transport) = some q → HasId pc.transports q := by
    intro q hq
    simp only [Option.map_eq_some_iff] at hq
    obtain ⟨t, ht, rfl⟩ := hq
    exact h.ts t (List.mem_of_find?_eq_some ht)
  split at hp
  · rename_i s hs
    split at hp
    · cases hp; exact h.sctp s hs
    · exact hby p hp
  · exact hby p hp

theorem texist_applyBundle {pc pc2 : Pc} {b : List String} (h : TExist pc) (hok : pc.applyBundleWith bundleStep b = .ok pc2) :
    TExist pc2 := by
  rcases applyBundleWith_ok hok with rfl | ⟨_, slaves, p, _, hp, rfl⟩
  · exact h
  · have hpid := primaryTransport_hasId h hp
    have hk : IdsKept pc.transports (bundleStep pc p slaves).transports := (roleSame_bundleStep pc p slaves).idsKept
    refine ⟨?_, ?_⟩
    · intro t' ht'
      simp only [bundleStep, List.mem_map] at ht'
      obtain ⟨t, ht, rfl⟩ := ht'
      split
      · exact hk _ hpid
      · exact hk _ (h.ts t ht)
    · intro s' hs'
      simp only [bundleStep, Option.map_eq_some_iff] at hs'
      obtain ⟨s, hs, rfl⟩ := hs'
      split
      · exact hk _ hpid
      · exact hk _ (h.sctp s hs)

theorem texist_setRemote {pc pc' : Pc} {d : Desc} (h : TExist pc) (hok : pc.setRemote d = .ok pc') : TExist pc' := by
  obtain ⟨pc1, pc2, h1, h2, hO, hA⟩ := setRemoteWith_spec hok
  have t2 := texist_applyBundle (texist_applyRemote h h1) h2
  cases ht : d.type
  · rw [hO ht]; exact ⟨t2.ts, t2.sctp⟩
  · rw [hA ht]; exact ⟨t2.ts, t2.sctp⟩

/-! ## setLocalDescription and createOffer move nothing -/

structure Stays (pc pc' : Pc) : Prop where
  ids : IdsKept pc.transports pc'.transports
  ts : ∀ t' ∈ pc'.transceivers, ∃ t ∈ pc.transceivers, t'.transport = t.transport
  sctp : ∀ s', pc'.sctp = some s' → ∃ s, pc.sctp = some s ∧ s'.transport = s.transport

theorem Stays.refl (pc : Pc) : Stays pc pc := ⟨IdsKept.refl _, fun t ht => ⟨t, ht, rfl⟩, fun s hs => ⟨s, hs, rfl⟩⟩

theorem Stays.trans {a b c : Pc} (h1 : Stays a b) (h2 : Stays b c) : Stays a c := by
  refine ⟨h1.ids.trans h2.ids, ?_, ?_⟩
  · intro t' ht'
    obtain ⟨t, ht, e⟩ := h2.ts t' ht'
    obtain ⟨t0, ht0, e0⟩ := h1.ts t ht
    exact ⟨t0, ht0, e.trans e0⟩
  · intro s' hs'
    obtain ⟨s, hs, e⟩ := h2.sctp s' hs'
    obtain ⟨s0, hs0, e0⟩ := h1.sctp s hs
    exact ⟨s0, hs0, e.trans e0⟩

theorem Stays.texist {pc pc' : Pc} (f : Stays pc pc') (h : TExist pc) : TExist pc' :=
  TrFrame.texist ⟨f.ids, fun t' ht' => .inl (f.ts t' ht'), fun s' hs' => .inl (f.sctp s' hs')⟩ h

theorem assignMids_stays {ms : List MSec} {pc pc' : Pc} {i : Nat} (h : assignMids pc ms i = .ok pc') : Stays pc pc' := by
  refine assignMids_rel (R := Stays) Stays.refl Stays.trans ?_ ms h
  intro pc pc1 m i h1
  rcases assignStep_eq_ok.mp h1 with ⟨_, ts, hupd, rfl⟩ | ⟨_, s, hs, rfl⟩
  · exact ⟨IdsKept.refl _, updFirst_transport (f := fun t => { t with mid := some m.mid }) (fun _ => rfl) hupd, fun s hs => ⟨s, hs, rfl⟩⟩
  · refine ⟨IdsKept.refl _, fun t ht => ⟨t, ht, rfl⟩, ?_⟩
    intro s' hs'
    cases hs'
    exact ⟨s, hs, rfl⟩

theorem localRoles_stays {ms : List MSec} {pc pc' : Pc} {i : Nat} (h : localRoles pc ms i = .ok pc') : Stays pc pc' :=
  localRoles_rel Stays.refl Stays.trans
    (fun _ _ pc id => ⟨idsKept_modTransport pc id fun _ => rfl, fun t ht => ⟨t, ht, rfl⟩, fun s hs => ⟨s, hs, rfl⟩⟩) h

theorem setLocal_stays {pc pc' : Pc} {d : Desc} (h : pc.setLocal d = .ok pc') : Stays pc pc' := by
  cases ht : d.type
  · obtain ⟨_, pc2, media, h2, _, rfl⟩ := (setLocal_offer_iff ht).mp h
    have s2 := assignMids_stays h2
    -- `Stays` does not read `sig`: from `{ pc with sig := _ }` is from `pc`
    have s2' : Stays pc pc2 := ⟨s2.ids, s2.ts, s2.sctp⟩
    refine s2'.trans ⟨?_, fun t ht => ⟨t, ht, rfl⟩, fun s hs => ⟨s, hs, rfl⟩⟩
    refine idsKept_map ?_
    intro x; split <;> rfl
  · obtain ⟨_, pc2, pc4, media, h2, h4, _, rfl⟩ := (setLocal_answer_iff ht).mp h
    have s2 := assignMids_stays h2
    have s2' : Stays pc pc2 := ⟨s2.ids, s2.ts, s2.sctp⟩
    refine (s2'.trans (localRoles_stays h4)).trans ⟨IdsKept.refl _, ?_, fun s hs => ⟨s, hs, rfl⟩⟩
    intro t' ht'
    simp only [localDirections, List.mem_map] at ht'
    obtain ⟨t, ht0, rfl⟩ := ht'
    exact ⟨t, ht0, by split <;> rfl⟩

theorem createOffer_stays {o o1 : Pc} {d : Desc} (hr : (o.remoteDesc.map keysOf).getD [] = o.keys) (hw : Owns o.keys o)
    (h : o.createOffer = .ok (o1, d)) : Stays o o1 ∧ o1.transports = o.transports := by
  obtain ⟨o1', d', h', M, htr, hts⟩ := createOffer_ok (createOffer_iff.mp h).1 hr hw
  rw [h] at h'; cases h'
  exact ⟨⟨htr ▸ IdsKept.refl _, hts, fun s hs => ⟨s, M.sctp ▸ hs, rfl⟩⟩, htr⟩

theorem roleOf_of_roleStep {v : Role} {pc pc' : Pc} (h : RoleStep v pc.transports pc'.transports) {id : Nat} (hid : pc.roleOf id = v) :
    pc'.roleOf id = v := by
  rw [roleOf_eq] at hid ⊢
  rcases h.lookup id with h1 | h1
  · rw [h1, hid]
  · exact h1

theorem applyRemoteSec_answer_role {pc pc' : Pc} {i : Nat} {m : MSec} (h : TExist pc) (hok : applyRemoteSec .answer pc i m = .ok pc') :
    (m.kind.isMedia = true → ∃ t' ∈ pc'.transceivers, t'.mid = some m.mid ∧ pc'.roleOf t'.transport = oppRole m.setup) ∧
    (m.kind.isMedia = false → ∃ s', pc'.sctp = some s' ∧ pc'.roleOf s'.transport = oppRole m.setup) := by
  cases hk : m.kind.isMedia
  · obtain ⟨s, hs, rfl⟩ := (applyRemoteSec_app_iff hk).mp hok
    have hE : TExist (pc.seeMid m.mid).ensureSctp := texist_ensureSctp (pc := pc.seeMid m.mid) ⟨h.ts, h.sctp⟩
    refine ⟨fun hf => absurd hf (by decide), fun _ => ⟨_, rfl, ?_⟩⟩
    exact roleOf_modTransport_self (hE.sctp s hs) _ (remoteRoles_id .answer m.setup) (fun x => (remoteRoles_answer m.setup x).2)
  · obtain ⟨t, t', ts, hfind, hneg, hupd, rfl⟩ := (applyRemoteSec_media_iff hk).mp hok
    have hE : TExist ((pc.seeMid m.mid).ensureTransceiver m) := texist_ensureTransceiver (pc := pc.seeMid m.mid) ⟨h.ts, h.sctp⟩ m
    obtain ⟨hN, _, htr, _⟩ := negotiateTransceiver_spec hneg (List.find?_some hfind)
    -- the update function is constantly `t'`: the updated element is `t'`
    refine ⟨fun _ => ⟨t', (updFirst_has hupd).choose_spec.2, hN.mid, ?_⟩, fun hf => absurd hf (by decide)⟩
    rw [htr]
    exact roleOf_modTransport_self (hE.ts t (List.mem_of_find?_eq_some hfind)) _ (remoteRoles_id .answer m.setup)
      (fun x => (remoteRoles_answer m.setup x).2)

theorem applyRemote_answer_owner_roles {w : Role} {K : List (Kind × String)} (hnd : (K.map (·.2)).Nodup) : ∀ (ms : List MSec) {pc pc' : Pc} {i : Nat},
    Pre K pc.transceivers → KeysAt K i ms → TExist pc → (∀ m ∈ ms, oppRole m.setup = w) → applyRemote .answer pc ms i = .ok pc' →
    (∀ m ∈ ms, m.kind.isMedia = true → ∃ t' ∈ pc'.transceivers, t'.mid = some m.mid ∧ pc'.roleOf t'.transport = w) ∧
    (∀ m ∈ ms, m.kind.isMedia = false → ∃ s', pc'.sctp = some s' ∧ pc'.roleOf s'.transport = w) := by
  intro ms
  induction ms with
  | nil => intro pc pc' i _ _ _ _ _; exact ⟨fun m hm => (by cases hm), fun m hm => (by cases hm)⟩
  | cons m ms ih =>
    intro pc pc' i hP hidx hT hw h
    obtain ⟨pc1, h1, h2⟩ := bind_eq_ok.mp (applyRemote_cons _ pc m ms i ▸ h)
    obtain ⟨hP1, _⟩ := applyRemoteSec_pre hP hidx.head hnd h1
    have hw' : ∀ m2 ∈ ms, oppRole m2.setup = w := fun m2 hm2 => hw m2 (List.mem_cons_of_mem _ hm2)
    obtain ⟨o2, s2⟩ := ih hP1 hidx.tail (texist_applyRemoteSec hT h1) hw' h2
    -- the rest of the loop keeps the owner, its transport, and a role `w` once written
    have hstep := applyRemote_roles_answer hw' h2
    have r := applyRemote_pre hnd ms hP1 hidx.tail h2
    obtain ⟨r1, r2⟩ := applyRemoteSec_answer_role hT h1
    rw [hw m (by simp)] at r1 r2
    refine ⟨?_, ?_⟩
    · intro m2 hm2 hk
      rcases List.mem_cons.mp hm2 with rfl | hm2
      · obtain ⟨t1, ht1, hmid, hrole⟩ := r1 hk
        obtain ⟨t', ht', hmid', htr⟩ := r.fwd t1 ht1 _ hmid
        exact ⟨t', ht', hmid', by rw [htr]; exact roleOf_of_roleStep hstep hrole⟩
      · exact o2 m2 hm2 hk
    · intro m2 hm2 hk
      rcases List.mem_cons.mp hm2 with rfl | hm2
      · obtain ⟨s1, hs1, hrole⟩ := r2 hk
        obtain ⟨s', hs', htr⟩ := applyRemote_sctp_transport h2 s1 hs1
        exact ⟨s', hs', by rw [htr]; exact roleOf_of_roleStep hstep hrole⟩
      · exact s2 m2 hm2 hk

/-! ## setLocalDescription(answer): "set DTLS role" -/

theorem localRoles_roleStep {v : Role} {ms : List MSec} {pc pc' : Pc} {i : Nat} (hv : ∀ m ∈ ms, m.setup = v)
    (h : localRoles pc ms i = .ok pc') : RoleStep v pc.transports pc'.transports :=
  localRoles_rel (R := fun a b => RoleStep v a.transports b.transports) (fun _ => (RoleSame.refl _).toStep v) RoleStep.trans
    (fun m hm pc id => roleStep_modTransport pc id (fun x => { x with role := m.setup }) v (fun _ => ⟨rfl, .inr (hv m hm)⟩)) h

theorem localRoles_writes {v : Role} {p : Nat} {m0 : MSec} {ms : List MSec} {pc pc' : Pc} {i : Nat}
    (hv : ∀ m ∈ m0 :: ms, m.setup = v) (hp : sectionTransport pc m0 i = .ok p)
    (hid : HasId pc.transports p) (h : localRoles pc (m0 :: ms) i = .ok pc') : pc'.roleOf p = v := by
  rw [localRoles_cons, hp] at h
  exact roleOf_of_roleStep (localRoles_roleStep (fun m2 hm2 => hv m2 (by simp [hm2])) h)
    (roleOf_modTransport_self (v := v) hid (fun x => { x with role := m0.setup }) (fun _ => rfl) (fun _ => hv m0 (by simp)))

theorem setLocal_offer_roleSame {pc pc' : Pc} {d : Desc} (ht : d.type = .offer) (h : pc.setLocal d = .ok pc') :
    RoleSame pc.transports pc'.transports := by
  obtain ⟨_, pc2, media, h2, _, rfl⟩ := (setLocal_offer_iff ht).mp h
  have e2 : pc2.transports = pc.transports := by rw [assignMids_frame h2]
  refine ⟨fun t => if t.live && t.ice.isNone then { t with ice := some true } else t, [], by simp [Pc.iceControlling, e2], ?_, by simp⟩
  intro x
  dsimp only
  split <;> exact ⟨rfl, rfl⟩

end Aiortc.Model.Negotiate
