import Aiortc.Lemmas.C19.Close
/-! Invariants of the close protocol (C19): well-formedness of every transceiver / transport record (local), structure of
the close program, coverage (whatever is still alive has its `stop()` call ahead in the program), references; the frames
(one record replaced, the running call returned) and the moves of the close coroutine keep them. -/
namespace Aiortc.Lemmas.Close
open Aiortc.Model.Close

def WfRun (r : Run) : Prop := (r.cancelReq = true → r.pc = .loop) ∧ r.pc ≠ .dead

def WfTrx (t : Trx) : Prop :=
  WfRun t.rtp ∧ WfRun t.srtcp ∧ WfRun t.rrtcp
  ∧ (t.sndStarted = false → t.rtp.pc = .none ∧ t.srtcp.pc = .none)
  ∧ (t.sndStarted = true → t.rtp.pc ≠ .none ∧ t.srtcp.pc ≠ .none)
  ∧ (t.rcvStarted = false → t.rrtcp.pc = .none ∧ t.decoder = .none)
  ∧ (t.rcvStarted = true → t.rrtcp.pc ≠ .none ∧ t.decoder ≠ .none ∧ t.hasTrack = true)
  ∧ (t.decoder = .exited → t.trackEnd = true)
  ∧ (1 ≤ t.rcvStop → t.decoder ≠ .running ∧ (t.hasTrack = true → t.trackEnd = true))
  ∧ (t.rcvStop = 1 → t.rcvStarted = true)
  ∧ (t.rcvStop = 2 → t.rrtcp.doomed = true)
  ∧ (t.sndStop = 1 → t.sndStarted = true)
  ∧ (t.sndStop = 2 → t.rtp.doomed = true ∧ t.srtcp.pc ≠ .none ∧ t.srtcp.pc ≠ .queued)
  ∧ (t.sndStop = 3 → t.rtp.doomed = true ∧ t.srtcp.doomed = true)
  ∧ t.rcvStop ≤ 2 ∧ t.sndStop ≤ 3

theorem wfTrx_init (k : Nat) : WfTrx { tpt := k } := by
  simp [WfTrx, WfRun, Run.doomed]

theorem wfTpt_init : WfTpt {} := by
  simp [WfTpt, Tpt.monQuiet]

theorem wfRun_first {r r' : Run} (h : r.first = some r') (hw : WfRun r) : WfRun r' ∧ r'.pc = .loop ∧ r.pc = .queued := by
  unfold Run.first at h
  grind [WfRun]

theorem wfRun_exit {r r' : Run} (h : r.exit = some r') : WfRun r' ∧ r'.pc = .exited ∧ r.pc = .loop := by
  unfold Run.exit at h
  grind [WfRun]

theorem wfRun_cancel {r : Run} (hw : WfRun r) (hs : r.started = true) : WfRun r.cancel ∧ r.cancel.doomed = true
    ∧ r.cancel.pc = r.pc := by
  unfold Run.started at hs
  cases hp : r.pc <;> grind [WfRun, Run.cancel, Run.doomed, Run.quiet]

def rcvDone (t : Trx) : Prop := t.rrtcp.quiet = true ∧ t.decoder ≠ .running ∧ (t.hasTrack = true → t.trackEnd = true)

theorem doomed_of_first {r r' : Run} (h : r.first = some r') (hd : r.doomed = true) : False := by
  unfold Run.first at h
  grind [Run.doomed, Run.quiet]

theorem doomed_exit {r r' : Run} (h : r.exit = some r') : r'.doomed = true ∧ r'.quiet = true := by
  unfold Run.exit at h
  grind [Run.doomed, Run.quiet]

theorem wfRun_get {t : Trx} (hw : WfTrx t) (w : Which) : WfRun (t.get w) := by
  cases w
  · exact hw.1
  · exact hw.2.1
  · exact hw.2.2.1

theorem wfTrx_set {t : Trx} {w : Which} {r : Run} (hw : WfTrx t) (hr : WfRun r)
    (hn : r.pc = .none ↔ (t.get w).pc = .none) (hq : r.pc = .queued → (t.get w).pc = .queued)
    (hd : (t.get w).doomed = true → r.doomed = true) : WfTrx (t.set w r) := by
  -- every clause of `WfTrx` reads of a task only: well-formed, none or not, queued or not, doomed or not
  cases w <;> grind [WfTrx, Trx.set, Trx.get]

theorem wfTrx_cancel {t : Trx} {w : Which} (hw : WfTrx t) (hs : (t.get w).started = true) :
    WfTrx (t.set w (t.get w).cancel) := by
  obtain ⟨c1, c2, c3⟩ := wfRun_cancel (wfRun_get hw w) hs
  exact wfTrx_set hw c1 (by rw [c3]) (by rw [c3]; exact id) fun _ => c2

theorem trxStep_wf {live : Bool} {t t' : Trx} {a : TrxAct} (hw : WfTrx t) (h : trxStep live t a = some t')
    (hz : live = true ∨ a = .mkTrack → t.rcvStop = 0 ∧ t.sndStop = 0) : WfTrx t' := by
  cases a with
  | first w =>
    simp only [trxStep, Option.map_eq_some_iff] at h
    obtain ⟨r, hr, rfl⟩ := h
    obtain ⟨h1, h2, h3⟩ := wfRun_first hr (wfRun_get hw w)
    exact wfTrx_set hw h1 (by simp [h2, h3]) (by simp [h2]) (fun hd => (doomed_of_first hr hd).elim)
  | exit w =>
    simp only [trxStep, Option.map_eq_some_iff] at h
    obtain ⟨r, hr, rfl⟩ := h
    obtain ⟨h1, h2, h3⟩ := wfRun_exit hr
    exact wfTrx_set hw h1 (by simp [h2, h3]) (by simp [h2]) (fun _ => (doomed_exit hr).1)
  | cancel w =>
    simp only [trxStep] at h
    split at h <;> cases h
    rename_i hs
    exact wfTrx_cancel hw hs
  | sndStart | rcvStart | decoderStop | mkTrack | assign k =>
    -- sndStart / rcvStart need a live `__connect` task and mkTrack an open connection: by `hz` no `stop()` is under way;
    -- decoderStop ends the track with the thread; assign touches no clause
    simp only [trxStep] at h
    grind [WfTrx, WfRun]

theorem wfN_init : WfN {} := by simp [WfN, Tpt.unstarted]

theorem refd_setTrx_same {s : State} {i : Nat} {t t' : Trx} (ht : s.trxs[i]? = some t) (hk : t'.tpt = t.tpt) (k : Nat) :
    (s.setTrx i t').refd k = s.refd k := by
  have := List.any_set (p := fun x => decide (x.tpt = k)) (b := t') ht (by simp [hk])
  simp only [State.refd, State.setTrx, this]

def Instr.valid (s : State) : Instr → Prop
  | .stopRcv i | .stopSnd i => i < s.trxs.length
  | .stopDtls k | .stopIce k => k < s.tpts.length
  | .stopSctp => s.sctp.isSome = true

def sctpDone (sc : Sctp) : Prop := sc.closed = true ∧ ∀ c ∈ sc.chans, c = Chan.closed

structure Inv (s : State) : Prop where
  wfT : ∀ (i : Nat) (t : Trx), s.trxs[i]? = some t → WfTrx t
  wfK : ∀ (k : Nat) (t : Tpt), s.tpts[k]? = some t → WfTpt t
  conns : ConnsStopped s
  opn : s.closed = false → s.prog = [] ∧ s.closeDone = false ∧ s.waiters = 0
        ∧ (∀ (i : Nat) (t : Trx), s.trxs[i]? = some t → t.rcvStop = 0 ∧ t.sndStop = 0)
        ∧ (∀ (k : Nat) (t : Tpt), s.tpts[k]? = some t → t.dtlsStop = 0 ∧ t.iceStop = 0)
        ∧ (∀ (sc : Sctp), s.sctp = some sc → sc.stop = 0)
  dne : s.closeDone = true → s.closed = true ∧ s.prog = [] ∧ s.iceClosed = true ∧ s.connClosed = true ∧ s.listeners = false
  sig : s.closed = true → s.sigClosed = true
  valid : ∀ ins ∈ s.prog, Instr.valid s ins
  tptOk : (∀ (i : Nat) (t : Trx), s.trxs[i]? = some t → t.tpt < s.tpts.length) ∧ (∀ (sc : Sctp), s.sctp = some sc → sc.tpt < s.tpts.length)
  coverT : s.closed = true → ∀ (i : Nat) (t : Trx), s.trxs[i]? = some t →
      (Instr.stopRcv i ∈ s.prog ∨ rcvDone t) ∧ (Instr.stopSnd i ∈ s.prog ∨ t.sndQuiet = true)
  coverK : s.closed = true → ∀ (k : Nat) (t : Tpt), s.tpts[k]? = some t →
      (Instr.stopDtls k ∈ s.prog ∨ t.pump ≠ .live ∨ t.pumpCancel = true) ∧ (Instr.stopIce k ∈ s.prog ∨ t.monQuiet = true)
  coverS : s.closed = true → ∀ (sc : Sctp), s.sctp = some sc → Instr.stopSctp ∈ s.prog ∨ sctpDone sc
  refs : s.closed = false → ∀ (k : Nat) (t : Tpt), s.tpts[k]? = some t → t.unstarted = false → s.refd k = true
  wfN : ∀ (k : Nat) (t : Tpt), s.tpts[k]? = some t → WfN t
  unref : ∀ (k : Nat) (t : Tpt), s.tpts[k]? = some t → 1 ≤ t.nstop → s.refd k = false
  tsetOk : ∀ (k : Nat), k ∈ s.tset ↔ ∃ t, s.tpts[k]? = some t ∧ t.inSet = true
  tsetNodup : s.tset.Nodup
  coverI : s.closed = true → ∀ (k : Nat) (t : Tpt), s.tpts[k]? = some t → s.refd k = true →
      Instr.stopIce k ∈ s.prog ∨ t.ice = .closed

theorem inv_init : Inv State.init := by
  constructor <;> simp [State.init, ConnsStopped]

theorem live_open {s : State} (hI : Inv s) (hl : s.liveConn = true) : s.closed = false := by
  cases hc : s.closed with
  | false => rfl
  | true => rw [liveConn_false hI.conns hc] at hl; simp at hl

theorem inv_setTrx {s : State} {i : Nat} {t t' : Trx} (hI : Inv s) (ht : s.trxs[i]? = some t) (hw : WfTrx t')
    (hz : s.closed = false → t'.rcvStop = 0 ∧ t'.sndStop = 0) (hk : t'.tpt = t.tpt)
    (h1 : s.closed = true → rcvDone t → rcvDone t') (h2 : s.closed = true → t.sndQuiet = true → t'.sndQuiet = true) :
    Inv (s.setTrx i t') :=
  have hr := refd_setTrx_same ht hk
  { hI with
    wfT := List.forall_set hI.wfT hw
    opn := fun hc => by
      obtain ⟨o1, o2, o3, o4, o5, o6⟩ := hI.opn hc
      exact ⟨o1, o2, o3, List.forall_set o4 (hz hc), o5, o6⟩
    valid := fun ins hin => by
      have := hI.valid ins hin
      cases ins <;> simpa [Instr.valid, State.setTrx] using this
    tptOk := ⟨List.forall_set hI.tptOk.1 (hk ▸ hI.tptOk.1 i t ht), hI.tptOk.2⟩
    coverT := fun hc => List.forall_set (hI.coverT hc)
      ⟨(hI.coverT hc i t ht).1.imp id (h1 hc), (hI.coverT hc i t ht).2.imp id (h2 hc)⟩
    refs := fun hc k tk hk' hu => (hr k).trans (hI.refs hc k tk hk' hu)
    unref := fun k tk hk' hn => (hr k).trans (hI.unref k tk hk' hn)
    coverI := fun hc k tk hk' h => hI.coverI hc k tk hk' ((hr k).symm.trans h) }

theorem inv_setTpt' {s : State} {k : Nat} {t t' : Tpt} (ts' : List Nat) (hI : Inv s) (ht : s.tpts[k]? = some t)
    (hw : WfTpt t') (hz : s.closed = false → t'.dtlsStop = 0 ∧ t'.iceStop = 0)
    (h1 : s.closed = true → (t.pump ≠ .live ∨ t.pumpCancel = true) → (t'.pump ≠ .live ∨ t'.pumpCancel = true))
    (h2 : s.closed = true → t.monQuiet = true → t'.monQuiet = true)
    (hu : s.closed = false → t'.unstarted = false → t.unstarted = false ∨ s.refd k = true)
    (hn : WfN t') (hn2 : t'.nstop = t.nstop ∨ (1 ≤ t'.nstop → s.refd k = false))
    (hice : t.ice = .closed → t'.ice = .closed)
    (hts : ts' = s.tset ∧ t'.inSet = t.inSet ∨ ts' = s.tset.erase k ∧ t'.inSet = false) :
    Inv { s.setTpt k t' with tset := ts' } :=
  { hI with
    wfK := List.forall_set hI.wfK hw
    opn := fun hc => by
      obtain ⟨o1, o2, o3, o4, o5, o6⟩ := hI.opn hc
      exact ⟨o1, o2, o3, o4, List.forall_set o5 (hz hc), o6⟩
    valid := fun ins hin => by
      have := hI.valid ins hin
      cases ins <;> simpa [Instr.valid, State.setTpt] using this
    tptOk := by simpa [State.setTpt] using hI.tptOk
    coverK := fun hc => List.forall_set (hI.coverK hc)
      ⟨(hI.coverK hc k t ht).1.imp id (h1 hc), (hI.coverK hc k t ht).2.imp id (h2 hc)⟩
    refs := fun hc => List.forall_set (hI.refs hc) fun hu' => (hu hc hu').elim (hI.refs hc k t ht) id
    wfN := List.forall_set hI.wfN hn
    unref := List.forall_set hI.unref (hn2.elim (fun h => h ▸ hI.unref k t ht) id)
    tsetOk := fun j => by
      show j ∈ ts' ↔ ∃ x, (s.tpts.set k t')[j]? = some x ∧ x.inSet = true
      rw [List.exists_set_iff ht j (fun x => x.inSet = true)]
      rcases hts with ⟨rfl, hin⟩ | ⟨rfl, hin⟩
      · split
        · rename_i hjk; subst hjk
          rw [hI.tsetOk j, hin]
          exact ⟨fun ⟨x, hx, hxs⟩ => Option.some.inj (ht.symm.trans hx) ▸ hxs, fun h => ⟨t, ht, h⟩⟩
        · exact hI.tsetOk j
      · split
        · rename_i hjk; subst hjk
          simp [hin, List.Nodup.not_mem_erase hI.tsetNodup]
        · rename_i hjk
          rw [List.mem_erase_of_ne hjk]; exact hI.tsetOk j
    tsetNodup := by
      rcases hts with ⟨rfl, _⟩ | ⟨rfl, _⟩
      · exact hI.tsetNodup
      · exact hI.tsetNodup.erase k
    coverI := fun hc => List.forall_set (hI.coverI hc) fun hr => (hI.coverI hc k t ht hr).imp id hice }

/-- what the `stop()` call `ins` has achieved when it returns -/
def Instr.done (s : State) : Instr → Prop
  | .stopRcv i => ∀ t, s.trxs[i]? = some t → rcvDone t
  | .stopSnd i => ∀ t, s.trxs[i]? = some t → t.sndQuiet = true
  | .stopDtls k => ∀ t, s.tpts[k]? = some t → t.pump ≠ .live ∨ t.pumpCancel = true
  | .stopIce k => ∀ t, s.tpts[k]? = some t → t.monQuiet = true ∧ t.ice = .closed
  | .stopSctp => ∀ sc, s.sctp = some sc → sctpDone sc

theorem closed_of_prog {s : State} (hI : Inv s) {ins rest} (hp : s.prog = ins :: rest) : s.closed = true := by
  cases hc : s.closed with
  | true => rfl
  | false => have := (hI.opn hc).1; rw [hp] at this; cases this

theorem cover_pop {s : State} {P : Prop} {x ins : Instr} {rest : List Instr} (hp : s.prog = ins :: rest)
    (h : x ∈ s.prog ∨ P) (hd : x = ins → P) : x ∈ s.pop.prog ∨ P := by
  simp only [State.pop, hp, List.tail_cons, List.mem_cons] at h ⊢
  rcases h with (e | h) | h
  · exact .inr (hd e)
  · exact .inl h
  · exact .inr h

theorem inv_pop {s : State} {ins : Instr} {rest : List Instr} (hI : Inv s) (hp : s.prog = ins :: rest)
    (hd : Instr.done s ins) : Inv s.pop :=
  have hcl := closed_of_prog hI hp
  { hI with
    opn := fun hc => by simp [State.pop, hcl] at hc
    dne := fun hc => by have := (hI.dne hc).2.1; rw [hp] at this; cases this
    valid := fun x hx => by
      have := hI.valid x (hp ▸ List.mem_cons_of_mem _ (by simpa [State.pop, hp] using hx))
      cases x <;> simpa [Instr.valid, State.pop] using this
    coverT := fun _ i t ht =>
      ⟨cover_pop hp (hI.coverT hcl i t ht).1 fun e => by cases e; exact hd t ht,
       cover_pop hp (hI.coverT hcl i t ht).2 fun e => by cases e; exact hd t ht⟩
    coverK := fun _ k t ht =>
      ⟨cover_pop hp (hI.coverK hcl k t ht).1 fun e => by cases e; exact hd t ht,
       cover_pop hp (hI.coverK hcl k t ht).2 fun e => by cases e; exact (hd t ht).1⟩
    coverS := fun _ sc hsc => cover_pop hp (hI.coverS hcl sc hsc) fun e => by cases e; exact hd sc hsc
    coverI := fun _ k t ht hr => cover_pop hp (hI.coverI hcl k t ht hr) fun e => by cases e; exact (hd t ht).2 }

theorem doomed_of_none {r : Run} (h : r.pc = .none) : r.doomed = true := by simp [Run.doomed, Run.quiet, h]

theorem _root_.Aiortc.Model.Close.Run.cancel_quiet (r : Run) : r.cancel.quiet = r.quiet := by
  unfold Run.cancel; split <;> simp_all [Run.quiet]

theorem wfTrx_rcvStop {t : Trx} {n : Nat} (hw : WfTrx t) (hn : n ≤ 2)
    (h0 : 1 ≤ n → t.decoder ≠ .running ∧ (t.hasTrack = true → t.trackEnd = true))
    (h1 : n = 1 → t.rcvStarted = true) (h2 : n = 2 → t.rrtcp.doomed = true) : WfTrx { t with rcvStop := n } := by
  obtain ⟨w1, w2, w3, w4, w5, w6, w7, w8, -, -, -, w12, w13, w14, -, w16⟩ := hw
  exact ⟨w1, w2, w3, w4, w5, w6, w7, w8, h0, h1, h2, w12, w13, w14, hn, w16⟩

theorem wfTrx_sndStop {t : Trx} {n : Nat} (hw : WfTrx t) (hn : n ≤ 3) (h1 : n = 1 → t.sndStarted = true)
    (h2 : n = 2 → t.rtp.doomed = true ∧ t.srtcp.pc ≠ .none ∧ t.srtcp.pc ≠ .queued)
    (h3 : n = 3 → t.rtp.doomed = true ∧ t.srtcp.doomed = true) : WfTrx { t with sndStop := n } := by
  obtain ⟨w1, w2, w3, w4, w5, w6, w7, w8, w9, w10, w11, -, -, -, w15, -⟩ := hw
  exact ⟨w1, w2, w3, w4, w5, w6, w7, w8, w9, w10, w11, h1, h2, h3, w15, hn⟩

theorem rcvMove_inv {i : Nat} {t : Trx} {m : Move Trx} (hw : WfTrx t) (h : rcvMove i t = some m) :
    WfTrx m.next ∧ m.next.tpt = t.tpt ∧ (rcvDone t → rcvDone m.next) ∧ (t.sndQuiet = true → m.next.sndQuiet = true)
    ∧ (m.returns = true → rcvDone m.next) := by
  simp only [rcvMove, ite_eq_some, Option.some.injEq, reduceCtorEq, and_false, or_false] at h
  rcases h with ⟨h0, ⟨hst, rfl⟩ | ⟨hst, rfl⟩⟩ | ⟨h0, ⟨h1, hst, rfl⟩ | ⟨h1, hq, rfl⟩⟩
  · -- the decoder thread is joined and its track ended here, which is what every position ≥ 1 promises
    refine ⟨?_, rfl, ?_, id, nofun⟩
    · cases hd : t.decoder <;> grind [WfTrx, WfRun]
    · grind [rcvDone]
  · -- never started: no task, no thread (`WfTrx`), so position 2 has nothing to wait for once the track is ended
    refine ⟨?_, rfl, ?_, id, nofun⟩
    · grind [WfTrx, WfRun, Run.doomed, Run.quiet]
    · grind [rcvDone]
  · refine ⟨wfTrx_rcvStop (wfTrx_cancel (w := .rrtcp) hw hst) (by omega) (fun _ => hw.2.2.2.2.2.2.2.2.1 (by omega))
      (by omega) (fun _ => (wfRun_cancel hw.2.2.1 hst).2.1), rfl, ?_, id, nofun⟩
    simp only [rcvDone, Run.cancel_quiet]; exact id
  · have h2 : t.rcvStop = 2 := by have := hw.2.2.2.2.2.2.2.2.2.2.2.2.2.2.1; omega
    have h9 := hw.2.2.2.2.2.2.2.2.1 (by omega)
    exact ⟨wfTrx_rcvStop hw (by omega) (by omega) (by omega) (by omega), rfl, id, id, fun _ => ⟨hq, h9⟩⟩

theorem sndMove_inv {i : Nat} {t : Trx} {m : Move Trx} (hw : WfTrx t) (h : sndMove i t = some m) :
    WfTrx m.next ∧ m.next.tpt = t.tpt ∧ (rcvDone t → rcvDone m.next) ∧ (t.sndQuiet = true → m.next.sndQuiet = true)
    ∧ (m.returns = true → m.next.sndQuiet = true) := by
  -- 0 → 1 (started) or 3 (never started: no task, both doomed); 1 → 2 cancels `_run_rtp` once both have started; 2 → 3 cancels
  -- `_run_rtcp`, started because position 2 excludes `none` and `queued`; 3 → 0 when both are quiet
  simp only [sndMove, ite_eq_some, Option.some.injEq, reduceCtorEq, and_false, or_false, Bool.and_eq_true] at h
  rcases h with ⟨h0, rfl⟩ | ⟨h0, ⟨h1, hst, rfl⟩ | ⟨h1, ⟨h2, rfl⟩ | ⟨h2, hq, rfl⟩⟩⟩
  · refine ⟨?_, rfl, id, id, nofun⟩
    by_cases hs : t.sndStarted = true
    · rw [if_pos hs]
      exact wfTrx_sndStop hw (by omega) (fun _ => hs) (by omega) (by omega)
    · rw [if_neg hs]
      have := hw.2.2.2.1 (by simpa using hs)
      exact wfTrx_sndStop hw (by omega) (by omega) (by omega) fun _ => ⟨doomed_of_none this.1, doomed_of_none this.2⟩
  · have hs2 : t.srtcp.pc ≠ .none ∧ t.srtcp.pc ≠ .queued := by
      have := hst.2; cases hp : t.srtcp.pc <;> simp_all [Run.started]
    refine ⟨wfTrx_sndStop (wfTrx_cancel (w := .rtp) hw hst.1) (by omega) (by omega)
      (fun _ => ⟨(wfRun_cancel hw.1 hst.1).2.1, hs2⟩) (by omega), rfl, id, ?_, nofun⟩
    simp only [Trx.sndQuiet, Run.cancel_quiet]; exact id
  · obtain ⟨d1, d2, d3⟩ := hw.2.2.2.2.2.2.2.2.2.2.2.2.1 h2
    have hs2 : t.srtcp.started = true := by
      have := hw.2.1.2
      cases hp : t.srtcp.pc <;> simp_all [Run.started]
    refine ⟨wfTrx_sndStop (wfTrx_cancel (w := .srtcp) hw hs2) (by omega) (by omega) (by omega)
      (fun _ => ⟨d1, (wfRun_cancel hw.2.1 hs2).2.1⟩), rfl, id, ?_, nofun⟩
    simp only [Trx.sndQuiet, Run.cancel_quiet]; exact id
  · exact ⟨wfTrx_sndStop hw (by omega) (by omega) (by omega) (by omega), rfl, id, id, fun _ => hq⟩

/-- what a move of `stop()` on a transport has to keep for `inv_setTpt'` -/
structure TptKeeps (t t' : Tpt) : Prop where
  wf : WfTpt t'
  pump : t.pump ≠ .live ∨ t.pumpCancel = true → t'.pump ≠ .live ∨ t'.pumpCancel = true
  mon : t.monQuiet = true → t'.monQuiet = true
  wfN : WfN t'
  nstop : t'.nstop = t.nstop
  ice : t.ice = .closed → t'.ice = .closed
  inSet : t'.inSet = t.inSet

theorem dtlsMove_inv {k : Nat} {t : Tpt} {m : Move Tpt} (hw : WfTpt t) (hn : WfN t) (h : dtlsMove k t = some m) :
    TptKeeps t m.next ∧ (m.returns = true → m.next.pump ≠ .live ∨ m.next.pumpCancel = true) := by
  -- `dtlsStop := 2` needs `pump ≠ live ∨ pumpCancel`: without a handle that is `WfTpt`'s first clause read backwards, with one
  -- the move itself sets `pumpCancel := (pump = live)`
  simp only [dtlsMove, ite_eq_some, Option.some.injEq] at h
  rcases h with ⟨h0, rfl⟩ | ⟨h0, ⟨h1, rfl⟩ | ⟨h1, rfl⟩⟩
  · refine ⟨⟨?_, id, id, ?_, rfl, id, rfl⟩, nofun⟩
    · grind [WfTpt, Tpt.monQuiet]
    · grind [WfN, Tpt.unstarted]
  · refine ⟨⟨?_, ?_, id, ?_, rfl, id, rfl⟩, nofun⟩
    · grind [WfTpt, Tpt.monQuiet]
    · cases hq : t.pump <;> simp
    · grind [WfN, Tpt.unstarted]
  · have h2 : t.dtlsStop = 2 := by have := hw.2.2.2.2.2.1; omega
    refine ⟨⟨?_, id, id, ?_, rfl, id, rfl⟩, fun _ => hw.2.1 h2⟩
    · grind [WfTpt, Tpt.monQuiet]
    · grind [WfN, Tpt.unstarted]

theorem iceMove_inv {k : Nat} {t : Tpt} {m : Move Tpt} (hw : WfTpt t) (hn : WfN t) (h : iceMove k t = some m) :
    TptKeeps t m.next ∧ (m.returns = true → m.next.monQuiet = true ∧ m.next.ice = .closed) := by
  -- `ice := closed, iceStop := 1` is saved by the alternative `iceStop = 1` of `WfTpt`'s clause on `ice = closed`;
  -- `connClosed := true, iceStop := 2` by the alternative `connClosed` of its clause on `iceStop = 2`
  simp only [iceMove, ite_eq_some, Option.some.injEq, reduceCtorEq, and_false, or_false] at h
  rcases h with ⟨h0, ⟨hc, rfl⟩ | ⟨hc, rfl⟩⟩ | ⟨h0, ⟨h1, hm, rfl⟩ | ⟨h1, hq, rfl⟩⟩
  · refine ⟨⟨?_, id, id, ?_, rfl, id, rfl⟩, nofun⟩
    · grind [WfTpt, Tpt.monQuiet]
    · grind [WfN, Tpt.unstarted]
  · refine ⟨⟨?_, id, id, ?_, rfl, fun _ => rfl, rfl⟩, nofun⟩
    · grind [WfTpt, Tpt.monQuiet]
    · grind [WfN, Tpt.unstarted]
  · refine ⟨⟨?_, id, id, ?_, rfl, id, rfl⟩, nofun⟩
    · grind [WfTpt, Tpt.monQuiet]
    · grind [WfN, Tpt.unstarted]
  · have h2 : t.iceStop = 2 := by have := hw.2.2.2.2.2.2; omega
    refine ⟨⟨?_, id, id, ?_, rfl, id, rfl⟩, fun _ => ⟨hq, hn.2.2.2.2.2 (by omega)⟩⟩
    · grind [WfTpt, Tpt.monQuiet]
    · grind [WfN, Tpt.unstarted]

theorem inv_setSctp {s : State} {sc sc' : Sctp} (hI : Inv s) (hs : s.sctp = some sc) (hk : sc'.tpt = sc.tpt)
    (hz : s.closed = false → sc'.stop = 0) (hd : sctpDone sc → sctpDone sc') : Inv { s with sctp := some sc' } :=
  have hr : ∀ k, State.refd { s with sctp := some sc' } k = s.refd k := fun k => by simp [State.refd, hs, hk]
  { hI with
    opn := fun hc => by
      obtain ⟨o1, o2, o3, o4, o5, o6⟩ := hI.opn hc
      exact ⟨o1, o2, o3, o4, o5, fun _ h => Option.some.inj h ▸ hz hc⟩
    valid := fun ins hin => by have := hI.valid ins hin; cases ins <;> simp_all [Instr.valid]
    tptOk := ⟨hI.tptOk.1, fun _ h => Option.some.inj h ▸ hk ▸ hI.tptOk.2 sc hs⟩
    coverS := fun hc _ h => Option.some.inj h ▸ (hI.coverS hc sc hs).imp id hd
    refs := fun hc k t hk' hu => (hr k).trans (hI.refs hc k t hk' hu)
    unref := fun k t hk' hn => (hr k).trans (hI.unref k t hk' hn)
    coverI := fun hc k t hk' h => hI.coverI hc k t hk' ((hr k).symm.trans h) }

theorem sctpMove_inv {sc : Sctp} {m : Move Sctp} (h : sctpMove sc = some m) :
    m.next.tpt = sc.tpt ∧ (sctpDone sc → sctpDone m.next) ∧ (m.returns = true → sctpDone m.next) := by
  unfold sctpMove at h
  split at h <;> cases h
  · exact ⟨rfl, id, nofun⟩
  · exact ⟨rfl, fun _ => by simp [sctpDone], fun _ => by simp [sctpDone]⟩

theorem inv_land {α} {m : Move α} {put : α → State} {ins : Instr} {rest : List Instr} (hI : Inv (put m.next))
    (hp : (put m.next).prog = ins :: rest) (hd : m.returns = true → Instr.done (put m.next) ins) : Inv (m.land put).2 := by
  unfold Move.land
  split
  · rename_i hr; exact inv_pop hI hp (hd hr)
  · exact hI

theorem inv_tptMove {s : State} {k : Nat} {t t' : Tpt} (hI : Inv s) (hcl : s.closed = true) (ht : s.tpts[k]? = some t)
    (hk : TptKeeps t t') : Inv (s.setTpt k t') :=
  inv_setTpt' s.tset hI ht hk.wf (by simp [hcl]) (fun _ => hk.pump) (fun _ => hk.mon) (by simp [hcl]) hk.wfN
    (Or.inl hk.nstop) hk.ice (Or.inl ⟨rfl, hk.inSet⟩)

theorem inv_closeNext {s s' : State} {l : CLabel} (hI : Inv s) (h : s.closeNext = some (l, s')) : Inv s' := by
  obtain ⟨hp, hcl, -, rfl⟩ | ⟨ins, rest, hp, h⟩ := closeNext_some h
  · exact { hI with
      opn := fun hc => by simp [hcl] at hc
      dne := fun _ => ⟨hcl, hp, rfl, rfl, rfl⟩ }
  · have hcl := closed_of_prog hI hp
    cases ins <;> simp only [instrMove, Option.bind_eq_some_iff, Option.map_eq_some_iff] at h
    case stopRcv i =>
      obtain ⟨t, ht, m, hm, hl⟩ := h
      obtain ⟨hw, hk, h1, h2, hd⟩ := rcvMove_inv (hI.wfT i t ht) hm
      have hI' := inv_setTrx hI ht hw (by simp [hcl]) hk (fun _ => h1) (fun _ => h2)
      simpa only [hl] using inv_land hI' hp (ins := .stopRcv i) fun hr => List.forall_set_self (hd hr)
    case stopSnd i =>
      obtain ⟨t, ht, m, hm, hl⟩ := h
      obtain ⟨hw, hk, h1, h2, hd⟩ := sndMove_inv (hI.wfT i t ht) hm
      have hI' := inv_setTrx hI ht hw (by simp [hcl]) hk (fun _ => h1) (fun _ => h2)
      simpa only [hl] using inv_land hI' hp (ins := .stopSnd i) fun hr => List.forall_set_self (hd hr)
    case stopDtls k =>
      obtain ⟨t, ht, m, hm, hl⟩ := h
      obtain ⟨hk, hd⟩ := dtlsMove_inv (hI.wfK k t ht) (hI.wfN k t ht) hm
      simpa only [hl] using inv_land (inv_tptMove hI hcl ht hk) hp (ins := .stopDtls k) fun hr => List.forall_set_self (hd hr)
    case stopIce k =>
      obtain ⟨t, ht, m, hm, hl⟩ := h
      obtain ⟨hk, hd⟩ := iceMove_inv (hI.wfK k t ht) (hI.wfN k t ht) hm
      simpa only [hl] using inv_land (inv_tptMove hI hcl ht hk) hp (ins := .stopIce k) fun hr => List.forall_set_self (hd hr)
    case stopSctp =>
      obtain ⟨sc, hs, m, hm, hl⟩ := h
      obtain ⟨hk, h1, hd⟩ := sctpMove_inv hm
      have hI' := inv_setSctp hI hs hk (by simp [hcl]) h1
      simpa only [hl] using inv_land (put := fun sc' => { s with sctp := some sc' }) hI' hp (ins := .stopSctp)
        fun hr _ hs' => Option.some.inj hs' ▸ hd hr

end Aiortc.Lemmas.Close
