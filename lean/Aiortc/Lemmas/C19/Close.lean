import Aiortc.Lemmas.Util.List
import Aiortc.Model.Close
/-! Helper lemmas for C19: the termination measure of the close protocol and the invariant it needs (once the close latch is
set no `__connect` task can start anything); the close coroutine as moves on single records; what a step of a transceiver,
of a transport or of the coroutine is, read off `State.step` once. -/
namespace Aiortc.Lemmas.Close
open Aiortc.Model.Close

def sumBy {α} (f : α → Nat) (l : List α) : Nat := (l.map f).sum

theorem sumBy_set {α} (f : α → Nat) (l : List α) (i : Nat) (a b : α) (h : l[i]? = some a) :
    sumBy f (l.set i b) + f a = sumBy f l + f b := by
  induction l generalizing i with
  | nil => simp at h
  | cons x xs ih => cases i <;> grind [sumBy]

theorem sumBy_set_lt {α} (f : α → Nat) (l : List α) (i : Nat) (a b : α) (h : l[i]? = some a) (hlt : f b < f a) :
    sumBy f (l.set i b) < sumBy f l := by
  have := sumBy_set f l i a b h; omega

theorem sumBy_set_le {α} (f : α → Nat) (l : List α) (i : Nat) (a b : α) (h : l[i]? = some a) (hle : f b ≤ f a) :
    sumBy f (l.set i b) ≤ sumBy f l := by
  have := sumBy_set f l i a b h; omega

theorem sumBy_append {α} (f : α → Nat) (l m : List α) : sumBy f (l ++ m) = sumBy f l + sumBy f m := by
  simp [sumBy]

def autoRank : APc → Nat
  | .queued => 2 | _ => 0
def doneRank : Bool → Nat
  | true => 0 | false => 1

/-- steps a transceiver's tasks, decoder thread and running `stop()` calls still have to take -/
def trxW (t : Trx) : Nat := t.rank + (3 - t.rcvStop) + (3 - t.sndStop)
def tptW (t : Tpt) : Nat := t.rank + (3 - t.dtlsStop) + (3 - t.iceStop) + (4 - t.nstop)
def sctpW : Option Sctp → Nat
  | some sc => 3 - sc.stop | none => 0

/-- what is left to do: the rest of the close program (4 per `stop()` call, minus the progress inside the running one), its
final step, and one unit per step every task / thread still has to take -/
def mu (s : State) : Nat :=
  4 * s.prog.length + doneRank s.closeDone + sumBy trxW s.trxs + sumBy tptW s.tpts + sctpW s.sctp
    + sumBy Conn.rank s.conns + s.waiters + autoRank s.auto

def ConnsStopped (s : State) : Prop := s.closed = true → ∀ c ∈ s.conns, c.cancelReq = true ∨ c.pc = .done

theorem liveConn_false {s : State} (h : ConnsStopped s) (hc : s.closed = true) : s.liveConn = false := by
  unfold State.liveConn
  rw [List.any_eq_false]
  intro c hmem
  rcases h hc c hmem with h1 | h1 <;> simp [Conn.live, h1]

theorem run_first_rank {r r' : Run} (h : r.first = some r') : r'.rank < r.rank := by
  unfold Run.first at h
  split at h
  · rename_i hq
    injection h with h; subst h
    split <;> simp [Run.rank, hq]
  · simp at h

theorem run_exit_rank {r r' : Run} (h : r.exit = some r') : r'.rank < r.rank := by
  unfold Run.exit at h
  split at h
  · rename_i hq
    injection h with h; subst h
    simp [Run.rank, hq]
  · simp at h

theorem _root_.Aiortc.Model.Close.Run.cancel_rank (r : Run) : r.cancel.rank = r.rank := by
  unfold Run.cancel; split <;> simp [Run.rank]

theorem trx_set_rank (t : Trx) (w : Which) (r : Run) (h : r.rank < (t.get w).rank) : (t.set w r).rank < t.rank := by
  cases w <;> simp [Trx.set, Trx.get, Trx.rank] at * <;> omega

theorem trxStep_rank {t t' : Trx} {a : TrxAct} (h : trxStep false t a = some t') :
    (match a with | .mkTrack | .assign _ | .cancel _ => t'.rank = t.rank | _ => t'.rank < t.rank) := by
  cases a <;> simp only [trxStep, Option.map_eq_some_iff, Option.ite_none_right_eq_some, Option.some.injEq] at h
  case first w _ => obtain ⟨r, hr, rfl⟩ := h; exact trx_set_rank t w r (run_first_rank hr)
  case exit w _ => obtain ⟨r, hr, rfl⟩ := h; exact trx_set_rank t w r (run_exit_rank hr)
  case cancel w _ => obtain ⟨-, rfl⟩ := h; cases w <;> simp [Trx.set, Trx.get, Trx.rank, Run.cancel_rank]
  case decoderStop => obtain ⟨hd, rfl⟩ := h; simp [Trx.rank, Thr.rank, hd]
  case assign k _ => obtain ⟨-, rfl⟩ := h; rfl
  case mkTrack => subst h; rfl
  all_goals simp at h
theorem trxStep_stops {live : Bool} {t t' : Trx} {a : TrxAct} (h : trxStep live t a = some t') :
    t'.rcvStop = t.rcvStop ∧ t'.sndStop = t.sndStop := by
  cases a <;> simp only [trxStep, Option.map_eq_some_iff] at h
  case first w | exit w | cancel w => cases w <;> grind [Trx.set]
  all_goals grind

theorem trxStep_W {t t' : Trx} {a : TrxAct} (h : trxStep false t a = some t') :
    (match a with | .mkTrack | .assign _ | .cancel _ => trxW t' = trxW t | _ => trxW t' < trxW t) := by
  have hs := trxStep_stops h
  have hr := trxStep_rank h
  cases a <;> simp only [trxW, hs.1, hs.2] <;> simp only at hr <;> omega

def WfTpt (t : Tpt) : Prop :=
  (t.pump = .live → t.pumpCancel = false → t.pumpHandle = true)
  ∧ (t.dtlsStop = 2 → t.pump ≠ .live ∨ t.pumpCancel = true)
  ∧ (t.iceStop = 2 → t.monQuiet = true ∨ t.connClosed = true)
  ∧ (t.ice = .closed → t.monQuiet = true ∨ t.connClosed = true ∨ t.iceStop = 1)
  ∧ (t.monQuiet = false → t.ice ≠ .new)
  ∧ t.dtlsStop ≤ 2 ∧ t.iceStop ≤ 2

/-- the BUNDLE clean-up position of a transport agrees with what has been done to it; a `stop()` that got past its first
step has set the ICE state to closed -/
def WfN (t : Tpt) : Prop :=
  t.nstop ≤ 4 ∧ (2 ≤ t.nstop → t.ice = .closed) ∧ (3 ≤ t.nstop → t.connClosed = true) ∧ (t.inSet = false ↔ t.nstop = 4)
  ∧ (1 ≤ t.nstop → t.unstarted = true) ∧ (1 ≤ t.iceStop → t.ice = .closed)

/-- what one step of a transport's own tasks (pump, monitor, handshake, BUNDLE clean-up) can do to its record; the measure
reads the first two clauses, the invariant the others (in the order of the arguments of `inv_setTpt'`) -/
def TptStepSpec (live : Bool) (t : Tpt) (a : TptAct) (t' : Tpt) : Prop :=
  (t'.dtlsStop = t.dtlsStop ∧ t'.iceStop = t.iceStop)
  -- only the clean-up moves `nstop`, and it leaves the tasks alone; every other step lowers the rank once no `__connect` task is live
  ∧ (if a = .nstep then t'.nstop = t.nstop + 1 ∧ t'.nstop ≤ 4 ∧ t'.rank = t.rank
      else t'.nstop = t.nstop ∧ (live = false → t'.rank < t.rank))
  -- `WfTpt` is kept (a live `__connect` task means no `stop()` is under way)
  ∧ (WfTpt t → (live = true → t.dtlsStop = 0 ∧ t.iceStop = 0) → WfTpt t')
  -- what `stop()` has achieved stays achieved: the pump cancelled or gone, the monitor quiet
  ∧ (live = false → t.pump ≠ .live ∨ t.pumpCancel = true → t'.pump ≠ .live ∨ t'.pumpCancel = true)
  ∧ (live = false → t.monQuiet = true → t'.monQuiet = true)
  -- only iceStart / dtlsStart start a transport
  ∧ (t'.unstarted = false → t.unstarted = false ∨ a = .iceStart ∨ a = .dtlsStart)
  -- `WfN` is kept, provided the two steps that start a transport find no clean-up on it
  ∧ (WfN t → (a = .iceStart ∨ a = .dtlsStart → t.nstop = 0) → (live = true → t.iceStop = 0) → WfN t')
  ∧ (WfN t → (live = true → t.iceStop = 0) → t.ice = .closed → t'.ice = .closed)
  -- only the last step of the clean-up takes the transport out of the set
  ∧ (t'.inSet = t.inSet ∨ a = .nstep ∧ t'.inSet = false ∧ t.inSet = true)

theorem tptStep_spec {live : Bool} {t t' : Tpt} {a : TptAct} (h : tptStep live t a = some t') :
    TptStepSpec live t a t' := by
  -- iceStart / dtlsUp need a live `__connect` task, so no `stop()` is under way; pumpExit / monFirst / monExit only finish what
  -- was running; a transport under clean-up was never started (`WfN`), so every step of a started one finds `nstop = 0`, and
  -- the two steps that start one find it by hypothesis; setting ICE to closed belongs to `stop()` and the clean-up only
  cases a <;> simp only [tptStep] at h <;>
    grind [TptStepSpec, WfTpt, WfN, Tpt.monQuiet, Tpt.unstarted, Tpt.rank, PPc.rank, MPc.rank]

theorem tptStep_W {t t' : Tpt} {a : TptAct} (h : tptStep false t a = some t') : tptW t' < tptW t := by
  obtain ⟨hs, hn, -⟩ := tptStep_spec h
  simp only [tptW, hs.1, hs.2]
  split at hn
  · omega
  · have := hn.2 rfl; omega

theorem mu_setTrx_lt {s : State} {i : Nat} {t t' : Trx} (ht : s.trxs[i]? = some t) (h : trxW t' < trxW t) :
    mu (s.setTrx i t') < mu s := by
  have := sumBy_set trxW s.trxs i t t' ht
  simp only [mu, State.setTrx]; omega

theorem mu_setTrx_pop_lt {s : State} {i : Nat} {t t' : Trx} (ht : s.trxs[i]? = some t) (hne : s.prog ≠ [])
    (h : trxW t' < trxW t + 4) : mu ((s.setTrx i t').pop) < mu s := by
  have := sumBy_set trxW s.trxs i t t' ht
  have := List.tail_len s.prog hne
  simp only [mu, State.setTrx, State.pop]; omega

theorem mu_setTpt_lt {s : State} {k : Nat} {t t' : Tpt} (ht : s.tpts[k]? = some t) (h : tptW t' < tptW t) :
    mu (s.setTpt k t') < mu s := by
  have := sumBy_set tptW s.tpts k t t' ht
  simp only [mu, State.setTpt]; omega

theorem mu_setTpt_pop_lt {s : State} {k : Nat} {t t' : Tpt} (ht : s.tpts[k]? = some t) (hne : s.prog ≠ [])
    (h : tptW t' < tptW t + 4) : mu ((s.setTpt k t').pop) < mu s := by
  have := sumBy_set tptW s.tpts k t t' ht
  have := List.tail_len s.prog hne
  simp only [mu, State.setTpt, State.pop]; omega

/-! Every move of `closeNext` on a non-empty program works on one record, the one the `stop()` call at the head of the program
belongs to: it looks the record up, makes a move that depends on that record alone, writes it back, and drops the head of the
program if the call has returned.  `rcvMove` … `sctpMove` are these local moves, `closeNext_cons` says that `closeNext` is
nothing else; what the measure and the invariant need is then proved about records. -/

structure Move (α : Type) where
  label : CLabel
  next : α
  returns : Bool

def Move.land {α} (m : Move α) (put : α → State) : CLabel × State :=
  (m.label, if m.returns then (put m.next).pop else put m.next)

def rcvMove (i : Nat) (t : Trx) : Option (Move Trx) :=
  if t.rcvStop = 0 then
    if t.rcvStarted then
      some ⟨.enterRcv i, { t with decoder := if t.decoder = .running then .exited else t.decoder,
                                   trackEnd := t.trackEnd || t.decoder = .running, rcvStop := 1 }, false⟩
    else some ⟨.enterRcv i, { t with trackEnd := t.trackEnd || t.hasTrack, rcvStop := 2 }, false⟩
  else if t.rcvStop = 1 then
    if t.rrtcp.started then some ⟨.cancelRrtcp i, { t with rrtcp := t.rrtcp.cancel, rcvStop := 2 }, false⟩ else none
  else if t.rrtcp.quiet then some ⟨.leaveRcv i, { t with rcvStop := 0 }, true⟩ else none

def sndMove (i : Nat) (t : Trx) : Option (Move Trx) :=
  if t.sndStop = 0 then some ⟨.enterSnd i, { t with sndStop := if t.sndStarted then 1 else 3 }, false⟩
  else if t.sndStop = 1 then
    if t.rtp.started && t.srtcp.started then some ⟨.cancelRtp i, { t with rtp := t.rtp.cancel, sndStop := 2 }, false⟩
    else none
  else if t.sndStop = 2 then some ⟨.cancelSrtcp i, { t with srtcp := t.srtcp.cancel, sndStop := 3 }, false⟩
  else if t.sndQuiet then some ⟨.leaveSnd i, { t with sndStop := 0 }, true⟩ else none

def sctpMove (sc : Sctp) : Option (Move Sctp) :=
  if sc.stop = 0 then some ⟨.enterSctp, { sc with stop := 1 }, false⟩
  else some ⟨.leaveSctp, { sc with closed := true, chans := sc.chans.map fun _ => .closed, stop := 0 }, true⟩

def dtlsMove (k : Nat) (t : Tpt) : Option (Move Tpt) :=
  if t.dtlsStop = 0 then some ⟨.enterDtls k, { t with dtlsStop := if t.pumpHandle then 1 else 2 }, false⟩
  else if t.dtlsStop = 1 then
    some ⟨.cancelPump k, { t with pumpCancel := t.pump = .live, pumpHandle := false, dtlsStop := 2 }, false⟩
  else some ⟨.leaveDtls k, { t with dtlsStop := 0 }, true⟩

def iceMove (k : Nat) (t : Tpt) : Option (Move Tpt) :=
  if t.iceStop = 0 then
    if t.ice = .closed then some ⟨.enterIce k, { t with iceStop := 2 }, false⟩
    else some ⟨.enterIce k, { t with ice := .closed, iceStop := 1 }, false⟩
  else if t.iceStop = 1 then
    if t.monitor ≠ .queued then some ⟨.connClosed k, { t with connClosed := true, iceStop := 2 }, false⟩ else none
  else if t.monQuiet then some ⟨.leaveIce k, { t with iceStop := 0 }, true⟩ else none

def instrMove (s : State) : Instr → Option (CLabel × State)
  | .stopRcv i => s.trxs[i]?.bind fun t => (rcvMove i t).map (·.land (s.setTrx i))
  | .stopSnd i => s.trxs[i]?.bind fun t => (sndMove i t).map (·.land (s.setTrx i))
  | .stopSctp => s.sctp.bind fun sc => (sctpMove sc).map (·.land fun sc' => { s with sctp := some sc' })
  | .stopDtls k => s.tpts[k]?.bind fun t => (dtlsMove k t).map (·.land (s.setTpt k))
  | .stopIce k => s.tpts[k]?.bind fun t => (iceMove k t).map (·.land (s.setTpt k))

theorem closeNext_cons {s : State} {ins : Instr} {rest : List Instr} (hp : s.prog = ins :: rest) :
    s.closeNext = if !s.connsDone then none else instrMove s ins := by
  cases ins <;> simp only [State.closeNext, instrMove, hp] <;> congr 1 <;> split <;> rename_i hr <;>
    simp only [hr, Option.bind, rcvMove, sndMove, sctpMove, dtlsMove, iceMove, apply_ite (Option.map _), Option.map_some,
      Option.map_none] <;> rfl

theorem closeNext_some {s s' : State} {l : CLabel} (h : s.closeNext = some (l, s')) :
    (s.prog = [] ∧ s.closed = true ∧ s.closeDone = false
      ∧ s' = { s with iceClosed := true, connClosed := true, listeners := false, closeDone := true })
    ∨ ∃ ins rest, s.prog = ins :: rest ∧ instrMove s ins = some (l, s') := by
  cases hp : s.prog with
  | nil =>
    have hn : s.closeNext = if !s.connsDone then none else
        if s.closed && !s.closeDone then
          some (.leaveClose, { s with iceClosed := true, connClosed := true, listeners := false, closeDone := true })
        else none := by
      unfold State.closeNext
      rw [hp]
    rw [hn] at h
    split at h
    · cases h
    split at h
    · rename_i hg
      simp only [Bool.and_eq_true, Bool.not_eq_true'] at hg
      cases h
      exact .inl ⟨rfl, hg.1, hg.2, by rw [hp]⟩
    · cases h
  | cons ins rest =>
    rw [closeNext_cons hp] at h
    split at h
    · cases h
    · exact .inr ⟨ins, rest, rfl, h⟩

theorem Move.land_closed {α} (m : Move α) (put : α → State) : (m.land put).2.closed = (put m.next).closed := by
  unfold Move.land; split <;> rfl

theorem closeNext_closed {s s' : State} {l : CLabel} (h : s.closeNext = some (l, s')) : s'.closed = s.closed := by
  obtain ⟨-, -, -, rfl⟩ | ⟨ins, rest, -, h⟩ := closeNext_some h
  · rfl
  · cases ins <;> simp only [instrMove, Option.bind_eq_some_iff, Option.map_eq_some_iff] at h <;>
      obtain ⟨_, _, m, _, hl⟩ := h <;> exact (congrArg (·.2.closed) hl).symm.trans (m.land_closed _)

theorem ite_eq_some {c : Prop} [Decidable c] {α} {x y : Option α} {m : α} :
    (if c then x else y) = some m ↔ c ∧ x = some m ∨ ¬c ∧ y = some m := by
  split <;> simp [*]

/-! the weight of the record falls with every move; on return it may rise by less than the 4 the program loses -/

theorem rcvMove_W {i : Nat} {t : Trx} {m : Move Trx} (h : rcvMove i t = some m) :
    trxW m.next < trxW t + if m.returns then 4 else 0 := by
  have := t.rrtcp.cancel_rank
  simp only [rcvMove, ite_eq_some, Option.some.injEq, reduceCtorEq, and_false, or_false] at h
  rcases h with ⟨h0, ⟨hst, rfl⟩ | ⟨hst, rfl⟩⟩ | ⟨h0, ⟨h1, hst, rfl⟩ | ⟨h1, hq, rfl⟩⟩
  · cases hd : t.decoder <;> simp [trxW, Trx.rank, Thr.rank, *]
  all_goals simp [trxW, Trx.rank, *] <;> omega

theorem sndMove_W {i : Nat} {t : Trx} {m : Move Trx} (h : sndMove i t = some m) :
    trxW m.next < trxW t + if m.returns then 4 else 0 := by
  have := t.rtp.cancel_rank
  have := t.srtcp.cancel_rank
  simp only [sndMove, ite_eq_some, Option.some.injEq, reduceCtorEq, and_false, or_false] at h
  rcases h with ⟨h0, rfl⟩ | ⟨h0, ⟨h1, hst, rfl⟩ | ⟨h1, ⟨h2, rfl⟩ | ⟨h2, hq, rfl⟩⟩⟩
  · cases hs : t.sndStarted <;> simp [trxW, Trx.rank, *] <;> omega
  all_goals simp [trxW, Trx.rank, *] <;> omega

theorem dtlsMove_W {k : Nat} {t : Tpt} {m : Move Tpt} (h : dtlsMove k t = some m) :
    tptW m.next < tptW t + if m.returns then 4 else 0 := by
  simp only [dtlsMove, ite_eq_some, Option.some.injEq] at h
  rcases h with ⟨h0, rfl⟩ | ⟨h0, ⟨h1, rfl⟩ | ⟨h1, rfl⟩⟩
  · cases hp : t.pumpHandle <;> simp [tptW, Tpt.rank, *] <;> omega
  all_goals simp [tptW, Tpt.rank, *] <;> omega

theorem iceMove_W {k : Nat} {t : Tpt} {m : Move Tpt} (h : iceMove k t = some m) :
    tptW m.next < tptW t + if m.returns then 4 else 0 := by
  simp only [iceMove, ite_eq_some, Option.some.injEq, reduceCtorEq, and_false, or_false] at h
  rcases h with ⟨h0, ⟨hc, rfl⟩ | ⟨hc, rfl⟩⟩ | ⟨h0, ⟨h1, hm, rfl⟩ | ⟨h1, hq, rfl⟩⟩ <;>
    simp [tptW, Tpt.rank, *] <;> omega

theorem sctpMove_W {sc : Sctp} {m : Move Sctp} (h : sctpMove sc = some m) :
    sctpW (some m.next) < sctpW (some sc) + if m.returns then 4 else 0 := by
  unfold sctpMove at h
  split at h <;> cases h <;> simp [sctpW, *]

theorem mu_trxMove {s : State} {i : Nat} {t : Trx} {m : Move Trx} (ht : s.trxs[i]? = some t) (hne : s.prog ≠ [])
    (h : trxW m.next < trxW t + if m.returns then 4 else 0) : mu (m.land (s.setTrx i)).2 < mu s := by
  obtain ⟨l, t', r⟩ := m
  cases r
  · exact mu_setTrx_lt ht h
  · exact mu_setTrx_pop_lt ht hne h

theorem mu_tptMove {s : State} {k : Nat} {t : Tpt} {m : Move Tpt} (ht : s.tpts[k]? = some t) (hne : s.prog ≠ [])
    (h : tptW m.next < tptW t + if m.returns then 4 else 0) : mu (m.land (s.setTpt k)).2 < mu s := by
  obtain ⟨l, t', r⟩ := m
  cases r
  · exact mu_setTpt_lt ht h
  · exact mu_setTpt_pop_lt ht hne h

theorem closeNext_mu {s s' : State} {l : CLabel} (h : s.closeNext = some (l, s')) : mu s' < mu s := by
  obtain ⟨-, -, hd, rfl⟩ | ⟨ins, rest, hp, h⟩ := closeNext_some h
  · simp [mu, doneRank, hd]
  have hne : s.prog ≠ [] := by simp [hp]
  cases ins <;> simp only [instrMove, Option.bind_eq_some_iff, Option.map_eq_some_iff] at h
  case stopRcv i => obtain ⟨t, ht, m, hm, hl⟩ := h; simpa only [hl] using mu_trxMove ht hne (rcvMove_W hm)
  case stopSnd i => obtain ⟨t, ht, m, hm, hl⟩ := h; simpa only [hl] using mu_trxMove ht hne (sndMove_W hm)
  case stopDtls k => obtain ⟨t, ht, m, hm, hl⟩ := h; simpa only [hl] using mu_tptMove ht hne (dtlsMove_W hm)
  case stopIce k => obtain ⟨t, ht, m, hm, hl⟩ := h; simpa only [hl] using mu_tptMove ht hne (iceMove_W hm)
  case stopSctp =>
    obtain ⟨sc, hs, ⟨l, sc', r⟩, hm, hl⟩ := h
    have hW := sctpMove_W hm
    have := List.tail_len s.prog hne
    cases hl
    cases r <;> simp [mu, State.pop, hs] at hW ⊢ <;> omega

theorem step_close {s s' : State} {l : CLabel} : s.step (.close l) = some s' ↔ s.closeNext = some (l, s') := by
  simp only [State.step]
  split
  · rename_i l' s'' hn
    rw [hn]
    split
    · simp_all
    · rename_i hne
      simp only [Option.some.injEq, Prod.mk.injEq, reduceCtorEq, false_iff, not_and]
      exact fun h => absurd h.symm hne
  · rename_i hn
    simp [hn]

theorem step_trx {s s' : State} {i : Nat} {a : TrxAct} (h : s.step (.trx i a) = some s') :
    ∃ t, s.trxs[i]? = some t ∧ (∃ t', trxStep s.liveConn t a = some t' ∧ s.setTrx i t' = s')
      ∧ (a = .mkTrack → s.closed = false)
      ∧ ∀ k, a = .assign k →
          s.closed = false ∧ s.free k = true ∧ ∃ old, s.tpts[t.tpt]? = some old ∧ old.unstarted = true := by
  cases ht : s.trxs[i]? with
  | none => simp [State.step, ht] at h
  | some t =>
    refine ⟨t, rfl, ?_⟩
    cases a <;> simp only [State.step, ht] at h
    case assign k =>
      split at h
      · rename_i old hold
        split at h
        · rename_i hg
          simp only [Bool.and_eq_true, Bool.not_eq_true'] at hg
          exact ⟨Option.map_eq_some_iff.mp h, nofun, fun _ hk => by cases hk; exact ⟨hg.1.1, hg.1.2, old, hold, hg.2⟩⟩
        · cases h
      · cases h
    case mkTrack =>
      split at h
      · cases h
      · rename_i hc
        exact ⟨Option.map_eq_some_iff.mp h, fun _ => by simpa using hc, nofun⟩
    all_goals exact ⟨Option.map_eq_some_iff.mp h, nofun, nofun⟩

/-- where a transport step lands: the end of the pump may trigger the automatic close, a clean-up step may take the transport
out of the connection's set -/
def tptLand (s : State) (k : Nat) (t' : Tpt) : TptAct → State
  | .pumpExit => (s.setTpt k t').autoTrigger
  | .nstep => (s.setTpt k t').syncSet k t'
  | _ => s.setTpt k t'

theorem step_tpt {s s' : State} {k : Nat} {a : TptAct} (h : s.step (.tpt k a) = some s') :
    ∃ t, s.tpts[k]? = some t ∧ (∃ t', tptStep s.liveConn t a = some t' ∧ tptLand s k t' a = s')
      ∧ (a = .nstep → s.refd k = false) ∧ (a = .iceStart ∨ a = .dtlsStart → s.refd k = true) := by
  cases ht : s.tpts[k]? with
  | none => simp [State.step, ht] at h
  | some t =>
    refine ⟨t, rfl, ?_⟩
    simp only [← Option.map_eq_some_iff]
    cases a <;> simp only [State.step, ht] at h
    case nstep =>
      split at h
      · rename_i hr
        exact ⟨h, fun _ => by simpa using hr, nofun⟩
      · cases h
    case iceStart | dtlsStart =>
      split at h
      · rename_i hr
        exact ⟨h, nofun, fun _ => hr⟩
      · cases h
    all_goals exact ⟨h, nofun, by simp⟩

theorem autoTrigger_closed {s : State} (hc : s.closed = true) : s.autoTrigger = s := by
  simp [State.autoTrigger, hc]

theorem tptLand_closed {s : State} {k : Nat} {t' : Tpt} {a : TptAct} : (tptLand s k t' a).closed = s.closed := by
  cases a <;> simp only [tptLand]
  case pumpExit => unfold State.autoTrigger; split <;> rfl
  case nstep => unfold State.syncSet; split <;> rfl
  all_goals rfl

theorem mu_tptLand {s : State} {k : Nat} {t' : Tpt} {a : TptAct} (hc : s.closed = true) :
    mu (tptLand s k t' a) = mu (s.setTpt k t') := by
  cases a <;> simp only [tptLand]
  case pumpExit => rw [autoTrigger_closed (s := s.setTpt k t') hc]
  case nstep => unfold State.syncSet; split <;> rfl

theorem step_mu {s s' : State} {a : Action} (hconns : ConnsStopped s) (hc : s.closed = true)
    (hk : a.kind = .task) (h : s.step a = some s') : mu s' < mu s := by
  have hlive := liveConn_false hconns hc
  cases a with
  | closeCall byAuto =>
    cases byAuto with
    | false => cases hk
    | true =>
      simp only [State.step] at h
      obtain ⟨hq, h⟩ := Option.ite_none_left_eq_some.mp h
      simp [hc] at h hq; subst h
      simp [mu, autoRank, hq]; omega
  | trx i a =>
    obtain ⟨t, ht, ⟨t', ht', rfl⟩, -⟩ := step_trx h
    rw [hlive] at ht'
    have hW := trxStep_W ht'
    cases a <;> first | exact mu_setTrx_lt ht hW | cases hk
  | tpt k a =>
    obtain ⟨t, ht, ⟨t', ht', rfl⟩, -⟩ := step_tpt h
    rw [hlive] at ht'
    rw [mu_tptLand hc]
    exact mu_setTpt_lt ht (tptStep_W ht')
  | connFirst c =>
    simp only [State.step] at h
    cases hcn : s.conns[c]? <;> simp only [hcn] at h
    · cases h
    · rename_i cn
      obtain ⟨hg, -⟩ := Option.ite_none_right_eq_some.mp h
      rcases hconns hc cn (List.mem_of_getElem? hcn) with h1 | h1 <;> simp [h1] at hg
  | connExit c =>
    simp only [State.step] at h
    cases hcn : s.conns[c]? <;> simp only [hcn] at h
    · cases h
    · rename_i cn
      obtain ⟨hg, ⟨⟩⟩ := Option.ite_none_right_eq_some.mp h
      have := sumBy_set_lt Conn.rank s.conns c cn { pc := .done, cancelReq := false } hcn (by simp [Conn.rank, hg])
      simp only [mu]; omega
  | sctpStart =>
    simp only [State.step, hlive] at h
    split at h <;> simp at h
  | close l => exact closeNext_mu (step_close.mp h)
  | waiterReturn =>
    simp only [State.step] at h
    obtain ⟨hg, ⟨⟩⟩ := Option.ite_none_right_eq_some.mp h
    simp at hg
    simp [mu]; omega
  | negBegin | negSpawn | negEnd | addTpt | addTrx k | addSctp k | assignSctp k | chanNew | chanEv j c | emit
    | obsCancelConn c | obsAutoSpawn => cases hk

end Aiortc.Lemmas.Close
