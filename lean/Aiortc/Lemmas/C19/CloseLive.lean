import Aiortc.Lemmas.C19.CloseStep
/-! C19: progress.  In a reachable closed state in which no *guaranteed* step is enabled, everything is over. -/
namespace Aiortc.Lemmas.Close
open Aiortc.Model.Close

/-- steps that happen without the environment's help: the close coroutine's own moves (whenever their guard holds), the first
step of a queued task, the end of a task whose cancellation is on its way, the monitor's moves, a waiter's return, the
auto-close task's call.  (A task may also end on its own - connection lost, track ended - but nothing guarantees it.) -/
def guaranteed (s : State) : Action → Bool
  | .close _ => true
  | .trx _ (.first _) => true
  | .trx i (.exit w) => match s.trxs[i]? with | some t => (t.get w).cancelReq | none => false
  | .tpt k .pumpExit => match s.tpts[k]? with | some t => t.pumpCancel | none => false
  | .tpt _ .monFirst | .tpt _ .monExit => true
  | .tpt k .nstep => match s.tpts[k]? with | some t => decide (1 ≤ t.nstop) | none => false
  | .connExit c => match s.conns[c]? with | some cn => cn.cancelReq | none => false
  | .waiterReturn => true
  | .closeCall true => true
  | _ => false

def Quiescent (s : State) : Prop := ∀ a, guaranteed s a = true → s.step a = none

structure Final (s : State) : Prop where
  done : s.closeDone = true
  prog : s.prog = []
  conns : ∀ c ∈ s.conns, c.pc = .done
  trxs : ∀ (i : Nat) (t : Trx), s.trxs[i]? = some t → rcvDone t ∧ t.sndQuiet = true
  tpts : ∀ (k : Nat) (t : Tpt), s.tpts[k]? = some t → t.pump ≠ .live ∧ t.monQuiet = true
  sctp : ∀ (sc : Sctp), s.sctp = some sc → sctpDone sc
  waiters : s.waiters = 0
  auto : s.auto ≠ .queued
  cleanups : ∀ (k : Nat) (t : Tpt), s.tpts[k]? = some t → t.nstop = 0 ∨ t.nstop = 4

theorem close_enabled {s s' : State} {l : CLabel} (hQ : Quiescent s) (h : s.closeNext = some (l, s')) : False := by
  have := hQ (.close l) rfl
  simp [State.step, h] at this

def Run.due (r : Run) : Prop := r.pc = .queued ∨ (r.pc = .loop ∧ r.cancelReq = true)

theorem due_of_not_started {r : Run} (hw : WfRun r) (hn : r.pc ≠ .none) (hs : r.started = false) : Run.due r := by
  cases hp : r.pc <;> simp_all [Run.due, WfRun, Run.started]

theorem due_of_doomed {r : Run} (hd : r.doomed = true) (hq : r.quiet = false) : Run.due r := by
  simp_all [Run.due, Run.doomed]

theorem due_enabled {s : State} {i : Nat} {t : Trx} {w : Which} (hQ : Quiescent s) (ht : s.trxs[i]? = some t)
    (hd : Run.due (t.get w)) : False := by
  rcases hd with hq | ⟨hq, hc⟩
  · have := hQ (.trx i (.first w)) rfl
    simp [State.step, ht, trxStep, Run.first, hq] at this
  · have := hQ (.trx i (.exit w)) (by simp [guaranteed, ht, hc])
    simp [State.step, ht, trxStep, Run.exit, hq] at this

theorem rcvMove_blocked {i : Nat} {t : Trx} (hw : WfTrx t) (h : rcvMove i t = none) : Run.due t.rrtcp := by
  unfold rcvMove at h
  -- position 1 waits for `started` of a task that exists (`rcvStarted`), position 2 for `exited` of a doomed one
  have := @due_of_not_started t.rrtcp
  have := @due_of_doomed t.rrtcp
  grind [WfTrx]

theorem sndMove_blocked {i : Nat} {t : Trx} (hw : WfTrx t) (h : sndMove i t = none) : Run.due t.rtp ∨ Run.due t.srtcp := by
  -- position 1 waits for `started` of two tasks that exist (`sndStarted`), position 3 for `exited` of two doomed ones;
  -- positions 0 and 2 always move
  unfold sndMove at h
  have := @due_of_not_started t.rtp
  have := @due_of_doomed t.rtp
  have := @due_of_not_started t.srtcp
  have := @due_of_doomed t.srtcp
  grind [WfTrx, Trx.sndQuiet]

theorem iceMove_blocked {k : Nat} {t : Tpt} (hw : WfTpt t) (h : iceMove k t = none) :
    t.monitor = .queued ∨ (t.monitor = .waiting ∧ t.connClosed = true) := by
  unfold iceMove at h
  -- position 1 waits for the monitor's first step; position 2 with the monitor still there has `connClosed` (`WfTpt`)
  cases hm : t.monitor <;> grind [WfTpt, Tpt.monQuiet]

theorem conns_done {s : State} (hI : Inv s) (hc : s.closed = true) (hQ : Quiescent s) : ∀ c ∈ s.conns, c.pc = .done := by
  intro c hc'
  obtain ⟨n, hn, hnc⟩ := List.getElem_of_mem hc'
  have hget : s.conns[n]? = some c := by rw [List.getElem?_eq_getElem hn, hnc]
  by_cases hne : c.pc = .done
  · exact hne
  · exfalso
    rcases hI.conns hc c hc' with h1 | h1
    · have := hQ (.connExit n) (by simp [guaranteed, hget, h1])
      simp [State.step, hget, hne] at this
    · exact hne h1

theorem prog_empty {s : State} (hI : Inv s) (hQ : Quiescent s) (hcd : s.connsDone = true) : s.prog = [] := by
  cases hp : s.prog with
  | nil => rfl
  | cons ins rest =>
    exfalso
    have hv := hI.valid ins (by rw [hp]; simp)
    have hn : instrMove s ins = none := by
      cases hm : instrMove s ins with
      | none => rfl
      | some r => exact (close_enabled hQ (l := r.1) (s' := r.2) (by rw [closeNext_cons hp, hcd]; exact hm)).elim
    cases ins <;> simp only [instrMove, Instr.valid] at hn hv
    case stopRcv i =>
      rw [List.getElem?_eq_getElem hv] at hn
      exact due_enabled hQ (w := .rrtcp) (List.getElem?_eq_getElem hv)
        (rcvMove_blocked (hI.wfT i _ (List.getElem?_eq_getElem hv)) (by simpa using hn))
    case stopSnd i =>
      rw [List.getElem?_eq_getElem hv] at hn
      rcases sndMove_blocked (hI.wfT i _ (List.getElem?_eq_getElem hv)) (by simpa using hn) with hd | hd
      · exact due_enabled hQ (w := .rtp) (List.getElem?_eq_getElem hv) hd
      · exact due_enabled hQ (w := .srtcp) (List.getElem?_eq_getElem hv) hd
    case stopSctp =>
      obtain ⟨sc, hs⟩ := Option.isSome_iff_exists.mp hv
      simp only [hs, Option.bind_some, sctpMove] at hn
      split at hn <;> cases hn
    case stopDtls k =>
      simp only [List.getElem?_eq_getElem hv, Option.bind_some, dtlsMove] at hn
      split at hn <;> (try split at hn) <;> cases hn
    case stopIce k =>
      have ht := List.getElem?_eq_getElem hv
      rw [ht] at hn
      rcases iceMove_blocked (hI.wfK k _ ht) (by simpa using hn) with hm | ⟨hm, hcc⟩
      · have := hQ (.tpt k .monFirst) rfl
        simp [State.step, ht, tptStep, hm] at this
      · have := hQ (.tpt k .monExit) rfl
        simp [State.step, ht, tptStep, hm, hcc] at this

theorem final_of_quiescent {s : State} (hI : Inv s) (hc : s.closed = true) (hQ : Quiescent s) : Final s := by
  have hconns := conns_done hI hc hQ
  have hcd : s.connsDone = true := by
    simp only [State.connsDone, List.all_eq_true, decide_eq_true_eq]; exact hconns
  have hp := prog_empty hI hQ hcd
  have hdone : s.closeDone = true := by
    cases hd : s.closeDone with
    | true => rfl
    | false =>
      exfalso
      exact close_enabled hQ (l := .leaveClose) (by simp [State.closeNext, hcd, hp, hc, hd]; rfl)
  refine ⟨hdone, hp, hconns, ?_, ?_, ?_, ?_, ?_, ?_⟩
  · intro i t ht
    have := hI.coverT hc i t ht
    rw [hp] at this
    simpa using this
  · intro k t ht
    have := hI.coverK hc k t ht
    rw [hp] at this
    simp only [List.not_mem_nil, false_or] at this
    refine ⟨?_, this.2⟩
    intro hl
    rcases this.1 with h | h
    · exact h hl
    · have := hQ (.tpt k .pumpExit) (by simp [guaranteed, ht, h])
      simp [State.step, ht, tptStep, hl] at this
  · intro sc hs
    have := hI.coverS hc sc hs
    rw [hp] at this
    simpa using this
  · cases hw : s.waiters with
    | zero => rfl
    | succ n =>
      have := hQ .waiterReturn rfl
      simp [State.step, hdone, hw] at this
  · intro ha
    have := hQ (.closeCall true) rfl
    simp [State.step, ha, hc] at this
  · -- a BUNDLE clean-up in progress always has its next step enabled: the transport is unreferenced and was never started
    intro k t ht
    obtain ⟨n1, n2, n3, n4, n5, n6⟩ := hI.wfN k t ht
    rcases Nat.eq_zero_or_pos t.nstop with h0 | h0
    · exact Or.inl h0
    · right
      rcases Nat.lt_or_ge t.nstop 4 with h4 | h4
      · exfalso
        have hg : guaranteed s (.tpt k .nstep) = true := by simp [guaranteed, ht]; omega
        have := hQ (.tpt k .nstep) hg
        have hr := hI.unref k t ht h0
        have hu := n5 h0
        have h123 : t.nstop = 1 ∨ t.nstop = 2 ∨ t.nstop = 3 := by omega
        rcases h123 with h | h | h <;> simp [State.step, ht, hr, tptStep, hu, h] at this
      · omega

end Aiortc.Lemmas.Close
