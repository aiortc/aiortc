import Aiortc.Lemmas.C19.CloseInv
/-! C19: every step of the task system preserves the invariant `Inv`. -/
namespace Aiortc.Lemmas.Close
open Aiortc.Model.Close

theorem free_lt {s : State} {k : Nat} (h : s.free k = true) : k < s.tpts.length := by
  unfold State.free at h
  rcases Nat.lt_or_ge k s.tpts.length with h' | h'
  · exact h'
  · rw [List.getElem?_eq_none h'] at h; simp at h

theorem inv_autoTrigger {s : State} (hI : Inv s) : Inv s.autoTrigger := by
  unfold State.autoTrigger
  split
  · exact { hI with }
  · exact hI

theorem mem_program_rcv {s : State} {i : Nat} (h : i < s.trxs.length) :
    Instr.stopRcv i ∈ s.program ∧ Instr.stopSnd i ∈ s.program := by
  simp only [State.program, List.mem_append, List.mem_flatMap, List.mem_range]
  exact ⟨Or.inl (Or.inl (Or.inl ⟨i, h, by simp⟩)), Or.inl (Or.inl (Or.inl ⟨i, h, by simp⟩))⟩

theorem refd_iff {s : State} {k : Nat} :
    s.refd k = true ↔ (∃ t ∈ s.trxs, t.tpt = k) ∨ ∃ sc, s.sctp = some sc ∧ sc.tpt = k := by
  cases hs : s.sctp <;> simp [State.refd, hs]

theorem mem_program_tpt {s : State} {k : Nat} (h : s.refd k = true) :
    Instr.stopDtls k ∈ s.program ∧ Instr.stopIce k ∈ s.program := by
  simp only [State.program, List.mem_append, List.mem_flatMap]
  rcases refd_iff.mp h with ⟨t, ht, rfl⟩ | ⟨sc, hs, rfl⟩
  · exact ⟨Or.inl (Or.inr ⟨t, ht, by simp⟩), Or.inl (Or.inr ⟨t, ht, by simp⟩)⟩
  · rw [hs]
    exact ⟨Or.inr (by simp), Or.inr (by simp)⟩

theorem mem_program_sctp {s : State} {sc : Sctp} (h : s.sctp = some sc) : Instr.stopSctp ∈ s.program := by
  simp [State.program, h]

theorem program_valid {s : State} (hI : Inv s) : ∀ ins ∈ s.program, Instr.valid s ins := by
  intro ins hin
  simp only [State.program, List.mem_append, List.mem_flatMap, List.mem_range] at hin
  rcases hin with ((⟨i, hi, hm⟩ | hm) | ⟨t, ht, hm⟩) | hm
  · simp at hm; rcases hm with rfl | rfl <;> exact hi
  · cases hs : s.sctp <;> simp [hs] at hm
    subst hm; simp [Instr.valid, hs]
  · obtain ⟨j, hj, hjt⟩ := List.getElem_of_mem ht
    have := hI.tptOk.1 j t (by rw [List.getElem?_eq_getElem hj, hjt])
    simp at hm; rcases hm with rfl | rfl <;> exact this
  · cases hs : s.sctp with
    | none => simp [hs] at hm
    | some sc =>
      have := hI.tptOk.2 sc hs
      simp [hs] at hm; rcases hm with rfl | rfl <;> exact this

/-- the primary `close()` call: latch, cancel every `__connect` task, lay out the teardown program -/
theorem inv_latch {s : State} (hI : Inv s) (hc : s.closed = false) (a : APc) :
    Inv { s with closed := true, sigClosed := true, conns := s.conns.map Conn.cancel, prog := s.program, auto := a } :=
  { hI with
    conns := fun _ c hcm => by
      obtain ⟨c0, _, rfl⟩ := List.mem_map.mp hcm
      unfold Conn.cancel
      split
      · rename_i hd; exact Or.inr hd
      · exact Or.inl rfl
    opn := nofun
    dne := fun h => by simp [(hI.opn hc).2.1] at h
    sig := fun _ => rfl
    valid := fun ins hin => by
      have := program_valid hI ins hin
      cases ins <;> simpa [Instr.valid] using this
    coverT := fun _ i t ht =>
      have hlt := (List.getElem?_eq_some_iff.mp ht).1
      ⟨Or.inl (mem_program_rcv hlt).1, Or.inl (mem_program_rcv hlt).2⟩
    coverK := fun _ k t ht => by
      have hr := hI.refs hc k t ht
      constructor
      · by_cases hp : t.pump = .live
        · exact Or.inl (mem_program_tpt (hr (by simp [Tpt.unstarted, hp]))).1
        · exact Or.inr (Or.inl hp)
      · cases hq : t.monQuiet with
        | true => exact Or.inr rfl
        | false =>
          have : t.unstarted = false := by
            simp only [Tpt.monQuiet, Bool.or_eq_false_iff, decide_eq_false_iff_not] at hq
            simp [Tpt.unstarted, hq.1]
          exact Or.inl (mem_program_tpt (hr this)).2
    coverS := fun _ sc hs => Or.inl (mem_program_sctp hs)
    refs := nofun
    coverI := fun _ k t ht hr => Or.inl (mem_program_tpt hr).2 }

theorem inv_closeCall {s s' : State} {b : Bool} (hI : Inv s) (h : s.step (.closeCall b) = some s') : Inv s' := by
  simp only [State.step] at h
  split at h
  · cases h
  cases b <;> simp only [Bool.false_eq_true, if_false, if_true] at h <;> split at h <;> cases h <;> rename_i hc
  · exact { hI with opn := fun h => by simp [hc] at h }
  · exact inv_latch hI (by simpa using hc) s.auto
  · exact { hI with opn := fun h => by simp [hc] at h }
  · exact inv_latch hI (by simpa using hc) .ran

theorem done_set {t : Trx} {w : Which} {r : Run} (hq : (t.get w).quiet = true → r.quiet = true) :
    (rcvDone t → rcvDone (t.set w r)) ∧ (t.sndQuiet = true → (t.set w r).sndQuiet = true) := by
  cases w <;> simp only [Trx.get] at hq <;> simp only [Trx.set, rcvDone, Trx.sndQuiet, Bool.and_eq_true]
  · exact ⟨id, fun h => ⟨hq h.1, h.2⟩⟩
  · exact ⟨id, fun h => ⟨h.1, hq h.2⟩⟩
  · exact ⟨fun h => ⟨hq h.1, h.2⟩, id⟩

theorem trxStep_done {t t' : Trx} {a : TrxAct} (h : trxStep false t a = some t') (ha : a ≠ .mkTrack) :
    (rcvDone t → rcvDone t') ∧ (t.sndQuiet = true → t'.sndQuiet = true) := by
  cases a <;> simp only [trxStep, Option.map_eq_some_iff, Option.ite_none_right_eq_some, Option.some.injEq] at h
  case first w => obtain ⟨r, hr, rfl⟩ := h; exact done_set fun hq => (doomed_of_first hr (by simp [Run.doomed, hq])).elim
  case exit w => obtain ⟨r, hr, rfl⟩ := h; exact done_set fun _ => (doomed_exit hr).2
  case cancel w => obtain ⟨-, rfl⟩ := h; exact done_set fun hq => (Run.cancel_quiet _).trans hq
  case decoderStop => obtain ⟨hd, rfl⟩ := h; exact ⟨fun hq => absurd hd hq.2.1, id⟩
  case assign k => obtain ⟨-, rfl⟩ := h; exact ⟨id, id⟩
  case mkTrack => exact absurd rfl ha
  all_goals simp at h
theorem trxStep_tpt {live : Bool} {t t' : Trx} {a : TrxAct} (h : trxStep live t a = some t') (ha : ∀ k, a ≠ .assign k) :
    t'.tpt = t.tpt := by
  cases a <;> simp only [trxStep, Option.map_eq_some_iff] at h
  case first w | exit w | cancel w => cases w <;> grind [Trx.set]
  all_goals grind

theorem zero_of_open {s : State} (hI : Inv s) {i : Nat} {t : Trx} (ht : s.trxs[i]? = some t) (hc : s.closed = false) :
    t.rcvStop = 0 ∧ t.sndStop = 0 := (hI.opn hc).2.2.2.1 i t ht

theorem zero_of_openK {s : State} (hI : Inv s) {k : Nat} {t : Tpt} (ht : s.tpts[k]? = some t) (hc : s.closed = false) :
    t.dtlsStop = 0 ∧ t.iceStop = 0 := (hI.opn hc).2.2.2.2.1 k t ht

theorem inv_trx_local {s : State} {i : Nat} {t t' : Trx} {a : TrxAct} (hI : Inv s) (ht : s.trxs[i]? = some t)
    (h : trxStep s.liveConn t a = some t') (ha : ∀ k, a ≠ .assign k) (hm : a = .mkTrack → s.closed = false) :
    Inv (s.setTrx i t') := by
  have hstops := trxStep_stops h
  have hd : s.closed = true → (rcvDone t → rcvDone t') ∧ (t.sndQuiet = true → t'.sndQuiet = true) := fun hc => by
    rw [liveConn_false hI.conns hc] at h
    exact trxStep_done h fun hmk => by rw [hm hmk] at hc; cases hc
  exact inv_setTrx hI ht (trxStep_wf (hI.wfT i t ht) h fun hz => zero_of_open hI ht (hz.elim (live_open hI) hm))
    (fun hc => by rw [hstops.1, hstops.2]; exact zero_of_open hI ht hc) (trxStep_tpt h ha) (fun hc => (hd hc).1)
    (fun hc => (hd hc).2)

theorem refd_mono_set {s : State} {i : Nat} {t : Trx} {k j : Nat} (ht : s.trxs[i]? = some t) (hj : t.tpt ≠ j)
    (h : s.refd j = true) : (s.setTrx i { t with tpt := k }).refd j = true := by
  rw [refd_iff] at h ⊢
  refine h.imp ?_ id
  rintro ⟨x, hx, hxk⟩
  obtain ⟨n, hn, hnx⟩ := List.getElem_of_mem hx
  by_cases hin : i = n
  · subst hin
    have : s.trxs[i]? = some x := by rw [List.getElem?_eq_getElem hn, hnx]
    cases ht.symm.trans this
    exact absurd hxk hj
  · exact ⟨x, List.mem_iff_getElem?.mpr ⟨n, by simp [State.setTrx, hin, hn, hnx]⟩, hxk⟩

theorem refd_setTrx_le {s : State} {i : Nat} {t' : Trx} {j : Nat} (h : (s.setTrx i t').refd j = true) :
    s.refd j = true ∨ t'.tpt = j := by
  rw [refd_iff] at h ⊢
  rcases h with ⟨x, hx, hxk⟩ | h
  · rcases List.mem_or_eq_of_mem_set hx with h1 | h1
    · exact Or.inl (Or.inl ⟨x, h1, hxk⟩)
    · exact Or.inr (h1 ▸ hxk)
  · exact Or.inl (Or.inr h)

theorem free_nstop {s : State} {k : Nat} {t : Tpt} (h : s.free k = true) (ht : s.tpts[k]? = some t) : t.nstop = 0 := by
  unfold State.free at h; rw [ht] at h; simpa using h

theorem inv_tpt {s s' : State} {k : Nat} {a : TptAct} (hI : Inv s) (h : s.step (.tpt k a) = some s') : Inv s' := by
  obtain ⟨t, ht, ⟨t', ht', rfl⟩, hnr, hr⟩ := step_tpt h
  have hz := fun hl => zero_of_openK hI ht (live_open hI hl)
  have hlive := fun hc => liveConn_false hI.conns hc
  obtain ⟨hstops, hnstop, hwf, hpump, hmon, hun, hn, hice, hin⟩ := tptStep_spec ht'
  have hfree : a = .iceStart ∨ a = .dtlsStart → t.nstop = 0 := fun hs => by
    rcases Nat.eq_zero_or_pos t.nstop with h0 | h0
    · exact h0
    · have := hI.unref k t ht h0; rw [hr hs] at this; cases this
  have hN := hI.wfN k t ht
  have hns : t'.nstop = t.nstop ∨ (1 ≤ t'.nstop → s.refd k = false) := by
    split at hnstop
    · exact .inr fun _ => hnr ‹_›
    · exact .inl hnstop.1
  have key : ∀ ts', (ts' = s.tset ∧ t'.inSet = t.inSet ∨ ts' = s.tset.erase k ∧ t'.inSet = false) →
      Inv { s.setTpt k t' with tset := ts' } := fun ts' hts =>
    inv_setTpt' ts' hI ht (hwf (hI.wfK k t ht) hz)
      (fun hc => by rw [hstops.1, hstops.2]; exact zero_of_openK hI ht hc)
      (fun hc => hpump (hlive hc)) (fun hc => hmon (hlive hc))
      (fun _ hu => (hun hu).imp id hr) (hn hN hfree fun hl => (hz hl).2)
      hns (hice hN fun hl => (hz hl).2) hts
  cases a with
  | nstep =>
    simp only [tptLand, State.syncSet]
    split
    · rename_i hi
      rcases hin with h1 | h1
      · exact key s.tset (Or.inl ⟨rfl, h1⟩)
      · rw [h1.2.1] at hi; cases hi
    · rename_i hi
      exact key (s.tset.erase k) (Or.inr ⟨rfl, by simpa using hi⟩)
  | pumpExit => exact inv_autoTrigger (key s.tset (Or.inl ⟨rfl, hin.resolve_right (fun h => by cases h.1)⟩))
  | _ => exact key s.tset (Or.inl ⟨rfl, hin.resolve_right (fun h => by cases h.1)⟩)
theorem refd_mono {s s' : State} {k : Nat} (h : s.refd k = true)
    (ht : ∀ x ∈ s.trxs, x ∈ s'.trxs) (hs : ∀ sc, s.sctp = some sc → ∃ sc', s'.sctp = some sc' ∧ sc'.tpt = sc.tpt) :
    s'.refd k = true := by
  rw [refd_iff] at h ⊢
  rcases h with ⟨x, hx, hxk⟩ | ⟨sc, hsc, hk⟩
  · exact Or.inl ⟨x, ht x hx, hxk⟩
  · obtain ⟨sc', h', hk'⟩ := hs sc hsc
    exact Or.inr ⟨sc', h', hk'.trans hk⟩

/-- what `Inv` says of a connection that is not closed: no close program, no `stop()` under way, every started transport
carries an m-section -/
structure OpenInv (s : State) : Prop where
  prog : s.prog = []
  done : s.closeDone = false
  waiters : s.waiters = 0
  trx : ∀ (i : Nat) (t : Trx), s.trxs[i]? = some t → WfTrx t ∧ t.rcvStop = 0 ∧ t.sndStop = 0 ∧ t.tpt < s.tpts.length
  tpt : ∀ (k : Nat) (t : Tpt), s.tpts[k]? = some t → WfTpt t ∧ t.dtlsStop = 0 ∧ t.iceStop = 0
      ∧ (t.unstarted = false → s.refd k = true)
  sctp : ∀ (sc : Sctp), s.sctp = some sc → sc.stop = 0 ∧ sc.tpt < s.tpts.length
  unref : ∀ (k : Nat) (t : Tpt), s.tpts[k]? = some t → WfN t ∧ (1 ≤ t.nstop → s.refd k = false)
  tsetOk : ∀ (k : Nat), k ∈ s.tset ↔ ∃ t, s.tpts[k]? = some t ∧ t.inSet = true
  tsetNodup : s.tset.Nodup

theorem inv_open_iff {s : State} (hc : s.closed = false) : Inv s ↔ OpenInv s := by
  have no {P : Prop} (h : s.closed = true) : P := by rw [hc] at h; cases h
  constructor
  · intro hI
    obtain ⟨o1, o2, o3, o4, o5, o6⟩ := hI.opn hc
    exact ⟨o1, o2, o3, fun i t h => ⟨hI.wfT i t h, (o4 i t h).1, (o4 i t h).2, hI.tptOk.1 i t h⟩,
      fun k t h => ⟨hI.wfK k t h, (o5 k t h).1, (o5 k t h).2, hI.refs hc k t h⟩,
      fun sc h => ⟨o6 sc h, hI.tptOk.2 sc h⟩, fun k t h => ⟨hI.wfN k t h, hI.unref k t h⟩, hI.tsetOk, hI.tsetNodup⟩
  · rintro ⟨hprog, hdone, hw, hT, hK, hS, hN, hts, hnd⟩
    exact {
      wfT := fun i t h => (hT i t h).1
      wfK := fun k t h => (hK k t h).1
      conns := no
      opn := fun _ => ⟨hprog, hdone, hw, fun i t h => ⟨(hT i t h).2.1, (hT i t h).2.2.1⟩,
        fun k t h => ⟨(hK k t h).2.1, (hK k t h).2.2.1⟩, fun sc h => (hS sc h).1⟩
      dne := fun h => by rw [hdone] at h; cases h
      sig := no
      valid := fun ins hin => by rw [hprog] at hin; cases hin
      tptOk := ⟨fun i t h => (hT i t h).2.2.2, fun sc h => (hS sc h).2⟩
      coverT := no
      coverK := no
      coverS := no
      refs := fun _ k t h => (hK k t h).2.2.2
      wfN := fun k t h => (hN k t h).1
      unref := fun k t h => (hN k t h).2
      tsetOk := hts
      tsetNodup := hnd
      coverI := no }

theorem refd_setSctp_le {s : State} {sc' : Sctp} {j : Nat} (h : State.refd { s with sctp := some sc' } j = true) :
    s.refd j = true ∨ j = sc'.tpt := by
  rw [refd_iff] at h ⊢
  rcases h with h | ⟨_, hs, hk⟩
  · exact Or.inl (Or.inl h)
  · cases hs
    exact Or.inr hk.symm

theorem unref_grow {s s' : State} (hI : Inv s) {k : Nat} (hk : s.free k = true) (htp : s'.tpts = s.tpts)
    (hle : ∀ j, s'.refd j = true → s.refd j = true ∨ j = k) :
    ∀ (j : Nat) (t : Tpt), s'.tpts[j]? = some t → WfN t ∧ (1 ≤ t.nstop → s'.refd j = false) := by
  intro j t hj
  rw [htp] at hj
  refine ⟨hI.wfN j t hj, fun hn => ?_⟩
  cases hr : s'.refd j with
  | false => rfl
  | true =>
    rcases hle j hr with h1 | h1
    · have := hI.unref j t hj hn; rw [h1] at this; simp at this
    · subst h1; have := free_nstop hk hj; omega

/-- BUNDLE moves a transceiver off a transport that was never started, onto a free one -/
theorem inv_trx_assign {s : State} {i k : Nat} {t : Trx} {old : Tpt} (hI : Inv s) (ht : s.trxs[i]? = some t)
    (hc : s.closed = false) (hk : s.free k = true) (hold : s.tpts[t.tpt]? = some old) (hun : old.unstarted = true) :
    Inv (s.setTrx i { t with tpt := k }) := by
  have hO := (inv_open_iff hc).mp hI
  obtain ⟨w, z1, z2, -⟩ := hO.trx i t ht
  -- `hc` speaks of `s`, the goal of the new state, whose `closed` is `s.closed` by definition
  refine (inv_open_iff (by exact hc)).mpr { hO with
    trx := List.forall_set hO.trx ⟨by simpa [WfTrx] using w, z1, z2, free_lt hk⟩
    tpt := ?_
    unref := unref_grow hI hk rfl fun j hj => (refd_setTrx_le hj).imp id Eq.symm }
  intro j tj hj
  obtain ⟨a, b, c, d⟩ := hO.tpt j tj hj
  refine ⟨a, b, c, fun hu => ?_⟩
  by_cases hjo : t.tpt = j
  · subst hjo
    cases hold.symm.trans hj
    rw [hun] at hu; cases hu
  · exact refd_mono_set ht hjo (d hu)

theorem inv_trx {s s' : State} {i : Nat} {a : TrxAct} (hI : Inv s) (h : s.step (.trx i a) = some s') : Inv s' := by
  obtain ⟨t, ht, ⟨t', ht', rfl⟩, hmk, has⟩ := step_trx h
  cases a with
  | assign k =>
    obtain ⟨hc, hk, old, hold, hun⟩ := has k rfl
    simp only [trxStep] at ht'
    split at ht' <;> cases ht'
    exact inv_trx_assign hI ht hc hk hold hun
  | _ => exact inv_trx_local hI ht ht' nofun hmk

theorem inv_addTpt {s s' : State} (hI : Inv s) (h : s.step .addTpt = some s') : Inv s' := by
  simp only [State.step] at h
  obtain ⟨hc, ⟨⟩⟩ := Option.ite_none_left_eq_some.mp h
  simp only [Bool.not_eq_true] at hc
  have hO := (inv_open_iff hc).mp hI
  have hlt : ∀ j, j ∈ s.tset → j < s.tpts.length := fun j hj =>
    let ⟨_, ht, _⟩ := (hI.tsetOk j).mp hj; (List.getElem?_eq_some_iff.mp ht).1
  refine (inv_open_iff (by exact hc)).mpr { hO with trx := ?_, tpt := ?_, sctp := ?_, unref := ?_, tsetOk := ?_, tsetNodup := ?_ }
  · intro i t ht
    obtain ⟨a, b, c, d⟩ := hO.trx i t ht
    exact ⟨a, b, c, by simp; omega⟩
  · refine List.forall_append ?_ ⟨wfTpt_init, rfl, rfl, by simp [Tpt.unstarted]⟩
    intro k t hk
    obtain ⟨a, b, c, d⟩ := hO.tpt k t hk
    exact ⟨a, b, c, fun hu => by simpa [State.refd] using d hu⟩
  · intro sc hs
    obtain ⟨a, b⟩ := hO.sctp sc hs
    exact ⟨a, by simp; omega⟩
  · refine List.forall_append ?_ ⟨wfN_init, fun hn => by simp at hn⟩
    intro k t hk
    exact ⟨hI.wfN k t hk, fun hn => by simpa [State.refd] using hI.unref k t hk hn⟩
  · intro j
    rw [List.mem_append, hI.tsetOk j, List.exists_append_iff]
    simp
  · rw [List.nodup_append]
    refine ⟨hI.tsetNodup, by simp, ?_⟩
    intro a ha b hb
    simp at hb; subst hb
    have := hlt a ha; omega

theorem inv_addTrx {s s' : State} {k : Nat} (hI : Inv s) (h : s.step (.addTrx k) = some s') : Inv s' := by
  simp only [State.step] at h
  obtain ⟨hg, ⟨⟩⟩ := Option.ite_none_right_eq_some.mp h
  simp only [Bool.and_eq_true, Bool.not_eq_true'] at hg
  obtain ⟨hc, hk⟩ := hg
  have hO := (inv_open_iff hc).mp hI
  refine (inv_open_iff (by exact hc)).mpr { hO with
    trx := List.forall_append hO.trx ⟨wfTrx_init k, rfl, rfl, free_lt hk⟩, tpt := ?_, unref := ?_ }
  · intro j t hj
    obtain ⟨a, b, c, d⟩ := hO.tpt j t hj
    exact ⟨a, b, c, fun hu => refd_mono (d hu) (fun x hx => List.mem_append_left _ hx) fun sc hs => ⟨sc, hs, rfl⟩⟩
  · refine unref_grow hI hk rfl fun j hj => ?_
    rw [refd_iff] at hj ⊢
    rcases hj with ⟨x, hx, hxk⟩ | hj
    · rcases List.mem_append.mp hx with hx | hx
      · exact Or.inl (Or.inl ⟨x, hx, hxk⟩)
      · cases List.mem_singleton.mp hx
        exact Or.inr hxk.symm
    · exact Or.inl (Or.inr hj)

theorem inv_addSctp {s s' : State} {k : Nat} (hI : Inv s) (h : s.step (.addSctp k) = some s') : Inv s' := by
  simp only [State.step] at h
  obtain ⟨hg, ⟨⟩⟩ := Option.ite_none_right_eq_some.mp h
  simp only [Bool.and_eq_true, Bool.not_eq_true', Option.isNone_iff_eq_none] at hg
  obtain ⟨⟨hc, hn⟩, hk⟩ := hg
  have hO := (inv_open_iff hc).mp hI
  refine (inv_open_iff (by exact hc)).mpr { hO with
    tpt := ?_, sctp := ?_, unref := unref_grow hI hk rfl fun j hj => refd_setSctp_le hj }
  · intro j t hj
    obtain ⟨a, b, c, d⟩ := hO.tpt j t hj
    exact ⟨a, b, c, fun hu => refd_mono (d hu) (fun x hx => hx) fun sc hs => by rw [hn] at hs; cases hs⟩
  · intro sc hs; cases hs; exact ⟨rfl, free_lt hk⟩

theorem inv_assignSctp {s s' : State} {k : Nat} (hI : Inv s) (h : s.step (.assignSctp k) = some s') : Inv s' := by
  simp only [State.step] at h
  split at h
  · rename_i sc hs
    split at h
    · rename_i old hold
      split at h
      · rename_i hg
        simp only [Bool.and_eq_true, Bool.not_eq_true'] at hg
        obtain ⟨⟨⟨hc, hst⟩, hk⟩, hun⟩ := hg
        injection h with h; subst h
        have hO := (inv_open_iff hc).mp hI
        refine (inv_open_iff (by exact hc)).mpr { hO with
          tpt := ?_, sctp := ?_, unref := unref_grow hI hk rfl fun j hj => refd_setSctp_le hj }
        · intro j t hj
          obtain ⟨a, b, c, d⟩ := hO.tpt j t hj
          refine ⟨a, b, c, fun hu => ?_⟩
          rw [refd_iff]
          rcases refd_iff.mp (d hu) with hr | ⟨_, hs', rfl⟩
          · exact Or.inl hr
          · cases hs.symm.trans hs'
            cases hold.symm.trans hj
            rw [hun] at hu; cases hu
        · intro sc' hs'; simp at hs'; subst hs'
          exact ⟨(hO.sctp sc hs).1, free_lt hk⟩
      · simp at h
    · simp at h
  · simp at h

theorem inv_sctp_open {s : State} {sc sc' : Sctp} (hI : Inv s) (hs : s.sctp = some sc) (hk : sc'.tpt = sc.tpt)
    (hst : sc'.stop = sc.stop) (hcl : sc.closed = false) : Inv { s with sctp := some sc' } :=
  inv_setSctp hI hs hk (fun hc => hst ▸ (hI.opn hc).2.2.2.2.2 sc hs) (fun hd => by rw [hd.1] at hcl; cases hcl)

theorem inv_step {s s' : State} {a : Action} (hI : Inv s) (h : s.step a = some s') : Inv s' := by
  cases a with
  | closeCall b => exact inv_closeCall hI h
  | addTpt => exact inv_addTpt hI h
  | addTrx k => exact inv_addTrx hI h
  | addSctp k => exact inv_addSctp hI h
  | assignSctp k => exact inv_assignSctp hI h
  | trx i a => exact inv_trx hI h
  | tpt k a => exact inv_tpt hI h
  | close l => exact inv_closeNext hI (step_close.mp h)
  | negBegin =>
    simp only [State.step] at h
    obtain ⟨-, ⟨⟩⟩ := Option.ite_none_left_eq_some.mp h
    exact { hI with }
  | negSpawn =>
    simp only [State.step] at h
    obtain ⟨hg, ⟨⟩⟩ := Option.ite_none_right_eq_some.mp h
    simp only [Bool.and_eq_true, Bool.not_eq_true'] at hg
    exact { hI with conns := fun hc => by rw [hg.1] at hc; cases hc }
  | negEnd =>
    simp only [State.step] at h
    obtain ⟨-, ⟨⟩⟩ := Option.ite_none_right_eq_some.mp h
    exact { hI with }
  | waiterReturn =>
    simp only [State.step] at h
    obtain ⟨hg, ⟨⟩⟩ := Option.ite_none_right_eq_some.mp h
    simp only [Bool.and_eq_true] at hg
    exact { hI with opn := fun hc => by have := (hI.dne hg.1).1; rw [hc] at this; cases this }
  | emit | obsAutoSpawn =>
    simp only [State.step] at h
    obtain ⟨-, ⟨⟩⟩ := Option.ite_none_right_eq_some.mp h
    exact hI
  | obsCancelConn c =>
    simp only [State.step] at h
    cases hcn : s.conns[c]? <;> simp only [hcn] at h
    · cases h
    · obtain ⟨-, ⟨⟩⟩ := Option.ite_none_right_eq_some.mp h
      exact hI
  | connFirst c =>
    simp only [State.step] at h
    cases hcn : s.conns[c]? <;> simp only [hcn] at h
    · cases h
    · rename_i cn
      obtain ⟨hg, ⟨⟩⟩ := Option.ite_none_right_eq_some.mp h
      refine { hI with conns := fun hc => ?_ }
      rcases hI.conns hc cn (List.mem_of_getElem? hcn) with h1 | h1 <;> simp [h1] at hg
  | connExit c =>
    simp only [State.step] at h
    cases hcn : s.conns[c]? <;> simp only [hcn] at h
    · cases h
    · obtain ⟨-, ⟨⟩⟩ := Option.ite_none_right_eq_some.mp h
      refine { hI with conns := fun hc x hx => ?_ }
      rcases List.mem_or_eq_of_mem_set hx with h1 | h1
      · exact hI.conns hc x h1
      · subst h1; exact Or.inr rfl
  | chanNew =>
    simp only [State.step] at h
    cases hs : s.sctp <;> simp only [hs] at h
    · cases h
    · obtain ⟨hg, ⟨⟩⟩ := Option.ite_none_right_eq_some.mp h
      exact inv_sctp_open hI hs rfl rfl (by simpa using hg)
  | sctpStart =>
    simp only [State.step] at h
    cases hs : s.sctp <;> simp only [hs] at h
    · cases h
    · obtain ⟨hg, ⟨⟩⟩ := Option.ite_none_right_eq_some.mp h
      simp only [Bool.and_eq_true, Bool.not_eq_true'] at hg
      exact inv_sctp_open hI hs rfl rfl hg.2
  | chanEv j c =>
    simp only [State.step] at h
    cases hs : s.sctp <;> simp only [hs] at h
    · cases h
    · rename_i sc
      cases hc0 : sc.chans[j]? <;> simp only [hc0] at h
      · cases h
      · obtain ⟨hg, ⟨⟩⟩ := Option.ite_none_right_eq_some.mp h
        simp only [Bool.and_eq_true, Bool.not_eq_true'] at hg
        exact inv_sctp_open hI hs rfl rfl hg.1
end Aiortc.Lemmas.Close
