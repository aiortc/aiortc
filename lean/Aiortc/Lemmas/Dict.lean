import Aiortc.Model.Router
import Aiortc.Lemmas.InsertNew
/-! Lemmas about the insertion-ordered dict `dget` / `dset` of `Model/Router.lean` (any key and value type).
`Model/Stats.lean` (`lookup` / `assign`), `Model/Rate.lean` and `Model/Sdp/Attr.lean` (`dictSet`) carry copies;
`Model/Sctp/Outbound.lean` has its own `dictGet` / `dictSet` with lemmas in `Lemmas/SctpDict.lean` (not an instance: see there);
the lemma files of those areas state the equality (`lookup_eq_dget`, `assign_eq_dset`, `dictSet_eq_dset`) and use the lemmas here. -/
namespace Aiortc.Model.Router

def dvals {κ β} (d : List (κ × β)) : List β := d.map Prod.snd
def dkeys {κ β} (d : List (κ × β)) : List κ := d.map Prod.fst

section dict
variable {κ β : Type} [DecidableEq κ]

@[simp] theorem dget_nil (k : κ) : dget k ([] : List (κ × β)) = none := rfl

theorem dget_dset (k k' : κ) (v : β) (d : List (κ × β)) :
    dget k' (dset k v d) = if k' = k then some v else dget k' d := by
  induction d with
  | nil => simp [dset, dget, eq_comm]
  | cons e t ih =>
    obtain ⟨a, b⟩ := e
    by_cases h : a = k
    · subst h; by_cases h' : k' = a
      · subst h'; simp [dset, dget]
      · have : ¬ a = k' := fun e => h' e.symm
        simp [dset, dget, h', this]
    · by_cases h' : a = k'
      · subst h'; simp [dset, dget, h]
      · simp [dset, dget, h, h', ih]

theorem mem_of_dget {k : κ} {v : β} {d : List (κ × β)} (h : dget k d = some v) : (k, v) ∈ d := by
  induction d with
  | nil => cases h
  | cons e t ih =>
    obtain ⟨a, b⟩ := e
    unfold dget at h
    split at h
    · rename_i ha
      cases h; subst ha
      exact List.mem_cons_self
    · exact List.mem_cons_of_mem _ (ih h)

theorem dget_mem_dvals {k : κ} {v : β} {d : List (κ × β)} (h : dget k d = some v) : v ∈ dvals d :=
  List.mem_map_of_mem (f := Prod.snd) (mem_of_dget h)

theorem mem_dkeys_of_dget {k : κ} {v : β} {d : List (κ × β)} (h : dget k d = some v) : k ∈ dkeys d :=
  List.mem_map_of_mem (f := Prod.fst) (mem_of_dget h)

theorem dget_none_of_not_key {k : κ} {d : List (κ × β)} (h : k ∉ dkeys d) : dget k d = none := by
  cases hg : dget k d with
  | none => rfl
  | some v => exact absurd (mem_dkeys_of_dget hg) h

theorem mem_dset {k : κ} {v : β} {x : κ × β} {d : List (κ × β)} (h : x ∈ dset k v d) : x = (k, v) ∨ x ∈ d := by
  induction d with
  | nil => exact Or.inl (List.mem_singleton.1 h)
  | cons e t ih =>
    obtain ⟨a, b⟩ := e
    unfold dset at h
    split at h
    · exact (List.mem_cons.1 h).imp id (List.mem_cons_of_mem _)
    · rcases List.mem_cons.1 h with h | h
      · exact Or.inr (h ▸ List.mem_cons_self)
      · exact (ih h).imp id (List.mem_cons_of_mem _)

theorem mem_dvals_dset {k : κ} {v x : β} {d : List (κ × β)} (h : x ∈ dvals (dset k v d)) :
    x = v ∨ x ∈ dvals d := by
  obtain ⟨e, he, rfl⟩ := List.mem_map.1 h
  rcases mem_dset he with rfl | he
  · exact Or.inl rfl
  · exact Or.inr (List.mem_map_of_mem he)

theorem length_dset_le (k : κ) (v : β) (d : List (κ × β)) : (dset k v d).length ≤ d.length + 1 := by
  induction d with
  | nil => exact Nat.le_refl _
  | cons e t ih =>
    obtain ⟨a, b⟩ := e
    unfold dset
    split <;> simp only [List.length_cons] <;> omega

theorem dkeys_dset (k : κ) (v : β) (d : List (κ × β)) :
    dkeys (dset k v d) = if k ∈ dkeys d then dkeys d else dkeys d ++ [k] := by
  induction d with
  | nil => simp [dset, dkeys]
  | cons e t ih =>
    obtain ⟨a, b⟩ := e
    by_cases ha : a = k
    · subst ha; simp [dset, dkeys]
    · have hk : ¬ k = a := fun e => ha e.symm
      simp only [dset, ha, if_false, dkeys, List.map_cons, List.mem_cons, hk, false_or] at ih ⊢
      rw [ih]; by_cases hm : k ∈ List.map Prod.fst t <;> simp [hm]

theorem nodup_dkeys_dset (k : κ) (v : β) {d : List (κ × β)} (h : (dkeys d).Nodup) :
    (dkeys (dset k v d)).Nodup := by
  rw [dkeys_dset]; exact nodup_insertNew h

end dict

end Aiortc.Model.Router
