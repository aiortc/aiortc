import Aiortc.Lemmas.C17.JitterDefs
import Aiortc.Lemmas.C10.JitterSmart
import Aiortc.Lemmas.C10.JitterFrame
/-!
# Jitter buffer `remove` / `smart_remove` under the shifts

Under the shape `JBOk` no slot access fails, so the loops are
the pure functions of `Lemmas/C10/JitterRemove.lean`, `JitterSmart.lean` (`adv1`, `smartLoop_succ`); seen from the origin the
rotation of the array is invisible (`winAt_shift`, `adv1_shift`).  Each operation is proved as a `Sim`.
-/
namespace Aiortc.C17
open Aiortc Aiortc.Gen Aiortc.Model.Jitter Aiortc.Props.C17 Aiortc.Lemmas.Jitter

theorem winAt_shift (k m : Int) (jb : JB) (h : JBOk jb) (o : Int) (i : Nat) :
    winAt (shiftJB k m jb) (σ16 k o) i = (winAt jb o i).map (shiftP k m) := by
  have hmod : (σ16 k o + (i : Int)) % (jb.capacity : Int) = (o + (i : Int) + k) % (jb.capacity : Int) := by
    rw [← Int.emod_add_emod, σ16_mod k o _ h.dvd, Int.emod_add_emod, Int.add_right_comm]
  have hp := pos_lt jb h.pos (o + (i : Int))
  have e : pos (shiftJB k m jb) (σ16 k o + (i : Int)) = rot k jb.capacity (pos jb (o + (i : Int))) :=
    slot_rot k _ _ jb.capacity (Nat.ne_of_gt h.pos) hmod
  unfold winAt
  rw [e, show (shiftJB k m jb).packets = rotPackets k m jb.capacity jb.packets from rfl,
    rotPackets_get k m _ _ _ (rot_lt k _ _ h.pos), unrot_rot k _ _ h.pos hp,
    List.getElem?_eq_getElem (by rw [h.len]; exact hp)]
  rfl

theorem winAt_ts (jb : JB) (h : JBOk jb) (o : Int) (i : Nat) (p : Packet) (hw : winAt jb o i = some p) : R32 p.ts := by
  unfold winAt at hw
  cases hg : jb.packets[pos jb (o + (i : Int))]? with
  | none => rw [hg] at hw; cases hw
  | some v => rw [hg] at hw; cases hw; exact h.ts p (List.mem_of_getElem? hg)

theorem adv1_shift (k m : Int) (jb : JB) (h : JBOk jb) (o : Int) :
    adv1 (shiftJB k m jb) (σ16 k o) = shiftJB k m (adv1 jb o) := by
  have hp := pos_lt jb h.pos o
  have e : pos (shiftJB k m jb) (σ16 k o) = rot k jb.capacity (pos jb o) :=
    slot_rot k o (σ16 k o) jb.capacity (Nat.ne_of_gt h.pos) (σ16_mod k o _ h.dvd)
  have hset := setSlot_shift k m jb h (pos jb o) hp none
  rw [setSlot_ok jb _ _ (by rw [h.len]; exact hp),
    setSlot_ok _ _ _ (by rw [show (shiftJB k m jb).packets.length = jb.capacity from rotPackets_length ..];
                                        exact rot_lt k _ _ h.pos)] at hset
  simp only [Option.map_none, omap_ok, Outcome.ok.injEq] at hset
  unfold adv1
  rw [e, σ16_add]
  exact congrArg (fun x : JB => { x with origin := some (σ16 k (uint16_add o 1)) }) hset

theorem adv1_ok (jb : JB) (h : JBOk jb) (o : Int) : JBOk (adv1 jb o) :=
  ⟨h.pos, h.dvd, by simp [adv1, h.len], fun p hp =>
    (List.mem_or_eq_of_mem_set hp).elim (h.ts p) nofun⟩

theorem slot0_shift (k m : Int) (jb : JB) (h : JBOk jb) (o : Int) :
    (shiftJB k m jb).packets[pos (shiftJB k m jb) (σ16 k o)]?.join = (jb.packets[pos jb o]?.join).map (shiftP k m) := by
  simpa [winAt] using winAt_shift k m jb h o 0

theorem removeOne_sim (k m : Int) (jb : JB) (h : JBOk jb) :
    Sim (shiftJB k m) JBOk (removeOne jb) (removeOne (shiftJB k m jb)) := by
  cases ho : jb.origin with
  | none => simp only [removeOne, shiftJB_origin, ho, Option.map_none]; exact .crash _
  | some o =>
    rw [removeOne_eq h.pos h.len ho, removeOne_eq (jb := shiftJB k m jb) h.pos (rotPackets_length ..)
      (o := σ16 k o) (by rw [shiftJB_origin, ho]; rfl), adv1_shift k m jb h]
    exact .ok (adv1_ok jb h o)

theorem removeLoop_sim (k m : Int) (n : Nat) (jb : JB) (h : JBOk jb) :
    Sim (shiftJB k m) JBOk (removeLoop n jb) (removeLoop n (shiftJB k m jb)) := by
  induction n generalizing jb with
  | zero => exact .ok h
  | succ n ih =>
    unfold removeLoop
    exact (removeOne_sim k m jb h).on .valueError .crash .hang ih

theorem remove_sim (k m : Int) (jb : JB) (count : Nat) (h : JBOk jb) :
    Sim (shiftJB k m) JBOk (remove jb count) (remove (shiftJB k m jb) count) := by
  unfold remove
  rw [shiftJB_capacity]
  split
  · exact removeLoop_sim k m count jb h
  · exact .crash _

theorem ts_ne_shift (m : Int) (ts : Option Int) (t : Int) (hts : TsOk ts) (ht : R32 t) :
    (ts.map (σ32 m) ≠ some (σ32 m t)) ↔ (ts ≠ some t) := by
  cases ts with
  | none => simp
  | some u =>
    simp only [Option.map_some, ne_eq, Option.some.injEq, σ32_inj m u t (hts u rfl) ht]

theorem smartLoop_sim (k m : Int) (count : Int) (n i : Nat) (jb : JB) (ts : Option Int) (h : JBOk jb)
    (hts : TsOk ts) :
    Sim (fun r => (shiftJB k m r.1, r.2)) (fun r => JBOk r.1) (smartLoop count n i jb ts)
      (smartLoop count n i (shiftJB k m jb) (ts.map (σ32 m))) := by
  induction n generalizing i jb ts with
  | zero => exact .ok h
  | succ n ih =>
    cases ho : jb.origin with
    | none =>
      simp only [smartLoop, smartStep, shiftJB_origin, ho, Option.map_none]
      exact .crash _
    | some o =>
      have ha := adv1_ok jb h o
      rw [smartLoop_succ h.pos h.len ho, smartLoop_succ (jb := shiftJB k m jb) h.pos (rotPackets_length ..)
        (o := σ16 k o) (by rw [shiftJB_origin, ho]; rfl), slot0_shift k m jb h, adv1_shift k m jb h, shiftJB_capacity]
      cases hg : jb.packets[pos jb o]?.join with
      | none =>
        simp only [Option.map_none]
        split
        · exact .ok ha
        · exact ih _ _ _ ha hts
      | some p =>
        have hpr : R32 p.ts := winAt_ts jb h o 0 p (by simpa [winAt] using hg)
        simp only [Option.map_some, shiftP_ts, ts_ne_shift m ts p.ts hts hpr]
        split
        · exact .ok h
        · split
          · exact .ok ha
          · exact ih _ _ (some p.ts) ha (fun t ht => by cases ht; exact hpr)

theorem smartRemove_sim (k m : Int) (jb : JB) (count : Int) (h : JBOk jb) :
    Sim (fun r => (shiftJB k m r.1, r.2)) (fun r => JBOk r.1) (smartRemove jb count)
      (smartRemove (shiftJB k m jb) count) :=
  smartLoop_sim k m count jb.capacity 0 jb none h nofun

end Aiortc.C17
