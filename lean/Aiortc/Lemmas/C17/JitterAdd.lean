import Aiortc.Lemmas.C17.JitterFrame
/-!
# `JitterBuffer.add` and whole arrival lists under the shifts
-/
namespace Aiortc.C17
open Aiortc Aiortc.Gen Aiortc.Model.Jitter Aiortc.Props.C17

/-- The same statement as `shiftJB_withOrigin` (JitterDefs.lean), under the name the `add` lemmas use. -/
theorem shiftJB_setOrigin (k m : Int) (jb : JB) (x : Int) :
    ({ shiftJB k m jb with origin := some (σ16 k x) } : JB) = shiftJB k m { jb with origin := some x } :=
  shiftJB_withOrigin k m jb x

/-- Lines 32-38: forward and backward distance do not depend on the origin. -/
theorem addDist_shift (k m : Int) (jb : JB) (p : Packet) :
    addDist (shiftJB k m jb) (shiftP k m p)
      = (shiftJB k m (addDist jb p).1, (addDist jb p).2.1, (addDist jb p).2.2) := by
  unfold addDist
  rw [shiftJB_origin]
  cases ho : jb.origin with
  | none => simp only [Option.map_none, shiftP_seq, shiftJB_setOrigin]
  | some o =>
    simp only [Option.map_some, shiftP_seq, σ16_sub]

theorem addDist_ok (jb : JB) (p : Packet) (h : JBOk jb) : JBOk (addDist jb p).1 := by
  unfold addDist
  cases jb.origin with
  | none => exact h.withOrigin _
  | some o => exact h

def shiftMis (k m : Int) (r : Option (JB × Int × Bool)) : Option (JB × Int × Bool) :=
  r.map fun x => (shiftJB k m x.1, x.2.1, x.2.2)

theorem addMisorder_sim (k m : Int) (jb : JB) (p : Packet) (delta misorder : Int) (h : JBOk jb) :
    Sim (shiftMis k m) (fun r => ∀ x, r = some x → JBOk x.1) (addMisorder jb p delta misorder)
      (addMisorder (shiftJB k m jb) (shiftP k m p) delta misorder) := by
  unfold addMisorder
  rw [shiftJB_capacity]
  split
  · split
    · refine (remove_sim k m jb jb.capacity h).on .valueError .crash .hang fun jb1 h1 => ?_
      simp only [shiftP_seq, shiftJB_isVideo]
      exact .ok fun x hx => by cases hx; exact h1.withOrigin _
    · exact .ok nofun
  · exact .ok fun x hx => by cases hx; exact h

theorem addOverflow_sim (k m : Int) (jb : JB) (p : Packet) (delta : Int) (pli : Bool) (h : JBOk jb) :
    Sim (fun r => (shiftJB k m r.1, r.2)) (fun r => JBOk r.1) (addOverflow jb p delta pli)
      (addOverflow (shiftJB k m jb) (shiftP k m p) delta pli) := by
  unfold addOverflow
  simp only [shiftJB_capacity]
  by_cases h1 : delta ≥ (jb.capacity : Int)
  · simp only [h1, ↓reduceIte]
    refine (smartRemove_sim k m jb (delta - (jb.capacity : Int) + 1) h).on .valueError .crash .hang fun r hok => ?_
    obtain ⟨jb1, full⟩ := r
    cases full with
    | true =>
      simp only [if_true, shiftP_seq, shiftJB_setOrigin]
      exact .ok (hok.withOrigin _)
    | false =>
      simp only [Bool.false_eq_true, if_false]
      exact .ok hok
  · simp only [h1, ↓reduceIte]; exact .ok h

def shiftAddOut (k m : Int) (o : AddOut) : AddOut :=
  ⟨shiftJB k m o.jb, o.pli, o.frame.map (shiftF m), o.used.map (shiftP k m)⟩

theorem addPlace_sim (k m : Int) (jb : JB) (p : Packet) (pli : Bool) (h : JBOk jb) (hp : R32 p.ts) :
    Sim (shiftAddOut k m) (fun o => JBOk o.jb) (addPlace jb p pli)
      (addPlace (shiftJB k m jb) (shiftP k m p) pli) := by
  unfold addPlace
  rw [shiftP_seq]
  have hs : Sim (rot k jb.capacity) (· < jb.capacity) (slotOf jb p.seq) (slotOf (shiftJB k m jb) (σ16 k p.seq)) :=
    ⟨slotOf_shift k m jb p.seq (σ16 k p.seq) (σ16_mod k p.seq _ h.dvd), fun pos => slotOf_lt jb _ pos⟩
  refine hs.on .valueError .crash .hang fun pos hpos => ?_
  dsimp only
  have hset : Sim (shiftJB k m) JBOk (setSlot jb pos (some p)) (setSlot (shiftJB k m jb) (rot k jb.capacity pos) (some (shiftP k m p))) :=
    ⟨setSlot_shift k m jb h pos hpos (some p), fun jb1 => setSlot_jbOk jb jb1 h pos (some p) fun q hq => by cases hq; exact hp⟩
  refine hset.on .valueError .crash .hang fun jb1 h1 => ?_
  dsimp only
  exact (removeFrame_sim k m jb1 p.seq (σ16 k p.seq) h1).on .valueError .crash .hang fun r hr => .ok hr

theorem add_sim (k m : Int) (jb : JB) (p : Packet) (h : JBOk jb) (hp : R32 p.ts) :
    Sim (shiftAddOut k m) (fun o => JBOk o.jb) (add jb p) (add (shiftJB k m jb) (shiftP k m p)) := by
  unfold add
  rw [addDist_shift]
  have h0 := addDist_ok jb p h
  generalize addDist jb p = d at h0 ⊢
  obtain ⟨jb0, delta, misorder⟩ := d
  dsimp only
  refine (addMisorder_sim k m jb0 p delta misorder h0).on .valueError .crash .hang fun r hr => ?_
  cases r with
  | none => exact .ok h0
  | some x =>
    obtain ⟨jb1, delta1, pli1⟩ := x
    simp only [shiftMis, Option.map_some]
    exact (addOverflow_sim k m jb1 p delta1 pli1 (hr _ rfl)).on .valueError .crash .hang fun y hy =>
      addPlace_sim k m y.1 p y.2 hy hp

def shiftObs (m : Int) (o : Obs) : Obs := (o.1, o.2.map (shiftF m))

theorem rotPackets_empty (k m : Int) (c : Nat) :
    rotPackets k m c (List.replicate c none) = List.replicate c none := by
  have e : ∀ i, ((List.replicate c (none : Option Packet))[unrot k c i]?.getD none).map (shiftP k m) = none := by
    intro i; rw [List.getElem?_replicate]; split <;> rfl
  unfold rotPackets
  simp only [e, List.map_const', List.length_range]

/-- A freshly constructed buffer satisfies the shape invariant when its capacity is a positive divisor
of 2^16 (every power of two up to 2^16), and shifting it changes nothing. -/
theorem mk_ok (capacity : Nat) (prefetch : Int) (isVideo : Bool) (jb : JB)
    (hc : 0 < capacity) (hd : (capacity : Int) ∣ 65536) (h : mk capacity prefetch isVideo = .ok jb) :
    JBOk jb ∧ ∀ k m, shiftJB k m jb = jb := by
  unfold mk at h
  split at h
  · cases h
    refine ⟨⟨hc, hd, List.length_replicate, fun p hp => nomatch (List.mem_replicate.1 hp).2⟩, fun k m => ?_⟩
    unfold shiftJB
    simp only [Option.map_none, rotPackets_empty]
  · cases h

end Aiortc.C17
