import Aiortc.Lemmas.C17.ShiftDefs
import Aiortc.Lemmas.SctpRx.Runs
/-!
# The two loops of `InboundStream.prune_chunks` under the shifts
-/
namespace Aiortc.C17
open Aiortc Aiortc.Gen Aiortc.Sctp Aiortc.Props.C17

theorem takeRun_shift (k j : Int) (prev : RChunk) (l : List RChunk) (hl : ∀ x ∈ l, CR x) :
    takeRun (shiftR k j prev) (l.map (shiftR k j))
      = ((takeRun prev l).1.map (shiftR k j), (takeRun prev l).2.map (shiftR k j)) := by
  induction l generalizing prev with
  | nil => rfl
  | cons c cs ih =>
    obtain ⟨hc, hcs⟩ := List.forall_mem_cons.1 hl
    simp only [List.map_cons, takeRun, shiftR_flags, shiftR_tsn,
      σ32_eq_plus_one k c.tsn prev.tsn hc.1, ih _ hcs]
    split <;> simp

theorem sum_data_shift (k j : Int) (l : List RChunk) :
    ((l.map (shiftR k j)).map (·.data.length)).sum = (l.map (·.data.length)).sum := by
  simp [List.map_map, Function.comp_def]

theorem pruneGo_shift (k j : Int) (tsn : Int) (ht : R32 tsn) (fuel : Nat) (l : List RChunk)
    (hl : ∀ x ∈ l, CR x) :
    pruneGo (σ32 k tsn) fuel (l.map (shiftR k j))
      = ((pruneGo tsn fuel l).1.map (shiftR k j), (pruneGo tsn fuel l).2) := by
  induction fuel generalizing l with
  | zero => cases l <;> rfl
  | succ n ih =>
    cases l with
    | nil => rfl
    | cons first cs =>
      have hcs := (List.forall_mem_cons.1 hl).2
      have hrest : ∀ x ∈ (takeRun first cs).2, CR x :=
        fun x hx => hcs x (takeRun_append first cs ▸ List.mem_append_right _ hx)
      have e := List.getLast?_getD_map (shiftR k j) (first :: (takeRun first cs).1) first
      have e2 := sum_data_shift k j (first :: (takeRun first cs).1)
      simp only [List.map_cons] at e e2
      simp only [List.map_cons, pruneGo, takeRun_shift k j first cs hcs, ih _ hrest, e, e2,
        shiftR_flags, shiftR_tsn, σ32_minus_one, σ32_plus_one,
        σ32_gte k tsn _ ht (minus_one_range _), σ32_gte k tsn _ ht (plus_one_range _)]
      split <;> simp

end Aiortc.C17
