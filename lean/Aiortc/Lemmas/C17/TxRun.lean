import Aiortc.Lemmas.C17.T3Shift
import Aiortc.Lemmas.SctpTx.Transmit
import Aiortc.Lemmas.SctpTx.Frag
import Aiortc.Lemmas.C17.TransmitShift
import Aiortc.Lemmas.C17.EnqueueShift
/-!
# Commands of the SCTP sender and the invariant they keep

The sender is driven by a list of commands (`_send`, a SACK arriving, `_transmit`, T3 expiry) in any
interleaving (`TxCmd`, `txStep`, `txRun`).  `TxOk` (the TSN-typed fields the SACK / FORWARD-TSN logic compares are in the wire range) is kept by every
command together with the stream counters, which is what lets the per-command equivariance theorems compose
to whole runs (`Props/C17Shift.lean`).
-/
namespace Aiortc.C17
open Aiortc Aiortc.Gen Aiortc.Sctp Aiortc.Props.C17

theorem fragments_allR (tsn : Int) (sid : Nat) (ssn : Int) (ppid : Nat) (ordered : Bool)
    (expiry maxRtx : Option Int) (n : Nat) (data : Bytes) (m : Nat) :
    AllR (fragments tsn sid ssn ppid ordered expiry maxRtx n data m) := fun c hc => by
  obtain ⟨i, _, rfl⟩ := mem_fragments hc
  exact uint32_add_range tsn _

theorem enqueue_ok (t : Tx) (sid ppid : Nat) (data : Bytes) (expiry maxRtx : Option Int) (ordered : Bool)
    (h : TxOk t) : TxOk (t.enqueue sid ppid data expiry maxRtx ordered) :=
  ⟨h.lastSacked, h.advAck, h.sent, AllR.append h.out (fragments_allR _ _ _ _ _ _ _ _ _ _), h.exit⟩

theorem transmit_ok (t : Tx) (h : TxOk t) : TxOk t.transmit.1 ∧ t.transmit.1.streamSeq = t.streamSeq := by
  have hq := (txInv_QOk.transmit h.qok).1
  rw [transmit_closed] at hq ⊢
  exact ⟨⟨h.lastSacked, h.advAck, hq.1, hq.2, h.exit⟩, rfl⟩

theorem t3Expired_ok (t : Tx) (now : Int) (h : TxOk t) :
    TxOk (t.t3Expired now) ∧ (t.t3Expired now).streamSeq = t.streamSeq := by
  unfold Tx.t3Expired
  simp only []
  have h0 : TxOk ({ t with t3 := false } : Tx) := h.of_same rfl rfl rfl rfl rfl
  have hk := h0.queues (t3Mark_keeps (J := QOk) now (fun _ pos h => txInv_QOk.hitBody h pos now)
    ({ t with t3 := false } : Tx).sentQ.length 0 _ h0.qok) (t3Mark_frame now _ 0 _)
  generalize t3Mark now _ 0 ({ t with t3 := false } : Tx) = tm at hk
  have hu := updateAdvAck_ok tm hk.1
  exact ⟨⟨hu.1.lastSacked, hu.1.advAck, hu.1.sent, hu.1.out, fun e he => nomatch he⟩, hu.2.trans hk.2⟩

inductive TxCmd where
  | send (sid ppid : Nat) (data : Bytes) (expiry maxRtx : Option Int) (ordered : Bool)
  | sack (cum : Int) (gaps : List (Nat × Nat)) (now : Int)
  | transmit
  | t3 (now : Int)

/-- Only a SACK carries a sequence number (the cumulative TSN; gap blocks are offsets). -/
def shiftCmd (k : Int) : TxCmd → TxCmd
  | .sack cum gaps now => .sack (σ32 k cum) gaps now
  | c => c

def txStep (t : Tx) : TxCmd → Outcome (Tx × List TxEv)
  | .send sid ppid data expiry maxRtx ordered => .ok (t.enqueue sid ppid data expiry maxRtx ordered, [])
  | .sack cum gaps now =>
    match t.receiveSack cum gaps now with
    | .ok none => .ok (t, [])
    | .ok (some r) => .ok r
    | .valueError => .valueError | .crash s => .crash s | .hang => .hang
  | .transmit => .ok t.transmit
  | .t3 now => .ok (t.t3Expired now, [])

def txRun : Tx → List TxCmd → Outcome (Tx × List TxEv)
  | t, [] => .ok (t, [])
  | t, c :: cs =>
    match txStep t c with
    | .ok (t1, e1) =>
      match txRun t1 cs with
      | .ok (t2, e2) => .ok (t2, e1 ++ e2)
      | .valueError => .valueError | .crash s => .crash s | .hang => .hang
    | .valueError => .valueError | .crash s => .crash s | .hang => .hang

/-- A command is well-formed for a state: SACK numbers in range; an ordered `_send` goes to a stream whose
SSN counter exists (or the SSN shift is trivial). -/
def CmdOk (j : Int) (t : Tx) : TxCmd → Prop
  | .send sid _ _ _ _ ordered => SeqKnown j t sid ordered
  | .sack cum _ _ => R32 cum
  | _ => True

def shiftStepOut (k j : Int) (r : Tx × List TxEv) : Tx × List TxEv := (shiftTx k j r.1, r.2.map (shiftEv k j))

/-- Well-formedness of a command list with respect to the INITIAL state (stream counters only grow). -/
def CmdsOk (j : Int) (t : Tx) (cs : List TxCmd) : Prop := ∀ c ∈ cs, CmdOk j t c

theorem CmdOk.mono {j : Int} {t t' : Tx} {c : TxCmd}
    (hm : ∀ sid, (dictGet t.streamSeq sid).isSome → (dictGet t'.streamSeq sid).isSome) (h : CmdOk j t c) :
    CmdOk j t' c := by
  cases c with
  | send sid ppid data expiry maxRtx ordered =>
    rcases h with h | h | h
    · exact Or.inl h
    · exact Or.inr (Or.inl (hm sid h))
    · exact Or.inr (Or.inr h)
  | sack cum gaps now => exact h
  | transmit => trivial
  | t3 now => trivial

end Aiortc.C17
