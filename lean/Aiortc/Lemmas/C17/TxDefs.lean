import Aiortc.Lemmas.C17.RecvShift
/-!
On the send side an UNORDERED chunk carries SSN 0 whatever the stream's sequence number is, so the SSN
shift `j` acts on ordered chunks only (`flagU` clear); the per-stream counters `_outbound_stream_seq`
and the stream table of a FORWARD-TSN (which only ever lists ordered chunks) are shifted throughout.
-/
namespace Aiortc.C17
open Aiortc Aiortc.Gen Aiortc.Sctp Aiortc.Props.C17

def ssnS (j : Int) (flags : Nat) (ssn : Int) : Int := if flagU flags then ssn else σ16 j ssn

def shiftS (k j : Int) (c : SChunk) : SChunk :=
  { c with tsn := σ32 k c.tsn, ssn := ssnS j c.flags c.ssn }

/-- A DATA chunk as put on the wire by the sender. -/
def shiftRo (k j : Int) (c : RChunk) : RChunk :=
  { c with tsn := σ32 k c.tsn, ssn := ssnS j c.flags c.ssn }

@[simp] theorem shiftS_tsn (k j : Int) (c : SChunk) : (shiftS k j c).tsn = σ32 k c.tsn := rfl
@[simp] theorem shiftS_ssn (k j : Int) (c : SChunk) : (shiftS k j c).ssn = ssnS j c.flags c.ssn := rfl
@[simp] theorem shiftS_sid (k j : Int) (c : SChunk) : (shiftS k j c).sid = c.sid := rfl
@[simp] theorem shiftS_flags (k j : Int) (c : SChunk) : (shiftS k j c).flags = c.flags := rfl
@[simp] theorem shiftS_abandoned (k j : Int) (c : SChunk) : (shiftS k j c).abandoned = c.abandoned := rfl
@[simp] theorem shiftS_acked (k j : Int) (c : SChunk) : (shiftS k j c).acked = c.acked := rfl
@[simp] theorem shiftS_bookSize (k j : Int) (c : SChunk) : (shiftS k j c).bookSize = c.bookSize := rfl
@[simp] theorem shiftS_expiry (k j : Int) (c : SChunk) : (shiftS k j c).expiry = c.expiry := rfl
@[simp] theorem shiftS_maxRetransmits (k j : Int) (c : SChunk) :
    (shiftS k j c).maxRetransmits = c.maxRetransmits := rfl
@[simp] theorem shiftS_misses (k j : Int) (c : SChunk) : (shiftS k j c).misses = c.misses := rfl
@[simp] theorem shiftS_retransmit (k j : Int) (c : SChunk) : (shiftS k j c).retransmit = c.retransmit := rfl
@[simp] theorem shiftS_sentCount (k j : Int) (c : SChunk) : (shiftS k j c).sentCount = c.sentCount := rfl
@[simp] theorem shiftS_inFlight (k j : Int) (c : SChunk) : (shiftS k j c).inFlight = c.inFlight := rfl

theorem toR_shiftS (k j : Int) (c : SChunk) : (shiftS k j c).toR = shiftRo k j c.toR := rfl

def shiftEv (k j : Int) : TxEv → TxEv
  | .data c => .data (shiftRo k j c)
  | .fwd cum streams => .fwd (σ32 k cum) (mapVals (σ16 j) streams)
  | .t3start => .t3start
  | .t3cancel => .t3cancel

def shiftTx (k j : Int) (t : Tx) : Tx :=
  { t with
    fastRecoveryExit := t.fastRecoveryExit.map (σ32 k)
    forwardTsn := t.forwardTsn.map (fun p => (σ32 k p.1, mapVals (σ16 j) p.2))
    forwardStreams := mapVals (σ16 j) t.forwardStreams
    localTsn := σ32 k t.localTsn
    lastSacked := σ32 k t.lastSacked
    advAck := σ32 k t.advAck
    outQ := t.outQ.map (shiftS k j)
    streamSeq := mapVals (σ16 j) t.streamSeq
    sentQ := t.sentQ.map (shiftS k j) }

/-- Wire range of the TSN-typed fields the SACK / FORWARD-TSN logic compares. -/
structure TxOk (t : Tx) : Prop where
  lastSacked : R32 t.lastSacked
  advAck : R32 t.advAck
  sent : ∀ c ∈ t.sentQ, R32 c.tsn
  out : ∀ c ∈ t.outQ, R32 c.tsn
  exit : ∀ e, t.fastRecoveryExit = some e → R32 e

section
variable (k j : Int) (t : Tx)
@[simp] theorem shiftTx_cwnd : (shiftTx k j t).cwnd = t.cwnd := rfl
@[simp] theorem shiftTx_ssthresh : (shiftTx k j t).ssthresh = t.ssthresh := rfl
@[simp] theorem shiftTx_partialBytesAcked : (shiftTx k j t).partialBytesAcked = t.partialBytesAcked := rfl
@[simp] theorem shiftTx_flight : (shiftTx k j t).flight = t.flight := rfl
@[simp] theorem shiftTx_t3 : (shiftTx k j t).t3 = t.t3 := rfl
@[simp] theorem shiftTx_fastRecoveryTransmit :
    (shiftTx k j t).fastRecoveryTransmit = t.fastRecoveryTransmit := rfl
@[simp] theorem shiftTx_fastRecoveryExit :
    (shiftTx k j t).fastRecoveryExit = t.fastRecoveryExit.map (σ32 k) := rfl
@[simp] theorem shiftTx_forwardTsn :
    (shiftTx k j t).forwardTsn = t.forwardTsn.map (fun p => (σ32 k p.1, mapVals (σ16 j) p.2)) := rfl
@[simp] theorem shiftTx_localTsn : (shiftTx k j t).localTsn = σ32 k t.localTsn := rfl
@[simp] theorem shiftTx_lastSacked : (shiftTx k j t).lastSacked = σ32 k t.lastSacked := rfl
@[simp] theorem shiftTx_advAck : (shiftTx k j t).advAck = σ32 k t.advAck := rfl
@[simp] theorem shiftTx_outQ : (shiftTx k j t).outQ = t.outQ.map (shiftS k j) := rfl
@[simp] theorem shiftTx_sentQ : (shiftTx k j t).sentQ = t.sentQ.map (shiftS k j) := rfl
@[simp] theorem shiftTx_streamSeq : (shiftTx k j t).streamSeq = mapVals (σ16 j) t.streamSeq := rfl
end

def AllR (l : List SChunk) : Prop := ∀ c ∈ l, R32 c.tsn

theorem allR_cons {c : SChunk} {l : List SChunk} : AllR (c :: l) ↔ R32 c.tsn ∧ AllR l :=
  List.forall_mem_cons

theorem AllR.nil : AllR [] := fun _ h => nomatch h

theorem AllR.append {l l' : List SChunk} (h : AllR l) (h' : AllR l') : AllR (l ++ l') := by
  intro x hx; rcases List.mem_append.1 hx with h1 | h1
  · exact h x h1
  · exact h' x h1

theorem AllR.sub {l l' : List SChunk} (h : AllR l) (hs : ∀ x ∈ l', x ∈ l) : AllR l' :=
  fun x hx => h x (hs x hx)

theorem AllR.reverse {l : List SChunk} (h : AllR l) : AllR l.reverse :=
  h.sub fun _ hx => List.mem_reverse.1 hx

theorem AllR.map {l : List SChunk} (h : AllR l) (f : SChunk → SChunk) (hf : ∀ c, (f c).tsn = c.tsn) : AllR (l.map f) := by
  intro x hx
  obtain ⟨c, hc, rfl⟩ := List.mem_map.1 hx
  rw [hf]; exact h c hc

def QOk (t : Tx) : Prop := AllR t.sentQ ∧ AllR t.outQ

theorem TxOk.qok {t : Tx} (h : TxOk t) : QOk t := ⟨h.sent, h.out⟩

theorem TxOk.of_same {t t' : Tx} (h : TxOk t) (h1 : t'.lastSacked = t.lastSacked) (h2 : t'.advAck = t.advAck)
    (h3 : t'.sentQ = t.sentQ) (h4 : t'.outQ = t.outQ) (h5 : t'.fastRecoveryExit = t.fastRecoveryExit) :
    TxOk t' :=
  ⟨h1 ▸ h.lastSacked, h2 ▸ h.advAck, h3 ▸ h.sent, h4 ▸ h.out, h5 ▸ h.exit⟩

theorem decFlight_shift (k j : Int) (fl : Nat) (c : SChunk) :
    decFlight fl (shiftS k j c) = ((decFlight fl c).1, shiftS k j (decFlight fl c).2) := by
  cases h : c.inFlight <;> simp [decFlight, h, shiftS]

theorem incFlight_shift (k j : Int) (fl : Nat) (c : SChunk) :
    incFlight fl (shiftS k j c) = ((incFlight fl c).1, shiftS k j (incFlight fl c).2) := by
  cases h : c.inFlight <;> simp [incFlight, h, shiftS]

theorem markAb_shift (k j : Int) (fl : Nat) (c : SChunk) :
    markAb fl (shiftS k j c) = ((markAb fl c).1, shiftS k j (markAb fl c).2) := by
  unfold markAb
  exact decFlight_shift k j fl { c with abandoned := true, retransmit := false }

theorem decFlight_tsn (fl : Nat) (c : SChunk) : (decFlight fl c).2.tsn = c.tsn := by
  unfold decFlight; split <;> rfl

theorem incFlight_tsn (fl : Nat) (c : SChunk) : (incFlight fl c).2.tsn = c.tsn := by
  unfold incFlight; split <;> rfl

theorem markAb_tsn (fl : Nat) (c : SChunk) : (markAb fl c).2.tsn = c.tsn := decFlight_tsn fl _

theorem t3Restart_shift (k j : Int) (b : Bool) : (t3Restart b).map (shiftEv k j) = t3Restart b := by
  cases b <;> rfl

theorem shouldAbandon_shift (k j : Int) (c : SChunk) (now : Int) :
    shouldAbandon (shiftS k j c) now = shouldAbandon c now := rfl

end Aiortc.C17
