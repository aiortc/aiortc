import Aiortc.Lemmas.C17.ShiftDefs
import Aiortc.Lemmas.C11.Sender
/-!
# The RTP sender (`_run_rtp` packet loop, retransmission history) under shifts of the
sequence-number origin (`k`), the RTX sequence-number origin (`r`) and the timestamp origin (`m`)

The history is a dict keyed by `sequence_number % 128`; 128 divides 2^16, so the slot of a shifted
sequence number is the slot rotated by `k`.
-/
namespace Aiortc.C17
open Aiortc Aiortc.Gen Aiortc.Rtp Aiortc.Model.Video Aiortc.Props.C17

/-- `rot k 128` (ShiftDefs.lean) written out: the history has `RTP_HISTORY_SIZE = 128` slots. -/
def rotSlot (k : Int) (s : Nat) : Nat := (((s : Int) + k) % 128).toNat

theorem slotOfSeq_shift (k x : Int) : slotOfSeq (σ16 k x) = rotSlot k (slotOfSeq x) :=
  slot_rot k x (σ16 k x) 128 (by decide) (σ16_mod k x 128 ⟨512, rfl⟩)

theorem slotOfSeq_lt (x : Int) : slotOfSeq x < 128 := Serial.emod_toNat_lt x (c := 128) (by decide)

theorem rotSlot_inj (k : Int) (a b : Nat) (ha : a < 128) (hb : b < 128) :
    rotSlot k a = rotSlot k b ↔ a = b := rot_inj k (c := 128) (by decide) ha hb

def shiftPkt (k m : Int) (p : RtpPacket) : RtpPacket :=
  { p with sequenceNumber := (σ16 k p.sequenceNumber).toNat, timestamp := (σ32 m p.timestamp).toNat }

theorem shiftPkt_seq (k m : Int) (p : RtpPacket) :
    (((shiftPkt k m p).sequenceNumber : Nat) : Int) = σ16 k (p.sequenceNumber : Int) :=
  Int.toNat_of_nonneg (σ16_range k _).1

def shiftHist (k m : Int) (h : History) : History := h.map fun e => (rotSlot k e.1, shiftPkt k m e.2)

def shiftSender (k r m : Int) (s : Sender) : Sender :=
  { seq := σ16 k s.seq, rtxSeq := σ16 r s.rtxSeq, history := shiftHist k m s.history }

def shiftCfg (m : Int) (cfg : SenderCfg) : SenderCfg := { cfg with tsOrigin := σ32 m cfg.tsOrigin }

def HistOk (h : History) : Prop := ∀ e ∈ h, e.1 < 128 ∧ e.2.sequenceNumber < 65536

theorem histSet_shift (k m : Int) (h : History) (key : Nat) (p : RtpPacket) (hh : HistOk h)
    (hk : key < 128) :
    histSet (shiftHist k m h) (rotSlot k key) (shiftPkt k m p) = shiftHist k m (histSet h key p) := by
  unfold histSet shiftHist
  simp only [List.map_cons]
  congr 1
  apply List.filter_map_shift
  intro e he
  rw [Bool.eq_iff_iff]
  simp only [ne_eq, decide_eq_true_eq, rotSlot_inj k e.1 key (hh e he).1 hk]

theorem histSet_ok (h : History) (key : Nat) (p : RtpPacket) (hh : HistOk h) (hk : key < 128)
    (hp : p.sequenceNumber < 65536) : HistOk (histSet h key p) := by
  intro e he
  unfold histSet at he
  simp only [List.mem_cons] at he
  rcases he with he | he
  · rw [he]; exact ⟨hk, hp⟩
  · exact hh e (List.mem_filter.1 he).1

theorem histGet_shift (k m : Int) (h : History) (key : Nat) (hh : HistOk h) (hk : key < 128) :
    histGet (shiftHist k m h) (rotSlot k key) = (histGet h key).map (shiftPkt k m) := by
  unfold histGet shiftHist
  induction h with
  | nil => rfl
  | cons e es ih =>
    obtain ⟨he, hes⟩ := List.forall_mem_cons.1 hh
    have ih := ih hes
    simp only [List.map_cons, List.find?_cons, rotSlot_inj k e.1 key he.1 hk]
    by_cases hkey : e.1 = key
    · simp [hkey]
    · simp only [hkey, decide_false]
      exact ih

theorem histGet_ok (h : History) (key : Nat) (p : RtpPacket) (hh : HistOk h)
    (hg : histGet h key = some p) : p.sequenceNumber < 65536 := by
  unfold histGet at hg
  cases hf : h.find? (fun e => e.1 = key) with
  | none => rw [hf] at hg; cases hg
  | some e =>
    rw [hf] at hg; simp only [Option.map_some, Option.some.injEq] at hg
    rw [← hg]; exact (hh e (List.mem_of_find?_eq_some hf)).2

theorem mkPacket_shift (k m : Int) (cfg : SenderCfg) (seq ts : Int) (pl : Bytes) (i n : Nat)
    (hs : R16 seq) (ht : R32 ts) :
    mkPacket (shiftCfg m cfg) (σ16 k seq) (σ32 m ts) pl i n = shiftPkt k m (mkPacket cfg seq ts pl i n) := by
  unfold mkPacket shiftPkt shiftCfg
  have e1 : ((seq.toNat : Nat) : Int) = seq := by unfold R16 at hs; omega
  have e2 : ((ts.toNat : Nat) : Int) = ts := by unfold R32 at ht; omega
  simp only [e1, e2]

theorem mkPacket_seq (cfg : SenderCfg) (seq ts : Int) (pl : Bytes) (i n : Nat) (hs : R16 seq) :
    (mkPacket cfg seq ts pl i n).sequenceNumber < 65536 := by
  unfold mkPacket; unfold R16 at hs; simp only; omega

theorem sendLoop_shift (k r m : Int) (cfg : SenderCfg) (ts : Int) (ht : R32 ts) (n i : Nat)
    (pls : List Bytes) (s : Sender) (hs : R16 s.seq) (hh : HistOk s.history) :
    sendLoop (shiftCfg m cfg) (σ32 m ts) n i pls (shiftSender k r m s)
      = (shiftSender k r m (sendLoop cfg ts n i pls s).1,
         (sendLoop cfg ts n i pls s).2.map (shiftPkt k m)) := by
  induction pls generalizing i s with
  | nil => rfl
  | cons pl rest ih =>
    have hp := mkPacket_seq cfg s.seq ts pl i n hs
    simp only [sendLoop, List.map_cons]
    have e1 : (shiftSender k r m s).seq = σ16 k s.seq := rfl
    have e2 : (shiftSender k r m s).history = shiftHist k m s.history := rfl
    rw [e1, e2, mkPacket_shift k m cfg s.seq ts pl i n hs ht]
    rw [shiftPkt_seq, slotOfSeq_shift, histSet_shift k m _ _ _ hh (slotOfSeq_lt _), σ16_add]
    have hstep := ih (i + 1)
      { s with history := histSet s.history (slotOfSeq ((mkPacket cfg s.seq ts pl i n).sequenceNumber : Int))
                 (mkPacket cfg s.seq ts pl i n),
               seq := uint16_add s.seq 1 }
      (uint16_add_range _ _) (histSet_ok _ _ _ hh (slotOfSeq_lt _) hp)
    simp only [shiftSender] at hstep ⊢
    rw [hstep]

theorem sendFrame_shift (k r m : Int) (cfg : SenderCfg) (s : Sender) (encTs : Int) (pls : List Bytes)
    (hs : R16 s.seq) (hh : HistOk s.history) :
    sendFrame (shiftCfg m cfg) (shiftSender k r m s) encTs pls
      = (shiftSender k r m (sendFrame cfg s encTs pls).1,
         (sendFrame cfg s encTs pls).2.map (shiftPkt k m)) := by
  unfold sendFrame
  have e : uint32_add (shiftCfg m cfg).tsOrigin encTs = σ32 m (uint32_add cfg.tsOrigin encTs) :=
    σ32_add m cfg.tsOrigin encTs
  rw [e]
  exact sendLoop_shift k r m cfg _ (uint32_add_range _ _) _ 0 pls s hs hh

/-- The packet `_retransmit(sn)` sends again (before RTX wrapping), if any. -/
def histLookup (s : Sender) (sn : Int) : Option RtpPacket :=
  match histGet s.history (slotOfSeq sn) with
  | some p => if (p.sequenceNumber : Int) = sn then some p else none
  | none => none

/-- RTX wrapping with the current RTX sequence number, or the packet itself without RTX. -/
def rtxOut (cfg : SenderCfg) (rtxSeq : Int) (p : RtpPacket) : RtpPacket :=
  match cfg.rtxPt with
  | some rpt => wrapRtx p rpt rtxSeq.toNat cfg.rtxSsrc
  | none => p

theorem histLookup_shift (k r m : Int) (s : Sender) (sn : Int) (hsn : R16 sn) (hh : HistOk s.history) :
    histLookup (shiftSender k r m s) (σ16 k sn) = (histLookup s sn).map (shiftPkt k m) := by
  unfold histLookup
  have e : (shiftSender k r m s).history = shiftHist k m s.history := rfl
  rw [e, slotOfSeq_shift, histGet_shift k m _ _ hh (slotOfSeq_lt _)]
  cases hg : histGet s.history (slotOfSeq sn) with
  | none => rfl
  | some p =>
    have hp := histGet_ok _ _ _ hh hg
    simp only [Option.map_some]
    simp only [shiftPkt_seq, σ16_inj k _ sn (show R16 (p.sequenceNumber : Int) by unfold R16; omega) hsn]
    by_cases hq : (p.sequenceNumber : Int) = sn
    · simp only [hq, if_true, Option.map_some]
    · simp only [hq, if_false, Option.map_none]

/-- `_retransmit` in terms of the history lookup. -/
def retransmitVia (cfg : SenderCfg) (s : Sender) (found : Option RtpPacket) : Sender × List RtpPacket :=
  match found with
  | some p =>
    match cfg.rtxPt with
    | some rpt => ({ s with rtxSeq := uint16_add s.rtxSeq 1 }, [wrapRtx p rpt s.rtxSeq.toNat cfg.rtxSsrc])
    | none => (s, [p])
  | none => (s, [])

theorem retransmit_eq (cfg : SenderCfg) (s : Sender) (sn : Int) :
    retransmit cfg s sn = retransmitVia cfg s (histLookup s sn) := by
  unfold retransmit histLookup retransmitVia
  cases histGet s.history (slotOfSeq sn) with
  | none => rfl
  | some p =>
    simp only []
    by_cases hq : (p.sequenceNumber : Int) = sn
    · simp only [hq, if_true]
      cases cfg.rtxPt <;> rfl
    · simp only [hq, if_false]

theorem retransmit_out (cfg : SenderCfg) (s : Sender) (sn : Int) :
    (retransmit cfg s sn).2 = (histLookup s sn).toList.map (rtxOut cfg s.rtxSeq) := by
  rw [retransmit_eq]
  unfold retransmitVia rtxOut
  cases histLookup s sn with
  | none => rfl
  | some p => cases cfg.rtxPt <;> rfl

theorem retransmitVia_shift (k r m : Int) (cfg : SenderCfg) (s : Sender) (found : Option RtpPacket) :
    retransmitVia cfg (shiftSender k r m s) (found.map (shiftPkt k m))
      = (shiftSender k r m (retransmitVia cfg s found).1,
         found.toList.map fun p => rtxOut cfg (σ16 r s.rtxSeq) (shiftPkt k m p)) := by
  unfold retransmitVia rtxOut
  cases found with
  | none => rfl
  | some p =>
    cases cfg.rtxPt with
    | none => rfl
    | some rpt =>
      simp only [Option.map_some, Option.toList_some, List.map_cons, List.map_nil]
      have e : (shiftSender k r m s).rtxSeq = σ16 r s.rtxSeq := rfl
      simp only [e, σ16_add]
      rfl

theorem retransmit_shift (k r m : Int) (cfg : SenderCfg) (s : Sender) (sn : Int) (hsn : R16 sn)
    (hh : HistOk s.history) :
    retransmit cfg (shiftSender k r m s) (σ16 k sn)
      = (shiftSender k r m (retransmit cfg s sn).1,
         (histLookup s sn).toList.map fun p => rtxOut cfg (σ16 r s.rtxSeq) (shiftPkt k m p)) := by
  rw [retransmit_eq, retransmit_eq, histLookup_shift k r m s sn hsn hh, retransmitVia_shift]

end Aiortc.C17
