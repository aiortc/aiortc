import Aiortc.Lemmas.C17.ShiftDefs
import Aiortc.Lemmas.SctpRx.Insert
/-!
# `InboundStream.add_chunk` / `pop_messages` under a TSN shift `k` and an SSN shift `j`
-/
namespace Aiortc.C17
open Aiortc Aiortc.Gen Aiortc.Sctp Aiortc.Props.C17

theorem insertLoop_shift (k j : Int) (c : RChunk) (l : List RChunk) (hc : CR c)
    (hl : ∀ x ∈ l, CR x) :
    insertLoop (shiftR k j c) (l.map (shiftR k j)) = (insertLoop c l).map (List.map (shiftR k j)) := by
  induction l with
  | nil => rfl
  | cons r rs ih =>
    obtain ⟨hr, hrs⟩ := List.forall_mem_cons.1 hl
    simp only [List.map_cons, insertLoop, shiftR_tsn, σ32_inj k r.tsn c.tsn hr.1 hc.1,
      σ32_gt k r.tsn c.tsn hr.1 hc.1, ih hrs]
    split
    · rfl
    · split
      · simp
      · cases insertLoop c rs <;> simp

theorem addChunk_sim (k j : Int) (s : InStream) (c : RChunk) (hs : InOk s) (hc : CR c) :
    Sim (shiftIn k j) InOk (s.addChunk c) ((shiftIn k j s).addChunk (shiftR k j c)) := by
  unfold InStream.addChunk
  simp only [shiftIn, List.getLast?_map]
  cases hl : s.reasm.getLast? with
  | none => exact .ok ⟨fun x hx => List.mem_singleton.1 hx ▸ hc, hs.2⟩
  | some l =>
    have hlr : CR l := hs.1 l (List.mem_of_getLast? hl)
    simp only [Option.map_some, shiftR_tsn, σ32_gt k c.tsn l.tsn hc.1 hlr.1,
      insertLoop_shift k j c s.reasm hc hs.1]
    split
    · exact .ok ⟨List.forall_mem_snoc hs.1 hc, hs.2⟩ (by simp [shiftIn])
    · cases hr : insertLoop c s.reasm with
      | none => exact .crash _
      | some r =>
        refine .ok ⟨fun x hx => ?_, hs.2⟩
        rcases insertLoop_mem hr x hx with h1 | h1
        · exact h1 ▸ hc
        · exact hs.1 x h1

/-- Two loop states of `pop_messages` that differ by the shifts.  `expected` is only meaningful
(and only related) while a run is open (`start` is not `None`). -/
structure PopRel (k j : Int) (a b : PopSt) : Prop where
  hr : ∀ c ∈ a.reasm, CR c
  hseq : R16 a.seq
  reasm : b.reasm = a.reasm.map (shiftR k j)
  seq : b.seq = σ16 j a.seq
  pos : b.pos = a.pos
  start : b.start = a.start
  ordered : b.ordered = a.ordered
  out : b.out = a.out
  exp : a.start.isSome → R32 a.expected ∧ b.expected = σ32 k a.expected

def OptRel {α β} (R : α → β → Prop) : Option α → Option β → Prop
  | none, none => True
  | some a, some b => R a b
  | _, _ => False

theorem OptRel.cases {α β} {R : α → β → Prop} {a : Option α} {b : Option β} (h : OptRel R a b) :
    (a = none ∧ b = none) ∨ ∃ x y, a = some x ∧ b = some y ∧ R x y := by
  cases a <;> cases b
  · exact .inl ⟨rfl, rfl⟩
  · exact h.elim
  · exact h.elim
  · exact .inr ⟨_, _, rfl, rfl, h⟩

theorem flatMap_data_shift (k j : Int) (l : List RChunk) :
    (l.map (shiftR k j)).flatMap (·.data) = l.flatMap (·.data) := by
  rw [List.flatMap_map]; rfl

theorem popTail_rel {k j : Int} {a b : PopSt} (h : PopRel k j a b) (hst : a.start.isSome)
    (c : RChunk) (hc : CR c) (sp : Nat) :
    PopRel k j (popTail a c sp) (popTail b (shiftR k j c) sp) := by
  obtain ⟨hr, hseq, e1, e2, e3, e4, e5, e6, hexp⟩ := h
  obtain ⟨hx1, hx2⟩ := hexp hst
  cases b with | mk br bs bp bst bexp bord bout =>
  simp only at e1 e2 e3 e4 e5 e6 hx2
  subst e1 e2 e3 e4 e5 e6 hx2
  unfold popTail
  simp only [shiftR_flags, shiftR_ssn, shiftR_sid, shiftR_ppid,
    σ16_inj j c.ssn a.seq hc.2 hseq]
  by_cases hE : flagE c.flags
  · simp only [hE, if_true]
    refine ⟨?_, ?_, ?_, ?_, rfl, rfl, rfl, ?_, ?_⟩
    · intro x hx; simp only [List.mem_append] at hx
      rcases hx with hx | hx
      · exact hr x (List.mem_of_mem_take hx)
      · exact hr x (List.mem_of_mem_drop hx)
    · show R16 (if (a.ordered && decide (c.ssn = a.seq)) = true then uint16_add a.seq 1 else a.seq)
      split
      · exact uint16_add_range _ _
      · exact hseq
    · simp [List.map_take, List.map_drop]
    · show _ = σ16 j (if _ then _ else _)
      rw [apply_ite (σ16 j), ← σ16_add]
    · simp only [← List.map_take, ← List.map_drop, flatMap_data_shift]
    · intro hh; cases hh
  · simp only [hE, Bool.false_eq_true, if_false]
    exact ⟨hr, hseq, rfl, rfl, rfl, rfl, rfl, rfl,
      fun _ => ⟨plus_one_range _, σ32_plus_one k a.expected⟩⟩

theorem popIter_rel {k j : Int} {a b : PopSt} (h : PopRel k j a b) :
    OptRel (PopRel k j) (popIter a) (popIter b) := by
  have h0 := h
  obtain ⟨hr, hseq, e1, e2, e3, e4, e5, e6, hexp⟩ := h
  cases b with | mk br bs bp bst bexp bord bout =>
  simp only at e1 e2 e3 e4 e5 e6 hexp
  subst e1 e2 e3 e4 e5 e6
  unfold popIter
  simp only [List.getElem?_map]
  cases hc : a.reasm[a.pos]? with
  | none => simp [OptRel]
  | some chunk =>
    have hcr : CR chunk := hr chunk (List.mem_of_getElem? hc)
    simp only [Option.map_some]
    cases hs : a.start with
    | none =>
      simp only [shiftR_flags, shiftR_ssn, shiftR_tsn, σ16_gt j _ _ hcr.2 hseq]
      by_cases hB : flagB chunk.flags
      · simp only [hB, Bool.not_true, Bool.false_eq_true, if_false]
        split
        · trivial
        · simp only [OptRel]
          have hrel : PopRel k j
              { a with ordered := !flagU chunk.flags, expected := chunk.tsn, start := some a.pos }
              { reasm := a.reasm.map (shiftR k j), seq := σ16 j a.seq, pos := a.pos,
                start := some a.pos, expected := σ32 k chunk.tsn, ordered := !flagU chunk.flags,
                out := a.out } :=
            ⟨hr, hseq, rfl, rfl, rfl, rfl, rfl, rfl, fun _ => ⟨hcr.1, rfl⟩⟩
          exact popTail_rel hrel rfl chunk hcr a.pos
      · simp only [hB, Bool.not_false, if_true]
        by_cases hU : flagU chunk.flags
        · simp only [hU, Bool.not_true, Bool.false_eq_true, if_false, OptRel]
          exact ⟨hr, hseq, rfl, rfl, rfl, rfl, rfl, rfl, fun hh => by simp at hh⟩
        · simp only [hU, Bool.not_false, if_true, OptRel]
    | some sp =>
      have hx := hexp (by simp [hs])
      simp only [shiftR_tsn, hx.2, ne_eq, σ32_inj k chunk.tsn a.expected hcr.1 hx.1]
      split
      · split
        · trivial
        · simp only [OptRel]
          exact ⟨hr, hseq, rfl, rfl, rfl, rfl, rfl, rfl, fun hh => by simp at hh⟩
      · simp only [OptRel]
        have := popTail_rel h0 (by simp [hs]) chunk hcr sp
        simpa [hs, hx.2] using this

theorem popRun_rel {k j : Int} (fuel : Nat) {a b : PopSt} (h : PopRel k j a b) :
    OptRel (PopRel k j) (popRun fuel a) (popRun fuel b) := by
  induction fuel generalizing a b with
  | zero => trivial
  | succ n ih =>
    simp only [popRun]
    rcases (popIter_rel h).cases with ⟨ha, hb⟩ | ⟨a', b', ha, hb, h'⟩
    · rw [ha, hb]; exact h
    · rw [ha, hb]; exact ih h'

def popInit (s : InStream) : PopSt :=
  { reasm := s.reasm, seq := s.seq, pos := 0, start := none, expected := 0, ordered := true, out := [] }

theorem popInit_rel (k j : Int) (s : InStream) (hs : InOk s) :
    PopRel k j (popInit s) (popInit (shiftIn k j s)) :=
  ⟨hs.1, hs.2, rfl, rfl, rfl, rfl, rfl, rfl, fun hh => nomatch hh⟩

theorem popMessages_eq (s : InStream) :
    s.popMessages = match popRun (2 * s.reasm.length + 2) (popInit s) with
      | none => .hang
      | some st => .ok (st.out, { reasm := st.reasm, seq := st.seq }) := rfl

theorem popMessages_sim (k j : Int) (s : InStream) (hs : InOk s) :
    Sim (fun r => (r.1, shiftIn k j r.2)) (fun r => InOk r.2) s.popMessages (shiftIn k j s).popMessages := by
  rw [popMessages_eq, popMessages_eq, show (shiftIn k j s).reasm.length = s.reasm.length from List.length_map _]
  rcases (popRun_rel (2 * s.reasm.length + 2) (popInit_rel k j s hs)).cases with
    ⟨ha, hb⟩ | ⟨a', b', ha, hb, h⟩
  · rw [ha, hb]; exact .hang
  · rw [ha, hb]; exact .ok ⟨h.hr, h.hseq⟩ (by simp only [shiftIn, h.reasm, h.seq, h.out])

end Aiortc.C17
