import Aiortc.Lemmas.C17.TxDefs
/-!
# `_send`: the flags of a fragment and the SSN it is given, with and without the shift
-/
namespace Aiortc.C17
open Aiortc Aiortc.Gen Aiortc.Sctp Aiortc.Props.C17

/-- The U bit of the flags `_send` computes is exactly `not ordered`. -/
theorem flagU_frag (ordered : Bool) (first last : Bool) :
    flagU ((fun f1 => if last then f1 + SCTP_DATA_LAST_FRAG else f1)
      ((fun f0 => if first then f0 + SCTP_DATA_FIRST_FRAG else f0)
        (if ordered then 0 else SCTP_DATA_UNORDERED))) = !ordered := by
  cases ordered <;> cases first <;> cases last <;> decide

/-- SSN argument of `fragments` in the shifted run. -/
def ssnArg (j : Int) (ordered : Bool) (ssn : Int) : Int := if ordered then σ16 j ssn else ssn

/-- The stream's SSN counter exists already, or the SSN shift is trivial, or the message is unordered
(an outbound stream created on demand starts at SSN 0 in both runs). -/
def SeqKnown (j : Int) (t : Tx) (sid : Nat) (ordered : Bool) : Prop :=
  ordered = false ∨ (dictGet t.streamSeq sid).isSome ∨ j % 65536 = 0

theorem enqueue_ssn (k j : Int) (t : Tx) (sid : Nat) (ordered : Bool) (h : SeqKnown j t sid ordered) :
    (if ordered then (dictGet (shiftTx k j t).streamSeq sid).getD 0 else (0 : Int))
      = ssnArg j ordered (if ordered then (dictGet t.streamSeq sid).getD 0 else 0) := by
  cases ordered with
  | false => rfl
  | true =>
    simp only [if_true, ssnArg]
    rw [shiftTx_streamSeq, dictGet_mapVals]
    cases hg : dictGet t.streamSeq sid with
    | some v => rfl
    | none =>
      rcases h with h | h | h
      · cases h
      · rw [hg] at h; cases h
      · exact (σ16_origin h).symm

end Aiortc.C17
