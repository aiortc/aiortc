import Aiortc.Lemmas.SctpTx.AdvAck
import Aiortc.Lemmas.C17.TxDefs
/-!
# `_maybe_abandon` and `_update_advanced_peer_ack_point` under the shifts
-/
namespace Aiortc.C17
open Aiortc Aiortc.Gen Aiortc.Sctp Aiortc.Props.C17

theorem abandonBack_shift (k j : Int) (fl : Nat) (l : List SChunk) :
    abandonBack fl (l.map (shiftS k j))
      = ((abandonBack fl l).1, (abandonBack fl l).2.map (shiftS k j)) := by
  induction l generalizing fl with
  | nil => rfl
  | cons c cs ih =>
    simp only [List.map_cons, abandonBack, markAb_shift, shiftS_flags, ih]
    split <;> rfl

theorem abandonFwd_shift (k j : Int) (fl : Nat) (l : List SChunk) :
    abandonFwd fl (l.map (shiftS k j))
      = ((abandonFwd fl l).1, (abandonFwd fl l).2.1.map (shiftS k j), (abandonFwd fl l).2.2) := by
  induction l generalizing fl with
  | nil => rfl
  | cons c cs ih =>
    simp only [List.map_cons, abandonFwd, markAb_shift, shiftS_flags, ih]
    split <;> rfl

theorem abandonUnsent_shift (k j : Int) (l : List SChunk) :
    abandonUnsent (l.map (shiftS k j))
      = ((abandonUnsent l).1.map (shiftS k j), (abandonUnsent l).2.map (shiftS k j)) := by
  induction l with
  | nil => rfl
  | cons c cs ih =>
    simp only [List.map_cons, abandonUnsent, shiftS_flags, ih]
    split <;> rfl

theorem maybeAbandon_shift (k j : Int) (t : Tx) (pos : Nat) (now : Int) :
    (shiftTx k j t).maybeAbandon pos now
      = ((t.maybeAbandon pos now).1, shiftTx k j (t.maybeAbandon pos now).2) := by
  unfold Tx.maybeAbandon
  simp only [shiftTx_sentQ, shiftTx_outQ, shiftTx_flight, List.getElem?_map]
  cases hc : t.sentQ[pos]? with
  | none => rfl
  | some chunk =>
    simp only [Option.map_some, shiftS_abandoned, shouldAbandon_shift]
    by_cases ha : chunk.abandoned = true
    · simp only [ha, if_true]
    · simp only [ha, Bool.false_eq_true, if_false]
      by_cases hs : shouldAbandon chunk now = true
      · simp only [hs, Bool.not_true, Bool.false_eq_true, if_false]
        simp only [← List.map_take, ← List.map_drop, ← List.map_reverse, abandonBack_shift,
          List.getLast?_getD_map, ← List.map_cons, abandonFwd_shift, abandonUnsent_shift]
        split <;> simp [shiftTx]
      · simp only [hs, Bool.not_false, if_true]

/-- `_advanced_peer_ack_tsn` becomes the cumulative ack, stays, or is the TSN of the last chunk popped; the sent queue loses a prefix. -/
theorem updateAdvAck_ok (t : Tx) (h : TxOk t) :
    TxOk t.updateAdvAck ∧ t.updateAdvAck.streamSeq = t.streamSeq := by
  rw [updateAdvAck_eq]
  refine ⟨⟨h.lastSacked, ?_, h.qok.1.sub (List.dropWhile_sublist _).subset, h.out, h.exit⟩, rfl⟩
  simp only []
  cases hl : (t.sentQ.takeWhile (·.abandoned)).getLast? with
  | none =>
    simp only [Option.map_none, Option.getD_none]
    split
    · exact h.lastSacked
    · exact h.advAck
  | some c => exact h.sent c ((List.takeWhile_sublist _).subset (List.mem_of_getLast? hl))

end Aiortc.C17
