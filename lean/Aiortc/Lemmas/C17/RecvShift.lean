import Aiortc.Lemmas.C17.MarkShift
import Aiortc.Lemmas.C17.StreamShift
import Aiortc.Lemmas.SctpDict
/-!
# The pure receiver: the stream dict under a map of its values and the stream a chunk goes to
-/
namespace Aiortc.C17
open Aiortc Aiortc.Gen Aiortc.Sctp Aiortc.Props.C17

def mapVals {β γ} (g : β → γ) (d : List (Nat × β)) : List (Nat × γ) := d.map (fun e => (e.1, g e.2))

theorem dictGet_mapVals {β γ} (g : β → γ) (d : List (Nat × β)) (k : Nat) :
    dictGet (mapVals g d) k = (dictGet d k).map g := dictGet_map_val g d k

theorem any_key_mapVals {β γ} (g : β → γ) (d : List (Nat × β)) (k : Nat) :
    (mapVals g d).any (·.1 == k) = d.any (·.1 == k) := by
  simp [mapVals, List.any_map, Function.comp_def]

theorem dictSet_mapVals {β γ} (g : β → γ) (d : List (Nat × β)) (k : Nat) (v : β) :
    dictSet (mapVals g d) k (g v) = mapVals g (dictSet d k v) := by
  unfold dictSet
  rw [any_key_mapVals]
  split
  · simp only [mapVals, List.map_map]
    apply List.map_congr_left
    intro e _
    simp only [Function.comp_def]
    split <;> rfl
  · simp [mapVals]

theorem dictGet_isSome_dictSet {β} (d : List (Nat × β)) (k k' : Nat) (v : β)
    (h : (dictGet d k').isSome) : (dictGet (dictSet d k v) k').isSome := by
  rw [dictGet_dictSet]
  split
  · rfl
  · exact h

theorem shiftRecv_streams (k j : Int) (r : Recv) :
    (shiftRecv k j r).streams = mapVals (shiftIn k j) r.streams := rfl

theorem any_tsn_shift (k j : Int) (c : RChunk) (l : List RChunk) (hc : CR c) (hl : ∀ x ∈ l, CR x) :
    (l.map (shiftR k j)).any (fun x => x.tsn == σ32 k c.tsn) = l.any (fun x => x.tsn == c.tsn) := by
  induction l with
  | nil => rfl
  | cons x xs ih =>
    obtain ⟨hx, hxs⟩ := List.forall_mem_cons.1 hl
    simp only [List.map_cons, List.any_cons, ih hxs, shiftR_tsn]
    congr 1
    rw [Bool.eq_iff_iff]; simp only [beq_iff_eq]
    exact σ32_inj k x.tsn c.tsn hx.1 hc.1

theorem inOk_default : InOk ({} : InStream) := ⟨by simp, by show R16 0; unfold R16; omega⟩

theorem getStream_ok (r : Recv) (sid : Nat) (hr : RecvOk r) :
    InOk ((dictGet r.streams sid).getD {}) := by
  cases h : dictGet r.streams sid with
  | none => exact inOk_default
  | some s =>
    exact hr.2 _ (dictGet_mem _ _ _ h)

/-- Either the stream already exists (its expected SSN is then part of the shifted state) or the SSN
shift is trivial: a stream that is created on demand starts at SSN 0 in BOTH runs. -/
def StreamKnown (j : Int) (r : Recv) (sid : Nat) : Prop :=
  (dictGet r.streams sid).isSome ∨ j % 65536 = 0

theorem getStream_shift (k j : Int) (r : Recv) (sid : Nat) (hk : StreamKnown j r sid) :
    (dictGet (shiftRecv k j r).streams sid).getD {} = shiftIn k j ((dictGet r.streams sid).getD {}) := by
  rw [shiftRecv_streams, dictGet_mapVals]
  cases h : dictGet r.streams sid with
  | some s => rfl
  | none =>
    rcases hk with hk | hk
    · rw [h] at hk; cases hk
    · simp only [Option.map_none, Option.getD_none, shiftIn, List.map_nil, σ16_origin hk]

end Aiortc.C17
