import Aiortc.Lemmas.C17.ShiftDefs
import Aiortc.Model.Video.Receiver
/-!
# `TimestampMapper` under a shift of the 32-bit timestamps

`TimestampMapper` (rtcrtpreceiver.py):  `map` returns
`timestamp - _origin`, where `_origin` is lowered by 2^32 whenever the timestamp is smaller than the
previous one.  Under a shift the *branch taken* can differ (the wrap happens at another place of the
sequence), the value returned does not: each call adds `(t - last) mod 2^32` to the previous value.  The
state relation is therefore "`last` shifted, `origin - last` unchanged" (`shiftTs`).
-/
namespace Aiortc.C17
open Aiortc Aiortc.Gen Aiortc.Model.Video Aiortc.Props.C17

def shiftTs (m : Int) (t : TsMap) : TsMap :=
  match t.last, t.origin with
  | some l, some o => ⟨some (σ32 m l), some (o + (σ32 m l - l))⟩
  | _, _ => t

/-- `_last_timestamp` is a 32-bit number (it is the previous argument). -/
def TsMapOk (t : TsMap) : Prop := ∀ l, t.last = some l → R32 l

/-- Lowering `_origin` by 2^32 when the timestamp went down makes the value returned grow by
`(t - last) mod 2^32`. -/
theorem tsOrigin_eq (l t o : Int) (hl : R32 l) (ht : R32 t) :
    (if t < l then o - 4294967296 else o) = t - (l - o) - (t - l) % 4294967296 := by
  unfold R32 at hl ht
  split
  · rw [← Int.add_emod_right, Int.emod_eq_of_lt (by omega) (by omega)]; omega
  · rw [Int.emod_eq_of_lt (by omega) (by omega)]; omega

/-- Whichever branch each run takes, the new `_origin` differs by `σ t - t`. -/
theorem tsOrigin_shift (m l t o : Int) (hl : R32 l) (ht : R32 t) :
    (if σ32 m t < σ32 m l then o + (σ32 m l - l) - 4294967296 else o + (σ32 m l - l))
      = (if t < l then o - 4294967296 else o) + (σ32 m t - t) := by
  rw [tsOrigin_eq l t o hl ht, tsOrigin_eq _ _ _ (σ32_range m l) (σ32_range m t), σ32_sub]
  omega

theorem tsMap_shift (m : Int) (s : TsMap) (t : Int) (ht : R32 t) (hs : TsMapOk s) :
    TsMap.map (shiftTs m s) (σ32 m t) = omap (fun r => (shiftTs m r.1, r.2)) (TsMap.map s t) := by
  obtain ⟨last, origin⟩ := s
  have e0 : t + (σ32 m t - t) = σ32 m t := by omega
  cases origin with
  | none =>
    cases last with
    | none => simp only [shiftTs, TsMap.map, omap_ok, e0]
    | some l => simp only [shiftTs, TsMap.map, omap_ok, e0]
  | some o =>
    cases last with
    | none => rfl
    | some l =>
      have hk := tsOrigin_shift m l t o (hs l rfl) ht
      simp only [shiftTs, TsMap.map, omap_ok, hk]
      generalize (if t < l then o - 4294967296 else o) = o'
      have e1 : σ32 m t - (o' + (σ32 m t - t)) = t - o' := by omega
      rw [e1]

/-- `_last_timestamp` becomes the argument. -/
theorem tsMap_ok (s : TsMap) (t : Int) (ht : R32 t) (r : TsMap × Int) (h : TsMap.map s t = .ok r) : TsMapOk r.1 := by
  obtain ⟨last, origin⟩ := s
  have e : r.1.last = some t := by
    cases origin with
    | none => cases h; rfl
    | some o =>
      cases last with
      | none => cases h
      | some l0 => cases h; rfl
  intro l hl
  rw [e] at hl; cases hl; exact ht

theorem tsMap_sim (m : Int) (s : TsMap) (t : Int) (ht : R32 t) (hs : TsMapOk s) :
    Sim (fun r => (shiftTs m r.1, r.2)) (fun r => TsMapOk r.1) (TsMap.map s t) (TsMap.map (shiftTs m s) (σ32 m t)) :=
  ⟨tsMap_shift m s t ht hs, tsMap_ok s t ht⟩

def tsMapAll : TsMap → List Int → Outcome (List Int)
  | _, [] => .ok []
  | s, t :: ts =>
    match TsMap.map s t with
    | .ok r => omap (fun vs => r.2 :: vs) (tsMapAll r.1 ts)
    | .valueError => .valueError
    | .crash k => .crash k
    | .hang => .hang

theorem tsMapAll_shift (m : Int) (ts : List Int) (s : TsMap) (hts : ∀ t ∈ ts, R32 t) (hs : TsMapOk s) :
    tsMapAll (shiftTs m s) (ts.map (σ32 m)) = tsMapAll s ts := by
  induction ts generalizing s with
  | nil => rfl
  | cons t rest ih =>
    obtain ⟨h1, hrest⟩ := List.forall_mem_cons.1 hts
    simp only [List.map_cons, tsMapAll]
    refine (tsMap_sim m s t h1 hs).on rfl (fun _ => rfl) rfl fun r hr => ?_
    dsimp only
    rw [ih r.1 hrest hr]

theorem tsInit_ok : TsMapOk TsMap.init := fun _ h => by cases h

theorem tsInit_shift (m : Int) : shiftTs m TsMap.init = TsMap.init := rfl

end Aiortc.C17
