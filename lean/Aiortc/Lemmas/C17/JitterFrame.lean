import Aiortc.Lemmas.C17.JitterRemove
/-!
# Jitter buffer `_remove_frame` under the shifts
-/
namespace Aiortc.C17
open Aiortc Aiortc.Gen Aiortc.Model.Jitter Aiortc.Props.C17 Aiortc.Lemmas.Jitter

def shiftRF (k m : Int) (st : RF) : RF :=
  { frame := st.frame.map (shiftF m), frames := st.frames, pkts := st.pkts.map (shiftP k m),
    remove := st.remove, ts := st.ts.map (σ32 m), used := st.used.map (shiftP k m) }

def shiftRFStep (k m : Int) : RFStep → RFStep
  | .cont st => .cont (shiftRF k m st)
  | .brk => .brk
  | .ret st => .ret (shiftRF k m st)

theorem joinData_shift (k m : Int) (l : List Packet) : joinData (l.map (shiftP k m)) = joinData l := by
  unfold joinData; rw [List.map_map]; rfl

theorem rfBody_shift (k m : Int) (prefetch : Int) (st : RF) (count : Nat) (p : Packet)
    (hts : TsOk st.ts) (hp : R32 p.ts) :
    rfBody prefetch (shiftRF k m st) count (shiftP k m p) = shiftRFStep k m (rfBody prefetch st count p) := by
  unfold rfBody
  rw [show (shiftRF k m st).ts = st.ts.map (σ32 m) from rfl]
  cases hs : st.ts with
  | none => simp [shiftRFStep, shiftRF, hs]
  | some t =>
    have ht := hts t hs
    simp only [Option.map_some, shiftP_ts, ne_eq, σ32_inj m p.ts t hp ht]
    by_cases hne : p.ts = t
    · simp only [hne, not_true_eq_false, if_false]
      simp [shiftRFStep, shiftRF]
    · simp only [hne, not_false_eq_true, if_true]
      have e2 : (shiftRF k m st).frame = st.frame.map (shiftF m) := rfl
      rw [e2]
      have e3 : (shiftRF k m st).frames = st.frames := rfl
      cases hf : st.frame with
      | none =>
        simp only [Option.map_none, e3]
        by_cases hpf : st.frames + 1 ≥ prefetch
        · simp [hpf, shiftRFStep, shiftRF, joinData_shift, shiftF, hf]
        · simp [hpf, shiftRFStep, shiftRF, joinData_shift, shiftF, hf]
      | some f =>
        simp only [Option.map_some, e3]
        by_cases hpf : st.frames + 1 ≥ prefetch
        · simp [hpf, shiftRFStep, shiftRF, hf]
        · simp [hpf, shiftRFStep, shiftRF, hf]

def RFStepOk : RFStep → Prop
  | .cont st => TsOk st.ts
  | .brk => True
  | .ret st => TsOk st.ts

/-- The body stores as local `timestamp` what it held before, or the timestamp of the packet at hand. -/
theorem rfBody_ok (prefetch : Int) (st : RF) (count : Nat) (p : Packet) (hts : TsOk st.ts) (hp : R32 p.ts) :
    RFStepOk (rfBody prefetch st count p) := by
  have hsome : TsOk (some p.ts) := fun t ht => by cases ht; exact hp
  unfold rfBody
  cases hs : st.ts with
  | none => exact hsome
  | some t =>
    have ht : TsOk (some t) := hs ▸ hts
    simp only []
    by_cases hne : p.ts ≠ t
    · -- a frame is complete: return with the old timestamp, or go on with the packet's
      rw [if_pos hne]
      cases st.frame with
      | none => simp only []; split; exact ht; exact hsome
      | some f => simp only []; split; exact hts; exact hsome
    · rw [if_neg hne]; exact ht

theorem scan_map (k m : Int) (P : Int) : ∀ (l : List (Option Packet)) (count : Nat) (st : RF),
    (∀ p, some p ∈ l → R32 p.ts) → TsOk st.ts →
    scan P (l.map (Option.map (shiftP k m))) count (shiftRF k m st) = (scan P l count st).map (shiftRF k m)
  | [], _, _, _, _ => rfl
  | none :: _, _, _, _, _ => rfl
  | some p :: l, count, st, hl, hts => by
    have hp := hl p List.mem_cons_self
    have hok := rfBody_ok P st count p hts hp
    simp only [List.map_cons, Option.map_some, scan, rfBody_shift k m P st count p hts hp]
    cases hb : rfBody P st count p with
    | cont st1 => exact scan_map k m P l _ st1 (fun q hq => hl q (List.mem_cons_of_mem _ hq)) (by rw [hb] at hok; exact hok)
    | brk => rfl
    | ret st1 => rfl

theorem rfLoop_shift (k m : Int) (jb : JB) (o : Int) (n count : Nat) (st : RF) (h : JBOk jb)
    (hts : TsOk st.ts) :
    rfLoop (shiftJB k m jb) (σ16 k o) n count (shiftRF k m st)
      = omap (Option.map (shiftRF k m)) (rfLoop jb o n count st) := by
  rw [rfLoop_eq_scan h.pos h.len, rfLoop_eq_scan (jb := shiftJB k m jb) h.pos (rotPackets_length ..), omap_ok,
    ← scan_map k m _ _ _ _ (fun p hp => ?_) hts]
  · simp only [winList, List.map_map, funext (winAt_shift k m jb h o)]; rfl
  · obtain ⟨i, _, hi⟩ := List.mem_map.1 hp
    exact winAt_ts jb h o i p hi

def shiftRFOut (k m : Int) (r : RFOut) : RFOut :=
  ⟨shiftJB k m r.jb, r.frame.map (shiftF m), r.used.map (shiftP k m)⟩

theorem removeFrame_sim (k m : Int) (jb : JB) (sn sn' : Int) (h : JBOk jb) :
    Sim (shiftRFOut k m) (fun r => JBOk r.jb) (removeFrame jb sn) (removeFrame (shiftJB k m jb) sn') := by
  unfold removeFrame
  rw [shiftJB_capacity, shiftJB_origin]
  have hc : ¬ jb.capacity = 0 := Nat.ne_of_gt h.pos
  rw [if_neg hc, if_neg hc]
  cases ho : jb.origin with
  | none => exact .crash _
  | some o =>
    simp only [Option.map_some]
    have hloop := rfLoop_shift k m jb o jb.capacity 0 RF.init h nofun
    rw [show shiftRF k m RF.init = RF.init from rfl] at hloop
    refine (Sim.of_eq hloop).on .valueError .crash .hang fun r _ => ?_
    cases r with
    | none => exact .ok h
    | some st =>
      simp only [Option.map_some, show (shiftRF k m st).remove = st.remove from rfl]
      exact (remove_sim k m jb st.remove h).on .valueError .crash .hang fun jb1 h1 => .ok h1

end Aiortc.C17
