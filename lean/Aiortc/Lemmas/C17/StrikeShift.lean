import Aiortc.Lemmas.SctpTx.Inv
import Aiortc.Lemmas.C17.AbandonShift
/-!
# The strike loop of `_receive_sack_chunk` under the shifts

The loop bodies are those of `Lemmas/SctpTx/Loops.lean` (`hitMark`, `hitBody`, `strikeHit`).  The range of the queued TSNs is
an instance of the layer's `TxInv` (`txInv_QOk`), so that the loops keep it is read off `Lemmas/SctpTx/Inv.lean`.
-/
namespace Aiortc.C17
open Aiortc Aiortc.Gen Aiortc.Sctp Aiortc.Props.C17

/-- The range of the TSNs in the two queues is an invariant of the send side in the sense of `Lemmas/SctpTx/Inv.lean`: it is kept by
the strike loop, `_t3_expired`, `_transmit` and every phase of `_receive_sack_chunk` (`txInv_QOk.strikeLoop` …).  The TSN-typed scalars
of `TxOk` are not read by those loops at all; see `TxOk.queues`. -/
theorem txInv_QOk : TxInv QOk fun _ => True where
  congr h e := by
    simp only [Tx.reads, Prod.mk.injEq] at e
    exact ⟨e.1 ▸ h.1, e.2.1 ▸ h.2⟩
  sent h hpw := ⟨PW.forall (fun c d hb hc => (show d.tsn = c.tsn from congrArg RChunk.tsn hb.1) ▸ hc) hpw h.1, h.2⟩
  drop h k := ⟨h.1.sub fun _ hx => List.mem_of_mem_drop hx, h.2⟩
  send h k f hf :=
    ⟨h.1.append ((h.2.sub fun _ hx => List.mem_of_mem_take hx).map f fun c => congrArg RChunk.tsn (hf c).1),
      h.2.sub fun _ hx => List.mem_of_mem_drop hx⟩
  abandon h pos now :=
    maybeAbandon_all (P := fun c => R32 c.tsn) (Q := fun c => R32 c.tsn) _ pos now (fun _ _ h => h) (fun _ _ h => h) h.1 h.2
  advAck h := by rw [updateAdvAck_eq]; exact ⟨h.1.sub (List.dropWhile_sublist _).subset, h.2⟩
  fwdSent h := h
  data _ _ := trivial
  fwd _ _ := trivial
  t3start := trivial
  t3cancel := trivial

/-- A step that writes the flight size and the two queues only (the form of `strikeLoop_frame`, `t3Mark_frame`, `hitBody_frame`)
keeps `TxOk` as soon as the queues stay in range. -/
theorem TxOk.queues {t t' : Tx} (h : TxOk t) (hq : QOk t')
    (e : t' = { t with flight := t'.flight, sentQ := t'.sentQ, outQ := t'.outQ }) : TxOk t' ∧ t'.streamSeq = t.streamSeq :=
  e ▸ ⟨⟨h.lastSacked, h.advAck, hq.1, hq.2, h.exit⟩, rfl⟩

theorem hitMark_shift (k j : Int) (ab : Bool) (c : SChunk) : hitMark ab (shiftS k j c) = shiftS k j (hitMark ab c) := by
  cases ab <;> rfl

theorem hitMark_tsn (ab : Bool) (c : SChunk) : (hitMark ab c).tsn = c.tsn := by cases ab <;> rfl

theorem hitBody_shift (k j : Int) (now : Int) (pos : Nat) (t : Tx) :
    hitBody (shiftTx k j t) pos now = shiftTx k j (hitBody t pos now) := by
  unfold hitBody
  rw [maybeAbandon_shift]
  simp only [shiftTx_sentQ]
  rw [List.map_modify_comm (shiftS k j) (hitMark (t.maybeAbandon pos now).1) (hitMark (t.maybeAbandon pos now).1)
    (fun c => hitMark_shift k j _ c)]
  rfl

/-- `chunk.misses = m` at position `pos`, under the shifts. -/
theorem setMisses_shift (k j : Int) (t : Tx) (pos m : Nat) :
    ({ shiftTx k j t with sentQ := (shiftTx k j t).sentQ.modify pos fun d => { d with misses := m } } : Tx)
      = shiftTx k j { t with sentQ := t.sentQ.modify pos fun d => { d with misses := m } } := by
  rw [shiftTx_sentQ, List.map_modify_comm (shiftS k j) (fun c => { c with misses := m })
    (fun c => { c with misses := m }) (fun _ => rfl)]
  rfl

theorem strikeHit_shift (k j : Int) (t : Tx) (pos : Nat) (c : SChunk) (now : Int) :
    strikeHit (shiftTx k j t) pos (shiftS k j c) now = shiftTx k j (strikeHit t pos c now) := by
  unfold strikeHit
  simp only []
  rw [setMisses_shift, hitBody_shift, maybeAbandon_shift]
  simp only [shiftTx_sentQ, shiftTx_flight, List.getElem?_map]
  cases ((({ t with sentQ := t.sentQ.modify pos fun d => { d with misses := 0 } } : Tx).maybeAbandon pos now).2.sentQ[pos]?) <;> rfl

theorem strikeLoop_shift (k j : Int) (seen : List Int) (hna now : Int) (hseen : ∀ x ∈ seen, R32 x)
    (hh : R32 hna) (fuel pos : Nat) (t : Tx) (loss : Bool) (ht : QOk t) :
    strikeLoop (seen.map (σ32 k)) (σ32 k hna) now fuel pos (shiftTx k j t) loss
      = (shiftTx k j (strikeLoop seen hna now fuel pos t loss).1,
         (strikeLoop seen hna now fuel pos t loss).2) := by
  induction fuel generalizing pos t loss with
  | zero => rfl
  | succ n ih =>
    have e : (shiftTx k j t).sentQ[pos]? = t.sentQ[pos]?.map (shiftS k j) := by rw [shiftTx_sentQ, List.getElem?_map]
    rw [strikeLoop_succ, strikeLoop_succ, e]
    cases hc : t.sentQ[pos]? with
    | none => rfl
    | some c =>
      have hcr : R32 c.tsn := ht.1 c (List.mem_of_getElem? hc)
      simp only [Option.map_some, shiftS_tsn, σ32_gt k c.tsn hna hcr hh,
        contains_shift32 k c.tsn seen hcr hseen, shiftS_misses, strikeHit_shift, setMisses_shift]
      by_cases hg : uint32_gt c.tsn hna = true
      · simp only [hg, if_true]
      · simp only [hg, Bool.false_eq_true, if_false]
        by_cases hs : seen.contains c.tsn = true
        · simp only [hs, Bool.not_true, Bool.false_eq_true, if_false]
          exact ih (pos + 1) t loss ht
        · simp only [hs, Bool.not_false, if_true]
          by_cases hm : c.misses + 1 = 3
          · simp only [hm, if_true]
            exact ih (pos + 1) _ true (txInv_QOk.strikeHit ht pos c now)
          · simp only [hm, if_false]
            exact ih (pos + 1) _ loss (txInv_QOk.modify ht pos (fun d => { d with misses := c.misses + 1 }) (fun _ => ⟨rfl, rfl, rfl, rfl⟩) t.flight)

end Aiortc.C17
