import Aiortc.Lemmas.C17.TxDefs
/-!
# SACK processing on the sender: `ackLoop`, `gapSeen`, `htnaLoop` under the shifts
-/
namespace Aiortc.C17
open Aiortc Aiortc.Gen Aiortc.Sctp Aiortc.Props.C17

theorem ackLoop_shift (k j : Int) (ls : Int) (hls : R32 ls) (fl done db : Nat) (l : List SChunk)
    (hl : ∀ c ∈ l, R32 c.tsn) :
    ackLoop (σ32 k ls) fl done db (l.map (shiftS k j))
      = ((ackLoop ls fl done db l).1, (ackLoop ls fl done db l).2.1, (ackLoop ls fl done db l).2.2.1,
         (ackLoop ls fl done db l).2.2.2.map (shiftS k j)) := by
  induction l generalizing fl done db with
  | nil => rfl
  | cons c cs ih =>
    obtain ⟨hc, hcs⟩ := List.forall_mem_cons.1 hl
    have ih := fun fl done db => ih fl done db hcs
    simp only [List.map_cons, ackLoop, shiftS_tsn, σ32_gte k ls c.tsn hls hc, shiftS_acked,
      shiftS_bookSize, decFlight_shift]
    by_cases hg : uint32_gte ls c.tsn = true
    · simp only [hg, if_true, ih]
      rfl
    · simp only [hg, Bool.false_eq_true, if_false]; rfl

/-- Offsets from the cumulative TSN that the gap blocks cover (each block clipped to `limit`). -/
def gapOffsets (limit : Nat) (gaps : List (Nat × Nat)) : List Int :=
  gaps.flatMap fun g => (List.range (min g.2 limit + 1 - g.1)).map fun i => ((g.1 + i : Nat) : Int)

theorem gapSeen_eq (cum : Int) (limit : Nat) (gaps : List (Nat × Nat)) :
    gapSeen cum limit gaps
      = ((gapOffsets limit gaps).map (uint32_add cum),
         ((gapOffsets limit gaps).map (uint32_add cum)).getLast?.getD cum) := by
  unfold gapSeen gapOffsets
  simp only [List.map_flatMap, List.map_map]
  rfl

theorem gapSeen_shift (k : Int) (cum : Int) (limit : Nat) (gaps : List (Nat × Nat)) :
    gapSeen (σ32 k cum) limit gaps
      = ((gapSeen cum limit gaps).1.map (σ32 k), σ32 k (gapSeen cum limit gaps).2) := by
  have e : uint32_add (σ32 k cum) = σ32 k ∘ uint32_add cum := funext (σ32_add k cum)
  rw [gapSeen_eq, gapSeen_eq, e, ← List.map_map, List.getLast?_getD_map]

theorem gapSeen_range (cum : Int) (limit : Nat) (gaps : List (Nat × Nat)) (hc : R32 cum) :
    (∀ x ∈ (gapSeen cum limit gaps).1, R32 x) ∧ R32 (gapSeen cum limit gaps).2 := by
  rw [gapSeen_eq]
  have h1 : ∀ x ∈ (gapOffsets limit gaps).map (uint32_add cum), R32 x := by
    intro x hx
    obtain ⟨n, _, rfl⟩ := List.mem_map.1 hx
    exact uint32_add_range cum n
  refine ⟨h1, ?_⟩
  cases hl : ((gapOffsets limit gaps).map (uint32_add cum)).getLast? with
  | none => exact hc
  | some x => exact h1 x (List.mem_of_getLast? hl)

theorem htnaLoop_shift (k j : Int) (seen : List Int) (hs : Int) (hseen : ∀ x ∈ seen, R32 x)
    (hhs : R32 hs) (fl db : Nat) (hna : Int) (acc l : List SChunk) (hl : ∀ c ∈ l, R32 c.tsn) :
    htnaLoop (seen.map (σ32 k)) (σ32 k hs) fl db (σ32 k hna) (acc.map (shiftS k j))
        (l.map (shiftS k j))
      = ((htnaLoop seen hs fl db hna acc l).1, (htnaLoop seen hs fl db hna acc l).2.1,
         σ32 k (htnaLoop seen hs fl db hna acc l).2.2.1,
         (htnaLoop seen hs fl db hna acc l).2.2.2.map (shiftS k j)) := by
  induction l generalizing fl db hna acc with
  | nil => simp [htnaLoop]
  | cons c cs ih =>
    obtain ⟨hc, hcs⟩ := List.forall_mem_cons.1 hl
    have ih := fun fl db hna acc => ih fl db hna acc hcs
    simp only [List.map_cons, htnaLoop, shiftS_tsn, σ32_gt k c.tsn hs hc hhs,
      contains_shift32 k c.tsn seen hc hseen, shiftS_acked, shiftS_bookSize]
    by_cases hg : uint32_gt c.tsn hs = true
    · simp only [hg, if_true]; simp
    · simp only [hg, Bool.false_eq_true, if_false]
      by_cases hn : (seen.contains c.tsn && !c.acked) = true
      · simp only [hn, if_true]
        change htnaLoop _ _ (decFlight fl (shiftS k j { c with acked := true })).1 _ _
          ((decFlight fl (shiftS k j { c with acked := true })).2 :: _) _ = _
        simp only [decFlight_shift]
        rw [← List.map_cons, ih]
      · simp only [hn, Bool.false_eq_true, if_false]
        rw [← List.map_cons, ih]

end Aiortc.C17
