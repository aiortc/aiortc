import Aiortc.Lemmas.Util.List
import Aiortc.Props.C17
import Aiortc.Model.Sctp.Recv
/-!
# Shift maps, their arithmetic, and `Sim`

The shift maps `σ32 k x = (x + k) % 2^32` and `σ16 j x = (x + j) % 2^16` and their lifting to the SCTP
states: they act on every sequence-number-typed field and leave everything else (stream ids, PPIDs, flags,
payloads, byte counts) alone.  Also here: the `Gen` comparison functions under a shift, the slot rotation of
arrays indexed by `sequence_number % c`, and `Sim`, the form in which equivariance and invariant of an
`Outcome`-valued operation are proved together.
-/
namespace Aiortc.C17
open Aiortc Aiortc.Gen Aiortc.Sctp Aiortc.Props.C17

def σ32 (k x : Int) : Int := (x + k) % 4294967296
def σ16 (k x : Int) : Int := (x + k) % 65536

theorem σ16_eq_add (k x : Int) : σ16 k x = uint16_add x k := rfl

theorem emod_shift_add (M k a n : Int) : ((a + k) % M + n) % M = ((a + n) % M + k) % M := by
  rw [Int.emod_add_emod, Int.emod_add_emod, Int.add_right_comm]

theorem emod_shift_sub (M k a b : Int) : ((a + k) % M - (b + k) % M) % M = (a - b) % M := by
  rw [Int.emod_sub_emod, Int.sub_emod_emod, Int.add_sub_add_right]

theorem σ32_range (k x : Int) : R32 (σ32 k x) := Serial.emod_range (by decide) _
theorem σ16_range (k x : Int) : R16 (σ16 k x) := Serial.emod_range (by decide) _

theorem σ32_zero (x : Int) (h : R32 x) : σ32 0 x = x := by
  unfold σ32; rw [Int.add_zero, Int.emod_eq_of_lt h.1 h.2]
theorem σ16_zero (x : Int) (h : R16 x) : σ16 0 x = x := by
  unfold σ16; rw [Int.add_zero, Int.emod_eq_of_lt h.1 h.2]

/-- A counter that starts at 0 in both runs: only a trivial shift relates them. -/
theorem σ16_origin {j : Int} (h : j % 65536 = 0) : σ16 j 0 = 0 := by
  unfold σ16; rwa [Int.zero_add]

theorem σ32_inj (k a b : Int) (ha : R32 a) (hb : R32 b) : σ32 k a = σ32 k b ↔ a = b :=
  Serial.eq_shift k ha hb
theorem σ16_inj (k a b : Int) (ha : R16 a) (hb : R16 b) : σ16 k a = σ16 k b ↔ a = b :=
  Serial.eq_shift k ha hb

theorem σ32_gt (k a b : Int) (ha : R32 a) (hb : R32 b) :
    uint32_gt (σ32 k a) (σ32 k b) = uint32_gt a b := uint32_gt_shift a b k ha hb
theorem σ32_gte (k a b : Int) (ha : R32 a) (hb : R32 b) :
    uint32_gte (σ32 k a) (σ32 k b) = uint32_gte a b := uint32_gte_shift a b k ha hb
theorem σ16_gt (k a b : Int) (ha : R16 a) (hb : R16 b) :
    uint16_gt (σ16 k a) (σ16 k b) = uint16_gt a b := uint16_gt_shift a b k ha hb
theorem σ16_gte (k a b : Int) (ha : R16 a) (hb : R16 b) :
    uint16_gte (σ16 k a) (σ16 k b) = uint16_gte a b := uint16_gte_shift a b k ha hb

theorem σ16_add (k a n : Int) : uint16_add (σ16 k a) n = σ16 k (uint16_add a n) := emod_shift_add _ k a n
theorem σ32_add (k a n : Int) : uint32_add (σ32 k a) n = σ32 k (uint32_add a n) := emod_shift_add _ k a n
theorem σ32_plus_one (k a : Int) : tsn_plus_one (σ32 k a) = σ32 k (tsn_plus_one a) := σ32_add k a 1
theorem σ32_minus_one (k a : Int) : tsn_minus_one (σ32 k a) = σ32 k (tsn_minus_one a) := σ32_add k a (-1)
theorem plus_one_range (a : Int) : R32 (tsn_plus_one a) := uint32_add_range a 1
theorem minus_one_range (a : Int) : R32 (tsn_minus_one a) := uint32_add_range a (-1)
theorem uint16_add_range' (a n : Int) : R16 (uint16_add a n) := uint16_add_range a n

theorem σ32_eq_plus_one (k t last : Int) (ht : R32 t) :
    σ32 k t = tsn_plus_one (σ32 k last) ↔ t = tsn_plus_one last := by
  rw [σ32_plus_one]; exact σ32_inj k t _ ht (plus_one_range _)

theorem σ32_sub (k a b : Int) : (σ32 k a - σ32 k b) % 4294967296 = (a - b) % 4294967296 :=
  emod_shift_sub _ k a b
theorem σ16_sub (k a b : Int) : uint16_add (σ16 k a) (-σ16 k b) = uint16_add a (-b) := by
  unfold uint16_add; rw [← Int.sub_eq_add_neg, ← Int.sub_eq_add_neg]; exact emod_shift_sub _ k a b

theorem serialKey_shift (k base t : Int) : serialKey (σ32 k base) (σ32 k t) = serialKey base t :=
  σ32_sub k t base

def rot (k : Int) (c pos : Nat) : Nat := (((pos : Int) + k) % (c : Int)).toNat

def unrot (k : Int) (c i : Nat) : Nat := (((i : Int) - k) % (c : Int)).toNat

theorem rot_lt (k : Int) (c pos : Nat) (hc : 0 < c) : rot k c pos < c := Serial.emod_toNat_lt _ hc

theorem unrot_rot (k : Int) (c pos : Nat) (hc : 0 < c) (hp : pos < c) : unrot k c (rot k c pos) = pos := by
  unfold unrot rot
  rw [Int.toNat_of_nonneg (Int.emod_nonneg _ (by omega)), Int.sub_eq_add_neg, Int.emod_add_emod,
    Int.add_neg_cancel_right, Int.emod_eq_of_lt (by omega) (by omega), Int.toNat_natCast]

theorem rot_unrot (k : Int) (c i : Nat) (hc : 0 < c) (hi : i < c) : rot k c (unrot k c i) = i := by
  unfold unrot rot
  rw [Int.toNat_of_nonneg (Int.emod_nonneg _ (by omega)), Int.emod_add_emod, Int.sub_add_cancel,
    Int.emod_eq_of_lt (by omega) (by omega), Int.toNat_natCast]

theorem rot_inj (k : Int) {c a b : Nat} (hc : 0 < c) (ha : a < c) (hb : b < c) :
    rot k c a = rot k c b ↔ a = b :=
  ⟨fun h => by rw [← unrot_rot k c a hc ha, h, unrot_rot k c b hc hb], fun h => h ▸ rfl⟩

theorem slot_rot (k x y : Int) (c : Nat) (hc : ¬ c = 0) (h : y % (c : Int) = (x + k) % (c : Int)) :
    (y % (c : Int)).toNat = rot k c (x % (c : Int)).toNat := by
  unfold rot
  rw [Int.toNat_of_nonneg (Int.emod_nonneg x (by omega)), Int.emod_add_emod, h]

theorem σ16_mod (k x : Int) (c : Nat) (hd : (c : Int) ∣ 65536) :
    σ16 k x % (c : Int) = (x + k) % (c : Int) := by
  unfold σ16; exact Int.emod_emod_of_dvd _ hd

theorem contains_shift32 (k a : Int) (l : List Int) (ha : R32 a) (hl : ∀ x ∈ l, R32 x) :
    (l.map (σ32 k)).contains (σ32 k a) = l.contains a := List.contains_map_inj (σ32_inj k) a l ha hl

theorem contains_shift16 (k a : Int) (l : List Int) (ha : R16 a) (hl : ∀ x ∈ l, R16 x) :
    (l.map (σ16 k)).contains (σ16 k a) = l.contains a := List.contains_map_inj (σ16_inj k) a l ha hl

def omap {α β} (f : α → β) : Outcome α → Outcome β
  | .ok a => .ok (f a)
  | .valueError => .valueError
  | .crash k => .crash k
  | .hang => .hang

@[simp] theorem omap_ok {α β} (f : α → β) (a : α) : omap f (.ok a) = .ok (f a) := rfl
@[simp] theorem omap_valueError {α β} (f : α → β) : omap f (.valueError : Outcome α) = .valueError := rfl
@[simp] theorem omap_crash {α β} (f : α → β) (s : String) : omap f (.crash s : Outcome α) = .crash s := rfl
@[simp] theorem omap_hang {α β} (f : α → β) : omap f (.hang : Outcome α) = .hang := rfl

/-- `y` is what `x` becomes under the shift `sh`, and a successful `x` satisfies `Q`: the equivariance of an
operation and the invariant it keeps, both read off one case analysis of its definition.  The second half does not depend on the
shift: it is read off the instance with shift 0 (`(add_sim 0 0 …).2`). -/
def Sim {α β} (sh : α → β) (Q : α → Prop) (x : Outcome α) (y : Outcome β) : Prop :=
  y = omap sh x ∧ ∀ a, x = .ok a → Q a

theorem Sim.ok {α β} {sh : α → β} {Q : α → Prop} {a : α} {y : Outcome β} (h : Q a)
    (hy : y = .ok (sh a) := by rfl) : Sim sh Q (.ok a) y :=
  ⟨hy, fun _ e => by cases e; exact h⟩

theorem Sim.of_eq {α β} {sh : α → β} {x : Outcome α} {y : Outcome β} (h : y = omap sh x) : Sim sh (fun _ => True) x y :=
  ⟨h, fun _ _ => trivial⟩

theorem Sim.valueError {α β} {sh : α → β} {Q : α → Prop} : Sim sh Q .valueError .valueError := ⟨rfl, nofun⟩
theorem Sim.crash {α β} {sh : α → β} {Q : α → Prop} (k : String) : Sim sh Q (.crash k) (.crash k) := ⟨rfl, nofun⟩
theorem Sim.hang {α β} {sh : α → β} {Q : α → Prop} : Sim sh Q .hang .hang := ⟨rfl, nofun⟩

/-- Entering a `match` of the model on the two results of a simulated call (the motive is inferred, as for the eliminators of
`Lemmas/Outcome.lean`; failure branches first): a failure is the same failure on both sides, and on success the value
satisfies `Q` and the other side holds the shifted value.  For a `Sim` goal the failure branches are `.valueError .crash .hang`. -/
@[elab_as_elim] theorem Sim.on {α β} {sh : α → β} {Q : α → Prop} {x : Outcome α} {y : Outcome β}
    {motive : Outcome α → Outcome β → Prop} (h : Sim sh Q x y) (valueError : motive .valueError .valueError)
    (crash : ∀ k, motive (.crash k) (.crash k)) (hang : motive .hang .hang)
    (ok : ∀ a, Q a → motive (.ok a) (.ok (sh a))) : motive x y := by
  obtain ⟨rfl, hq⟩ := h
  cases x with
  | ok a => exact ok a (hq a rfl)
  | valueError => exact valueError
  | crash k => exact crash k
  | hang => exact hang

def shiftR (k j : Int) (c : RChunk) : RChunk := { c with tsn := σ32 k c.tsn, ssn := σ16 j c.ssn }

def CR (c : RChunk) : Prop := R32 c.tsn ∧ R16 c.ssn

@[simp] theorem shiftR_tsn (k j : Int) (c : RChunk) : (shiftR k j c).tsn = σ32 k c.tsn := rfl
@[simp] theorem shiftR_ssn (k j : Int) (c : RChunk) : (shiftR k j c).ssn = σ16 j c.ssn := rfl
@[simp] theorem shiftR_sid (k j : Int) (c : RChunk) : (shiftR k j c).sid = c.sid := rfl
@[simp] theorem shiftR_ppid (k j : Int) (c : RChunk) : (shiftR k j c).ppid = c.ppid := rfl
@[simp] theorem shiftR_flags (k j : Int) (c : RChunk) : (shiftR k j c).flags = c.flags := rfl
@[simp] theorem shiftR_data (k j : Int) (c : RChunk) : (shiftR k j c).data = c.data := rfl

theorem shiftR_CR (k j : Int) (c : RChunk) : CR (shiftR k j c) := ⟨σ32_range _ _, σ16_range _ _⟩

def shiftRx (k : Int) (r : Rx) : Rx :=
  { last := σ32 k r.last, mis := r.mis.map (σ32 k), dups := r.dups.map (σ32 k) }

def RxOk (r : Rx) : Prop := R32 r.last ∧ (∀ x ∈ r.mis, R32 x) ∧ (∀ x ∈ r.dups, R32 x)

def shiftIn (k j : Int) (s : InStream) : InStream :=
  { reasm := s.reasm.map (shiftR k j), seq := σ16 j s.seq }

def InOk (s : InStream) : Prop := (∀ c ∈ s.reasm, CR c) ∧ R16 s.seq

def shiftRecv (k j : Int) (r : Recv) : Recv :=
  { rx := shiftRx k r.rx, streams := r.streams.map (fun e => (e.1, shiftIn k j e.2)) }

def RecvOk (r : Recv) : Prop := RxOk r.rx ∧ ∀ e ∈ r.streams, InOk e.2

end Aiortc.C17
