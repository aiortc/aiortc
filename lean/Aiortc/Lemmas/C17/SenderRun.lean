import Aiortc.Lemmas.C17.SenderShift
/-!
# Whole histories of the RTP sender under a change of origins

A history is a list of operations on one `RTCRtpSender`: an encoded frame going through the `_run_rtp`
packet loop, or an RTCP NACK going through `_handle_rtcp_packet` → `_retransmit`.  `sRun` is that history
on the model functions `sendFrame` / `handleNack` (the ones the `video sender` driver request executes,
`Drv/Video.lean: senderRun`).  `evRun` is the same history as *events*: a first transmission, or a
retransmission of a source packet together with the RTX sequence number it is wrapped with — an RTX packet
embeds the original sequence number in its payload, so "shifted output" is stated on the events and
`render` (= `rtxOut`) turns events into wire packets (`sRun_render`).
-/
namespace Aiortc.C17
open Aiortc Aiortc.Gen Aiortc.Rtp Aiortc.Model.Video Aiortc.Props.C17

inductive SOp where
  | frame (encTs : Int) (payloads : List Bytes)
  | nack (lost : List Int)
  deriving DecidableEq, Repr

/-- The NACKed numbers move with the sequence-number origin; frames are origin-free. -/
def shiftOp (k : Int) : SOp → SOp
  | .frame t pls => .frame t pls
  | .nack l => .nack (l.map (σ16 k))

/-- Every NACKed number is a 16-bit number (it came out of an RTCP packet). -/
def OpOk : SOp → Prop
  | .frame _ _ => True
  | .nack l => ∀ x ∈ l, R16 x

def sStep (cfg : SenderCfg) (s : Sender) : SOp → Sender × List RtpPacket
  | .frame t pls => sendFrame cfg s t pls
  | .nack l => handleNack cfg s l

/-- What the sender puts on the wire, operation by operation. -/
def sRun (cfg : SenderCfg) : Sender → List SOp → List (List RtpPacket)
  | _, [] => []
  | s, op :: ops => (sStep cfg s op).2 :: sRun cfg (sStep cfg s op).1 ops

inductive SEv where
  | sent (p : RtpPacket)
  | resent (rtxSeq : Int) (p : RtpPacket)
  deriving DecidableEq, Repr

def render (cfg : SenderCfg) : SEv → RtpPacket
  | .sent p => p
  | .resent q p => rtxOut cfg q p

def shiftSEv (k r m : Int) : SEv → SEv
  | .sent p => .sent (shiftPkt k m p)
  | .resent q p => .resent (σ16 r q) (shiftPkt k m p)

/-- `_retransmit(sn)` as events: the packet the history finds, with the current RTX sequence number. -/
def retxEv (s : Sender) (sn : Int) : List SEv := (histLookup s sn).toList.map (SEv.resent s.rtxSeq)

def nackEv (cfg : SenderCfg) : Sender → List Int → Sender × List SEv
  | s, [] => (s, [])
  | s, x :: xs => ((nackEv cfg (retransmit cfg s x).1 xs).1, retxEv s x ++ (nackEv cfg (retransmit cfg s x).1 xs).2)

def evStep (cfg : SenderCfg) (s : Sender) : SOp → Sender × List SEv
  | .frame t pls => ((sendFrame cfg s t pls).1, (sendFrame cfg s t pls).2.map SEv.sent)
  | .nack l => nackEv cfg s l

def evRun (cfg : SenderCfg) : Sender → List SOp → List (List SEv)
  | _, [] => []
  | s, op :: ops => (evStep cfg s op).2 :: evRun cfg (evStep cfg s op).1 ops

theorem retxEv_render (cfg : SenderCfg) (s : Sender) (sn : Int) :
    (retransmit cfg s sn).2 = (retxEv s sn).map (render cfg) := by
  rw [retransmit_out]; unfold retxEv
  rw [List.map_map]; rfl

theorem nackEv_render (cfg : SenderCfg) (xs : List Int) (s : Sender) :
    handleNack cfg s xs = ((nackEv cfg s xs).1, (nackEv cfg s xs).2.map (render cfg)) := by
  induction xs generalizing s with
  | nil => rfl
  | cons x rest ih =>
    simp only [handleNack, nackEv, List.map_append]
    rw [ih (retransmit cfg s x).1, retxEv_render]

theorem evStep_render (cfg : SenderCfg) (s : Sender) (op : SOp) :
    sStep cfg s op = ((evStep cfg s op).1, (evStep cfg s op).2.map (render cfg)) := by
  cases op with
  | frame t pls =>
    simp only [sStep, evStep, List.map_map]
    have : (render cfg ∘ SEv.sent) = id := rfl
    rw [this, List.map_id]
  | nack l => exact nackEv_render cfg l s

theorem sRun_render (cfg : SenderCfg) (ops : List SOp) (s : Sender) :
    sRun cfg s ops = (evRun cfg s ops).map (List.map (render cfg)) := by
  induction ops generalizing s with
  | nil => rfl
  | cons op rest ih =>
    simp only [sRun, evRun, List.map_cons]
    rw [evStep_render cfg s op]
    simp only []
    rw [ih]

def SOk (s : Sender) : Prop := R16 s.seq ∧ HistOk s.history

theorem sendLoop_ok (cfg : SenderCfg) (ts : Int) (n i : Nat) (pls : List Bytes) (s : Sender) (h : SOk s) :
    SOk (sendLoop cfg ts n i pls s).1 := by
  induction pls generalizing i s with
  | nil => exact h
  | cons pl rest ih =>
    have hp := mkPacket_seq cfg s.seq ts pl i n h.1
    simp only [sendLoop]
    exact ih (i + 1) _ ⟨uint16_add_range _ _, histSet_ok _ _ _ h.2 (slotOfSeq_lt _) hp⟩

theorem sendFrame_ok (cfg : SenderCfg) (s : Sender) (t : Int) (pls : List Bytes) (h : SOk s) :
    SOk (sendFrame cfg s t pls).1 := sendLoop_ok cfg _ _ 0 pls s h

theorem retransmit_ok (cfg : SenderCfg) (s : Sender) (sn : Int) (h : SOk s) : SOk (retransmit cfg s sn).1 := by
  have hk := Lemmas.Video.retransmit_keeps cfg s sn
  exact ⟨hk.2 ▸ h.1, hk.1 ▸ h.2⟩

theorem nackEv_ok (cfg : SenderCfg) (xs : List Int) (s : Sender) (h : SOk s) : SOk (nackEv cfg s xs).1 := by
  induction xs generalizing s with
  | nil => exact h
  | cons x rest ih => exact ih _ (retransmit_ok cfg s x h)

theorem evStep_ok (cfg : SenderCfg) (s : Sender) (op : SOp) (h : SOk s) : SOk (evStep cfg s op).1 := by
  cases op with
  | frame t pls => exact sendFrame_ok cfg s t pls h
  | nack l => exact nackEv_ok cfg l s h

theorem retransmit_cfg (m : Int) (cfg : SenderCfg) (s : Sender) (sn : Int) :
    retransmit (shiftCfg m cfg) s sn = retransmit cfg s sn := rfl

theorem nackEv_cfg (m : Int) (cfg : SenderCfg) (xs : List Int) (s : Sender) :
    nackEv (shiftCfg m cfg) s xs = nackEv cfg s xs := by
  induction xs generalizing s with
  | nil => rfl
  | cons x rest ih => simp only [nackEv, retransmit_cfg, ih]

theorem retxEv_shift (k r m : Int) (s : Sender) (sn : Int) (hsn : R16 sn) (hh : HistOk s.history) :
    retxEv (shiftSender k r m s) (σ16 k sn) = (retxEv s sn).map (shiftSEv k r m) := by
  unfold retxEv
  rw [histLookup_shift k r m s sn hsn hh]
  cases histLookup s sn <;> rfl

theorem nackEv_shift (k r m : Int) (cfg : SenderCfg) (xs : List Int) (s : Sender) (hx : ∀ x ∈ xs, R16 x)
    (h : HistOk s.history) :
    nackEv cfg (shiftSender k r m s) (xs.map (σ16 k))
      = (shiftSender k r m (nackEv cfg s xs).1, (nackEv cfg s xs).2.map (shiftSEv k r m)) := by
  induction xs generalizing s with
  | nil => rfl
  | cons x rest ih =>
    obtain ⟨h1, hrest⟩ := List.forall_mem_cons.1 hx
    have hst : (retransmit cfg (shiftSender k r m s) (σ16 k x)).1
        = shiftSender k r m (retransmit cfg s x).1 := by
      rw [retransmit_shift k r m cfg s x h1 h]
    simp only [List.map_cons, nackEv, hst, List.map_append]
    rw [ih _ hrest ((Lemmas.Video.retransmit_keeps cfg s x).1 ▸ h), retxEv_shift k r m s x h1 h]

theorem evStep_shift (k r m : Int) (cfg : SenderCfg) (s : Sender) (op : SOp) (hop : OpOk op) (h : SOk s) :
    evStep (shiftCfg m cfg) (shiftSender k r m s) (shiftOp k op)
      = (shiftSender k r m (evStep cfg s op).1, (evStep cfg s op).2.map (shiftSEv k r m)) := by
  cases op with
  | frame t pls =>
    simp only [shiftOp, evStep]
    rw [sendFrame_shift k r m cfg s t pls h.1 h.2]
    simp only [List.map_map]
    rfl
  | nack l => exact (nackEv_cfg m cfg _ _).trans (nackEv_shift k r m cfg l s hop h.2)

theorem render_shift_plain (k r m : Int) (cfg : SenderCfg) (hc : cfg.rtxPt = none) (e : SEv) :
    render cfg (shiftSEv k r m e) = shiftPkt k m (render cfg e) := by
  cases e with
  | sent p => rfl
  | resent q p => simp only [shiftSEv, render, rtxOut, hc]

theorem render_cfg (m : Int) (cfg : SenderCfg) (e : SEv) : render (shiftCfg m cfg) e = render cfg e := by
  cases e <;> rfl

theorem handleNack_shift_state (k r m : Int) (cfg : SenderCfg) (xs : List Int)
    (s : Sender) (hx : ∀ x ∈ xs, R16 x) (hh : HistOk s.history) :
    (handleNack cfg (shiftSender k r m s) (xs.map (σ16 k))).1
      = shiftSender k r m (handleNack cfg s xs).1 := by
  rw [nackEv_render, nackEv_render, nackEv_shift k r m cfg xs s hx hh]

theorem fresh_ok (seq rtxSeq : Int) (h : R16 seq) : SOk ⟨seq, rtxSeq, []⟩ :=
  ⟨h, fun _ he => by cases he⟩

theorem fresh_shift (k r m seq rtxSeq : Int) :
    shiftSender k r m ⟨seq, rtxSeq, []⟩ = ⟨σ16 k seq, σ16 r rtxSeq, []⟩ := rfl

end Aiortc.C17
