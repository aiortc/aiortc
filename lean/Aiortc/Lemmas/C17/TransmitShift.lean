import Aiortc.Lemmas.SctpTx.Transmit
import Aiortc.Lemmas.C17.TxDefs
/-!
# The two loops and the two halves of `_transmit` under the shifts
-/
namespace Aiortc.C17
open Aiortc Aiortc.Gen Aiortc.Sctp Aiortc.Props.C17

def shiftRtx (k j : Int) (st : RtxSt) : RtxSt :=
  { st with done := st.done.map (shiftS k j), evs := st.evs.map (shiftEv k j) }

theorem rtxLoop_shift (k j : Int) (cwnd : Nat) (st : RtxSt) (l : List SChunk) :
    rtxLoop cwnd (shiftRtx k j st) (l.map (shiftS k j))
      = (shiftRtx k j (rtxLoop cwnd st l).1, (rtxLoop cwnd st l).2.map (shiftS k j)) := by
  induction l generalizing st with
  | nil => rfl
  | cons c cs ih =>
    simp only [List.map_cons, rtxLoop, shiftS_retransmit]
    by_cases hr : c.retransmit = true
    · simp only [hr, if_true]
      -- as hypotheses (not `rfl` simp lemmas) these also rewrite the `Decidable` instances of the tests
      have e1 : (shiftRtx k j st).frt = st.frt := rfl
      have e2 : (shiftRtx k j st).flight = st.flight := rfl
      have e3 : (shiftRtx k j st).earliest = st.earliest := rfl
      have e4 : (shiftRtx k j st).t3 = st.t3 := rfl
      simp only [e1, e2, e3, e4]
      by_cases hw : (!st.frt && decide (st.flight ≥ cwnd)) = true
      · simp only [hw, if_true]; rfl
      · simp only [hw, Bool.false_eq_true, if_false, incFlight_shift]
        by_cases he : st.earliest = true
        · simp only [he, if_true]
          rw [← ih]
          congr 1
          simp only [shiftRtx, List.map_cons, List.map_append, List.map_reverse, t3Restart_shift]
          rfl
        · simp only [he, Bool.false_eq_true, if_false]
          rw [← ih]
          congr 1
    · simp only [hr, Bool.false_eq_true, if_false]
      rw [← ih]
      congr 1

theorem newLoop_shift (k j : Int) (cwnd fuel fl : Nat) (t3 : Bool) (outQ sent : List SChunk)
    (evs : List TxEv) :
    newLoop cwnd fuel fl t3 (outQ.map (shiftS k j)) (sent.map (shiftS k j)) (evs.map (shiftEv k j))
      = ((newLoop cwnd fuel fl t3 outQ sent evs).1, (newLoop cwnd fuel fl t3 outQ sent evs).2.1,
         (newLoop cwnd fuel fl t3 outQ sent evs).2.2.1.map (shiftS k j),
         (newLoop cwnd fuel fl t3 outQ sent evs).2.2.2.1.map (shiftS k j),
         (newLoop cwnd fuel fl t3 outQ sent evs).2.2.2.2.map (shiftEv k j)) := by
  induction fuel generalizing fl t3 outQ sent evs with
  | zero => rfl
  | succ n ih =>
    cases outQ with
    | nil => rfl
    | cons c cs =>
      simp only [List.map_cons, newLoop]
      by_cases hf : fl < cwnd
      · simp only [hf, if_true, incFlight_shift]
        rw [← ih]
        congr 1
        · simp
          rfl
        · cases t3 <;> simp [shiftEv] <;> rfl
      · simp only [hf, if_false]; rfl

theorem fwd_shift (k j : Int) (t : Tx) :
    (shiftTx k j t).fwd = (shiftTx k j t.fwd.1, t.fwd.2.map (shiftEv k j)) := by
  unfold Tx.fwd
  rw [shiftTx_forwardTsn]
  cases hf : t.forwardTsn with
  | none => simp only [Option.map_none, List.map_nil]
  | some p =>
    obtain ⟨cum, streams⟩ := p
    simp only [Option.map_some]
    rw [shiftTx_t3]
    cases t.t3 <;> simp [shiftTx, shiftEv]

theorem rtxInit_shift (k j : Int) (t : Tx) : (shiftTx k j t).rtxInit = shiftRtx k j t.rtxInit := rfl

theorem burstCwnd_shift (k j : Int) (t : Tx) : (shiftTx k j t).burstCwnd = t.burstCwnd := by
  simp only [Tx.burstCwnd, shiftTx_fastRecoveryExit, Option.isSome_map, shiftTx_flight, shiftTx_cwnd]

theorem afterRtx_shift (k j : Int) (t : Tx) : (shiftTx k j t).afterRtx = shiftTx k j t.afterRtx := by
  simp only [Tx.afterRtx, burstCwnd_shift, rtxInit_shift, shiftTx_sentQ, rtxLoop_shift]
  simp only [shiftRtx, ← List.map_reverse, ← List.map_append]
  rfl

end Aiortc.C17
