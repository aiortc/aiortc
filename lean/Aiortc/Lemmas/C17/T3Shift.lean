import Aiortc.Lemmas.C17.ReceiveSackShift
/-!
# The marking loop of `_t3_expired` under the shifts
-/
namespace Aiortc.C17
open Aiortc Aiortc.Gen Aiortc.Sctp Aiortc.Props.C17

theorem t3Mark_shift (k j : Int) (now : Int) (fuel pos : Nat) (t : Tx) :
    t3Mark now fuel pos (shiftTx k j t) = shiftTx k j (t3Mark now fuel pos t) := by
  induction fuel generalizing pos t with
  | zero => rfl
  | succ n ih => rw [t3Mark_succ, t3Mark_succ, hitBody_shift, ih]

end Aiortc.C17
