import Aiortc.Lemmas.C17.ShiftDefs
/-!
# The serial-order insertion sort of `_mark_received` under a shift
-/
namespace Aiortc.C17
open Aiortc Aiortc.Gen Aiortc.Sctp Aiortc.Props.C17

theorem insertByKey_shift (k base t : Int) (l : List Int) :
    insertByKey (σ32 k base) (σ32 k t) (l.map (σ32 k)) = (insertByKey base t l).map (σ32 k) := by
  induction l with
  | nil => rfl
  | cons x xs ih =>
    simp only [List.map_cons, insertByKey, serialKey_shift]
    split
    · simp
    · simp [ih]

end Aiortc.C17
