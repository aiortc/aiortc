import Aiortc.Lemmas.C17.ShiftDefs
import Aiortc.Model.Jitter
/-!
# The jitter buffer under a shift `k` of the RTP sequence numbers and `m` of the timestamps

The packet array is indexed by `sequence_number % capacity`; the capacity divides 2^16, so shifting every
sequence number by `k` rotates the array by `k mod capacity`.  This file: the rotated state and the
slot-access facts (`slotOf_shift`, `rotPackets_get`, `setSlot_shift`) everything else is built on.  In the C17 jitter files `X_ok` says that `X` keeps
the shape `JBOk` (in `Lemmas/C10/Jitter*.lean` the same suffix says that `X` does not fail).
-/
namespace Aiortc.C17
open Aiortc Aiortc.Gen Aiortc.Model.Jitter Aiortc.Props.C17

def shiftP (k m : Int) (p : Packet) : Packet := { p with seq := σ16 k p.seq, ts := σ32 m p.ts }
def shiftF (m : Int) (f : Frame) : Frame := { f with ts := σ32 m f.ts }

@[simp] theorem shiftP_ts (k m : Int) (p : Packet) : (shiftP k m p).ts = σ32 m p.ts := rfl
@[simp] theorem shiftP_seq (k m : Int) (p : Packet) : (shiftP k m p).seq = σ16 k p.seq := rfl
@[simp] theorem shiftP_data (k m : Int) (p : Packet) : (shiftP k m p).data = p.data := rfl

def rotPackets (k m : Int) (c : Nat) (l : List (Option Packet)) : List (Option Packet) :=
  (List.range c).map fun i => (l[unrot k c i]?.getD none).map (shiftP k m)

def shiftJB (k m : Int) (jb : JB) : JB :=
  { jb with origin := jb.origin.map (σ16 k), packets := rotPackets k m jb.capacity jb.packets }

structure JBOk (jb : JB) : Prop where
  pos : 0 < jb.capacity
  dvd : (jb.capacity : Int) ∣ 65536
  len : jb.packets.length = jb.capacity
  ts : ∀ p, some p ∈ jb.packets → R32 p.ts

/-- The local `timestamp` of `smart_remove` / `_remove_frame` is `None` or in range. -/
def TsOk (ts : Option Int) : Prop := ∀ t, ts = some t → R32 t

theorem shiftJB_capacity (k m : Int) (jb : JB) : (shiftJB k m jb).capacity = jb.capacity := rfl
theorem shiftJB_prefetch (k m : Int) (jb : JB) : (shiftJB k m jb).prefetch = jb.prefetch := rfl
theorem shiftJB_isVideo (k m : Int) (jb : JB) : (shiftJB k m jb).isVideo = jb.isVideo := rfl
theorem shiftJB_origin (k m : Int) (jb : JB) : (shiftJB k m jb).origin = jb.origin.map (σ16 k) := rfl

/-- `x % capacity` of a shifted number is the rotated slot. `y` is any number congruent to `x + k`
(`σ16 k x`, or `σ16 k o + count` for `o + count`). -/
theorem slotOf_shift (k m : Int) (jb : JB) (x y : Int)
    (h : y % (jb.capacity : Int) = (x + k) % (jb.capacity : Int)) :
    slotOf (shiftJB k m jb) y = omap (rot k jb.capacity) (slotOf jb x) := by
  unfold slotOf
  rw [shiftJB_capacity]
  split
  · rfl
  · rename_i hc
    simp only [omap_ok, slot_rot k x y jb.capacity hc h]

theorem slotOf_lt (jb : JB) (x : Int) (pos : Nat) (h : slotOf jb x = .ok pos) : pos < jb.capacity := by
  unfold slotOf at h
  split at h
  · cases h
  · cases h; exact Serial.emod_toNat_lt x (by omega)

theorem rotPackets_get (k m : Int) (c : Nat) (l : List (Option Packet)) (i : Nat) (hi : i < c) :
    (rotPackets k m c l)[i]? = some ((l[unrot k c i]?.getD none).map (shiftP k m)) := by
  unfold rotPackets
  rw [List.getElem?_map, List.getElem?_range hi]; rfl

theorem rotPackets_length (k m : Int) (c : Nat) (l : List (Option Packet)) :
    (rotPackets k m c l).length = c := by simp [rotPackets]

theorem setSlot_shift (k m : Int) (jb : JB) (h : JBOk jb) (pos : Nat) (hp : pos < jb.capacity)
    (v : Option Packet) :
    setSlot (shiftJB k m jb) (rot k jb.capacity pos) (v.map (shiftP k m))
      = omap (shiftJB k m) (setSlot jb pos v) := by
  unfold setSlot
  have e : (shiftJB k m jb).packets = rotPackets k m jb.capacity jb.packets := rfl
  have hl : pos < jb.packets.length := by rw [h.len]; exact hp
  rw [e, rotPackets_length, if_pos (rot_lt k _ pos h.pos), if_pos hl]
  simp only [omap_ok]
  congr 1
  unfold shiftJB
  simp only []
  congr 1
  apply List.ext_getElem?
  intro i
  by_cases hi : i < jb.capacity
  · rw [List.getElem?_set, rotPackets_length, rotPackets_get k m _ _ _ hi, rotPackets_get k m _ _ _ hi,
      List.getElem?_set]
    by_cases hr : rot k jb.capacity pos = i
    · have hu : unrot k jb.capacity i = pos := by rw [← hr]; exact unrot_rot k _ pos h.pos hp
      simp only [hr, if_true, hi, hu, hl]
      rfl
    · have hu : ¬ pos = unrot k jb.capacity i := by
        intro hh; apply hr; rw [hh]; exact rot_unrot k _ i h.pos hi
      simp only [hr, if_false, hu]
  · have h1 : ((rotPackets k m jb.capacity jb.packets).set (rot k jb.capacity pos)
        (v.map (shiftP k m)))[i]? = none := by
      apply List.getElem?_eq_none; rw [List.length_set, rotPackets_length]; omega
    have h2 : (rotPackets k m jb.capacity (jb.packets.set pos v))[i]? = none := by
      apply List.getElem?_eq_none; rw [rotPackets_length]; omega
    rw [h1, h2]

theorem setSlot_jbOk (jb jb' : JB) (h : JBOk jb) (pos : Nat) (v : Option Packet)
    (hv : ∀ p, v = some p → R32 p.ts) (hs : setSlot jb pos v = .ok jb') : JBOk jb' := by
  unfold setSlot at hs
  split at hs
  · cases hs
    refine ⟨h.pos, h.dvd, by simp [h.len], ?_⟩
    intro p hp
    rcases List.mem_or_eq_of_mem_set hp with h1 | h1
    · exact h.ts p h1
    · exact hv p h1.symm
  · cases hs

theorem JBOk.withOrigin {jb : JB} (h : JBOk jb) (o : Option Int) : JBOk { jb with origin := o } :=
  ⟨h.pos, h.dvd, h.len, h.ts⟩

theorem shiftJB_withOrigin (k m : Int) (jb : JB) (o : Int) :
    ({ shiftJB k m jb with origin := some (σ16 k o) } : JB) = shiftJB k m { jb with origin := some o } := rfl

end Aiortc.C17
