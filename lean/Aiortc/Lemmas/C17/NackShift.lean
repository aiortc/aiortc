import Aiortc.Lemmas.C17.ShiftDefs
import Aiortc.Model.Video.Nack
/-!
# `NackGenerator` under a shift of the RTP sequence numbers
-/
namespace Aiortc.C17
open Aiortc Aiortc.Gen Aiortc.Model.Video Aiortc.Props.C17

def shiftNack (k : Int) (g : NackGen) : NackGen := ⟨g.maxSeq.map (σ16 k), g.missing.map (σ16 k)⟩

def NackOk (g : NackGen) : Prop := (∀ m, g.maxSeq = some m → R16 m) ∧ ∀ x ∈ g.missing, R16 x

theorem mem_shift16 (k a : Int) (l : List Int) (ha : R16 a) (hl : ∀ x ∈ l, R16 x) :
    σ16 k a ∈ l.map (σ16 k) ↔ a ∈ l := by
  rw [← List.contains_iff_mem, ← List.contains_iff_mem, contains_shift16 k a l ha hl]

theorem setAdd_shift (k x : Int) (l : List Int) (hx : R16 x) (hl : ∀ y ∈ l, R16 y) :
    setAdd (l.map (σ16 k)) (σ16 k x) = (setAdd l x).map (σ16 k) := by
  unfold setAdd
  by_cases h : x ∈ l
  · rw [if_pos h, if_pos ((mem_shift16 k x l hx hl).2 h)]
  · rw [if_neg h, if_neg (fun h' => h ((mem_shift16 k x l hx hl).1 h'))]; simp

theorem setAdd_range (x : Int) (l : List Int) (hx : R16 x) (hl : ∀ y ∈ l, R16 y) :
    ∀ y ∈ setAdd l x, R16 y := by
  unfold setAdd
  split
  · exact hl
  · exact List.forall_mem_snoc hl hx

theorem setDiscard_shift (k x : Int) (l : List Int) (hx : R16 x) (hl : ∀ y ∈ l, R16 y) :
    setDiscard (l.map (σ16 k)) (σ16 k x) = (setDiscard l x).map (σ16 k) := by
  unfold setDiscard
  apply List.filter_map_shift
  intro y hy
  rw [Bool.eq_iff_iff]
  simp only [ne_eq, decide_eq_true_eq, σ16_inj k y x (hl y hy) hx]

theorem markLoop_sim (k target : Int) (ht : R16 target) (fuel : Nat) (seq : Int) (missing : List Int)
    (missed : Bool) (hs : R16 seq) (hm : ∀ y ∈ missing, R16 y) :
    Sim (fun p => (p.1.map (σ16 k), p.2)) (fun p => ∀ y ∈ p.1, R16 y)
      (markLoop target fuel seq missing missed)
      (markLoop (σ16 k target) fuel (σ16 k seq) (missing.map (σ16 k)) missed) := by
  induction fuel generalizing seq missing missed with
  | zero => exact .hang
  | succ n ih =>
    simp only [markLoop, σ16_gt k target seq ht hs]
    by_cases hg : uint16_gt target seq = true
    · simp only [hg, if_true, σ16_add, setAdd_shift k seq missing hs hm]
      exact ih _ _ _ (uint16_add_range _ _) (setAdd_range seq missing hs hm)
    · simp only [hg, Bool.false_eq_true, if_false]
      exact .ok hm

theorem truncate_shift (k : Int) (g : NackGen) (hg : NackOk g) :
    NackGen.truncate (shiftNack k g) = shiftNack k (NackGen.truncate g) := by
  unfold NackGen.truncate
  cases hm : g.maxSeq with
  | none => simp [shiftNack, hm]
  | some m =>
    simp only [shiftNack, hm, Option.map_some, σ16_add]
    congr 1
    apply List.filter_map_shift
    intro s hs
    rw [σ16_gt k _ s (uint16_add_range _ _) (hg.2 s hs)]

theorem truncate_ok (g : NackGen) (hg : NackOk g) : NackOk (NackGen.truncate g) := by
  unfold NackGen.truncate
  cases hm : g.maxSeq with
  | none => simpa [hm] using hg
  | some m =>
    refine ⟨fun m' h' => hg.1 m' (by simpa [hm] using h'), ?_⟩
    intro x hx
    exact hg.2 x (List.mem_filter.1 hx).1

theorem nackAdd_sim (k : Int) (g : NackGen) (sn : Int) (hg : NackOk g) (hs : R16 sn) :
    Sim (fun p => (shiftNack k p.1, p.2)) (fun p => NackOk p.1) (g.add sn)
      ((shiftNack k g).add (σ16 k sn)) := by
  unfold NackGen.add
  cases hm : g.maxSeq with
  | none =>
    simp only [shiftNack, hm, Option.map_none]
    exact .ok ⟨fun m' h' => by cases h'; exact hs, hg.2⟩
  | some m =>
    have hmr := hg.1 m hm
    simp only [shiftNack, hm, Option.map_some, σ16_gt k sn m hs hmr]
    by_cases hgt : uint16_gt sn m = true
    · simp only [hgt, if_true, σ16_add]
      refine (markLoop_sim k sn hs markFuel (uint16_add m 1) g.missing false (uint16_add_range _ _) hg.2).on
        .valueError .crash .hang fun r hr => ?_
      have hok : NackOk { maxSeq := some sn, missing := r.1 } := ⟨fun m' h' => by cases h'; exact hs, hr⟩
      have := truncate_shift k _ hok
      simp only [shiftNack, Option.map_some] at this
      simp only [this]
      exact .ok (truncate_ok _ hok)
    · have hok : NackOk { maxSeq := some m, missing := setDiscard g.missing sn } :=
        ⟨fun m' h' => hg.1 m' (hm.trans h'), fun x hx => hg.2 x (List.mem_filter.1 hx).1⟩
      have := truncate_shift k _ hok
      simp only [shiftNack, Option.map_some] at this
      simp only [hgt, Bool.false_eq_true, if_false, setDiscard_shift k sn g.missing hs hg.2, this]
      exact .ok (truncate_ok _ hok)

/-- Feeding a list of sequence numbers; the `missed` verdicts are collected. -/
def nackRun : NackGen → List Int → Outcome (NackGen × List Bool)
  | g, [] => .ok (g, [])
  | g, sn :: rest =>
    match g.add sn with
    | .ok (g1, b) =>
      match nackRun g1 rest with
      | .ok (g2, bs) => .ok (g2, b :: bs)
      | .valueError => .valueError | .crash s => .crash s | .hang => .hang
    | .valueError => .valueError | .crash s => .crash s | .hang => .hang

end Aiortc.C17
