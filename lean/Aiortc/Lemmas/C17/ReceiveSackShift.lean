import Aiortc.Lemmas.SctpTx.Sack
import Aiortc.Lemmas.SctpTx.Ack
import Aiortc.Lemmas.C17.StrikeShift
import Aiortc.Lemmas.C17.SackShift
/-!
`_receive_sack_chunk` under the shifts, phase by phase (the phases are those of `Lemmas/SctpTx/Sack.lean`): each phase commutes
with the shifts and keeps the range invariant `TxOk` and the stream counters.
-/
namespace Aiortc.C17
open Aiortc Aiortc.Gen Aiortc.Sctp Aiortc.Props.C17

theorem sackAck_shift (k j : Int) (t : Tx) (cum : Int) (hc : R32 cum) (ht : AllR t.sentQ) :
    (shiftTx k j t).sackAck (σ32 k cum) = shiftTx k j (t.sackAck cum)
      ∧ (shiftTx k j t).sackDone (σ32 k cum) = t.sackDone cum
      ∧ (shiftTx k j t).sackDoneBytes (σ32 k cum) = t.sackDoneBytes cum := by
  have e := ackLoop_shift k j cum hc t.flight 0 0 t.sentQ ht
  refine ⟨?_, ?_, ?_⟩
  · simp only [Tx.sackAck, shiftTx_sentQ, shiftTx_flight, e]; rfl
  · simp only [Tx.sackDone, shiftTx_sentQ, shiftTx_flight, e]
  · simp only [Tx.sackDoneBytes, shiftTx_sentQ, shiftTx_flight, e]

theorem sackAck_ok (t : Tx) (cum : Int) (h : TxOk t) (hc : R32 cum) :
    TxOk (t.sackAck cum) ∧ (t.sackAck cum).streamSeq = t.streamSeq :=
  ⟨⟨hc, h.advAck, (txInv_QOk.sackAck h.qok cum).1, h.out, h.exit⟩, rfl⟩

/-- `highest_newly_acked` is the TSN it started from or the TSN of a chunk of the queue. -/
theorem htnaLoop_hna (seen : List Int) (hs : Int) (fl db : Nat) (hna : Int) (acc l : List SChunk)
    (hh : R32 hna) (hl : AllR l) : R32 (htnaLoop seen hs fl db hna acc l).2.2.1 := by
  induction l generalizing fl db hna acc with
  | nil => exact hh
  | cons c cs ih =>
    obtain ⟨hc, hcs⟩ := allR_cons.1 hl
    rw [htnaLoop_cons]
    split
    · exact hh
    · split
      · exact ih _ _ _ _ hc hcs
      · exact ih _ _ _ _ hh hcs

theorem shiftTx_setFS (k j : Int) (t : Tx) (fl : Nat) (q : List SChunk) :
    ({ shiftTx k j t with flight := fl, sentQ := q.map (shiftS k j) } : Tx)
      = shiftTx k j { t with flight := fl, sentQ := q } := rfl

theorem gapLimit_shift (k j : Int) (t : Tx) (cum : Int) (hc : R32 cum) (ht : AllR t.sentQ) :
    (shiftTx k j t).gapLimit (σ32 k cum) = t.gapLimit cum := by
  unfold Tx.gapLimit
  rw [shiftTx_sentQ, List.getLast?_map]
  cases hl : t.sentQ.getLast? with
  | none => rfl
  | some l =>
    simp only [Option.map_some, shiftS_tsn, σ32_gt k l.tsn cum (ht l (List.mem_of_getLast? hl)) hc, σ32_sub]

theorem sackGaps_shift (k j : Int) (t : Tx) (cum : Int) (gaps : List (Nat × Nat)) (now : Int) (db : Nat)
    (hc : R32 cum) (ht : QOk t) :
    (shiftTx k j t).sackGaps (σ32 k cum) gaps now db
      = (shiftTx k j (t.sackGaps cum gaps now db).1, (t.sackGaps cum gaps now db).2) := by
  have hq := txInv_QOk.sackHtna ht cum gaps db
  unfold Tx.sackGaps Tx.sackHtna at *
  dsimp only at hq
  split
  · rfl
  rw [gapLimit_shift k j t cum hc ht.1]
  generalize t.gapLimit cum = limit at hq ⊢
  have hg := gapSeen_range cum limit gaps hc
  simp only [gapSeen_shift, shiftTx_sentQ, shiftTx_flight]
  have hh := htnaLoop_shift k j (gapSeen cum limit gaps).1 (gapSeen cum limit gaps).2 hg.1 hg.2
    t.flight db cum [] t.sentQ ht.1
  simp only [List.map_nil] at hh
  simp only [hh, shiftTx_setFS, List.length_map]
  have hn := htnaLoop_hna (gapSeen cum limit gaps).1 (gapSeen cum limit gaps).2 t.flight db cum [] t.sentQ hc ht.1
  generalize htnaLoop (gapSeen cum limit gaps).1 (gapSeen cum limit gaps).2 t.flight db cum []
    t.sentQ = h at hq hn ⊢
  rw [strikeLoop_shift k j _ _ now hg.1 hn _ 0 _ false hq]

theorem sackGaps_ok (t : Tx) (cum : Int) (gaps : List (Nat × Nat)) (now : Int) (db : Nat) (h : TxOk t) :
    TxOk (t.sackGaps cum gaps now db).1 ∧ (t.sackGaps cum gaps now db).1.streamSeq = t.streamSeq := by
  refine h.queues (txInv_QOk.sackGaps h.qok cum gaps now db).1 ?_
  unfold Tx.sackGaps
  split
  · rfl
  · exact strikeLoop_frame _ _ _ _ _ _ _

theorem ackGrow_shift (k j : Int) (t : Tx) (db : Nat) : (shiftTx k j t).ackGrow db = shiftTx k j (t.ackGrow db) := by
  unfold Tx.ackGrow
  simp only [shiftTx_cwnd, shiftTx_ssthresh, shiftTx_partialBytesAcked]
  by_cases c2 : t.cwnd ≤ t.ssthresh
  · simp only [c2, if_true]; rfl
  · simp only [c2, if_false]
    by_cases c3 : t.partialBytesAcked + db ≥ t.cwnd
    · simp only [c3, if_true]; rfl
    · simp only [c3, if_false]; rfl

theorem sackCwnd_shift (k j : Int) (t : Tx) (cum : Int) (done db : Nat) (fully loss : Bool)
    (hc : R32 cum) (hex : ∀ e, t.fastRecoveryExit = some e → R32 e) :
    (shiftTx k j t).sackCwnd (σ32 k cum) done db fully loss = omap (shiftTx k j) (t.sackCwnd cum done db fully loss) := by
  unfold Tx.sackCwnd
  rw [shiftTx_fastRecoveryExit]
  cases hfe : t.fastRecoveryExit with
  | none =>
    have hg : (if (decide (done > 0) && fully) = true then (shiftTx k j t).ackGrow db else shiftTx k j t)
        = shiftTx k j (if (decide (done > 0) && fully) = true then t.ackGrow db else t) := by
      split
      · exact ackGrow_shift k j t db
      · rfl
    simp only [Option.map_none, hg, shiftTx_sentQ, List.getLast?_map]
    cases loss with
    | false => rfl
    | true =>
      simp only [if_true]
      cases (if (decide (done > 0) && fully) = true then t.ackGrow db else t).sentQ.getLast? <;> rfl
  | some ex =>
    simp only [Option.map_some, σ32_gte k cum ex hc (hex ex hfe)]
    by_cases hg : uint32_gte cum ex = true
    · simp only [hg, if_true, omap_ok]
      congr 1
    · simp only [hg, Bool.false_eq_true, if_false, omap_ok]

/-- On entering fast recovery `fast_recovery_exit` becomes the TSN of the last outstanding chunk (`sackCwnd_cases`). -/
theorem sackCwnd_ok (t t' : Tx) (cum : Int) (done db : Nat) (fully loss : Bool)
    (h : TxOk t) (hr : t.sackCwnd cum done db fully loss = .ok t') :
    TxOk t' ∧ t'.streamSeq = t.streamSeq := by
  rcases sackCwnd_cases t cum done db fully loss with ⟨hc, _⟩ | ⟨t'', ht'', hfr, _, hex⟩
  · rw [hc] at hr; cases hr
  · cases ht''.symm.trans hr
    rw [hfr]
    exact ⟨⟨h.lastSacked, h.advAck, h.sent, h.out, fun e he =>
      (hex e he).elim (h.exit e) fun ⟨l, hl, el⟩ => el ▸ h.sent l hl⟩, rfl⟩

theorem sackT3_shift (k j : Int) (t : Tx) (done : Nat) :
    (shiftTx k j t).sackT3 done = (shiftTx k j (t.sackT3 done).1, (t.sackT3 done).2.map (shiftEv k j)) := by
  unfold Tx.sackT3
  have e1 : (shiftTx k j t).sentQ.isEmpty = t.sentQ.isEmpty := by
    rw [shiftTx_sentQ]; cases t.sentQ <;> rfl
  rw [e1, shiftTx_t3]
  by_cases c1 : t.sentQ.isEmpty = true
  · simp only [c1, if_true]
    cases t.t3 <;> simp [shiftEv] <;> rfl
  · simp only [c1, Bool.false_eq_true, if_false]
    by_cases c2 : done > 0
    · simp only [c2, if_true, t3Restart_shift]
      rfl
    · simp only [c2, if_false, List.map_nil]

theorem sackT3_ok (t : Tx) (done : Nat) (h : TxOk t) :
    TxOk (t.sackT3 done).1 ∧ (t.sackT3 done).1.streamSeq = t.streamSeq := by
  rw [sackT3_frame]; exact ⟨h.of_same rfl rfl rfl rfl rfl, rfl⟩

def shiftSackOut (k j : Int) (r : Option (Tx × List TxEv)) : Option (Tx × List TxEv) :=
  r.map (fun p => (shiftTx k j p.1, p.2.map (shiftEv k j)))

/-- The "stale or never sent" test of a SACK only looks at serial distances. -/
theorem sackStale_shift (k j : Int) (t : Tx) (cum : Int) (hl : R32 t.lastSacked) (hc : R32 cum) :
    (shiftTx k j t).sackStale (σ32 k cum) = t.sackStale cum := by
  unfold Tx.sackStale
  rw [shiftTx_lastSacked, shiftTx_localTsn, σ32_minus_one, σ32_gte k _ _ hc hl,
    σ32_gt k _ _ hc (minus_one_range _)]

theorem sackMid_ok (t : Tx) (cum : Int) (gaps : List (Nat × Nat)) (now : Int) (h : TxOk t) (hc : R32 cum) :
    TxOk ((t.sackAck cum).sackGaps cum gaps now (t.sackDoneBytes cum)).1
      ∧ ((t.sackAck cum).sackGaps cum gaps now (t.sackDoneBytes cum)).1.streamSeq = t.streamSeq :=
  have ha := sackAck_ok t cum h hc
  have hg := sackGaps_ok (t.sackAck cum) cum gaps now (t.sackDoneBytes cum) ha.1
  ⟨hg.1, hg.2.trans ha.2⟩

theorem receiveSack_ok (t t' : Tx) (cum : Int) (gaps : List (Nat × Nat)) (now : Int) (evs : List TxEv)
    (h : TxOk t) (hc : R32 cum) (hr : t.receiveSack cum gaps now = .ok (some (t', evs))) :
    TxOk t' ∧ t'.streamSeq = t.streamSeq := by
  obtain ⟨_, tc, rfl, htc, rfl⟩ := receiveSack_phases hr
  have hm := sackMid_ok t cum gaps now h hc
  have h2 := sackCwnd_ok _ tc _ _ _ _ _ hm.1 htc
  have h3 := sackT3_ok tc (t.sackDone cum) h2.1
  have h4 := updateAdvAck_ok _ h3.1
  exact ⟨h4.1, h4.2.trans (h3.2.trans (h2.2.trans hm.2))⟩

end Aiortc.C17
