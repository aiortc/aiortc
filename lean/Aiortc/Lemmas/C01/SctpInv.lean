import Aiortc.Lemmas.SctpRx.Insert
import Aiortc.Lemmas.C01.SctpRun
/-!
# Invariants of the receive path along one `pop_messages` call

`GInv`  : the messages delivered so far are `dl.map (message)` for a duplicate-free list `dl` of
          message indices, and all fragments of a delivered message have arrived;
`SInv`  : every chunk queued on stream `s` is a sender fragment that arrived, of a message on `s` that
          has not been delivered; the queue is duplicate-free;
`OInv`  : on an ordered stream the expected SSN is the number `d` of messages delivered on it and
          these are the first `d` messages sent on it.
-/
namespace Aiortc.Sctp
open Aiortc.Gen

def getS (d : List (Nat × InStream)) (s : Nat) : InStream := (dictGet d s).getD {}

theorem getS_set_same (d : List (Nat × InStream)) (k : Nat) (v : InStream) : getS (dictSet d k v) k = v := by
  unfold getS; rw [dictGet_dictSet_self]; rfl

theorem getS_set_other (d : List (Nat × InStream)) (k s : Nat) (v : InStream) (h : s ≠ k) :
    getS (dictSet d k v) s = getS d s := by
  unfold getS; rw [dictGet_dictSet_other _ _ _ _ h]

/-- Message `j` as the receiver should deliver it. -/
def toM (ms : List SMsg) (j : Nat) : Msg := (msgAt ms j).toMsg
/-- Number of messages delivered on stream `s`. -/
def cnt (out : List Msg) (s : Nat) : Nat := (out.filter (fun m => m.sid == s)).length

theorem cnt_append (a b : List Msg) (s : Nat) : cnt (a ++ b) s = cnt a s + cnt b s := by
  unfold cnt; rw [List.filter_append, List.length_append]

theorem toM_sid (ms : List SMsg) (j : Nat) : (toM ms j).sid = (msgAt ms j).sid := rfl

structure GInv (ms : List SMsg) (A : List (Nat × Nat)) (dl : List Nat) (out : List Msg) : Prop where
  out_eq : out = dl.map (toM ms)
  nodup : dl.Nodup
  lt : ∀ j ∈ dl, j < ms.length
  arrived : ∀ j ∈ dl, ∀ i, i < nfr (msgAt ms j) → (j, i) ∈ A

structure SInv (t0 : Int) (ms : List SMsg) (A : List (Nat × Nat)) (s : Nat) (reasm : List RChunk)
    (dl : List Nat) (out : List Msg) : Prop where
  nodup : reasm.Nodup
  mem : ∀ c ∈ reasm, ∃ p ∈ A, ValidFrag ms p ∧ c = F t0 ms p ∧ (msgAt ms p.1).sid = s ∧ p.1 ∉ dl ∧
    ((msgAt ms p.1).ordered = true → ordBefore ms p.1 s < cnt out s + 32768)

structure OInv (ms : List SMsg) (s : Nat) (seq : Int) (dl : List Nat) (out : List Msg) : Prop where
  ex : ∃ d, seq = ssnOf d ∧ d ≤ (sentOn ms s).length
    ∧ out.filter (fun m => m.sid == s) = (sentOn ms s).take d
    ∧ ∀ j, j < ms.length → (msgAt ms j).sid = s → (j ∈ dl ↔ ordBefore ms j s < d)

theorem SInv.mono {t0 ms A A' s reasm dl out} (h : SInv t0 ms A s reasm dl out) (hA : ∀ p ∈ A, p ∈ A') :
    SInv t0 ms A' s reasm dl out :=
  ⟨h.nodup, fun c hc => by
    obtain ⟨p, hp, rest⟩ := h.mem c hc
    exact ⟨p, hA p hp, rest⟩⟩

theorem GInv.mono {ms A A' dl out} (h : GInv ms A dl out) (hA : ∀ p ∈ A, p ∈ A') : GInv ms A' dl out :=
  ⟨h.out_eq, h.nodup, h.lt, fun j hj i hi => hA _ (h.arrived j hj i hi)⟩

abbrev frags (t0 : Int) (ms : List SMsg) (j : Nat) : List RChunk :=
  (List.range (nfr (msgAt ms j))).map (fragOf t0 ms j)

/-- One `yield` on a queue of sender fragments, read at the level of messages: the run that leaves the queue is
the fragment list of one message `j` of this stream, not delivered before; the SSN test and the SSN update of
`pop_messages` are about `j`'s position among the ordered messages of the stream. -/
theorem popstep_run (t0 : Int) (ms : List SMsg) (hN : startOf ms ms.length < 4294967296)
    {A : List (Nat × Nat)} {s : Nat} {reasm reasm' : List RChunk} {seq seq' : Int} {m : Msg}
    {dl : List Nat} {out : List Msg}
    (hstep : PopStep reasm seq m reasm' seq') (hs : SInv t0 ms A s reasm dl out) :
    ∃ j pre post, j < ms.length ∧ (msgAt ms j).sid = s ∧ j ∉ dl
      ∧ ((msgAt ms j).ordered = true → ordBefore ms j s < cnt out s + 32768)
      ∧ reasm = pre ++ frags t0 ms j ++ post ∧ reasm' = pre ++ post ∧ m = toM ms j
      ∧ ((msgAt ms j).ordered = true → uint16_gt (ssnOf (ordBefore ms j s)) seq = false)
      ∧ ((msgAt ms j).ordered = true →
          seq' = if ssnOf (ordBefore ms j s) = seq then uint16_add seq 1 else seq) := by
  obtain ⟨pre, run, post, hd, lst, hre, hre', hhead, hlast, hB, hlink, hE, hss, hm, hseq⟩ := hstep
  have hrun_mem : ∀ c ∈ run, c ∈ reasm := by intro c hc; rw [hre]; simp [hc]
  have hhd_run : hd ∈ run := by
    cases run with
    | nil => simp at hhead
    | cons a t => simp only [List.head?_cons, Option.some.injEq] at hhead; simp [hhead]
  obtain ⟨p0, _, hp0v, rfl, hp0s, hp0dl, hp0w⟩ := hs.mem hd (hrun_mem hd hhd_run)
  have hall : ∀ c ∈ run, c ∈ allFrags t0 ms := fun c hc => by
    obtain ⟨p, _, hv, he, _⟩ := hs.mem c (hrun_mem c hc)
    exact (mem_allFrags t0 ms c).2 ⟨p, hv, he⟩
  obtain ⟨_, hrun⟩ := run_is_message t0 ms hN run lst p0 hlink hall hhead hp0v hB hlast hE
  obtain ⟨il, _, hlste⟩ : ∃ i, i < nfr (msgAt ms p0.1) ∧ lst = fragOf t0 ms p0.1 i := by
    have := List.mem_of_getLast? hlast
    rw [hrun] at this
    obtain ⟨i, hi, e⟩ := List.mem_map.1 this
    exact ⟨i, List.mem_range.1 hi, e.symm⟩
  have hssn : ∀ i, (msgAt ms p0.1).ordered = true → (fragOf t0 ms p0.1 i).ssn = ssnOf (ordBefore ms p0.1 s) := by
    intro i hord; rw [fragOf_ssn]; unfold ssnFor; rw [hord, hp0s]; rfl
  have hU : (msgAt ms p0.1).ordered = true → flagU (F t0 ms p0).flags = false := fun hord => by
    rw [F, fragOf_flagU, hord]; rfl
  refine ⟨p0.1, pre, post, hp0v.1, hp0s, hp0dl, hp0w, by rw [hre, hrun], hre', ?_, ?_, ?_⟩
  · rw [hm, hlste, fragOf_sid, fragOf_ppid, hrun, fragOf_join]; rfl
  · intro hord
    have := hss (hU hord)
    rwa [F, hssn _ hord] at this
  · intro hord
    rw [hseq, hU hord, hlste, hssn _ hord]
    simp

/-- Taking the fragments of message `j` out of the queue: they had all arrived, and the stream invariant holds
with `j` delivered (a queued chunk of `j` would be one of the fragments taken out; the queue is duplicate-free). -/
theorem SInv.pop {t0 : Int} {ms : List SMsg} (hN : startOf ms ms.length < 4294967296) {A : List (Nat × Nat)}
    {s j : Nat} {pre post : List RChunk} {dl : List Nat} {out : List Msg} (hj : j < ms.length)
    (hs : SInv t0 ms A s (pre ++ frags t0 ms j ++ post) dl out) (m : Msg) :
    (∀ i, i < nfr (msgAt ms j) → (j, i) ∈ A) ∧ SInv t0 ms A s (pre ++ post) (dl ++ [j]) (out ++ [m]) := by
  have hfr : ∀ i, i < nfr (msgAt ms j) → fragOf t0 ms j i ∈ frags t0 ms j := fun i hi =>
    List.mem_map.2 ⟨i, List.mem_range.2 hi, rfl⟩
  have hnd := hs.nodup
  rw [List.append_assoc, List.nodup_append] at hnd
  obtain ⟨hndpre, hndrp, hdisj1⟩ := hnd
  rw [List.nodup_append] at hndrp
  obtain ⟨_, hndpost, hdisj2⟩ := hndrp
  refine ⟨?_, ⟨?_, ?_⟩⟩
  · intro i hi
    obtain ⟨p, hpA, hpv, hpe, _⟩ := hs.mem _
      (List.mem_append_left _ (List.mem_append_right _ (hfr i hi)))
    have : p = (j, i) := frag_tsn_inj t0 ms hN p (j, i) hpv ⟨hj, hi⟩ (by rw [← hpe]; rfl)
    rw [← this]; exact hpA
  · rw [List.nodup_append]
    exact ⟨hndpre, hndpost, fun a ha b hb => hdisj1 a ha b (List.mem_append_right _ hb)⟩
  · intro c hc
    have hc_re : c ∈ pre ++ frags t0 ms j ++ post := by
      rcases List.mem_append.1 hc with h | h
      · exact List.mem_append_left _ (List.mem_append_left _ h)
      · exact List.mem_append_right _ h
    obtain ⟨p, hpA, hpv, hpe, hps, hpdl, hpw⟩ := hs.mem c hc_re
    refine ⟨p, hpA, hpv, hpe, hps, ?_, fun ho => Nat.lt_of_lt_of_le (hpw ho) (by rw [cnt_append]; omega)⟩
    intro hmem
    rcases List.mem_append.1 hmem with h | h
    · exact hpdl h
    · simp only [List.mem_singleton] at h
      have hcr : c ∈ frags t0 ms j := by
        rw [hpe]; show fragOf t0 ms p.1 p.2 ∈ _
        rw [h]; exact hfr p.2 (h ▸ hpv.2)
      rcases List.mem_append.1 hc with h' | h'
      · exact hdisj1 c h' c (List.mem_append_left _ hcr) rfl
      · exact hdisj2 c hcr c h' rfl

/-- Delivering message `j` on an ordered stream: inside the SSN window the test `not uint16_gt(ssn, expected)` and
`j ∉ dl` pin `j` down as the next message of the stream, and the expected SSN moves on by one. -/
theorem OInv.pop {ms : List SMsg} {s j : Nat} {seq seq' : Int} {dl : List Nat} {out : List Msg}
    (ho : OrdOnly ms s) (hoi : OInv ms s seq dl out) (hj : j < ms.length) (hjs : (msgAt ms j).sid = s)
    (hjdl : j ∉ dl) (hw : ordBefore ms j s < cnt out s + 32768)
    (hgt : uint16_gt (ssnOf (ordBefore ms j s)) seq = false)
    (hseq : seq' = if ssnOf (ordBefore ms j s) = seq then uint16_add seq 1 else seq) :
    OInv ms s seq' (dl ++ [j]) (out ++ [toM ms j]) := by
  obtain ⟨d, hseqd, hdle, hfil, hiff⟩ := hoi
  have hord : (msgAt ms j).ordered = true := ho _ (msgAt_mem ms j hj) hjs
  have hnlt : ¬ ordBefore ms j s < d := fun h => hjdl ((hiff j hj hjs).2 h)
  have hcntd : cnt out s = d := by
    unfold cnt; rw [hfil, List.length_take]; omega
  rw [hcntd] at hw
  rw [hseqd, uint16_gt_ssnOf _ _ (by omega)] at hgt
  have hle : ¬ d < ordBefore ms j s := by simpa using hgt
  have hpos : ordBefore ms j s = d := by omega
  have hget := sentOn_get ms s ho j hj hjs
  rw [hpos] at hget
  have hdlt : d < (sentOn ms s).length := (List.getElem?_eq_some_iff.1 hget).1
  refine ⟨d + 1, ?_, hdlt, ?_, ?_⟩
  · rw [hseq, hpos, hseqd, if_pos rfl, uint16_add_ssnOf]
  · rw [List.filter_append, hfil, List.take_add_one, hget]
    have hmsid : ((toM ms j).sid == s) = true := by rw [toM_sid, hjs]; simp
    rw [List.filter_cons, if_pos hmsid, List.filter_nil]; rfl
  · intro j' hj' hjs'
    simp only [List.mem_append, List.mem_singleton]
    constructor
    · rintro (h | h)
      · have := (hiff j' hj' hjs').1 h; omega
      · rw [h, hpos]; omega
    · intro h
      by_cases hlt : ordBefore ms j' s < d
      · exact Or.inl ((hiff j' hj' hjs').2 hlt)
      · right
        have hjo : (msgAt ms j').ordered = true := ho _ (msgAt_mem ms j' hj') hjs'
        rcases Nat.lt_trichotomy j' j with h1 | h1 | h1
        · have := ordBefore_strict ms s j' j h1 (Nat.le_of_lt hj) hjo hjs'; omega
        · exact h1
        · have := ordBefore_strict ms s j j' h1 (Nat.le_of_lt hj') hord hjs; omega

theorem SInv.frame {t0 ms A s' reasm dl out} (h : SInv t0 ms A s' reasm dl out) (js : List Nat)
    (hjs : ∀ j ∈ js, (msgAt ms j).sid ≠ s') : SInv t0 ms A s' reasm (dl ++ js) (out ++ js.map (toM ms)) := by
  refine ⟨h.nodup, fun c hc => ?_⟩
  obtain ⟨p, hpA, hpv, hpe, hps, hpdl, hpw⟩ := h.mem c hc
  refine ⟨p, hpA, hpv, hpe, hps, ?_, fun ho => Nat.lt_of_lt_of_le (hpw ho) (by rw [cnt_append]; omega)⟩
  intro hmem
  rcases List.mem_append.1 hmem with h1 | h1
  · exact hpdl h1
  · exact hjs p.1 h1 hps

theorem OInv.frame {ms s' seq dl out} (h : OInv ms s' seq dl out) (js : List Nat)
    (hjs : ∀ j ∈ js, (msgAt ms j).sid ≠ s') : OInv ms s' seq (dl ++ js) (out ++ js.map (toM ms)) := by
  obtain ⟨d, h1, h2, h3, h4⟩ := h
  refine ⟨d, h1, h2, ?_, ?_⟩
  · rw [List.filter_append, h3]
    have : (js.map (toM ms)).filter (fun m => m.sid == s') = [] := by
      rw [List.filter_eq_nil_iff]
      intro m hm
      obtain ⟨j, hj, rfl⟩ := List.mem_map.1 hm
      simpa [toM_sid] using hjs j hj
    rw [this, List.append_nil]
  · intro j hj hjs'
    rw [← h4 j hj hjs', List.mem_append]
    constructor
    · rintro (h | h)
      · exact h
      · exact absurd hjs' (hjs j h)
    · exact Or.inl

/-- A whole `pop_messages` call: what it delivers are messages `js` of this stream that were not delivered before, and
the invariants `GInv`, `SInv`, `OInv` move from `dl` to `dl ++ js`. -/
theorem pops_inv (t0 : Int) (ms : List SMsg) (hN : startOf ms ms.length < 4294967296)
    {A : List (Nat × Nat)} {s : Nat} {reasm reasm' : List RChunk} {seq seq' : Int} {msgs : List Msg}
    (hsteps : PopSteps reasm seq msgs reasm' seq') :
    ∀ (dl : List Nat) (out : List Msg), GInv ms A dl out → SInv t0 ms A s reasm dl out →
    ∃ js, (∀ j ∈ js, (msgAt ms j).sid = s) ∧ msgs = js.map (toM ms)
      ∧ GInv ms A (dl ++ js) (out ++ msgs) ∧ SInv t0 ms A s reasm' (dl ++ js) (out ++ msgs)
      ∧ (OrdOnly ms s → OInv ms s seq dl out → OInv ms s seq' (dl ++ js) (out ++ msgs)) := by
  induction hsteps with
  | nil r sq =>
    intro dl out hg hs
    exact ⟨[], by simp, rfl, by simpa using hg, by simpa using hs, by intro _ h; simpa using h⟩
  | @cons r sq m r1 s1 ms' r2 s2 hstep _ ih =>
    intro dl out hg hs
    obtain ⟨j, pre, post, hj, hjs, hjdl, hw, rfl, rfl, rfl, hgt, hseq⟩ := popstep_run t0 ms hN hstep hs
    obtain ⟨harr, hs1⟩ := hs.pop hN hj (toM ms j)
    have hg1 : GInv ms A (dl ++ [j]) (out ++ [toM ms j]) :=
      ⟨by rw [hg.out_eq]; simp, List.nodup_snoc hg.nodup hjdl,
        fun x hx => (List.mem_append.1 hx).elim (hg.lt x) fun h => List.mem_singleton.1 h ▸ hj,
        fun x hx => (List.mem_append.1 hx).elim (hg.arrived x) fun h => List.mem_singleton.1 h ▸ harr⟩
    obtain ⟨js, hjs', hmsgs, hg2, hs2, ho2⟩ := ih (dl ++ [j]) (out ++ [toM ms j]) hg1 hs1
    refine ⟨j :: js, List.forall_mem_cons.2 ⟨hjs, hjs'⟩, by rw [hmsgs]; rfl, ?_, ?_, fun ho hoi => ?_⟩
    · simpa [List.append_assoc] using hg2
    · simpa [List.append_assoc] using hs2
    · have hord : (msgAt ms j).ordered = true := ho _ (msgAt_mem ms j hj) hjs
      simpa [List.append_assoc] using ho2 ho (hoi.pop ho hj hjs hjdl (hw hord) (hgt hord) (hseq hord))

end Aiortc.Sctp
