import Aiortc.Lemmas.C01.SctpE2E
/-!
# Arrival lists as pair lists, the window hypotheses, `_mark_received` over a whole arrival list (C01)

* every list of chunks taken from the sender's output is `ps.map (F t0 ms)` for valid pairs `ps` (`arrivals_are_frags`);
* the SSN window hypothesis holds whenever no stream carries more than 2^15 ordered messages (`SsnWin_of_few`), the sliding
  TSN window `TsnWin` whenever the association sends fewer than 2^31 chunks (`TsnWin_of_few`);
* `markAll` / `seenFlags` / `acceptedOf`: `_mark_received` over a whole arrival list; counting deliveries against sends.
-/
namespace Aiortc.Sctp
open Aiortc.Gen

theorem allFrags_length (t0 : Int) (ms : List SMsg) : (allFrags t0 ms).length = startOf ms ms.length := by
  induction ms using List.snoc_induction with
  | nil => simp [allFrags, startOf]
  | snoc l a ih =>
    rw [allFrags_append, List.length_append, ih, List.length_map, List.length_range]
    have h1 := startOf_succ (l ++ [a]) l.length (by simp)
    rw [msgAt_append_right, startOf_append _ _ _ (Nat.le_refl _)] at h1
    rw [show (l ++ [a]).length = l.length + 1 by simp, h1]

theorem arrivals_are_frags (t0 : Int) (ms : List SMsg) : ∀ cs : List RChunk, (∀ c ∈ cs, c ∈ allFrags t0 ms) →
    ∃ ps : List (Nat × Nat), (∀ q ∈ ps, ValidFrag ms q) ∧ cs = ps.map (F t0 ms) := by
  intro cs
  induction cs with
  | nil => intro _; exact ⟨[], by simp, rfl⟩
  | cons c t ih =>
    intro h
    obtain ⟨ps, hv, e⟩ := ih (fun x hx => h x (by simp [hx]))
    obtain ⟨p, hp, hc⟩ := (mem_allFrags t0 ms c).1 (h c (by simp))
    refine ⟨p :: ps, ?_, by rw [List.map_cons, ← e, hc]⟩
    intro q hq
    rcases List.mem_cons.1 hq with e' | e'
    · rw [e']; exact hp
    · exact hv q e'

theorem ordBefore_le_total (ms : List SMsg) (j s : Nat) : ordBefore ms j s ≤ ordBefore ms ms.length s := by
  unfold ordBefore
  rw [List.take_of_length_le (Nat.le_refl _)]
  exact List.Sublist.length_le ((List.take_sublist j ms).filter _)

theorem SsnWin_of_few (t0 : Int) (ms : List SMsg) (h : ∀ s, ordBefore ms ms.length s ≤ 32768)
    (arr : List (Nat × Nat)) (hv : ∀ q ∈ arr, ValidFrag ms q) : SsnWin t0 ms arr := by
  intro pre p hpre ho r out _
  have hp : ValidFrag ms p := hv p (by
    obtain ⟨t, ht⟩ := hpre
    rw [← ht]; simp)
  have h1 := ordBefore_strict ms (msgAt ms p.1).sid p.1 ms.length hp.1 (Nat.le_refl _) ho rfl
  have h2 := h (msgAt ms p.1).sid
  omega

theorem Recv.run_append_inv (a b : List RChunk) (r r2 : Recv) (out : List Msg)
    (h : Recv.run r (a ++ b) = .ok (r2, out)) :
    ∃ r1 o1 o2, Recv.run r a = .ok (r1, o1) ∧ Recv.run r1 b = .ok (r2, o2) ∧ out = o1 ++ o2 := by
  rw [Recv.run_append] at h
  cases ha : Recv.run r a <;> simp only [ha, reduceCtorEq] at h
  rename_i v
  cases hb : Recv.run v.1 b <;> simp only [hb, Outcome.ok.injEq, Prod.mk.injEq, reduceCtorEq] at h
  rename_i w
  obtain ⟨rfl, rfl⟩ := h
  exact ⟨v.1, v.2, w.2, rfl, hb, rfl⟩

theorem SsnWin.prefix {t0 : Int} {ms : List SMsg} {arr pre : List (Nat × Nat)} (h : SsnWin t0 ms arr)
    (hp : pre <+: arr) : SsnWin t0 ms pre := by
  intro q p hq
  exact h q p (List.IsPrefix.trans hq hp)

/-- The sliding TSN window hypothesis of DESIGN.md (not what the end-to-end theorems are proved under, see
`Props/C01.lean`): each arriving chunk is within 2^31 of the first missing TSN and of every chunk the receiver
still holds in the reassembly queue of its stream. -/
def TsnWin (t0 : Int) (ms : List SMsg) (arr : List (Nat × Nat)) : Prop :=
  ∀ pre p, (pre ++ [p]) <+: arr →
    (∀ n, IsCum (pre.map (flat ms)) n → InWindow n (flat ms p)) ∧
    ∀ r out, Recv.run (Recv.init t0) (pre.map (F t0 ms)) = .ok (r, out) →
      ∀ q ∈ pre, F t0 ms q ∈ (getS r.streams (F t0 ms q).sid).reasm →
        (flat ms q : Int) - flat ms p < 2147483648 ∧ (flat ms p : Int) - flat ms q < 2147483648

theorem TsnWin_of_few (t0 : Int) (ms : List SMsg) (hN : startOf ms ms.length < 2147483648)
    (arr : List (Nat × Nat)) (hv : ∀ q ∈ arr, ValidFrag ms q) : TsnWin t0 ms arr := by
  intro pre p hpre
  obtain ⟨suf, hsuf⟩ := hpre
  have hvp : ∀ q ∈ pre ++ [p], ValidFrag ms q := fun q hq => hv q (by rw [← hsuf]; exact List.mem_append_left _ hq)
  have hp := flat_lt_total ms p (hvp p (by simp))
  refine ⟨?_, ?_⟩
  · intro n hcum
    have hn : n ≤ startOf ms ms.length := hcum.le_of_lt fun x hx => by
      obtain ⟨q, hq, rfl⟩ := List.mem_map.1 hx
      exact flat_lt_total ms q (hvp q (List.mem_append_left _ hq))
    unfold InWindow; omega
  · intro r out _ q hq _
    have := flat_lt_total ms q (hvp q (List.mem_append_left _ hq))
    omega

/-! ## `_mark_received` over an arrival list -/

/-- Feed a list of TSNs to `_mark_received`; the returned flags are its results (`true` = duplicate). -/
def markAll : Rx → List Int → List Bool × Rx
  | r, [] => ([], r)
  | r, t :: ts =>
    let (d, r1) := markReceived r t
    let (ds, r2) := markAll r1 ts
    (d :: ds, r2)

/-- `true` at position `i` iff `ks[i]` occurs in `seen` or earlier in `ks`. -/
def seenFlags : List Nat → List Nat → List Bool
  | _, [] => []
  | seen, k :: ks => decide (k ∈ seen) :: seenFlags (seen ++ [k]) ks

/-- Sliding-window hypothesis over an arrival list: each arriving index is within 2^31 of the first index
that has not arrived yet. -/
def Windowed (seen ks : List Nat) : Prop :=
  ∀ pre k, (pre ++ [k]) <+: ks → ∀ n, IsCum (seen ++ pre) n → InWindow n k

theorem markAll_spec (t0 : Int) : ∀ (ks seen : List Nat) (r : Rx), RxInv t0 seen r → Windowed seen ks →
    (markAll r (ks.map (tsnN t0))).1 = seenFlags seen ks
      ∧ RxInv t0 (seen ++ ks) (markAll r (ks.map (tsnN t0))).2 := by
  intro ks
  induction ks with
  | nil => intro seen r h _; simpa [markAll, seenFlags] using h
  | cons k t ih =>
    intro seen r hinv hw
    have h1 := markReceived_spec t0 seen r k hinv (fun n hn => hw [] k (by simp) n (by simpa using hn))
    have hw' : Windowed (seen ++ [k]) t := by
      intro pre k' hpre n hn
      refine hw (k :: pre) k' ?_ n (by simpa [List.append_assoc] using hn)
      simpa using hpre
    have h2 := ih (seen ++ [k]) (markReceived r (tsnN t0 k)).2 h1.2 hw'
    simp only [List.map_cons, markAll, seenFlags]
    refine ⟨?_, ?_⟩
    · rw [h1.1, h2.1]
    · have := h2.2; rw [List.append_assoc] at this; simpa using this

theorem Windowed_of_small (seen ks : List Nat) (h : ∀ k ∈ seen ++ ks, k < 2147483647) : Windowed seen ks := by
  intro pre k hpre n hn
  obtain ⟨t, ht⟩ := hpre
  have hk : k < 2147483647 := h k (by rw [← ht]; simp)
  have hn' : n ≤ 2147483647 := hn.le_of_lt fun x hx => h x (by
    rcases List.mem_append.1 hx with a | a
    · exact List.mem_append_left _ a
    · exact List.mem_append_right _ (by rw [← ht]; simp [a]))
  unfold InWindow; omega

/-! ## sub-multiset from a duplicate-free index list -/

theorem map_msgAt_range (ms : List SMsg) : (List.range ms.length).map (msgAt ms) = ms := by
  apply List.ext_getElem
  · simp
  · intro i h1 h2
    simp [msgAt, List.getElem?_eq_getElem (by simpa using h1 : i < ms.length)]

/-- The indices accepted (not reported duplicate) along an arrival list. -/
def acceptedOf : List Nat → List Nat → List Nat
  | _, [] => []
  | seen, k :: ks => if k ∈ seen then acceptedOf (seen ++ [k]) ks else k :: acceptedOf (seen ++ [k]) ks

theorem acceptedOf_spec : ∀ (ks seen : List Nat),
    (acceptedOf seen ks).Nodup ∧ ∀ k, k ∈ acceptedOf seen ks ↔ (k ∈ ks ∧ k ∉ seen) := by
  intro ks
  induction ks with
  | nil => intro seen; simp [acceptedOf]
  | cons a t ih =>
    intro seen
    obtain ⟨h1, h2⟩ := ih (seen ++ [a])
    unfold acceptedOf
    split
    · rename_i ha
      refine ⟨h1, fun k => ?_⟩
      rw [h2 k]
      simp only [List.mem_append, List.mem_cons, not_or]
      constructor
      · rintro ⟨a1, a2, _⟩; exact ⟨Or.inr a1, a2⟩
      · rintro ⟨a1 | a1, a2⟩
        · exact absurd (a1 ▸ ha) a2
        · exact ⟨a1, a2, fun (e : k = a) => a2 (e ▸ ha), by simp⟩
    · rename_i ha
      refine ⟨List.nodup_cons.2 ⟨fun hm => ((h2 a).1 hm).2 (by simp), h1⟩, fun k => ?_⟩
      rw [List.mem_cons, h2 k]
      simp only [List.mem_append, List.mem_cons, not_or]
      constructor
      · rintro (e | ⟨a1, a2, _⟩)
        · exact ⟨Or.inl e, e ▸ ha⟩
        · exact ⟨Or.inr a1, a2⟩
      · rintro ⟨a1 | a1, a2⟩
        · exact Or.inl a1
        · by_cases e : k = a
          · exact Or.inl e
          · exact Or.inr ⟨a1, a2, e, by simp⟩

end Aiortc.Sctp
