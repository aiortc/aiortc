import Aiortc.Lemmas.C01.SctpMark
import Aiortc.Lemmas.SctpRx.Pop
import Aiortc.Lemmas.C01.SctpPlan
/-!
# Facts about the sender's fragments used by the end-to-end proof

* field/flag values of `fragOf`;
* `run_is_message`: a TSN-linked run of sender fragments that starts with a B chunk and ends at its first E
  chunk is exactly the list of fragments of one message;
* position of a message among the messages of its stream (`sentOn_get`, `ordBefore_strict`).
-/
namespace Aiortc.Sctp
open Aiortc.Gen

theorem fragOf_sid (t0 : Int) (ms : List SMsg) (j i : Nat) : (fragOf t0 ms j i).sid = (msgAt ms j).sid := rfl
theorem fragOf_ppid (t0 : Int) (ms : List SMsg) (j i : Nat) : (fragOf t0 ms j i).ppid = (msgAt ms j).ppid := rfl
theorem fragOf_ssn (t0 : Int) (ms : List SMsg) (j i : Nat) : (fragOf t0 ms j i).ssn = ssnFor ms j := rfl

theorem fragOf_flagB (t0 : Int) (ms : List SMsg) (j i : Nat) :
    flagB (fragOf t0 ms j i).flags = decide (i = 0) := flagB_fragFlags _ _ _
theorem fragOf_flagE (t0 : Int) (ms : List SMsg) (j i : Nat) :
    flagE (fragOf t0 ms j i).flags = decide (i = nfr (msgAt ms j) - 1) := flagE_fragFlags _ _ _
theorem fragOf_flagU (t0 : Int) (ms : List SMsg) (j i : Nat) :
    flagU (fragOf t0 ms j i).flags = !(msgAt ms j).ordered := flagU_fragFlags _ _ _

theorem F_tsn (t0 : Int) (ms : List SMsg) (p : Nat × Nat) :
    (F t0 ms p).tsn = tsnN t0 (flat ms p) := fragOf_tsn t0 ms p.1 p.2

theorem fragOf_data_len (t0 : Int) (ms : List SMsg) (j i : Nat) : (fragOf t0 ms j i).data.length ≤ 1200 := by
  simp only [fragOf, fragAt, USERDATA_MAX_eq, List.length_take]; omega

theorem fragOf_join (t0 : Int) (ms : List SMsg) (j : Nat) :
    ((List.range (nfr (msgAt ms j))).map (fragOf t0 ms j)).flatMap (·.data) = (msgAt ms j).data :=
  fragAt_join _ _ _ _ _ _

theorem frag_tsn_inj (t0 : Int) (ms : List SMsg) (hN : startOf ms ms.length < 4294967296)
    (p q : Nat × Nat) (hp : ValidFrag ms p) (hq : ValidFrag ms q)
    (h : (F t0 ms p).tsn = (F t0 ms q).tsn) : p = q := by
  rw [F_tsn, F_tsn] at h
  have h1 := flat_lt_total ms p hp
  have h2 := flat_lt_total ms q hq
  have := tsnOf_inj t0 (flat ms p : Int) (flat ms q : Int) (by omega) h
  exact flat_inj ms p q hp hq (by omega)

/-- A linked run of sender fragments starting at fragment `q` of message `j` and ending at its first E
chunk consists of the fragments `q, q+1, …, n-1` of message `j`. -/
theorem run_from (t0 : Int) (ms : List SMsg) (hN : startOf ms ms.length < 4294967296) (j : Nat) :
    ∀ (l : List RChunk) (q : Nat) (lst : RChunk), Linked l →
    (∀ c ∈ l, c ∈ allFrags t0 ms) →
    l.head? = some (fragOf t0 ms j q) → ValidFrag ms (j, q) →
    l.getLast? = some lst → flagE lst.flags = true →
    l = (List.range' q (nfr (msgAt ms j) - q)).map (fragOf t0 ms j) := by
  intro l
  induction l with
  | nil => intro q lst _ _ hh; simp at hh
  | cons c t ih =>
    intro q lst hlink hall hhead hv hlast hE
    simp only [List.head?_cons, Option.some.injEq] at hhead
    subst hhead
    have hq : q < nfr (msgAt ms j) := hv.2
    cases t with
    | nil =>
      simp only [List.getLast?_singleton, Option.some.injEq] at hlast
      subst hlast
      rw [fragOf_flagE] at hE
      have : q = nfr (msgAt ms j) - 1 := by simpa using hE
      have h1 : nfr (msgAt ms j) - q = 1 := by omega
      rw [h1]; simp [List.range']
    | cons d rest =>
      obtain ⟨hcE, hdt, hlink'⟩ := hlink
      rw [fragOf_flagE] at hcE
      have hq1 : q ≠ nfr (msgAt ms j) - 1 := by simpa using hcE
      have hv' : ValidFrag ms (j, q + 1) := ⟨hv.1, by show q + 1 < nfr (msgAt ms j); omega⟩
      obtain ⟨p', hp'v, hp'⟩ := (mem_allFrags t0 ms d).1 (hall d (by simp))
      -- the next chunk is fragment q+1 of the same message
      have hd : d = fragOf t0 ms j (q + 1) := by
        have htsn : (F t0 ms p').tsn = (F t0 ms (j, q + 1)).tsn := by
          rw [← hp', hdt, F, fragOf_tsn, fragOf_tsn, tsn_plus_one_tsnOf]
          congr 1
        have := frag_tsn_inj t0 ms hN p' (j, q + 1) hp'v hv' htsn
        rw [hp', this]; rfl
      have hlast' : (d :: rest).getLast? = some lst := by
        rw [List.getLast?_cons_cons] at hlast; exact hlast
      have := ih (q + 1) lst hlink' (fun x hx => hall x (by simp [hx])) (by rw [hd]; rfl) hv' hlast' hE
      have h1 : nfr (msgAt ms j) - q = (nfr (msgAt ms j) - (q + 1)) + 1 := by omega
      rw [h1, List.range'_succ, List.map_cons, ← this]

theorem run_is_message (t0 : Int) (ms : List SMsg) (hN : startOf ms ms.length < 4294967296)
    (run : List RChunk) (lst : RChunk) (p0 : Nat × Nat)
    (hlink : Linked run) (hall : ∀ c ∈ run, c ∈ allFrags t0 ms)
    (hhead : run.head? = some (F t0 ms p0)) (hp0 : ValidFrag ms p0)
    (hB : flagB (F t0 ms p0).flags = true) (hlast : run.getLast? = some lst) (hE : flagE lst.flags = true) :
    p0.2 = 0 ∧ run = (List.range (nfr (msgAt ms p0.1))).map (fragOf t0 ms p0.1) := by
  have h0 : p0.2 = 0 := by simpa [F, fragOf_flagB] using hB
  refine ⟨h0, ?_⟩
  have hv : ValidFrag ms (p0.1, 0) := by rw [← h0]; exact hp0
  have := run_from t0 ms hN p0.1 run 0 lst hlink hall (by rw [hhead, F, h0]) hv hlast hE
  rw [this, List.range_eq_range']; simp

/-- The `_send` calls made on stream `s`, as the receiver would see them. -/
def sentOn (ms : List SMsg) (s : Nat) : List Msg := (ms.filter (fun m => m.sid == s)).map SMsg.toMsg

/-- Every message sent on `s` is ordered (an ordered data channel). -/
def OrdOnly (ms : List SMsg) (s : Nat) : Prop := ∀ m ∈ ms, m.sid = s → m.ordered = true

theorem msgAt_mem (ms : List SMsg) (j : Nat) (h : j < ms.length) : msgAt ms j ∈ ms := by
  unfold msgAt; rw [List.getElem?_eq_getElem h]; simp

theorem split_at (ms : List SMsg) (j : Nat) (h : j < ms.length) :
    ms = ms.take j ++ msgAt ms j :: ms.drop (j + 1) := by
  unfold msgAt; rw [List.getElem?_eq_getElem h]; simp

theorem ordBefore_eq (ms : List SMsg) (s : Nat) (ho : OrdOnly ms s) (j : Nat) :
    ordBefore ms j s = ((ms.take j).filter (fun m => m.sid == s)).length := by
  unfold ordBefore
  congr 1
  apply List.filter_congr
  intro m hm
  have hm' : m ∈ ms := List.mem_of_mem_take hm
  by_cases h : m.sid = s
  · simp [ho m hm' h, h]
  · simp [h]

theorem sentOn_get (ms : List SMsg) (s : Nat) (ho : OrdOnly ms s) (j : Nat) (h : j < ms.length)
    (hs : (msgAt ms j).sid = s) : (sentOn ms s)[ordBefore ms j s]? = some (msgAt ms j).toMsg := by
  rw [ordBefore_eq ms s ho j]
  unfold sentOn
  have hsid : ((msgAt ms j).sid == s) = true := by simpa using hs
  have hf : ms.filter (fun m => m.sid == s)
      = (ms.take j).filter (fun m => m.sid == s)
        ++ msgAt ms j :: (ms.drop (j + 1)).filter (fun m => m.sid == s) := by
    conv => lhs; rw [split_at ms j h]
    rw [List.filter_append, List.filter_cons]
    simp only [hsid, if_true]
  rw [hf, List.map_append, List.getElem?_append_right (by simp)]
  simp

theorem ordBefore_strict (ms : List SMsg) (s : Nat) (j1 j2 : Nat) (h12 : j1 < j2) (h2 : j2 ≤ ms.length)
    (ho : (msgAt ms j1).ordered = true) (hs : (msgAt ms j1).sid = s) :
    ordBefore ms j1 s < ordBefore ms j2 s := by
  unfold ordBefore
  have hj1 : j1 < ms.length := by omega
  have e : ms.take j2 = ms.take j1 ++ msgAt ms j1 :: (ms.take j2).drop (j1 + 1) := by
    have := split_at (ms.take j2) j1 (by rw [List.length_take]; omega)
    rw [List.take_take, show min j1 j2 = j1 by omega] at this
    have hm : msgAt (ms.take j2) j1 = msgAt ms j1 := by
      unfold msgAt; rw [List.getElem?_take]; simp [h12]
    rw [hm] at this; exact this
  rw [e, List.filter_append, List.filter_cons]
  have : ((msgAt ms j1).ordered && (msgAt ms j1).sid == s) = true := by simp [ho, hs]
  simp only [this, if_true, List.length_append, List.length_cons]
  omega

end Aiortc.Sctp
