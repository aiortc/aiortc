import Aiortc.Lemmas.C01.SctpInv
/-!
# End-to-end invariant of the pure receiver over an arbitrary arrival list

`Inv t0 ms arr r out`: after the fragments `arr` (any list of valid (message, fragment) pairs: loss,
duplication, reordering, delay) were fed to `Recv.step`, the receiver is in state `r` and has delivered
`out`.  `run_inv` establishes it for every arrival list, under
* `startOf ms ms.length < 2^31`  — fewer than 2^31 DATA chunks are sent during the association, and
* `SsnWin`                        — an ordered message arrives only while fewer than 2^15 messages lie
  between it and the next message its stream expects.
-/
namespace Aiortc.Sctp
open Aiortc.Gen

structure Inv (t0 : Int) (ms : List SMsg) (arr : List (Nat × Nat)) (r : Recv) (out : List Msg) : Prop where
  rx : RxInv t0 (arr.map (flat ms)) r.rx
  ex : ∃ dl, GInv ms arr dl out ∧ (∀ s, SInv t0 ms arr s (getS r.streams s).reasm dl out)
    ∧ (∀ s, OrdOnly ms s → OInv ms s (getS r.streams s).seq dl out)

theorem Inv.init (t0 : Int) (ms : List SMsg) : Inv t0 ms [] (Recv.init t0) [] := by
  refine ⟨RxInv.init t0 [], [], ⟨rfl, by simp, by simp, by simp⟩, ?_, ?_⟩
  · intro s; exact ⟨by simp [getS, Recv.init, dictGet], by simp [getS, Recv.init, dictGet]⟩
  · intro s _
    refine ⟨0, ?_, Nat.zero_le _, by simp, ?_⟩
    · simp [getS, Recv.init, dictGet, ssnOf]
    · intro j _ _; simp

/-- One arrival. A TSN seen before: nothing happens. A fresh one: `add_chunk` cannot assert (the TSN is not queued, by `SInv`),
then one `pop_messages` (`pops_inv`); the other streams are untouched (`SInv.frame`, `OInv.frame`). -/
theorem step_inv (t0 : Int) (ms : List SMsg) (hN : startOf ms ms.length < 2147483648)
    (arr : List (Nat × Nat)) (r : Recv) (out : List Msg) (p : Nat × Nat)
    (harr : ∀ q ∈ arr, ValidFrag ms q) (hp : ValidFrag ms p) (hinv : Inv t0 ms arr r out)
    (hssn : (msgAt ms p.1).ordered = true →
      ordBefore ms p.1 (msgAt ms p.1).sid < cnt out (msgAt ms p.1).sid + 32768) :
    ∃ r' o', r.step (F t0 ms p) = .ok (r', o') ∧ Inv t0 ms (arr ++ [p]) r' (out ++ o') := by
  obtain ⟨hrx, dl, hg, hS, hO⟩ := hinv
  have hN32 : startOf ms ms.length < 4294967296 := by omega
  have hkN := flat_lt_total ms p hp
  have hksN : ∀ x ∈ arr.map (flat ms), x < startOf ms ms.length := by
    intro x hx
    obtain ⟨q, hq, rfl⟩ := List.mem_map.1 hx
    exact flat_lt_total ms q (harr q hq)
  have hwin : ∀ n, IsCum (arr.map (flat ms)) n → InWindow n (flat ms p) := by
    intro n hcum
    have hn : n ≤ startOf ms ms.length := hcum.le_of_lt hksN
    unfold InWindow; omega
  have hmr := markReceived_spec t0 (arr.map (flat ms)) r.rx (flat ms p) hrx hwin
  have htsn : (F t0 ms p).tsn = tsnN t0 (flat ms p) := F_tsn t0 ms p
  have hmem_iff : flat ms p ∈ arr.map (flat ms) ↔ p ∈ arr := by
    constructor
    · intro h
      obtain ⟨q, hq, e⟩ := List.mem_map.1 h
      rw [← flat_inj ms q p (harr q hq) hp e]; exact hq
    · exact List.mem_map_of_mem
  have hsub : ∀ q ∈ arr, q ∈ arr ++ [p] := fun q hq => List.mem_append_left _ hq
  unfold Recv.step
  rw [htsn]
  rw [← getS]
  generalize markReceived r.rx (tsnN t0 (flat ms p)) = mr at hmr
  obtain ⟨dup, rx'⟩ := mr
  obtain ⟨hdup, hrx'⟩ := hmr
  simp only at hdup hrx' ⊢
  rw [← List.map_singleton (f := flat ms), ← List.map_append] at hrx'
  by_cases hk : flat ms p ∈ arr.map (flat ms)
  · -- duplicate TSN: nothing happens
    simp only [hdup, hk, decide_true, if_true]
    refine ⟨_, _, rfl, ?_⟩
    rw [List.append_nil]
    exact ⟨hrx', dl, hg.mono hsub, fun s => (hS s).mono hsub, hO⟩
  · have hpa : p ∉ arr := fun h => hk (hmem_iff.2 h)
    have hSs := hS (F t0 ms p).sid
    have hfresh : ∀ x ∈ (getS r.streams (F t0 ms p).sid).reasm, x.tsn ≠ (F t0 ms p).tsn := by
      intro x hx e
      obtain ⟨q, hqA, hqv, hqe, _⟩ := hSs.mem x hx
      rw [hqe] at e
      exact hpa (frag_tsn_inj t0 ms hN32 q p hqv hp e ▸ hqA)
    -- the "still waiting in the reassembly queue" guard of the handler never fires here
    have hguard : ((getS r.streams (F t0 ms p).sid).reasm.any fun x => x.tsn == tsnN t0 (flat ms p)) = false := by
      rw [List.any_eq_false]
      intro x hx
      have := hfresh x hx
      rw [htsn] at this
      simpa using this
    simp only [hdup, hk, decide_false, Bool.false_eq_true, if_false, hguard]
    obtain ⟨s1, hadd, hseq1, hmem1, hnd1⟩ := addChunk_spec _ (F t0 ms p) hfresh
    obtain ⟨msgs, s2, hpop, hsteps⟩ := popMessages_ok s1
    rw [hadd]; simp only []
    rw [hpop]; simp only []
    refine ⟨_, _, rfl, ?_⟩
    have hS1 : SInv t0 ms (arr ++ [p]) (F t0 ms p).sid s1.reasm dl out := by
      refine ⟨hnd1 hSs.nodup (fun hc => hfresh _ hc rfl), ?_⟩
      intro x hx
      rcases hmem1 x hx with e | h
      · refine ⟨p, List.mem_append_right _ (by simp), hp, e, rfl, ?_, hssn⟩
        intro hdl
        exact hpa (hg.arrived p.1 hdl p.2 hp.2)
      · obtain ⟨q, hqA, rest⟩ := hSs.mem x h
        exact ⟨q, hsub q hqA, rest⟩
    obtain ⟨js, hjs, hmsgs, hg2, hs2, ho2⟩ := pops_inv t0 ms hN32 hsteps dl out (hg.mono hsub) hS1
    refine ⟨hrx', dl ++ js, hg2, ?_, ?_⟩
    · intro s
      by_cases hs : s = (F t0 ms p).sid
      · subst hs; simp only []; rw [getS_set_same]; exact hs2
      · simp only []; rw [getS_set_other _ _ _ _ hs, hmsgs]
        exact ((hS s).mono hsub).frame js (fun j hj e => hs ((hjs j hj).symm.trans e).symm)
    · intro s ho
      by_cases hs : s = (F t0 ms p).sid
      · subst hs; simp only []; rw [getS_set_same]
        apply ho2 ho
        rw [hseq1]; exact hO _ ho
      · simp only []; rw [getS_set_other _ _ _ _ hs, hmsgs]
        exact (hO s ho).frame js (fun j hj e => hs ((hjs j hj).symm.trans e).symm)

theorem Recv.run_append (a b : List RChunk) (r : Recv) :
    Recv.run r (a ++ b) =
      match Recv.run r a with
      | .ok (r1, o1) =>
        match Recv.run r1 b with
        | .ok (r2, o2) => .ok (r2, o1 ++ o2)
        | .valueError => .valueError
        | .crash k => .crash k
        | .hang => .hang
      | .valueError => .valueError
      | .crash k => .crash k
      | .hang => .hang := by
  induction a generalizing r with
  | nil => simp only [List.nil_append, Recv.run, List.nil_append]; cases Recv.run r b <;> rfl
  | cons c t ih =>
    simp only [List.cons_append, Recv.run, ih]
    cases r.step c with
    | ok v =>
      simp only []
      cases Recv.run v.1 t with
      | ok w => simp only []; cases Recv.run w.1 b <;> simp only [List.append_assoc]
      | _ => rfl
    | _ => rfl

theorem Recv.run_snoc (l : List RChunk) (r r1 r2 : Recv) (o1 o2 : List Msg) (c : RChunk)
    (h1 : Recv.run r l = .ok (r1, o1)) (h2 : r1.step c = .ok (r2, o2)) : Recv.run r (l ++ [c]) = .ok (r2, o1 ++ o2) := by
  simp [Recv.run_append, h1, Recv.run, h2]

/-- SSN window hypothesis: whenever a fragment of an ordered message arrives, fewer than 2^15 messages lie
between the number of messages already delivered on its stream and the message's position in the stream. -/
def SsnWin (t0 : Int) (ms : List SMsg) (arr : List (Nat × Nat)) : Prop :=
  ∀ pre p, (pre ++ [p]) <+: arr → (msgAt ms p.1).ordered = true →
    ∀ r out, Recv.run (Recv.init t0) (pre.map (F t0 ms)) = .ok (r, out) →
      ordBefore ms p.1 (msgAt ms p.1).sid < cnt out (msgAt ms p.1).sid + 32768

theorem run_inv (t0 : Int) (ms : List SMsg) (hN : startOf ms ms.length < 2147483648) :
    ∀ arr : List (Nat × Nat), (∀ q ∈ arr, ValidFrag ms q) → SsnWin t0 ms arr →
    ∃ r out, Recv.run (Recv.init t0) (arr.map (F t0 ms)) = .ok (r, out) ∧ Inv t0 ms arr r out := by
  intro arr
  induction arr using List.snoc_induction with
  | nil => intro _ _; exact ⟨_, _, rfl, Inv.init t0 ms⟩
  | snoc l a ih =>
    intro hv hw
    have hv' : ∀ q ∈ l, ValidFrag ms q := fun q hq => hv q (List.mem_append_left _ hq)
    have hw' : SsnWin t0 ms l := by
      intro pre p hpre
      exact hw pre p (List.IsPrefix.trans hpre (List.prefix_append l [a]))
    obtain ⟨r, out, hrun, hinv⟩ := ih hv' hw'
    obtain ⟨r', o', hstep, hinv'⟩ := step_inv t0 ms hN l r out a hv' (hv a (by simp)) hinv
      (fun ho => hw l a (List.prefix_refl _) ho r out hrun)
    refine ⟨r', out ++ o', ?_, hinv'⟩
    rw [List.map_append, List.map_singleton]
    exact Recv.run_snoc _ _ _ _ _ _ _ hrun hstep

theorem inv_of_run (t0 : Int) (ms : List SMsg) (hN : startOf ms ms.length < 2147483648)
    (arr : List (Nat × Nat)) (hv : ∀ q ∈ arr, ValidFrag ms q) (hw : SsnWin t0 ms arr) (r : Recv) (out : List Msg)
    (hrun : Recv.run (Recv.init t0) (arr.map (F t0 ms)) = .ok (r, out)) : Inv t0 ms arr r out := by
  obtain ⟨r', out', hrun', hinv⟩ := run_inv t0 ms hN arr hv hw
  cases hrun.symm.trans hrun'
  exact hinv

end Aiortc.Sctp
