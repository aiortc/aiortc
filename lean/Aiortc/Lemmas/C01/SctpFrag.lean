import Aiortc.Lemmas.SctpTx.Frag
/-!
# `_send`: the fragments of one message

The receiver's view of `Lemmas/SctpTx/Frag.lean`: fragment `i` carries `fragFlags ordered n i`, TSN `tsn + i (mod 2^32)` and the
`i`-th slice of `USERDATA_MAX` bytes (`fragAt`); the payloads join to the message; the bit tests of the model are the mask tests
of the code.
-/
namespace Aiortc.Sctp
open Aiortc.Gen

theorem USERDATA_MAX_eq : USERDATA_MAX = 1200 := by decide

theorem bit_test (f i : Nat) : (f / 2 ^ i % 2 == 1) = (f &&& 2 ^ i != 0) := by
  have hand : (f &&& 2 ^ i != 0) = f.testBit i := by
    cases h : f.testBit i with
    | true =>
      have h1 : (f &&& 2 ^ i).testBit i = true := by rw [Nat.testBit_and, h, Nat.testBit_two_pow_self]; rfl
      have := Nat.ge_two_pow_of_testBit h1
      have := Nat.two_pow_pos i
      simp only [bne_iff_ne, ne_eq]; omega
    | false =>
      have h0 : f &&& 2 ^ i = 0 := by
        apply Nat.eq_of_testBit_eq
        intro j
        rw [Nat.testBit_and, Nat.testBit_two_pow, Nat.zero_testBit]
        by_cases hij : i = j
        · subst hij; rw [h]; rfl
        · simp [hij]
      rw [h0]; rfl
  rw [hand, Nat.testBit_eq_decide_div_mod_eq]
  by_cases h : f / 2 ^ i % 2 = 1 <;> simp [h]

/-- The arithmetic bit tests of the model (`flagE`, `flagB`, `flagU`) are the mask tests of the code. -/
theorem flag_tests_nat (f : Nat) :
    flagE f = (f &&& SCTP_DATA_LAST_FRAG != 0) ∧ flagB f = (f &&& SCTP_DATA_FIRST_FRAG != 0) ∧
    flagU f = (f &&& SCTP_DATA_UNORDERED != 0) :=
  ⟨by have := bit_test f 0; rwa [Nat.pow_zero, Nat.div_one] at this, bit_test f 1, bit_test f 2⟩

section Frag
variable (tsn : Int) (sid : Nat) (ssn : Int) (ppid : Nat) (ordered : Bool) (expiry maxRtx : Option Int)
  (n : Nat) (data : Bytes)

def fragAt (i : Nat) : RChunk :=
  { tsn := (tsn + i) % 4294967296, sid := sid, ssn := ssn, ppid := ppid, flags := fragFlags ordered n i,
    data := (data.drop (i * USERDATA_MAX)).take USERDATA_MAX }

variable {tsn sid ssn ppid ordered expiry maxRtx n data}

theorem fragments_toR {k : Nat} (hk : k ≤ n) :
    (fragments tsn sid ssn ppid ordered expiry maxRtx n data k).map SChunk.toR
      = (List.range' (n - k) k).map (fragAt tsn sid ssn ppid ordered n data) := by
  rw [fragments_eq_range' _ _ _ _ _ _ _ _ _ k hk, List.map_map]; rfl

theorem fragments_data {k : Nat} (hk : k ≤ n) (hn : data.length ≤ n * USERDATA_MAX) :
    (fragments tsn sid ssn ppid ordered expiry maxRtx n data k).flatMap (·.data)
      = data.drop ((n - k) * USERDATA_MAX) := by
  induction k with
  | zero => simp [fragments, List.drop_eq_nil_of_le hn]
  | succ k ih =>
    rw [fragments_succ, List.flatMap_cons, ih (by omega)]
    have : (n - k) * USERDATA_MAX = (n - (k + 1)) * USERDATA_MAX + USERDATA_MAX := by
      have : n - k = (n - (k + 1)) + 1 := by omega
      rw [this, Nat.add_mul]; simp
    rw [this, ← List.drop_drop]
    exact List.take_append_drop _ _

end Frag

theorem fragCount_cover (len : Nat) : len ≤ fragCount len * USERDATA_MAX := by
  unfold fragCount; rw [USERDATA_MAX_eq]; omega

theorem fragAt_join (tsn : Int) (sid : Nat) (ssn : Int) (ppid : Nat) (o : Bool) (data : Bytes) :
    ((List.range (fragCount data.length)).map (fragAt tsn sid ssn ppid o (fragCount data.length) data)).flatMap
      (·.data) = data := by
  have h := @fragments_toR tsn sid ssn ppid o none none _ data _ (Nat.le_refl (fragCount data.length))
  rw [Nat.sub_self, ← List.range_eq_range'] at h
  rw [← h, List.flatMap_map]
  exact (fragments_data (Nat.le_refl _) (fragCount_cover _)).trans
    (by rw [Nat.sub_self, Nat.zero_mul]; rfl)

end Aiortc.Sctp
