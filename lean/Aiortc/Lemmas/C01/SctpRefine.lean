import Aiortc.Lemmas.SctpEndpoint.Wp
import Aiortc.Lemmas.C01.SctpInv
import Aiortc.Lemmas.C13.SctpUserData
/-!
# `Recv.step` (pure) is what the monadic `receiveData` of `Model/Sctp/Endpoint.lean` computes

One call of `receiveData c` on an endpoint state whose receive fields are `(rx, inStreams)` ends — when the
pure `Recv.step` returns `ok (r', msgs)` — by running `deliver msgs` on a state whose receive fields are `r'`
(`Props.C01.endpoint_receive_refines`, through `run_getInStream` below).
(`dcReceive_user`: `_data_channel_receive` of a user message — even with an application handler that re-enters
`send()` — does not touch `rx` / `inStreams`; for DCEP control messages this is not proved here.)

The handlers are executed with the equations `run_bind`, `run_getE`, … of `Lemmas/SctpEndpoint/Wp.lean`
(`run x s = x.run.run s` by definition).
-/
namespace Aiortc.Sctp
open Aiortc.Gen

theorem dictSet_registered (d : List (Nat × InStream)) (k : Nat) (v : InStream) :
    dictSet (if (dictGet d k).isSome then d else d ++ [(k, ({} : InStream))]) k v = dictSet d k v := by
  cases h : dictGet d k with
  | some s => rfl
  | none => exact dictSet_append_absent d k v {} h

/-- `_get_inbound_stream`: the stream registered for `sid`; a fresh one is registered when there is none. -/
theorem run_getInStream (sid : Nat) (e : Ep) (l : List Out) :
    run (getInStream sid) (e, l) = (.ok ((dictGet e.inStreams sid).getD {}),
      ({ e with inStreams := if (dictGet e.inStreams sid).isSome then e.inStreams
                             else e.inStreams ++ [(sid, ({} : InStream))] }, l)) := by
  unfold getInStream
  rw [run_bind, run_getE]
  dsimp only
  cases dictGet e.inStreams sid <;> rfl

/-! ## application handlers that re-enter `send()` -/

theorem run_chanGet (i : Nat) (s : St) :
    run (chanGet i) s = match s.1.chans[i]? with
      | some c => (.ok c, s)
      | none => (.error "IndexError", s) := by
  unfold chanGet
  rw [run_bind, run_getE]
  dsimp only
  cases s.1.chans[i]? <;> rfl

/-- `_data_channel_send` on an existing channel. The amount added to `bufferedAmount` is positive, so the
`bufferedamountlow` test of `_addBufferedAmount` fails. -/
theorem dcSend_run (i : Nat) (isStr : Bool) (d : Bytes) (e : Ep) (l : List Out) (c : Chan)
    (hc : e.chans[i]? = some c) :
    run (dcSend i isStr d) (e, l)
      = (.ok (), ({ e with chans := e.chans.set i { c with buffered := c.buffered + ((userData isStr d).2.length : Int) }
                           dcQueue := e.dcQueue ++ [(i, (userData isStr d).1, (userData isStr d).2)]
                           tasks := e.tasks ++ [Task.flush] },
                  l ++ [.task "data_channel_flush"])) := by
  have hlen := userData_len isStr d
  have hcross : (decide (c.buffered > (c.threshold : Int))
      && decide (c.buffered + ((userData isStr d).2.length : Int) ≤ (c.threshold : Int))) = false := by
    rw [Bool.and_eq_false_iff, decide_eq_false_iff_not, decide_eq_false_iff_not]
    omega
  unfold dcSend addBuffered0 addBufferedCore queueTask
  simp only [run_bind, run_chanGet, hc, hcross, Bool.false_and, Bool.false_eq_true, if_false]
  rfl

/-- The reaction an event of kind `k` on channel `i` would consume. -/
def reactPick (k i : Nat) (e : Ep) : Option (Nat × Nat × Bool × Bytes) :=
  e.reactions.find? (fun r => r.1 == k && (k == 4 || r.2.1 == i))

/-- One run of an application handler, case by case: no reaction armed; the channel does not exist; the channel
is not open (`InvalidStateError` inside the handler); `send()` goes through. -/
theorem react_run (k i : Nat) (e : Ep) (l : List Out) :
    run (react k i) (e, l) =
      match reactPick k i e with
      | none => (.ok (), (e, l))
      | some r =>
        match e.chans[i]? with
        | none => (.error "IndexError", ({ e with reactions := e.reactions.erase r }, l))
        | some c =>
          if c.ready ≠ 1 then
            (.ok (), ({ e with reactions := e.reactions.erase r }, l ++ [.rexc i "InvalidStateError"]))
          else
            (.ok (), ({ e with reactions := e.reactions.erase r
                               chans := e.chans.set i
                                 { c with buffered := c.buffered + ((userData r.2.2.1 r.2.2.2).2.length : Int) }
                               dcQueue := e.dcQueue ++ [(i, (userData r.2.2.1 r.2.2.2).1, (userData r.2.2.1 r.2.2.2).2)]
                               tasks := e.tasks ++ [Task.flush] },
                      l ++ [.task "data_channel_flush"])) := by
  unfold react reactPick
  rw [run_bind, run_getE]
  dsimp only
  cases e.reactions.find? (fun r => r.1 == k && (k == 4 || r.2.1 == i)) with
  | none => rfl
  | some r =>
    simp only [run_bind, run_setE, run_chanGet]
    cases hc : e.chans[i]? with
    | none => rfl
    | some c =>
      simp only []
      split
      · rfl
      · exact dcSend_run i r.2.2.1 r.2.2.2 _ l c hc

/-- The PPID case split of `_data_channel_receive` is the one of `decodeUser`. -/
theorem decodeUser_elim {α : Type} (ppid : Nat) (data : Bytes) (z : α) (k : Bool → Bytes → α)
    (h : (ppid = WEBRTC_DCEP && !data.isEmpty) = false) :
    (if ppid = WEBRTC_STRING then (if (!utf8Valid data) = true then z else k true data)
     else if ppid = WEBRTC_STRING_EMPTY then k true []
     else if ppid = WEBRTC_BINARY then k false data
     else if ppid = WEBRTC_BINARY_EMPTY then k false [] else z)
    = match decodeUser ppid data with
      | some (b, d) => k b d
      | none => z := by
  unfold decodeUser
  rw [h]
  simp only [Bool.false_eq_true, if_false]
  by_cases h1 : ppid = WEBRTC_STRING
  · rw [if_pos h1, if_pos h1]; cases utf8Valid data <;> rfl
  rw [if_neg h1, if_neg h1]
  by_cases h2 : ppid = WEBRTC_STRING_EMPTY
  · rw [if_pos h2, if_pos h2]
  rw [if_neg h2, if_neg h2]
  by_cases h3 : ppid = WEBRTC_BINARY
  · rw [if_pos h3, if_pos h3]
  rw [if_neg h3, if_neg h3]
  by_cases h4 : ppid = WEBRTC_BINARY_EMPTY
  · rw [if_pos h4, if_pos h4]
  · rw [if_neg h4, if_neg h4]

/-- `_data_channel_receive` on anything but a non-empty DCEP message: a `message` event followed by the
application's handler, if the stream has a channel that is announced and not closed and the payload decodes;
nothing otherwise. -/
theorem dcReceive_user_run (sid ppid : Nat) (data : Bytes) (e : Ep) (l : List Out)
    (h : (ppid = WEBRTC_DCEP && !data.isEmpty) = false) :
    run (dcReceive sid ppid data) (e, l) =
      match dictGet e.dataChannels sid with
      | none => (.ok (), (e, l))
      | some i =>
        match e.chans[i]? with
        | none => (.error "IndexError", (e, l))
        | some ch =>
          if (!ch.silent && decide (ch.ready ≠ 3)) = true then
            match decodeUser ppid data with
            | some (b, d) => run (react 3 i) (e, l ++ [Out.evMessage i b d])
            | none => (.ok (), (e, l))
          else (.ok (), (e, l)) := by
  unfold dcReceive
  rw [run_bind, run_getE]
  simp only [h, Bool.false_eq_true, if_false]
  cases dictGet e.dataChannels sid with
  | none => rfl
  | some i =>
    simp only [run_bind, run_chanGet]
    cases e.chans[i]? with
    | none => rfl
    | some ch =>
      simp only []
      rw [decodeUser_elim (α := M Unit) ppid data (pure ()) (fun b d =>
        if (!ch.silent && decide (ch.ready ≠ 3)) = true then do
          emit (Out.evMessage i b d)
          react 3 i
        else pure ()) h]
      cases decodeUser ppid data with
      | none => simp only [run_pure, ite_self]
      | some v => cases (!ch.silent && decide (ch.ready ≠ 3)) <;> rfl

/-- What one run of an application handler (a one-shot reaction sending on channel `i`) may change: nothing but
`reactions` (one consumed), `chans[i].buffered` (increased), `dcQueue` (one user-data entry for channel `i` appended)
and `tasks` (one `flush` appended). -/
structure ReactFrame (i : Nat) (e e' : Ep) : Prop where
  rest : e' = { e with reactions := e'.reactions, chans := e'.chans, dcQueue := e'.dcQueue, tasks := e'.tasks }
  reactions : e'.reactions = e.reactions ∨ ∃ r ∈ e.reactions, e'.reactions = e.reactions.erase r
  chans : e'.chans = e.chans ∨ ∃ (c : Chan) (a : Int), e.chans[i]? = some c ∧ 0 < a
    ∧ e'.chans = e.chans.set i { c with buffered := c.buffered + a }
  dcQueue : e'.dcQueue = e.dcQueue
    ∨ ∃ isStr d, e'.dcQueue = e.dcQueue ++ [(i, (userData isStr d).1, (userData isStr d).2)]
  tasks : e'.tasks = e.tasks ∨ e'.tasks = e.tasks ++ [Task.flush]

theorem ReactFrame.refl (i : Nat) (e : Ep) : ReactFrame i e e :=
  ⟨rfl, Or.inl rfl, Or.inl rfl, Or.inl rfl, Or.inl rfl⟩

theorem ReactFrame.fields {i : Nat} {e e' : Ep} (h : ReactFrame i e e') :
    e'.rx = e.rx ∧ e'.inStreams = e.inStreams ∧ e'.sackNeeded = e.sackNeeded ∧ e'.dataChannels = e.dataChannels
      ∧ e'.tx = e.tx ∧ e'.rwnd = e.rwnd ∧ e'.assoc = e.assoc := by
  exact ⟨(congrArg Ep.rx h.rest :), (congrArg Ep.inStreams h.rest :), (congrArg Ep.sackNeeded h.rest :),
    (congrArg Ep.dataChannels h.rest :), (congrArg Ep.tx h.rest :), (congrArg Ep.rwnd h.rest :),
    (congrArg Ep.assoc h.rest :)⟩

/-- Outputs of a handler: queued tasks and exceptions that stay inside the handler. -/
def IsHandlerOut (o : Out) : Prop := (∃ n, o = Out.task n) ∨ ∃ j k, o = Out.rexc j k

theorem react_frame (k i : Nat) (e : Ep) (l : List Out) :
    ∃ res e' outs, run (react k i) (e, l) = (res, (e', l ++ outs)) ∧ ReactFrame i e e'
      ∧ ∀ o ∈ outs, IsHandlerOut o := by
  rw [react_run]
  cases hp : reactPick k i e with
  | none => exact ⟨_, e, [], by rw [List.append_nil], ReactFrame.refl i e, by simp⟩
  | some r =>
    have hr : r ∈ e.reactions := List.mem_of_find?_eq_some hp
    cases hc : e.chans[i]? with
    | none =>
      exact ⟨_, { e with reactions := e.reactions.erase r }, [], by rw [List.append_nil],
        ⟨rfl, Or.inr ⟨r, hr, rfl⟩, Or.inl rfl, Or.inl rfl, Or.inl rfl⟩, by simp⟩
    | some c =>
      simp only []
      split
      · refine ⟨_, _, [Out.rexc i "InvalidStateError"], rfl,
          ⟨rfl, Or.inr ⟨r, hr, rfl⟩, Or.inl rfl, Or.inl rfl, Or.inl rfl⟩, ?_⟩
        intro o ho; rw [List.mem_singleton] at ho; exact Or.inr ⟨_, _, ho⟩
      · refine ⟨_, _, [Out.task "data_channel_flush"], rfl,
          ⟨rfl, Or.inr ⟨r, hr, rfl⟩, Or.inr ⟨c, _, hc, ?_, rfl⟩, Or.inr ⟨r.2.2.1, r.2.2.2, rfl⟩, Or.inr rfl⟩, ?_⟩
        · have := userData_len r.2.2.1 r.2.2.2; omega
        · intro o ho; rw [List.mem_singleton] at ho; exact Or.inl ⟨_, ho⟩

theorem dcReceive_user (sid ppid : Nat) (data : Bytes) (e : Ep) (l : List Out)
    (h : (ppid = WEBRTC_DCEP && !data.isEmpty) = false) :
    ∃ res e' evs, (dcReceive sid ppid data).run.run (e, l) = (res, (e', l ++ evs))
      ∧ ((evs = [] ∧ e' = e) ∨
         ∃ i b d tail, evs = Out.evMessage i b d :: tail ∧ decodeUser ppid data = some (b, d)
           ∧ dictGet e.dataChannels sid = some i ∧ ReactFrame i e e' ∧ ∀ o ∈ tail, IsHandlerOut o) := by
  show ∃ res e' evs, run (dcReceive sid ppid data) (e, l) = _ ∧ _
  have quiet : ∀ (res : Except String Unit) (P : Ep → List Out → Prop),
      ∃ res' e' evs, (res, (e, l)) = (res', (e', l ++ evs)) ∧ ((evs = [] ∧ e' = e) ∨ P e' evs) :=
    fun res _ => ⟨res, e, [], by rw [List.append_nil], Or.inl ⟨rfl, rfl⟩⟩
  rw [dcReceive_user_run sid ppid data e l h]
  cases hch : dictGet e.dataChannels sid with
  | none => exact quiet _ _
  | some i =>
    simp only []
    cases e.chans[i]? with
    | none => exact quiet _ _
    | some ch =>
      simp only []
      split
      · cases hdec : decodeUser ppid data with
        | none => exact quiet _ _
        | some v =>
          obtain ⟨b, d⟩ := v
          simp only []
          obtain ⟨res, e', outs, hrun, hfr, houts⟩ := react_frame 3 i e (l ++ [Out.evMessage i b d])
          exact ⟨res, e', Out.evMessage i b d :: outs, by rw [hrun, List.append_assoc]; rfl,
            Or.inr ⟨i, b, d, outs, rfl, rfl, rfl, hfr, houts⟩⟩
      · exact quiet _ _

/-! ## `deliver` with echo handlers -/

/-- One iteration of the `for` loop of `deliver`. -/
theorem deliver_cons (m : Msg) (ms : List Msg) (e : Ep) (l : List Out) :
    run (deliver (m :: ms)) (e, l) =
      match run (dcReceive m.sid m.ppid m.data) ({ e with rwnd := e.rwnd + m.data.length }, l) with
      | (.ok _, s') => run (deliver ms) s'
      | (.error k, s') => (.error k, s') := by
  unfold deliver
  simp only [List.forIn_cons, run_bind, run_modE, run_pure]
  cases run (dcReceive m.sid m.ppid m.data) ({ e with rwnd := e.rwnd + m.data.length }, l) with
  | mk res s' => cases res <;> rfl

/-- The armed `message` handlers of channel `i`, in arming order. -/
def echoes (i : Nat) (e : Ep) : List (Nat × Nat × Bool × Bytes) :=
  e.reactions.filter (fun r => r.1 == 3 && ((3 : Nat) == 4 || r.2.1 == i))

/-- The `dcQueue` entry a reaction's `send()` appends. -/
def echoEntry (i : Nat) (r : Nat × Nat × Bool × Bytes) : Nat × Nat × Bytes :=
  (i, (userData r.2.2.1 r.2.2.2).1, (userData r.2.2.1 r.2.2.2).2)

/-- Stream `sid` belongs to an open channel `i` whose application handlers are attached. -/
def EchoReady (sid i : Nat) (e : Ep) : Prop :=
  dictGet e.dataChannels sid = some i ∧ ∃ c, e.chans[i]? = some c ∧ c.silent = false ∧ c.ready = 1

/-- The `message` events among the outputs, in order. -/
def msgEvents : List Out → List (Nat × Bool × Bytes)
  | [] => []
  | Out.evMessage i b d :: t => (i, b, d) :: msgEvents t
  | _ :: t => msgEvents t

theorem msgEvents_append (a b : List Out) : msgEvents (a ++ b) = msgEvents a ++ msgEvents b := by
  induction a with
  | nil => rfl
  | cons x t ih =>
    cases x <;> simp [msgEvents, ih]

theorem dcReceive_echo (sid i : Nat) (m : Msg) (e : Ep) (l : List Out) (b : Bool) (d : Bytes)
    (r : Nat × Nat × Bool × Bytes) (rs : List (Nat × Nat × Bool × Bytes))
    (hready : EchoReady sid i e) (hsid : m.sid = sid)
    (hnd : (m.ppid = WEBRTC_DCEP && !m.data.isEmpty) = false) (hdec : decodeUser m.ppid m.data = some (b, d))
    (hech : echoes i e = r :: rs) :
    ∃ e', run (dcReceive m.sid m.ppid m.data) (e, l)
        = (.ok (), (e', l ++ [Out.evMessage i b d, Out.task "data_channel_flush"]))
      ∧ e'.dcQueue = e.dcQueue ++ [echoEntry i r] ∧ echoes i e' = rs ∧ EchoReady sid i e'
      ∧ e'.rx = e.rx ∧ e'.inStreams = e.inStreams := by
  obtain ⟨hch, c, hc, hsil, hrd⟩ := hready
  have hlive : (!c.silent && decide (c.ready ≠ 3)) = true := by simp [hsil, hrd]
  have hpick : reactPick 3 i e = some r := by
    have := List.head?_filter (p := fun r : Nat × Nat × Bool × Bytes => r.1 == 3 && ((3 : Nat) == 4 || r.2.1 == i))
      (l := e.reactions)
    unfold echoes at hech
    rw [hech] at this
    exact this.symm
  subst hsid
  rw [dcReceive_user_run _ _ _ _ _ hnd, hch]
  simp only [hc, hlive, if_true, hdec, react_run, hpick]
  rw [if_neg (not_not_intro hrd)]
  refine ⟨_, by rw [List.append_assoc]; rfl, ?_⟩
  refine ⟨rfl, ?_, ⟨hch, { c with buffered := c.buffered + ((userData r.2.2.1 r.2.2.2).2.length : Int) }, ?_,
    hsil, hrd⟩, rfl, rfl⟩
  · unfold echoes at hech ⊢
    exact (List.filter_erase_find _ _ r hpick).trans (by rw [hech]; rfl)
  · exact (List.getElem?_set_self (List.getElem?_eq_some_iff.1 hc).1)

theorem deliver_echo_order (sid i : Nat) : ∀ (msgs : List Msg) (e : Ep) (l : List Out), EchoReady sid i e →
    (∀ m ∈ msgs, m.sid = sid ∧ (m.ppid = WEBRTC_DCEP && !m.data.isEmpty) = false
      ∧ (decodeUser m.ppid m.data).isSome = true) →
    msgs.length ≤ (echoes i e).length →
    ∃ e' outs, (deliver msgs).run.run (e, l) = (.ok (), (e', l ++ outs))
      ∧ e'.dcQueue = e.dcQueue ++ ((echoes i e).take msgs.length).map (echoEntry i)
      ∧ echoes i e' = (echoes i e).drop msgs.length ∧ EchoReady sid i e'
      ∧ e'.rx = e.rx ∧ e'.inStreams = e.inStreams
      ∧ msgEvents outs = msgs.filterMap (fun m => (decodeUser m.ppid m.data).map fun v => (i, v.1, v.2)) := by
  intro msgs
  induction msgs with
  | nil =>
    intro e l hr _ _
    exact ⟨e, [], by rw [List.append_nil]; rfl, by simp, by simp, hr, rfl, rfl, rfl⟩
  | cons m ms ih =>
    intro e l hr hall hlen
    obtain ⟨hsid, hnd, hsome⟩ := hall m (by simp)
    cases hdec : decodeUser m.ppid m.data with
    | none => rw [hdec] at hsome; cases hsome
    | some v =>
      obtain ⟨b, d⟩ := v
      cases hech : echoes i e with
      | nil => rw [hech] at hlen; simp at hlen
      | cons r rs =>
        obtain ⟨e1, hrun1, hq1, hech1, hr1, hrx1, hin1⟩ :=
          dcReceive_echo sid i m { e with rwnd := e.rwnd + m.data.length } l b d r rs hr hsid hnd hdec hech
        have hlen' : ms.length ≤ (echoes i e1).length := by
          rw [hech1]; rw [hech] at hlen; simpa using hlen
        obtain ⟨e', outs, hrun, hq, hech', hr', hrx', hin', hev⟩ :=
          ih e1 (l ++ [Out.evMessage i b d, Out.task "data_channel_flush"]) hr1
            (fun x hx => hall x (by simp [hx])) hlen'
        refine ⟨e', [Out.evMessage i b d, Out.task "data_channel_flush"] ++ outs, ?_, ?_, ?_, hr', ?_, ?_, ?_⟩
        · show run _ _ = _
          rw [deliver_cons, hrun1]
          exact hrun.trans (by rw [List.append_assoc])
        · rw [hq, hq1, hech1]
          simp [List.append_assoc]
        · rw [hech', hech1]; simp
        · rw [hrx', hrx1]
        · rw [hin', hin1]
        · rw [msgEvents_append, hev]
          simp [msgEvents, hdec]
end Aiortc.Sctp
