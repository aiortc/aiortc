import Aiortc.Lemmas.SctpRx.Walk
/-!
# `_mark_received`: exact characterisation under the sliding-window hypothesis

`RxInv t0 ks r`: after the chunks with sender indices `ks` (any order, repetitions allowed) arrived,
`r.last` is the TSN just before the first missing index `n`, and `r.mis` holds exactly the TSNs of the
arrived indices above `n`.  `markReceived` reports "duplicate" iff the index arrived before.
-/
namespace Aiortc.Sctp
open Aiortc.Gen

/-! ## insertion into a sorted list of indices (ghost of the reassembly queue's order) -/

def insNat (k : Nat) : List Nat → List Nat
  | [] => [k]
  | x :: xs => if k < x then k :: x :: xs else x :: insNat k xs

theorem mem_insNat (a k : Nat) (l : List Nat) : a ∈ insNat k l ↔ a = k ∨ a ∈ l := by
  induction l with
  | nil => simp [insNat]
  | cons x xs ih =>
    unfold insNat
    split
    · simp
    · simp only [List.mem_cons, ih]; grind

theorem insNat_sorted (k : Nat) (l : List Nat) (h : l.Pairwise (· < ·)) (hk : k ∉ l) :
    (insNat k l).Pairwise (· < ·) := by
  induction l with
  | nil => simp [insNat]
  | cons x xs ih =>
    rw [List.pairwise_cons] at h
    simp only [List.mem_cons, not_or] at hk
    unfold insNat
    split
    · rename_i hlt
      rw [List.pairwise_cons]
      refine ⟨?_, List.pairwise_cons.2 h⟩
      intro y hy
      rcases List.mem_cons.1 hy with rfl | hy
      · exact hlt
      · exact Nat.lt_trans hlt (h.1 y hy)
    · rename_i hge
      rw [List.pairwise_cons]
      refine ⟨?_, ih h.2 hk.2⟩
      intro y hy
      rcases (mem_insNat y k xs).1 hy with rfl | hy
      · omega
      · exact h.1 y hy

/-- `n` is the first index that has not arrived. -/
def IsCum (ks : List Nat) (n : Nat) : Prop := (∀ j, j < n → j ∈ ks) ∧ n ∉ ks

theorem IsCum.unique {ks : List Nat} {n m : Nat} (h1 : IsCum ks n) (h2 : IsCum ks m) : n = m := by
  rcases Nat.lt_trichotomy n m with h | h | h
  · exact absurd (h2.1 n h) h1.2
  · exact h
  · exact absurd (h1.1 m h) h2.2

theorem IsCum.le_of_lt {ks : List Nat} {n N : Nat} (h : IsCum ks n) (hb : ∀ k ∈ ks, k < N) : n ≤ N :=
  Nat.le_of_not_lt fun hlt => Nat.lt_irrefl N (hb N (h.1 N hlt))

/-- Window hypothesis for one arrival: fewer than 2^31 TSNs between the cumulative TSN and the chunk,
in either direction. -/
def InWindow (n k : Nat) : Prop := k < n + 2147483647 ∧ n < k + 2147483648

structure RxInv (t0 : Int) (ks : List Nat) (r : Rx) : Prop where
  ex : ∃ (n : Nat) (I : List Nat), IsCum ks n ∧ r.last = tsnOf t0 ((n : Int) - 1)
      ∧ r.mis = I.map (tsnN t0) ∧ I.Nodup ∧ (∀ k, k ∈ I ↔ (k ∈ ks ∧ n < k))
      ∧ (∀ k ∈ ks, k < n + 2147483647)

theorem RxInv.init (t0 : Int) (dups : List Int) :
    RxInv t0 [] { last := tsn_minus_one t0, mis := [], dups := dups } :=
  ⟨0, [], ⟨by intro j hj; omega, by simp⟩, by simp [tsn_minus_one_eq], by simp, by simp, by simp, by simp⟩

theorem contains_map_tsnN (t0 : Int) (I : List Nat) (k : Nat) (lo : Int)
    (hk : lo ≤ k ∧ (k : Int) < lo + 4294967296)
    (hI : ∀ x ∈ I, lo ≤ (x : Int) ∧ (x : Int) < lo + 4294967296) :
    (I.map (tsnN t0)).contains (tsnN t0 k) = decide (k ∈ I) := by
  rw [Bool.eq_iff_iff]
  simp only [List.contains_iff_mem, List.mem_map, decide_eq_true_eq]
  constructor
  · rintro ⟨x, hx, e⟩
    have hxb := hI x hx
    have := tsnOf_inj t0 (x : Int) (k : Int) (by omega) e
    have : x = k := by omega
    exact this ▸ hx
  · intro h; exact ⟨k, h, rfl⟩

theorem RxInv.isDup {t0 : Int} {ks : List Nat} {r : Rx} (hinv : RxInv t0 ks r) (k : Nat)
    (hwin : ∀ n, IsCum ks n → InWindow n k) :
    (uint32_gte r.last (tsnN t0 k) || r.mis.contains (tsnN t0 k)) = decide (k ∈ ks) := by
  obtain ⟨n, I, hcum, hlast, hmis, _, hI, hbound⟩ := hinv
  have hw := hwin n hcum
  unfold InWindow at hw
  have hgte : uint32_gte r.last (tsnN t0 k) = decide (k < n) := by
    rw [hlast]; unfold tsnN
    rw [uint32_gte_tsnOf t0 _ _ (by omega), decide_eq_decide]
    omega
  have hcont : r.mis.contains (tsnN t0 k) = decide (k ∈ I) := by
    rw [hmis]
    refine contains_map_tsnN t0 I k ((n : Int) - 2147483648) (by omega) fun x hx => ?_
    have h1 := (hI x).1 hx
    have := hbound x h1.1
    omega
  rw [hgte, hcont, Bool.eq_iff_iff]
  simp only [Bool.or_eq_true, decide_eq_true_eq]
  constructor
  · rintro (h | h)
    · exact hcum.1 k h
    · exact ((hI k).1 h).1
  · intro h
    by_cases hkn : k < n
    · exact Or.inl hkn
    · have : k ≠ n := fun e => hcum.2 (e ▸ h)
      exact Or.inr ((hI k).2 ⟨h, by omega⟩)

/-- An index that arrived before changes nothing but `dups`, which the invariant does not mention. -/
theorem RxInv.dup {t0 : Int} {ks : List Nat} {r : Rx} (hinv : RxInv t0 ks r) {k : Nat} (hk : k ∈ ks)
    (dups : List Int) : RxInv t0 (ks ++ [k]) { r with dups := dups } := by
  obtain ⟨n, I, hcum, hlast, hmis, hnd, hI, hbound⟩ := hinv
  have hmem : ∀ x, x ∈ ks ++ [k] ↔ x ∈ ks := fun x => by
    rw [List.mem_append, List.mem_singleton]
    exact ⟨fun h => h.elim id (fun e => e ▸ hk), Or.inl⟩
  exact ⟨n, I, ⟨fun j hj => (hmem j).2 (hcum.1 j hj), fun h => hcum.2 ((hmem n).1 h)⟩, hlast, hmis, hnd,
    fun x => by rw [hI x, hmem x], fun x hx => hbound x ((hmem x).1 hx)⟩

/-- A fresh index: it joins the misordered TSNs, the cumulative TSN walks to the new first missing index `m`
(`absorb_idx`) and everything up to `m` leaves the misordered set. -/
theorem RxInv.fresh {t0 : Int} {ks : List Nat} {r : Rx} (hinv : RxInv t0 ks r) {k : Nat} (hk : k ∉ ks)
    (hwin : ∀ n, IsCum ks n → InWindow n k) :
    RxInv t0 (ks ++ [k]) (Rx.absorb r.last (r.mis ++ [tsnN t0 k]) r.dups) := by
  obtain ⟨n, I, hcum, hlast, hmis, hnd, hI, hbound⟩ := hinv
  have hw := hwin n hcum
  unfold InWindow at hw
  have hkn : n ≤ k := Nat.le_of_not_lt fun h => hk (hcum.1 k h)
  have hkI : k ∉ I := fun h => hk ((hI k).1 h).1
  have hI1nd : (I ++ [k]).Nodup := List.nodup_snoc hnd hkI
  have hI1b : ∀ x ∈ I ++ [k], n ≤ x ∧ x < n + 2147483647 := by
    intro x hx
    rcases List.mem_append.1 hx with h | h
    · have h1 := (hI x).1 h; have := hbound x h1.1; omega
    · simp only [List.mem_singleton] at h; subst h; omega
  have hmap : r.mis ++ [tsnN t0 k] = (I ++ [k]).map (tsnN t0) := by rw [hmis]; simp
  -- seen from the origin `t0 - 1`, the cumulative TSN has index `n` and the chunk with index `x` has index `x + 1`
  have hTn : ∀ x : Nat, tsnN t0 x = T (t0 - 1) (x + 1) := fun x => by unfold tsnN tsnOf T; congr 1; omega
  have hT1 : ∀ x : Nat, tsnOf t0 ((x : Int) - 1) = T (t0 - 1) x := fun x => by unfold tsnOf T; congr 1; omega
  have hmemL : ∀ x : Nat, n ≤ x → x < n + 2147483648 → (tsnN t0 x ∈ (I ++ [k]).map (tsnN t0) ↔ x ∈ I ++ [k]) := fun x _ hx =>
    ⟨fun h => by
      obtain ⟨y, hy, e⟩ := List.mem_map.1 h
      have := hI1b y hy
      have := tsnOf_inj t0 y x (by omega) e
      exact (show y = x by omega) ▸ hy, fun h => List.mem_map.2 ⟨x, h, rfl⟩⟩
  obtain ⟨m, hm⟩ := absorb_idx (t0 - 1) (c := n) (hi := n + 2147483647) r.dups (by omega) (by omega)
    (L := (I ++ [k]).map (tsnN t0)) (fun x hx => by
      obtain ⟨y, hy, rfl⟩ := List.mem_map.1 hx
      have := hI1b y hy
      exact ⟨y + 1, by omega, by omega, hTn y⟩)
    (by
      rw [List.Nodup, List.pairwise_map]
      refine hI1nd.imp_of_mem fun {a c} ha hc hne e => hne ?_
      have := hI1b a ha; have := hI1b c hc
      have := tsnOf_inj t0 a c (by omega) e
      omega)
  have hmn : n ≤ m := hm.ge
  have hmb : m ≤ n + 2147483647 := hm.le
  have hin : ∀ x, n ≤ x → x < m → x ∈ I ++ [k] := fun x h1 h2 =>
    (hmemL x h1 (by omega)).1 (hTn x ▸ hm.below (x + 1) (by omega) (by omega))
  have hmI : m ∉ I ++ [k] := fun h => hm.next (hTn m ▸ (hmemL m hmn (by omega)).2 h)
  rw [hlast, hmap, hT1]
  have hfilt : ((I ++ [k]).map (tsnN t0)).filter (fun x => uint32_gt x (T (t0 - 1) m))
      = ((I ++ [k]).filter (fun x => decide (m ≤ x))).map (tsnN t0) := by
    rw [List.filter_map, ← hT1]
    congr 1
    apply List.filter_congr
    intro x hx
    have := hI1b x hx
    simp only [Function.comp, tsnN]
    rw [uint32_gt_tsnOf t0 _ _ (by omega), decide_eq_decide]
    omega
  refine ⟨m, (I ++ [k]).filter (fun x => decide (m ≤ x)), ⟨?_, ?_⟩, hm.last.trans (hT1 m).symm, hm.mis_eq.trans hfilt,
    hI1nd.filter _, ?_, ?_⟩
  · intro j hj
    by_cases hjn : j < n
    · exact List.mem_append_left _ (hcum.1 j hjn)
    · rcases List.mem_append.1 (hin j (by omega) hj) with h | h
      · exact List.mem_append_left _ ((hI j).1 h).1
      · exact List.mem_append_right _ h
  · intro h
    rcases List.mem_append.1 h with h | h
    · by_cases e : m = n
      · exact hcum.2 (e ▸ h)
      · exact hmI (List.mem_append_left _ ((hI _).2 ⟨h, by omega⟩))
    · exact hmI (List.mem_append_right _ h)
  · intro x
    simp only [List.mem_filter, decide_eq_true_eq, List.mem_append, List.mem_singleton]
    constructor
    · rintro ⟨h | h, hle⟩
      · refine ⟨Or.inl ((hI x).1 h).1, ?_⟩
        have : x ≠ m := fun e => hmI (List.mem_append_left _ (e ▸ h))
        omega
      · refine ⟨Or.inr h, ?_⟩
        have : x ≠ m := fun e => hmI (List.mem_append_right _ (by simp [← e, h]))
        omega
    · rintro ⟨h | h, hlt⟩
      · exact ⟨Or.inl ((hI x).2 ⟨h, by omega⟩), by omega⟩
      · exact ⟨Or.inr h, by omega⟩
  · intro x hx
    rcases List.mem_append.1 hx with h | h
    · have := hbound x h; omega
    · simp only [List.mem_singleton] at h; subst h; omega

theorem markReceived_spec (t0 : Int) (ks : List Nat) (r : Rx) (k : Nat)
    (hinv : RxInv t0 ks r) (hwin : ∀ n, IsCum ks n → InWindow n k) :
    (markReceived r (tsnN t0 k)).1 = decide (k ∈ ks) ∧ RxInv t0 (ks ++ [k]) (markReceived r (tsnN t0 k)).2 := by
  rw [markReceived_eq, hinv.isDup k hwin]
  by_cases hk : k ∈ ks
  · simp only [hk, decide_true, if_true, true_and]
    exact hinv.dup hk _
  · simp only [hk, decide_false, Bool.false_eq_true, if_false, true_and]
    exact hinv.fresh hk hwin

end Aiortc.Sctp
