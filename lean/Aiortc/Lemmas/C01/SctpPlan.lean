import Aiortc.Lemmas.SctpRx.Tsn
import Aiortc.Lemmas.C01.SctpFrag
import Aiortc.Lemmas.SctpDict
/-!
# `_send`: the fragments of a message and of a whole sequence of `_send` calls

`fragOf t0 ms j i` is fragment `i` of the `j`-th message of `ms` when the association's initial TSN is
`t0`; `sendAll_spec` shows that these are exactly the chunks `Tx.sendAll` appends to the outbound
queue, in order.
-/
namespace Aiortc.Sctp
open Aiortc.Gen

def nfr (m : SMsg) : Nat := fragCount m.data.length
def msgAt (ms : List SMsg) (j : Nat) : SMsg := ms[j]?.getD default
/-- Index (in sending order over the whole association) of the first fragment of message `j`. -/
def startOf (ms : List SMsg) (j : Nat) : Nat := ((ms.take j).map nfr).sum
/-- Number of ordered messages on `sid` among the first `j` messages. -/
def ordBefore (ms : List SMsg) (j : Nat) (sid : Nat) : Nat :=
  ((ms.take j).filter (fun m => m.ordered && m.sid == sid)).length

def ssnFor (ms : List SMsg) (j : Nat) : Int :=
  if (msgAt ms j).ordered then ssnOf (ordBefore ms j (msgAt ms j).sid) else 0

def fragOf (t0 : Int) (ms : List SMsg) (j i : Nat) : RChunk :=
  fragAt (tsnOf t0 (startOf ms j)) (msgAt ms j).sid (ssnFor ms j) (msgAt ms j).ppid (msgAt ms j).ordered
    (nfr (msgAt ms j)) (msgAt ms j).data i

/-- Fragment `p = (message, fragment)` as a received chunk. -/
def F (t0 : Int) (ms : List SMsg) (p : Nat × Nat) : RChunk := fragOf t0 ms p.1 p.2

/-- All chunks of the association in sending order. -/
def allFrags (t0 : Int) (ms : List SMsg) : List RChunk :=
  (List.range ms.length).flatMap (fun j => (List.range (nfr (msgAt ms j))).map (fragOf t0 ms j))

theorem fragOf_tsn (t0 : Int) (ms : List SMsg) (j i : Nat) :
    (fragOf t0 ms j i).tsn = tsnOf t0 ((startOf ms j + i : Nat) : Int) := by
  simp only [fragOf, fragAt]
  have : ((startOf ms j + i : Nat) : Int) = (startOf ms j : Int) + i := by omega
  rw [this, tsnOf_add_mod]

theorem msgAt_append_left (ms : List SMsg) (m : SMsg) (j : Nat) (h : j < ms.length) :
    msgAt (ms ++ [m]) j = msgAt ms j := by
  unfold msgAt; rw [List.getElem?_append_left h]

theorem msgAt_append_right (ms : List SMsg) (m : SMsg) : msgAt (ms ++ [m]) ms.length = m := by
  unfold msgAt; simp

theorem startOf_append (ms : List SMsg) (m : SMsg) (j : Nat) (h : j ≤ ms.length) :
    startOf (ms ++ [m]) j = startOf ms j := by
  unfold startOf; rw [List.take_append_of_le_length h]

theorem ordBefore_append (ms : List SMsg) (m : SMsg) (j sid : Nat) (h : j ≤ ms.length) :
    ordBefore (ms ++ [m]) j sid = ordBefore ms j sid := by
  unfold ordBefore; rw [List.take_append_of_le_length h]

theorem fragOf_append (t0 : Int) (ms : List SMsg) (m : SMsg) (j i : Nat) (h : j < ms.length) :
    fragOf t0 (ms ++ [m]) j i = fragOf t0 ms j i := by
  unfold fragOf ssnFor
  rw [msgAt_append_left ms m j h, startOf_append ms m j (Nat.le_of_lt h),
    ordBefore_append ms m j _ (Nat.le_of_lt h)]

theorem startOf_succ (ms : List SMsg) (j : Nat) (h : j < ms.length) :
    startOf ms (j + 1) = startOf ms j + nfr (msgAt ms j) := by
  unfold startOf msgAt
  rw [List.take_add_one, List.getElem?_eq_getElem h, List.map_append, List.sum_append]
  simp

theorem startOf_mono (ms : List SMsg) (a b : Nat) (h : a ≤ b) : startOf ms a ≤ startOf ms b := by
  induction b with
  | zero => have : a = 0 := by omega
            subst this; exact Nat.le_refl _
  | succ b ih =>
    by_cases hab : a = b + 1
    · subst hab; exact Nat.le_refl _
    · have h1 := ih (by omega)
      by_cases hb : b < ms.length
      · rw [startOf_succ ms b hb]; omega
      · have : startOf ms (b + 1) = startOf ms b := by
          unfold startOf
          rw [List.take_of_length_le (by omega), List.take_of_length_le (by omega)]
        omega

def ValidFrag (ms : List SMsg) (p : Nat × Nat) : Prop := p.1 < ms.length ∧ p.2 < nfr (msgAt ms p.1)

/-- Position of a fragment in the association-wide sending order. -/
def flat (ms : List SMsg) (p : Nat × Nat) : Nat := startOf ms p.1 + p.2

theorem flat_lt_total (ms : List SMsg) (p : Nat × Nat) (h : ValidFrag ms p) :
    flat ms p < startOf ms ms.length := by
  have h1 := startOf_succ ms p.1 h.1
  have h2 := startOf_mono ms (p.1 + 1) ms.length h.1
  unfold flat; have := h.2; omega

theorem flat_inj (ms : List SMsg) (p q : Nat × Nat) (hp : ValidFrag ms p) (hq : ValidFrag ms q)
    (h : flat ms p = flat ms q) : p = q := by
  have key : ∀ (a b : Nat × Nat), ValidFrag ms a → ValidFrag ms b → flat ms a = flat ms b → ¬ a.1 < b.1 := by
    intro a b ha _ hab hlt
    have h1 := startOf_succ ms a.1 ha.1
    have h2 := startOf_mono ms (a.1 + 1) b.1 hlt
    unfold flat at hab; have := ha.2; omega
  have h1 := key p q hp hq h
  have h2 := key q p hq hp h.symm
  have e1 : p.1 = q.1 := by omega
  unfold flat at h
  rw [e1] at h
  exact Prod.ext e1 (by omega)

/-! ## `Tx.sendAll` produces exactly `allFrags` -/

/-- What the sender's counters are after `_send` was called for `ms`. -/
structure TxOk (t0 : Int) (ms : List SMsg) (t : Tx) : Prop where
  tsn : t.localTsn = tsnOf t0 (startOf ms ms.length)
  seq : ∀ sid, (dictGet t.streamSeq sid).getD 0 = ssnOf (ordBefore ms ms.length sid)

theorem TxOk.init (t0 : Int) (h : 0 ≤ t0 ∧ t0 < 4294967296) (t : Tx) (h1 : t.localTsn = t0)
    (h2 : t.streamSeq = []) : TxOk t0 [] t :=
  ⟨by rw [h1]; simp [startOf, tsnOf_zero t0 h], by intro sid; simp [h2, dictGet, ordBefore, ssnOf]⟩

theorem send_spec (t0 : Int) (ms : List SMsg) (m : SMsg) (t : Tx) (h : TxOk t0 ms t) :
    TxOk t0 (ms ++ [m]) (t.send m) ∧
    (t.send m).outQ.map SChunk.toR
      = t.outQ.map SChunk.toR ++ (List.range (nfr m)).map (fragOf t0 (ms ++ [m]) ms.length) := by
  have hlen : (ms ++ [m]).length = ms.length + 1 := by simp
  have hst : startOf (ms ++ [m]) (ms.length + 1) = startOf ms ms.length + nfr m := by
    rw [startOf_succ _ _ (by simp), msgAt_append_right, startOf_append _ _ _ (Nat.le_refl _)]
  have hob : ∀ sid, ordBefore (ms ++ [m]) (ms.length + 1) sid
      = ordBefore ms ms.length sid + (if (m.ordered && m.sid == sid) = true then 1 else 0) := by
    intro sid
    unfold ordBefore
    rw [List.take_of_length_le (by simp), List.take_of_length_le (Nat.le_refl _), List.filter_append]
    by_cases hc : (m.ordered && m.sid == sid) = true <;> simp [hc]
  constructor
  · constructor
    · rw [hlen, hst]
      simp only [Tx.send, Tx.enqueue, h.tsn]
      rw [tsnOf_add_mod]; unfold nfr; congr 1
    · intro sid
      rw [hlen, hob sid]
      simp only [Tx.send, Tx.enqueue]
      cases hord : m.ordered with
      | false => simp [h.seq sid]
      | true =>
        simp only [if_true, Bool.true_and]
        by_cases hs : m.sid = sid
        · subst hs
          rw [dictGet_dictSet_self]
          simp only [Option.getD_some, beq_self_eq_true, if_true]
          rw [h.seq m.sid, uint16_add_ssnOf]
        · rw [dictGet_dictSet_other _ _ _ _ (fun e => hs e.symm)]
          have : (m.sid == sid) = false := by simpa using hs
          simp [this, h.seq sid]
  · simp only [Tx.send, Tx.enqueue, List.map_append]
    congr 1
    rw [fragments_toR (Nat.le_refl _)]
    simp only [Nat.sub_self, ← List.range_eq_range']
    apply List.map_congr_left
    intro i _
    unfold fragOf ssnFor
    rw [msgAt_append_right, startOf_append _ _ _ (Nat.le_refl _), ordBefore_append _ _ _ _ (Nat.le_refl _),
      h.tsn]
    unfold nfr
    cases hord : m.ordered with
    | false => simp
    | true => simp [h.seq m.sid]

theorem allFrags_append (t0 : Int) (ms : List SMsg) (m : SMsg) :
    allFrags t0 (ms ++ [m]) = allFrags t0 ms ++ (List.range (nfr m)).map (fragOf t0 (ms ++ [m]) ms.length) := by
  unfold allFrags
  rw [show (ms ++ [m]).length = ms.length + 1 by simp, List.range_succ, List.flatMap_append]
  congr 1
  · rw [List.flatMap_def, List.flatMap_def]
    congr 1
    apply List.map_congr_left
    intro j hj
    have hj' : j < ms.length := List.mem_range.1 hj
    rw [msgAt_append_left ms m j hj']
    apply List.map_congr_left
    intro i _
    exact fragOf_append t0 ms m j i hj'
  · simp [msgAt_append_right]

theorem sendAll_spec_aux (t0 : Int) : ∀ (ms2 ms1 : List SMsg) (t : Tx), TxOk t0 ms1 t →
    TxOk t0 (ms1 ++ ms2) (t.sendAll ms2) ∧
    ∀ pre, t.outQ.map SChunk.toR = pre ++ allFrags t0 ms1 →
      (t.sendAll ms2).outQ.map SChunk.toR = pre ++ allFrags t0 (ms1 ++ ms2) := by
  intro ms2
  induction ms2 with
  | nil => intro ms1 t h; simp only [List.append_nil, Tx.sendAll, List.foldl_nil]; exact ⟨h, fun _ hp => hp⟩
  | cons m rest ih =>
    intro ms1 t h
    obtain ⟨h1, h2⟩ := send_spec t0 ms1 m t h
    have := ih (ms1 ++ [m]) (t.send m) h1
    have e : ms1 ++ [m] ++ rest = ms1 ++ m :: rest := by simp
    rw [e] at this
    refine ⟨this.1, ?_⟩
    intro pre hp
    apply this.2 pre
    rw [h2, hp, allFrags_append, List.append_assoc]

theorem sendAll_spec (t0 : Int) (ht0 : 0 ≤ t0 ∧ t0 < 4294967296) (t : Tx) (h1 : t.localTsn = t0)
    (h2 : t.streamSeq = []) (h3 : t.outQ = []) (ms : List SMsg) :
    (t.sendAll ms).outQ.map SChunk.toR = allFrags t0 ms := by
  have := (sendAll_spec_aux t0 ms [] t (TxOk.init t0 ht0 t h1 h2)).2 [] (by simp [h3, allFrags])
  simpa using this

theorem mem_allFrags (t0 : Int) (ms : List SMsg) (c : RChunk) :
    c ∈ allFrags t0 ms ↔ ∃ p, ValidFrag ms p ∧ c = F t0 ms p := by
  unfold allFrags ValidFrag F
  simp only [List.mem_flatMap, List.mem_range, List.mem_map]
  constructor
  · rintro ⟨j, hj, i, hi, e⟩; exact ⟨(j, i), ⟨hj, hi⟩, e.symm⟩
  · rintro ⟨p, ⟨hj, hi⟩, e⟩; exact ⟨p.1, hj, p.2, hi, e.symm⟩

end Aiortc.Sctp
