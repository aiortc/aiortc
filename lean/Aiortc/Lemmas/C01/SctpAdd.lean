import Aiortc.Lemmas.C01.SctpMark
import Aiortc.Lemmas.SctpRx.Insert
/-!
# Where `insNat` puts the sender index of a new chunk

The two cases of `InboundStream.add_chunk` inside a window of fewer than 2^31 TSNs (`Props.C01.addChunk_keeps_sorted`):
appended at the end, or inserted in front of the first larger index.
-/
namespace Aiortc.Sctp
open Aiortc.Gen

theorem insNat_append_of_lt (k : Nat) : ∀ (J : List Nat), (∀ x ∈ J, x < k) → insNat k J = J ++ [k] := by
  intro J
  induction J with
  | nil => intro _; rfl
  | cons x xs ih =>
    intro h
    have hx := h x (by simp)
    unfold insNat
    rw [if_neg (by omega)]
    rw [ih (fun y hy => h y (by simp [hy]))]; rfl

theorem insNat_split (k x : Nat) (J1 J2 : List Nat) (h1 : ∀ y ∈ J1, y < k) (hx : k < x) :
    insNat k (J1 ++ x :: J2) = J1 ++ k :: x :: J2 := by
  induction J1 with
  | nil => simp [insNat, hx]
  | cons y ys ih =>
    have := h1 y (by simp)
    simp only [List.cons_append, insNat, if_neg (by omega : ¬ k < y), ih fun z hz => h1 z (by simp [hz])]

end Aiortc.Sctp
