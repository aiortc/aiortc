import Aiortc.Model.Dtls
import Aiortc.Lemmas.Bytes
/-! Helper lemmas for C04: the counting loop of `_validate_peer_identity` as `countP`, slices, `_recv_next` as the
first-byte demultiplexer, the answers of the SRTP replay databases. -/
namespace Aiortc.Lemmas.Dtls
open Aiortc Aiortc.Model.Dtls

section policy
variable (lower fold : Str → Str) (algs : List Str) (digest : Str → Str)

def sup (f : Fingerprint) : Bool := decide (lower f.algorithm ∈ algs)
def good (f : Fingerprint) : Bool :=
  decide (lower f.algorithm ∈ algs) && decide (fold f.value = fold (digest (lower f.algorithm)))

theorem foldl_validateStep (fps : List Fingerprint) (c : Counts) :
    fps.foldl (validateStep lower fold algs digest) c =
      ⟨c.supported + fps.countP (sup lower algs), c.valid + fps.countP (good lower fold algs digest)⟩ := by
  induction fps generalizing c with
  | nil => simp
  | cons f fs ih =>
    rw [List.foldl_cons, ih]
    unfold validateStep
    by_cases h1 : lower f.algorithm ∈ algs
    · by_cases h2 : fold f.value = fold (digest (lower f.algorithm))
      · simp [sup, good, h1, h2]; omega
      · simp [sup, good, h1, h2]; omega
    · simp [sup, good, h1]

theorem validateCounts_eq (fps : List Fingerprint) :
    validateCounts lower fold algs digest fps =
      ⟨fps.countP (sup lower algs), fps.countP (good lower fold algs digest)⟩ := by
  unfold validateCounts; rw [foldl_validateStep]; simp

theorem sup_iff (f : Fingerprint) : sup lower algs f = true ↔ lower f.algorithm ∈ algs := by
  simp only [sup, decide_eq_true_eq]

theorem good_iff (f : Fingerprint) : good lower fold algs digest f = true ↔
    lower f.algorithm ∈ algs ∧ fold f.value = fold (digest (lower f.algorithm)) := by
  simp only [good, Bool.and_eq_true, decide_eq_true_eq]

theorem accepted_iff (fps : List Fingerprint) : accepted lower fold algs digest fps = true ↔
    0 < fps.countP (sup lower algs) ∧ fps.countP (good lower fold algs digest) = fps.countP (sup lower algs) := by
  unfold accepted
  rw [validateCounts_eq]
  simp only [Bool.not_eq_true', Bool.or_eq_false_iff, beq_eq_false_iff_ne, ne_eq, bne_eq_false_iff_eq]
  omega

end policy

theorem findProfile_some {ps : List Profile} {sel : String} {p : Profile} (h : findProfile ps sel = some p) :
    p ∈ ps ∧ p.name = sel :=
  ⟨List.mem_of_find?_eq_some h, by simpa using List.find?_some h⟩

theorem findProfile_isSome (ps : List Profile) (sel : String) :
    (findProfile ps sel).isSome = true ↔ ∃ p ∈ ps, p.name = sel := by
  simp [findProfile]

theorem slice_length {α} (d : List α) (i j : Nat) : (slice d i j).length = min j d.length - i := by
  simp [slice]

theorem recvNext_pkt (t : T) (b : Nat) (rest : Bytes) (ssl : SslRecv) (srtp : Unprotect) :
    recvNext t (.pkt (b :: rest) ssl srtp) =
      match demuxClass b with
      | .dtls =>
        (match ssl with
          | .notAsked => .oracleMissing
          | .zeroReturn => .connError
          | .error => .ok []
          | .data d =>
            if d ≠ [] ∧ t.hasDataReceiver = true ∧ t.state = .connected then .ok [.deliverData d] else .ok [])
      | .srtp =>
        if t.srtp.isSome = true then
          (match srtp with
            | .notAsked => .oracleMissing
            | .fail => .ok []
            | .ok d => if isRtcp (b :: rest) then .ok [.deliverRtcp d] else .ok [.deliverRtp d])
        else .ok []
      | .drop => .ok [] := by
  by_cases h1 : 19 < b ∧ b < 64
  · simp only [recvNext, demuxClass, h1, and_self, if_true]
    cases ssl <;> rfl
  · by_cases h2 : 127 < b ∧ b < 192
    · cases h3 : t.srtp.isSome <;> simp only [recvNext, demuxClass, h1, h2, h3, and_self, and_false,
        if_true, if_false, Bool.false_eq_true]
      cases srtp <;> rfl
    · have h3 : ¬(127 < b ∧ b < 192 ∧ t.srtp.isSome = true) := fun h => h2 ⟨h.1, h.2.1⟩
      simp only [recvNext, demuxClass, h1, h2, h3, if_false]

theorem check_replay {r : Rdb} {w i : Nat} (h : r.check w i = .replay) : i ∈ r.seen ∧ i ≤ r.hi := by
  unfold Rdb.check at h
  split at h
  · cases h
  · split at h
    · cases h
    · split at h
      · exact ⟨by assumption, by omega⟩
      · cases h

theorem check_eq_old_iff {r : Rdb} {w i : Nat} : r.check w i = .old ↔ i ≤ r.hi ∧ w ≤ r.hi - i := by
  unfold Rdb.check
  split
  · simp only [reduceCtorEq, false_iff]; omega
  · split
    · simp only [true_iff]; omega
    · split <;> simp only [reduceCtorEq, false_iff] <;> omega

theorem check_ne_old_mono {r r' : Rdb} {w w' i : Nat} (hhi : r'.hi ≤ r.hi) (hw : w ≤ w') (h : r.check w i ≠ .old) :
    r'.check w' i ≠ .old := by
  rw [Ne, check_eq_old_iff] at h ⊢
  omega

theorem recv_cases (l : Link) (wrx i : Nat) (a : Bool) :
    (l.rx.check wrx i = .old ∧ l.recv wrx i a = (l, .rxOld)) ∨ (i ∈ l.rx.seen ∧ l.recv wrx i a = (l, .rxReplay)) ∨
    l.recv wrx i a = (l, .authFail) ∨ l.recv wrx i a = ({ l with rx := l.rx.add i }, .delivered) := by
  unfold Link.recv
  cases h : l.rx.check wrx i with
  | old => exact .inl ⟨rfl, rfl⟩
  | replay => exact .inr (.inl ⟨(check_replay h).1, rfl⟩)
  | fresh => cases a <;> simp

theorem send_cases (l : Link) (wtx wrx : Nat) (rep : Bool) (i : Nat) (a : Bool) :
    l.send wtx wrx rep i a = (l, .txRefused) ∨
    ∃ l' : Link, l'.rx = l.rx ∧ l.tx.hi ≤ l'.tx.hi ∧ i ≤ l'.tx.hi ∧ l.tx.check wtx i ≠ .old ∧
      l.send wtx wrx rep i a = l'.recv wrx i a := by
  unfold Link.send
  cases h : l.tx.check wtx i with
  | old => exact .inl rfl
  | replay =>
    cases rep
    · exact .inl rfl
    · exact .inr ⟨l, rfl, Nat.le_refl _, (check_replay h).2, by simp, rfl⟩
  | fresh =>
    exact .inr ⟨{ l with tx := l.tx.add i }, rfl, Nat.le_max_left _ _, Nat.le_max_right _ _, by simp, rfl⟩

end Aiortc.Lemmas.Dtls
