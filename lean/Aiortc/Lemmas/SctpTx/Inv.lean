import Aiortc.Lemmas.SctpTx.Loops
import Aiortc.Lemmas.SctpTx.Transmit
import Aiortc.Lemmas.SctpTx.Ack
import Aiortc.Lemmas.SctpTx.AdvAck
/-!
# Invariants of the send side: what the sender operations ask of one

An invariant `J` of the sender (with a predicate `Ok` on what it emits) is kept by every operation of the send path as soon as
it is kept by the few moves those operations are made of (`TxInv`): rewriting chunks of the sent queue in their bookkeeping
attributes (`Bk`, field `sent`), dropping a prefix of the sent queue (`drop`), moving a prefix of the outbound queue behind it
(`send`), `_maybe_abandon` (`abandon`), `_update_advanced_peer_ack_point` (`advAck`), clearing the pending FORWARD TSN (`fwdSent`),
and changes of fields `J` does not read (`congr`).  Every field and every derived lemma takes `J t` first.  Instances:
`txInv_TxOk` (`C05/SctpSendSide`; the one to copy), `V2.txInv_TxOk` (`C05/SctpWeakSack`), `txInv_QOk` (`C17/StrikeShift`),
`txInv_RelTx` (`C02/DrainRel`).
-/
namespace Aiortc.Sctp
open Aiortc.Gen

/-- `c'` differs from `c` in bookkeeping attributes only (`misses`, `acked`, `retransmit`, `inFlight`,
`sentCount`, `bookSize`). -/
def Bk (c c' : SChunk) : Prop :=
  c'.toR = c.toR ∧ c'.expiry = c.expiry ∧ c'.maxRetransmits = c.maxRetransmits ∧ c'.abandoned = c.abandoned

theorem Bk.refl (c : SChunk) : Bk c c := ⟨rfl, rfl, rfl, rfl⟩

theorem rtxStep_bk (c : SChunk) : Bk c (rtxStep c) := by
  unfold rtxStep; split <;> exact ⟨rfl, rfl, rfl, rfl⟩

theorem newChunk_bk (c : SChunk) : Bk c (newChunk c) := ⟨rfl, rfl, rfl, rfl⟩

theorem htnaChunk_bk (seen : List Int) (c : SChunk) : Bk c (htnaChunk seen c) := by
  unfold htnaChunk; split <;> exact ⟨rfl, rfl, rfl, rfl⟩

theorem hitMark_bk (ab : Bool) (c : SChunk) : Bk c (hitMark ab c) := by
  cases ab <;> exact ⟨rfl, rfl, rfl, rfl⟩

structure TxInv (J : Tx → Prop) (Ok : TxEv → Prop) : Prop where
  /-- `J` only reads the queues, the FORWARD-TSN bookkeeping, the stream sequence numbers and the next TSN -/
  congr : ∀ {t t'}, J t → t'.reads = t.reads → J t'
  sent : ∀ {t s}, J t → PW Bk t.sentQ s → J { t with sentQ := s }
  drop : ∀ {t}, J t → ∀ k : Nat, J { t with sentQ := t.sentQ.drop k }
  send : ∀ {t}, J t → ∀ (k : Nat) (f : SChunk → SChunk), (∀ c, Bk c (f c)) →
    J { t with sentQ := t.sentQ ++ (t.outQ.take k).map f, outQ := t.outQ.drop k }
  abandon : ∀ {t}, J t → ∀ (pos : Nat) (now : Int), J (t.maybeAbandon pos now).2
  advAck : ∀ {t}, J t → J t.updateAdvAck
  fwdSent : ∀ {t}, J t → J { t with forwardTsn := none }
  data : ∀ {t c}, J t → c ∈ t.sentQ ++ t.outQ → Ok (.data c.toR)
  fwd : ∀ {t cum streams}, J t → t.forwardTsn = some (cum, streams) → Ok (.fwd cum streams)
  t3start : Ok .t3start
  t3cancel : Ok .t3cancel

section
variable {J : Tx → Prop} {Ok : TxEv → Prop} (hJ : TxInv J Ok)
include hJ

theorem TxInv.t3Restart (b : Bool) : ∀ ev ∈ t3Restart b, Ok ev := by
  intro ev hev
  rcases mem_t3Restart hev with rfl | rfl
  · exact hJ.t3cancel
  · exact hJ.t3start

theorem TxInv.modify {t : Tx} (h : J t) (pos : Nat) (f : SChunk → SChunk) (hf : ∀ d, Bk d (f d)) (fl : Nat) :
    J { t with flight := fl, sentQ := t.sentQ.modify pos f } :=
  hJ.congr (hJ.sent h (PW.modify Bk.refl f hf t.sentQ pos)) rfl

theorem TxInv.hitBody {t : Tx} (h : J t) (pos : Nat) (now : Int) : J (Sctp.hitBody t pos now) :=
  hJ.modify (hJ.abandon h pos now) pos _ (hitMark_bk _) _

theorem TxInv.strikeHit {t : Tx} (h : J t) (pos : Nat) (c : SChunk) (now : Int) : J (Sctp.strikeHit t pos c now) :=
  hJ.congr (hJ.hitBody (hJ.modify h pos (fun d => { d with misses := 0 }) (fun _ => ⟨rfl, rfl, rfl, rfl⟩) t.flight) pos now)
    rfl

theorem TxInv.strikeLoop {t : Tx} (h : J t) (seen : List Int) (hna now : Int) (fuel pos : Nat) (loss : Bool) :
    J (Sctp.strikeLoop seen hna now fuel pos t loss).1 :=
  strikeLoop_keeps (J := J) seen hna now (fun _ pos c _ h => hJ.strikeHit h pos c now)
    (fun t pos m h => hJ.modify h pos (fun d => { d with misses := m }) (fun _ => ⟨rfl, rfl, rfl, rfl⟩) t.flight) fuel pos t loss h

/-- `_t3_expired` (up to the final `_transmit`) -/
theorem TxInv.t3Expired {t : Tx} (h : J t) (now : Int) : J (t.t3Expired now) := by
  unfold Tx.t3Expired
  dsimp only
  have h0 : J { t with t3 := false } := hJ.congr h rfl
  have h1 := hJ.advAck (t3Mark_keeps (J := J) now (fun t pos h => hJ.hitBody h pos now) t.sentQ.length 0 _ h0)
  exact hJ.congr h1 rfl

/-- `_transmit`: the retransmission pass rewrites sent chunks in their bookkeeping attributes, first transmissions move a prefix
of the outbound queue over; every DATA chunk sent is a chunk of the queues as the peer sees it. -/
theorem TxInv.transmit {t : Tx} (h : J t) : J t.transmit.1 ∧ ∀ ev ∈ t.transmit.2, Ok ev := by
  rw [transmit_closed]
  constructor
  · have hpw := rtxPass_pw Bk.refl rtxStep_bk t.sentQ t.rtxN
    exact hJ.congr (hJ.fwdSent (hJ.send (hJ.sent h hpw) t.newN newChunk newChunk_bk)) rfl
  · intro ev hev
    simp only [List.mem_append] at hev
    rcases hev with (hev | hev) | hev
    · rcases mem_fwd hev with ⟨cum, streams, hf, rfl⟩ | rfl
      · exact hJ.fwd h hf
      · exact hJ.t3start
    · rcases mem_rtxEvs hev with ⟨c, hc, -, rfl⟩ | hev
      · exact hJ.data (c := c) h (List.mem_append_left _ (List.mem_of_mem_take hc))
      · rcases hev with rfl | rfl
        · exact hJ.t3cancel
        · exact hJ.t3start
    · rcases mem_newEvs hev with ⟨c, hc, rfl⟩ | rfl
      · exact hJ.data (c := c) h (List.mem_append_right _ (List.mem_of_mem_take hc))
      · exact hJ.t3start

end

end Aiortc.Sctp
