import Aiortc.Lemmas.Util.List
import Aiortc.Model.Sctp.Outbound
/-!
# SCTP sender: bookkeeping shared by every analysis of the send path

`Tx.reads`: what the invariants of the send side read of a sender.  `flightSum l`: the bytes the chunks of a queue are *counted*
in flight; `inFlight` is the `_in_flight` attribute that the fix of C02 (`known_findings.json`, "keep SCTP flight size consistent
…", commit 5893491) gave every outbound chunk: whether the chunk's `bookSize` is currently counted in `_flight_size`.
`decFlight`/`incFlight` in closed form.  `PW R l l'`: two queues of the same length related chunk by chunk, the shape in which
every loop over `_sent_queue` is described (`List.Forall₂` as a recursive `def`, so that `⟨h1, h2⟩` and `.1`/`.2` work on it;
generic in the element type).

The `_frame` lemmas of this directory (`maybeAbandon_frame`, `hitBody_frame`, `strikeLoop_frame`, `t3Mark_frame`, `sackGaps_frame`,
`sackCwnd_frame`, `sackT3_frame`) have the form `x = { t with flight := x.flight, sentQ := x.sentQ, outQ := x.outQ }`: `x` writes
these fields only; `rw [x_frame]` (or `congrArg Tx.reads x_frame`) reduces every other projection to `t`'s by `rfl`.
-/
namespace Aiortc.Sctp
open Aiortc.Gen

/-- What the invariants of the send side read of a sender: the two queues, the FORWARD-TSN bookkeeping, the stream sequence numbers
and the next TSN.  After an update of other fields only, `t'.reads = t.reads` holds by `rfl`; an instance of `TxInv.congr` opens it
with `simp only [Tx.reads, Prod.mk.injEq] at he`. -/
def Tx.reads (t : Tx) :=
  (t.sentQ, t.outQ, t.forwardStreams, t.forwardTsn, t.forwardNeeded, t.advAck, t.streamSeq, t.localTsn)

/-- bytes a chunk is currently counted for -/
def SChunk.w (c : SChunk) : Nat := if c.inFlight then c.bookSize else 0

def flightSum : List SChunk → Nat
  | [] => 0
  | c :: cs => c.w + flightSum cs

@[simp] theorem flightSum_nil : flightSum [] = 0 := rfl
@[simp] theorem flightSum_cons (c : SChunk) (cs : List SChunk) : flightSum (c :: cs) = c.w + flightSum cs := rfl

@[simp] theorem flightSum_append (a b : List SChunk) : flightSum (a ++ b) = flightSum a + flightSum b := by
  induction a with
  | nil => simp
  | cons c cs ih => simp [ih]; omega

@[simp] theorem flightSum_reverse (a : List SChunk) : flightSum a.reverse = flightSum a := by
  induction a with
  | nil => simp
  | cons c cs ih => simp [ih]; omega

theorem flightSum_mem_le {l : List SChunk} {c : SChunk} (h : c ∈ l) : c.w ≤ flightSum l := by
  induction l with
  | nil => cases h
  | cons d ds ih =>
    cases h with
    | head => simp
    | tail _ h' => have := ih h'; simp; omega

theorem flightSum_eq_zero {l : List SChunk} (h : ∀ c ∈ l, c.inFlight = false) : flightSum l = 0 := by
  induction l with
  | nil => rfl
  | cons d ds ih =>
    have hd := h d (by simp)
    have := ih (fun c hc => h c (by simp [hc]))
    simp [SChunk.w, hd, this]

theorem flightSum_modify (l : List SChunk) (i : Nat) (c : SChunk) (f : SChunk → SChunk) (h : l[i]? = some c) :
    flightSum (l.modify i f) + c.w = flightSum l + (f c).w := by
  rw [List.modify_split l i c f h]
  conv => rhs; rw [List.split_at_idx l i c h]
  simp; omega

theorem flightSum_modify_same (l : List SChunk) (i : Nat) (f : SChunk → SChunk) (hf : ∀ c, (f c).w = c.w) :
    flightSum (l.modify i f) = flightSum l := by
  cases h : l[i]? with
  | none => rw [List.modify_none l i f h]
  | some c => have := flightSum_modify l i c f h; rw [hf c] at this; omega

/-! ## `decFlight` / `incFlight` -/

theorem decFlight_eq (fl : Nat) (c : SChunk) : decFlight fl c = (fl - c.w, { c with inFlight := false }) := by
  unfold decFlight SChunk.w
  split
  · simp_all
  · rename_i h; cases c; simp_all

theorem decFlight_w (fl : Nat) (c : SChunk) : (decFlight fl c).2.w = 0 := by
  rw [decFlight_eq]; simp [SChunk.w]

/-- **The saturating subtraction never truncates**: a chunk of a queue whose sum is at most the counter. -/
theorem decFlight_exact (fl : Nat) (l : List SChunk) (c : SChunk) (hc : c ∈ l) (hl : flightSum l ≤ fl) :
    (decFlight fl c).1 + c.w = fl := by
  have := flightSum_mem_le hc
  rw [decFlight_eq]; show fl - c.w + c.w = fl; omega

theorem incFlight_fl (fl : Nat) (c : SChunk) : (incFlight fl c).1 + c.w = fl + (incFlight fl c).2.w := by
  unfold incFlight SChunk.w; split <;> simp_all

theorem incFlight_fields (fl : Nat) (c : SChunk) : (incFlight fl c).2 = { c with inFlight := true } := by
  unfold incFlight; split
  · rfl
  · rename_i h; cases c; simp_all

theorem incFlight_eq (fl : Nat) (c : SChunk) :
    incFlight fl c = (if c.inFlight then fl else fl + c.bookSize, { c with inFlight := true }) :=
  Prod.ext (by unfold incFlight; split <;> simp_all) (incFlight_fields fl c)

/-! ## pointwise relation between two queues of the same length -/

def PW {α} (R : α → α → Prop) : List α → List α → Prop
  | [], [] => True
  | c :: cs, d :: ds => R c d ∧ PW R cs ds
  | _, _ => False

theorem PW.refl {α} {R : α → α → Prop} (hR : ∀ c, R c c) : ∀ l : List α, PW R l l
  | [] => trivial
  | c :: cs => ⟨hR c, PW.refl hR cs⟩

theorem PW.induction {α} {R : α → α → Prop} {motive : List α → List α → Prop} (nil : motive [] [])
    (cons : ∀ {c d cs ds}, R c d → PW R cs ds → motive cs ds → motive (c :: cs) (d :: ds)) :
    ∀ {a a' : List α}, PW R a a' → motive a a'
  | [], [], _ => nil
  | _ :: cs, _ :: ds, h => cons h.1 h.2 (PW.induction nil cons (a := cs) (a' := ds) h.2)
  | [], _ :: _, h => h.elim
  | _ :: _, [], h => h.elim

theorem PW.length {α} {R : α → α → Prop} : ∀ {l l' : List α}, PW R l l' → l.length = l'.length :=
  PW.induction (motive := fun l l' => l.length = l'.length) rfl fun _ _ ih => congrArg (· + 1) ih

theorem PW.append {α} {R : α → α → Prop} : ∀ {a a' b b' : List α}, PW R a a' → PW R b b' → PW R (a ++ b) (a' ++ b') :=
  fun {_ _ b b'} ha hb => ha.induction (motive := fun a a' => PW R (a ++ b) (a' ++ b')) hb fun hr _ ih => by
    rw [List.cons_append, List.cons_append]; exact ⟨hr, ih⟩

theorem PW.reverse {α} {R : α → α → Prop} : ∀ {a a' : List α}, PW R a a' → PW R a.reverse a'.reverse :=
  PW.induction (motive := fun a a' => PW R a.reverse a'.reverse) trivial fun hr _ ih => by
    simp only [List.reverse_cons]
    exact PW.append ih ⟨hr, trivial⟩

theorem PW.mono {α} {R S : α → α → Prop} (hRS : ∀ c d, R c d → S c d) : ∀ {a a' : List α}, PW R a a' → PW S a a' :=
  PW.induction (motive := PW S) trivial fun hr _ ih => ⟨hRS _ _ hr, ih⟩

theorem PW.trans {α} {R S RS : α → α → Prop} (hT : ∀ c d e, R c d → S d e → RS c e) {a b c : List α}
    (h1 : PW R a b) (h2 : PW S b c) : PW RS a c := by
  refine PW.induction (motive := fun a b => ∀ c, PW S b c → PW RS a c) ?_ ?_ h1 c h2
  · intro c h2
    cases c with
    | nil => trivial
    | cons _ _ => exact h2.elim
  · intro _ _ _ _ hr _ ih c h2
    cases c with
    | nil => exact h2.elim
    | cons e es => exact ⟨hT _ _ _ hr h2.1, ih es h2.2⟩

theorem PW.trans_self {α} (R : α → α → Prop) (hR : ∀ {c d e}, R c d → R d e → R c e) {a b c : List α}
    (h1 : PW R a b) (h2 : PW R b c) : PW R a c :=
  PW.trans (R := R) (S := R) (RS := R) (fun _ _ _ => hR) h1 h2

theorem PW.map_right {α} {R : α → α → Prop} {f : α → α} (hf : ∀ c, R c (f c)) : ∀ l : List α, PW R l (l.map f)
  | [] => trivial
  | c :: cs => ⟨hf c, PW.map_right hf cs⟩

theorem PW.flip {α} {R : α → α → Prop} : ∀ {a a' : List α}, PW R a a' → PW (fun d c => R c d) a' a :=
  PW.induction (motive := fun a a' => PW (fun d c => R c d) a' a) trivial fun hr _ ih => ⟨hr, ih⟩

theorem PW.getElem?_right {α} {R : α → α → Prop} {a a' : List α} (h : PW R a a') (i : Nat) (d : α) (hd : a'[i]? = some d) :
    ∃ c, a[i]? = some c ∧ R c d := by
  refine PW.induction (motive := fun a a' => ∀ i, a'[i]? = some d → ∃ c, a[i]? = some c ∧ R c d) ?_ ?_ h i hd
  · intro i hd; cases hd
  · intro _ _ _ _ hr _ ih i hd
    cases i with
    | zero => cases hd; exact ⟨_, rfl, hr⟩
    | succ i => exact ih i hd

theorem PW.getElem?_left {α} {R : α → α → Prop} {a a' : List α} (h : PW R a a') (i : Nat) (c : α) (hc : a[i]? = some c) :
    ∃ d, a'[i]? = some d ∧ R c d := h.flip.getElem?_right i c hc

theorem PW.forall {α} {R : α → α → Prop} {P : α → Prop} (hP : ∀ c d, R c d → P c → P d) {a a' : List α}
    (h : PW R a a') (ha : ∀ c ∈ a, P c) : ∀ d ∈ a', P d := by
  intro d hd
  obtain ⟨i, hi⟩ := List.getElem?_of_mem hd
  obtain ⟨c, hc, hr⟩ := h.getElem?_right i d hi
  exact hP c d hr (ha c (List.mem_of_getElem? hc))

theorem PW.map_eq {α β} {R : α → α → Prop} (g : α → β) (hg : ∀ c d, R c d → g d = g c) :
    ∀ {a a' : List α}, PW R a a' → a'.map g = a.map g :=
  PW.induction (motive := fun a a' => a'.map g = a.map g) rfl fun h _ ih => by
    rw [List.map_cons, List.map_cons, hg _ _ h, ih]

theorem PW.modify_at {α} {R : α → α → Prop} (hR : ∀ c, R c c) (f : α → α) (l : List α) (i : Nat)
    (h : ∀ c, l[i]? = some c → R c (f c)) : PW R l (l.modify i f) := by
  induction l generalizing i with
  | nil => rw [List.modify_nil]; trivial
  | cons x xs ih =>
    cases i with
    | zero => rw [List.modify_zero_cons]; exact ⟨h x rfl, PW.refl hR xs⟩
    | succ i => rw [List.modify_succ_cons]; exact ⟨hR x, ih i h⟩

theorem PW.modify {α} {R : α → α → Prop} (hR : ∀ c, R c c) (f : α → α) (hf : ∀ c, R c (f c)) (l : List α) (i : Nat) :
    PW R l (l.modify i f) :=
  PW.modify_at hR f l i fun c _ => hf c

theorem PW.append_inv {α} {R : α → α → Prop} {b : List α} : ∀ {a l : List α}, PW R (a ++ b) l →
    ∃ a' b', l = a' ++ b' ∧ PW R a a' ∧ PW R b b' := by
  intro a
  induction a with
  | nil => exact fun h => ⟨[], _, rfl, trivial, h⟩
  | cons x xs ih =>
    intro l h
    match l, h with
    | y :: ys, h =>
      obtain ⟨a', b', e, h1, h2⟩ := ih h.2
      exact ⟨y :: a', b', by rw [e]; rfl, ⟨h.1, h1⟩, h2⟩

theorem PW.drop {α} {R : α → α → Prop} (k : Nat) : ∀ {l l' : List α}, PW R l l' → PW R (l.drop k) (l'.drop k) := by
  induction k with
  | zero => exact fun h => h
  | succ k ih =>
    intro l l' h
    match l, l', h with
    | [], [], _ => trivial
    | _ :: _, _ :: _, h => exact ih h.2

theorem PW.getLast? {α} {R : α → α → Prop} {l l' : List α} (h : PW R l l') (d : α) (hd : l'.getLast? = some d) :
    ∃ c, l.getLast? = some c ∧ R c d := by
  rw [List.getLast?_eq_getElem?] at hd ⊢
  rw [PW.length h]
  exact PW.getElem?_right h _ d hd

end Aiortc.Sctp
