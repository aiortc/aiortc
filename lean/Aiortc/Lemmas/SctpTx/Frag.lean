import Aiortc.Lemmas.SctpTx.Basic
/-!
# SCTP sender: the fragments `_send` queues, by index

`sfrag … i` is fragment `i` with all its attributes (flags `fragFlags ordered n i`: B on the first, E on the last).
`fragments … n data k` is the list of the fragments `n - k, …, n - 1` (`fragments_eq`, for any `k`; `fragments_eq_range'` when
`k ≤ n`), so that a fact about every queued fragment is a fact about `sfrag` (`mem_fragments`).  A proper suffix (`k < n`) does
not start with the B fragment: `fragments_first` speaks of the full list, `fragments_last` of any suffix.
-/
namespace Aiortc.Sctp
open Aiortc.Gen

def fragFlags (ordered : Bool) (n i : Nat) : Nat :=
  let f0 := if ordered then 0 else SCTP_DATA_UNORDERED
  let f1 := if i = 0 then f0 + SCTP_DATA_FIRST_FRAG else f0
  if i = n - 1 then f1 + SCTP_DATA_LAST_FRAG else f1

/-- The flags depend on `i` and `n` through the two tests only, which leaves eight values to evaluate the bit tests on. -/
theorem fragFlags_tests (o : Bool) (n i : Nat) :
    flagB (fragFlags o n i) = decide (i = 0) ∧ flagE (fragFlags o n i) = decide (i = n - 1)
      ∧ flagU (fragFlags o n i) = !o := by
  unfold fragFlags
  rcases (Decidable.em (i = 0)).imp eq_true eq_false with h0 | h0 <;>
    rcases (Decidable.em (i = n - 1)).imp eq_true eq_false with hn | hn <;> cases o <;>
    simp only [h0, hn, if_true, if_false, decide_true, decide_false, Bool.false_eq_true] <;> decide

theorem flagB_fragFlags (o : Bool) (n i : Nat) : flagB (fragFlags o n i) = decide (i = 0) :=
  (fragFlags_tests o n i).1
theorem flagE_fragFlags (o : Bool) (n i : Nat) : flagE (fragFlags o n i) = decide (i = n - 1) :=
  (fragFlags_tests o n i).2.1
theorem flagU_fragFlags (o : Bool) (n i : Nat) : flagU (fragFlags o n i) = !o :=
  (fragFlags_tests o n i).2.2

section
variable (tsn : Int) (sid : Nat) (ssn : Int) (ppid : Nat) (ordered : Bool) (expiry maxRtx : Option Int)
  (n : Nat) (data : Bytes)

def sfrag (i : Nat) : SChunk :=
  { tsn := (tsn + (i : Int)) % 4294967296, sid := sid, ssn := ssn, ppid := ppid, flags := fragFlags ordered n i,
    data := (data.drop (i * USERDATA_MAX)).take USERDATA_MAX,
    bookSize := ((data.drop (i * USERDATA_MAX)).take USERDATA_MAX).length, expiry := expiry, maxRetransmits := maxRtx }

theorem fragments_succ (k : Nat) :
    fragments tsn sid ssn ppid ordered expiry maxRtx n data (k + 1) =
      sfrag tsn sid ssn ppid ordered expiry maxRtx n data (n - (k + 1))
        :: fragments tsn sid ssn ppid ordered expiry maxRtx n data k := by
  rw [fragments]; rfl

theorem fragments_length (k : Nat) :
    (fragments tsn sid ssn ppid ordered expiry maxRtx n data k).length = k := by
  induction k with
  | zero => rfl
  | succ k ih => rw [fragments_succ, List.length_cons, ih]

theorem fragments_eq : ∀ k, fragments tsn sid ssn ppid ordered expiry maxRtx n data k
    = (List.range k).reverse.map fun j => sfrag tsn sid ssn ppid ordered expiry maxRtx n data (n - (j + 1))
  | 0 => rfl
  | k + 1 => by rw [fragments_succ, fragments_eq k, List.range_succ]; simp

theorem fragments_eq_range' : ∀ k, k ≤ n →
    fragments tsn sid ssn ppid ordered expiry maxRtx n data k
      = (List.range' (n - k) k).map (sfrag tsn sid ssn ppid ordered expiry maxRtx n data)
  | 0, _ => rfl
  | k + 1, hk => by
    rw [fragments_succ, fragments_eq_range' k (by omega), List.range'_succ, List.map_cons,
      show n - (k + 1) + 1 = n - k by omega]

theorem fragments_head? (hn : 1 ≤ n) :
    (fragments tsn sid ssn ppid ordered expiry maxRtx n data n).head?
      = some (sfrag tsn sid ssn ppid ordered expiry maxRtx n data 0) := by
  obtain ⟨m, rfl⟩ : ∃ m, n = m + 1 := ⟨n - 1, by omega⟩
  rw [fragments_succ, List.head?_cons, Nat.sub_self]

theorem fragments_getLast? {k : Nat} (hk : 1 ≤ k) :
    (fragments tsn sid ssn ppid ordered expiry maxRtx n data k).getLast?
      = some (sfrag tsn sid ssn ppid ordered expiry maxRtx n data (n - 1)) := by
  obtain ⟨m, rfl⟩ : ∃ m, k = m + 1 := ⟨k - 1, by omega⟩
  rw [fragments_eq, List.range_succ_eq_map, List.reverse_cons, List.map_append, List.getLast?_append]
  rfl

theorem fragments_first (c : SChunk) (hc : (fragments tsn sid ssn ppid ordered expiry maxRtx n data n).head? = some c) :
    flagB c.flags = true := by
  cases n with
  | zero => cases hc
  | succ k =>
    rw [fragments_head? _ _ _ _ _ _ _ _ _ (Nat.succ_pos k)] at hc
    cases hc
    exact (flagB_fragFlags _ _ _).trans (decide_eq_true rfl)

theorem fragments_last (k : Nat) (c : SChunk) (hc : (fragments tsn sid ssn ppid ordered expiry maxRtx n data k).getLast? = some c) :
    flagE c.flags = true := by
  cases k with
  | zero => cases hc
  | succ k =>
    rw [fragments_getLast? _ _ _ _ _ _ _ _ _ (Nat.succ_pos k)] at hc
    cases hc
    exact (flagE_fragFlags _ _ _).trans (decide_eq_true rfl)

end

theorem mem_fragments {tsn : Int} {sid : Nat} {ssn : Int} {ppid : Nat} {ordered : Bool} {expiry maxRtx : Option Int}
    {n : Nat} {data : Bytes} {c : SChunk} {k : Nat} (h : c ∈ fragments tsn sid ssn ppid ordered expiry maxRtx n data k) :
    ∃ j, j < k ∧ c = sfrag tsn sid ssn ppid ordered expiry maxRtx n data (n - (j + 1)) := by
  rw [fragments_eq] at h
  obtain ⟨j, hj, rfl⟩ := List.mem_map.1 h
  exact ⟨j, by simpa using hj, rfl⟩

end Aiortc.Sctp
