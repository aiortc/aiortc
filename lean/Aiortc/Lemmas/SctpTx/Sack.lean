import Aiortc.Lemmas.SctpTx.Inv
import Aiortc.Lemmas.SctpTx.Ack
/-!
# `_receive_sack_chunk` as a composition of its phases

`receiveSack_eq` splits the model of `_receive_sack_chunk` into cumulative ack / gap blocks / congestion window / T3 handling /
advanced peer ack point.  `TxInv.receiveSack`: `_receive_sack_chunk` never raises, and keeps every invariant `J` of the send side
with `TxInv J Ok` (`SctpTx/Inv.lean`); `receiveSack_total` is the case of the trivial invariant.
-/
namespace Aiortc.Sctp
open Aiortc.Gen

/-- phase 1: `_last_sacked_tsn = cum`, pop everything the cumulative TSN covers -/
def Tx.sackAck (t : Tx) (cum : Int) : Tx :=
  { t with lastSacked := cum, flight := (ackLoop cum t.flight 0 0 t.sentQ).1,
           sentQ := (ackLoop cum t.flight 0 0 t.sentQ).2.2.2 }
/-- `done`: how many chunks the cumulative TSN acknowledged -/
def Tx.sackDone (t : Tx) (cum : Int) : Nat := (ackLoop cum t.flight 0 0 t.sentQ).2.1
/-- `done_bytes` after the cumulative-ack loop -/
def Tx.sackDoneBytes (t : Tx) (cum : Int) : Nat := (ackLoop cum t.flight 0 0 t.sentQ).2.2.1

/-- the bound on gap-block offsets: highest TSN outstanding minus the cumulative TSN (0 if none is beyond it) -/
def Tx.gapLimit (t : Tx) (cum : Int) : Nat :=
  match t.sentQ.getLast? with
  | some l => if uint32_gt l.tsn cum then ((l.tsn - cum) % 4294967296).toNat else 0
  | none => 0

/-- phase 2a: the HTNA loop over the gap blocks (`sackGaps` computes `gs` and `h` again: it also needs `h.2.1`, `h.2.2.1`) -/
def Tx.sackHtna (t : Tx) (cum : Int) (gaps : List (Nat × Nat)) (db : Nat) : Tx :=
  let gs := gapSeen cum (t.gapLimit cum) gaps
  let h := htnaLoop gs.1 gs.2 t.flight db cum [] t.sentQ
  { t with flight := h.1, sentQ := h.2.2.2 }

/-- phase 2: gap blocks; returns (state, done_bytes, loss) -/
def Tx.sackGaps (t : Tx) (cum : Int) (gaps : List (Nat × Nat)) (now : Int) (db : Nat) : Tx × Nat × Bool :=
  if gaps.isEmpty then (t, db, false)
  else
    let gs := gapSeen cum (t.gapLimit cum) gaps
    let h := htnaLoop gs.1 gs.2 t.flight db cum [] t.sentQ
    let t1 := t.sackHtna cum gaps db
    let s := strikeLoop gs.1 h.2.2.1 now t1.sentQ.length 0 t1 false
    (s.1, h.2.1, s.2)

/-- window growth when the cumulative ack moved with a full window, outside fast recovery: slow start below
`ssthresh`, congestion avoidance above it -/
def Tx.ackGrow (t : Tx) (doneBytes : Nat) : Tx :=
  if t.cwnd ≤ t.ssthresh then { t with cwnd := t.cwnd + min doneBytes USERDATA_MAX }
  else if t.partialBytesAcked + doneBytes ≥ t.cwnd then
    { t with partialBytesAcked := t.partialBytesAcked + doneBytes - t.cwnd, cwnd := t.cwnd + USERDATA_MAX }
  else { t with partialBytesAcked := t.partialBytesAcked + doneBytes }

/-- phase 3: congestion window, fast recovery -/
def Tx.sackCwnd (t : Tx) (cum : Int) (done doneBytes : Nat) (fully loss : Bool) : Outcome Tx :=
  match t.fastRecoveryExit with
  | none =>
    let t := if done > 0 && fully then t.ackGrow doneBytes else t
    if loss then
      match t.sentQ.getLast? with
      | none => .crash "IndexError"
      | some l =>
        let ss := max (t.cwnd / 2) (4 * USERDATA_MAX)
        .ok { t with ssthresh := ss, cwnd := ss, partialBytesAcked := 0,
                     fastRecoveryExit := some l.tsn, fastRecoveryTransmit := true }
    else .ok t
  | some ex => if uint32_gte cum ex then .ok { t with fastRecoveryExit := none } else .ok t

/-- phase 4: T3 — cancelled when the sent queue is empty, restarted when the cumulative ack moved, else untouched -/
def Tx.sackT3 (t : Tx) (done : Nat) : Tx × List TxEv :=
  if t.sentQ.isEmpty then ({ t with t3 := false }, if t.t3 then [TxEv.t3cancel] else [])
  else if done > 0 then ({ t with t3 := true }, t3Restart t.t3)
  else (t, [])

-- the two sides differ in how the phases are cut out, not in what the loops compute
attribute [local irreducible] ackLoop htnaLoop strikeLoop gapSeen Tx.updateAdvAck in
theorem receiveSack_eq (t : Tx) (cum : Int) (gaps : List (Nat × Nat)) (now : Int) :
    t.receiveSack cum gaps now =
      if t.sackStale cum then .ok none
      else
        match ((t.sackAck cum).sackGaps cum gaps now (t.sackDoneBytes cum)).1.sackCwnd cum (t.sackDone cum)
            ((t.sackAck cum).sackGaps cum gaps now (t.sackDoneBytes cum)).2.1 (decide (t.flight ≥ t.cwnd))
            ((t.sackAck cum).sackGaps cum gaps now (t.sackDoneBytes cum)).2.2 with
        | .ok tc => .ok (some ((tc.sackT3 (t.sackDone cum)).1.updateAdvAck, (tc.sackT3 (t.sackDone cum)).2))
        | .valueError => .valueError
        | .crash k => .crash k
        | .hang => .hang := by
  unfold Tx.receiveSack
  split
  · rfl
  · cases hg : gaps.isEmpty with
    | true =>
      simp only [Tx.sackGaps, hg, if_true]
      rfl
    | false =>
      simp only [Tx.sackGaps, hg, Bool.false_eq_true, if_false]
      rfl

/-! ## what the phases behind the gap blocks write -/

theorem ackGrow_spec (t : Tx) (db : Nat) (b : Bool) (g : Tx) (hg : (if b = true then t.ackGrow db else t) = g) :
    g = { t with cwnd := g.cwnd, partialBytesAcked := g.partialBytesAcked } ∧ t.cwnd ≤ g.cwnd := by
  subst hg
  unfold Tx.ackGrow
  split
  · split
    · exact ⟨rfl, Nat.le_add_right _ _⟩
    · split
      · exact ⟨rfl, Nat.le_add_right _ _⟩
      · exact ⟨rfl, Nat.le_refl _⟩
  · exact ⟨rfl, Nat.le_refl _⟩

/-- The congestion-window phase: its only failure is the `IndexError` of `self._sent_queue[-1]` (a loss was reported
with an empty sent queue); otherwise it changes window fields only and leaves the window positive; a new `fast_recovery_exit` is the
TSN of a queued chunk. -/
theorem sackCwnd_cases (t : Tx) (cum : Int) (done db : Nat) (fully loss : Bool) :
    (t.sackCwnd cum done db fully loss = .crash "IndexError" ∧ loss = true ∧ t.sentQ = [])
    ∨ ∃ t', t.sackCwnd cum done db fully loss = .ok t'
        ∧ t' = { t with cwnd := t'.cwnd, ssthresh := t'.ssthresh, partialBytesAcked := t'.partialBytesAcked,
                        fastRecoveryExit := t'.fastRecoveryExit, fastRecoveryTransmit := t'.fastRecoveryTransmit }
        ∧ (0 < t.cwnd → 0 < t'.cwnd)
        ∧ ∀ e, t'.fastRecoveryExit = some e → t.fastRecoveryExit = some e ∨ ∃ l ∈ t.sentQ, e = l.tsn := by
  unfold Tx.sackCwnd
  cases hfe : t.fastRecoveryExit with
  | some ex =>
    simp only
    split
    · exact Or.inr ⟨_, rfl, rfl, id, nofun⟩
    · exact Or.inr ⟨_, rfl, rfl, id, fun e he => .inl (hfe ▸ he)⟩
  | none =>
    simp only
    generalize hg : (if (decide (done > 0) && fully) = true then t.ackGrow db else t) = g
    obtain ⟨hgf, hgc⟩ := ackGrow_spec t db _ g hg
    have hgq : g.sentQ = t.sentQ := by rw [hgf]
    have hge : g.fastRecoveryExit = none := by rw [hgf]; exact hfe
    cases loss with
    | false => exact Or.inr ⟨g, rfl, by rw [hgf], fun h => Nat.lt_of_lt_of_le h hgc, fun e he => nomatch hge ▸ he⟩
    | true =>
      rw [if_pos rfl]
      cases hl : g.sentQ.getLast? with
      | none => exact Or.inl ⟨rfl, rfl, hgq ▸ List.getLast?_eq_none_iff.mp hl⟩
      | some l =>
        refine Or.inr ⟨_, rfl, by rw [hgf], fun _ => ?_, fun e he => .inr ⟨l, hgq ▸ List.mem_of_getLast? hl, (Option.some.inj he).symm⟩⟩
        exact Nat.lt_of_lt_of_le (by decide : 0 < 4 * USERDATA_MAX) (Nat.le_max_right _ _)

theorem sackCwnd_frame (t : Tx) (cum : Int) (done db : Nat) (fully loss : Bool) (t' : Tx)
    (h : t.sackCwnd cum done db fully loss = .ok t') :
    t' = { t with cwnd := t'.cwnd, ssthresh := t'.ssthresh, partialBytesAcked := t'.partialBytesAcked,
                  fastRecoveryExit := t'.fastRecoveryExit, fastRecoveryTransmit := t'.fastRecoveryTransmit } := by
  rcases sackCwnd_cases t cum done db fully loss with ⟨hc, _⟩ | ⟨t'', ht'', hfr, _⟩
  · rw [hc] at h; cases h
  · rw [ht''] at h; cases h; exact hfr

theorem sackT3_frame (t : Tx) (done : Nat) : (t.sackT3 done).1 = { t with t3 := (t.sackT3 done).1.t3 } := by
  unfold Tx.sackT3; split
  · rfl
  · split <;> rfl

theorem receiveSack_phases {t : Tx} {cum : Int} {gaps : List (Nat × Nat)} {now : Int} {t' : Tx} {evs : List TxEv}
    (hr : t.receiveSack cum gaps now = .ok (some (t', evs))) :
    ∃ g tc, (t.sackAck cum).sackGaps cum gaps now (t.sackDoneBytes cum) = g
      ∧ g.1.sackCwnd cum (t.sackDone cum) g.2.1 (decide (t.flight ≥ t.cwnd)) g.2.2 = .ok tc
      ∧ (tc.sackT3 (t.sackDone cum)).1.updateAdvAck = t' := by
  rw [receiveSack_eq] at hr
  split at hr
  · cases hr
  · split at hr
    · rename_i tc htc
      simp only [Outcome.ok.injEq, Option.some.injEq, Prod.mk.injEq] at hr
      exact ⟨_, tc, rfl, htc, hr.1⟩
    all_goals cases hr

/-- Behind the gap-block phase `_receive_sack_chunk` writes the window fields and T3, then moves the ack point: the state
before `_update_advanced_peer_ack_point` is the one the gap-block phase left, up to those fields. -/
theorem receiveSack_pre {t : Tx} {cum : Int} {gaps : List (Nat × Nat)} {now : Int} {t' : Tx} {evs : List TxEv}
    (hr : t.receiveSack cum gaps now = .ok (some (t', evs))) :
    ∃ t4 : Tx, t4.updateAdvAck = t' ∧
      t4 = { ((t.sackAck cum).sackGaps cum gaps now (t.sackDoneBytes cum)).1 with
             cwnd := t4.cwnd, ssthresh := t4.ssthresh, partialBytesAcked := t4.partialBytesAcked,
             fastRecoveryExit := t4.fastRecoveryExit, fastRecoveryTransmit := t4.fastRecoveryTransmit, t3 := t4.t3 } := by
  obtain ⟨g, tc, rfl, htc, rfl⟩ := receiveSack_phases hr
  refine ⟨_, rfl, ?_⟩
  rw [sackT3_frame, sackCwnd_frame _ _ _ _ _ _ _ htc]

/-! ## the gap-block phase -/

theorem sackGaps_frame (t : Tx) (cum : Int) (gaps : List (Nat × Nat)) (now : Int) (db : Nat) (hg : gaps.isEmpty = false) :
    (t.sackGaps cum gaps now db).1 =
      { t.sackHtna cum gaps db with flight := (t.sackGaps cum gaps now db).1.flight,
                                    sentQ := (t.sackGaps cum gaps now db).1.sentQ,
                                    outQ := (t.sackGaps cum gaps now db).1.outQ } := by
  simp only [Tx.sackGaps, hg, Bool.false_eq_true, if_false]
  exact strikeLoop_frame _ _ _ _ _ _ _

/-- The strike loop reports a loss only with a non-empty sent queue (so `sent_queue[-1]` in `_receive_sack_chunk` cannot
raise): it sets `loss` only after it has found a chunk, and the queue never gets shorter. -/
theorem strikeLoop_loss (seen : List Int) (hna now : Int) (fuel pos : Nat) (t : Tx) (loss : Bool)
    (h : loss = true → t.sentQ ≠ []) (hl : (strikeLoop seen hna now fuel pos t loss).2 = true) :
    (strikeLoop seen hna now fuel pos t loss).1.sentQ ≠ [] :=
  strikeLoop_ind seen hna now (I := fun x y => (x.2 = true → x.1.sentQ ≠ []) → y.2 = true → y.1.sentQ ≠ [])
    (fun _ h => h) (fun h1 h2 h => h2 (h1 h))
    (fun t _ pos c hp _ _ _ _ _ he => by
      have := strikeHit_length t pos c now
      have := (List.getElem?_eq_some_iff.mp hp).1
      rw [he, List.length_nil] at *; omega)
    (fun t _ pos c _ _ _ _ h hl he => h hl (by simpa using congrArg List.length he))
    fuel pos t loss h hl

/-! ## an invariant of the send side across `_receive_sack_chunk` -/

section sack
variable {J : Tx → Prop} {Ok : TxEv → Prop} (hJ : TxInv J Ok)
include hJ

theorem TxInv.sackAck {t : Tx} (h : J t) (cum : Int) : J (t.sackAck cum) :=
  hJ.congr (hJ.drop h (t.sentQ.takeWhile (uint32_gte cum ·.tsn)).length)
    (by simp only [Tx.reads, Tx.sackAck, ackLoop_rest, List.dropWhile_eq_drop])

theorem TxInv.sackHtna {t : Tx} (h : J t) (cum : Int) (gaps : List (Nat × Nat)) (db : Nat) : J (t.sackHtna cum gaps db) :=
  hJ.congr (hJ.sent h (htnaList_pw (R := Bk) (gapSeen cum (t.gapLimit cum) gaps).1 (gapSeen cum (t.gapLimit cum) gaps).2 Bk.refl
      (htnaChunk_bk _) t.sentQ))
    (by simp only [Tx.reads, Tx.sackHtna, (htnaLoop_eq _ _ _ _ _ _ _).1, List.reverse_nil, List.nil_append])

theorem TxInv.sackGaps {t : Tx} (h : J t) (cum : Int) (gaps : List (Nat × Nat)) (now : Int) (db : Nat) :
    J (t.sackGaps cum gaps now db).1 ∧ ((t.sackGaps cum gaps now db).2.2 = true → (t.sackGaps cum gaps now db).1.sentQ ≠ []) := by
  unfold Tx.sackGaps
  split
  · exact ⟨h, by simp⟩
  · exact ⟨hJ.strikeLoop (hJ.sackHtna h cum gaps db) _ _ now _ _ _,
      strikeLoop_loss _ _ now _ _ _ _ (by simp)⟩

/-- the congestion window update touches none of the fields `J` reads; its `IndexError` needs a loss on an empty queue -/
theorem TxInv.sackCwnd {t : Tx} (h : J t) (cum : Int) (done doneBytes : Nat) (fully loss : Bool)
    (hl : loss = true → t.sentQ ≠ []) : ∃ t', t.sackCwnd cum done doneBytes fully loss = .ok t' ∧ J t' := by
  rcases sackCwnd_cases t cum done doneBytes fully loss with ⟨_, h1, h2⟩ | ⟨t', he, hfr, _⟩
  · exact absurd h2 (hl h1)
  · exact ⟨t', he, hJ.congr h (congrArg Tx.reads hfr :)⟩

theorem TxInv.sackT3 {t : Tx} (h : J t) (done : Nat) :
    J (t.sackT3 done).1.updateAdvAck ∧ ∀ ev ∈ (t.sackT3 done).2, Ok ev := by
  unfold Tx.sackT3
  split
  · refine ⟨hJ.advAck (hJ.congr h rfl), ?_⟩
    intro ev hev
    dsimp only at hev
    split at hev
    · rw [List.mem_singleton.1 hev]; exact hJ.t3cancel
    · cases hev
  · split
    · exact ⟨hJ.advAck (hJ.congr h rfl), hJ.t3Restart _⟩
    · exact ⟨hJ.advAck h, fun _ hev => nomatch hev⟩

theorem TxInv.receiveSack {t : Tx} (h : J t) (cum : Int) (gaps : List (Nat × Nat)) (now : Int) :
    ∃ r, t.receiveSack cum gaps now = .ok r ∧
      ∀ t' evs, r = some (t', evs) → J t' ∧ ∀ ev ∈ evs, Ok ev := by
  rw [receiveSack_eq]
  split
  · exact ⟨none, rfl, fun _ _ h => nomatch h⟩
  · obtain ⟨h2, hl⟩ := hJ.sackGaps (hJ.sackAck h cum) cum gaps now (t.sackDoneBytes cum)
    obtain ⟨tc, he, h3⟩ := hJ.sackCwnd h2 cum (t.sackDone cum) _ (decide (t.flight ≥ t.cwnd)) _ hl
    rw [he]
    refine ⟨_, rfl, ?_⟩
    rintro _ _ ⟨⟩
    exact hJ.sackT3 h3 _

end sack

/-- **`_receive_sack_chunk` never raises**, in any sender state: its one failing branch (`self._sent_queue[-1]` after a loss was
detected) needs a loss on an empty sent queue, which the strike loop never reports (`strikeLoop_loss`). -/
theorem receiveSack_total (t : Tx) (cum : Int) (gaps : List (Nat × Nat)) (now : Int) :
    ∃ r, t.receiveSack cum gaps now = .ok r :=
  have hT : TxInv (fun _ => True) (fun _ => True) := by constructor <;> intros <;> trivial
  (hT.receiveSack (t := t) trivial cum gaps now).imp fun _ h => h.1

end Aiortc.Sctp
