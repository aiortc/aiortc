import Aiortc.Lemmas.SctpTx.Basic
import Aiortc.Lemmas.Util.List
/-!
# What `_maybe_abandon` does

`cutAt p l` splits `l` behind the first element with `p`.  The three loops of `_maybe_abandon` are `cutAt` on a fragment flag with
the first part marked (`abandonBack_cut`, `abandonFwd_cut`, `abandonUnsent_cut`); `_maybe_abandon` itself marks one segment `M` of
`sentQ = A ++ M ++ C`, discounts `flightSum M` and moves a prefix `U` of `outQ = U ++ R` behind the sent queue (`abandonSeg`).
`maybeAbandon_eq` is the exact closed form (for results that name the segments: C06); `AbOut`/`maybeAbandon_out` is what the
properties of the send path read off it: the segments, and that all of `M ++ U` belongs to the message of a chunk that was due to
be abandoned (`AbLink`); `maybeAbandon_all` is the closure statement most of them want.  Throughout `SctpTx`, `now` is the model's
`now1000` (milliseconds; `Ep.now` is in other units).
-/
namespace Aiortc.Sctp
open Aiortc.Gen

/-- a chunk of the sent queue as `_maybe_abandon` leaves it -/
def abMark (c : SChunk) : SChunk := { c with abandoned := true, retransmit := false, inFlight := false }
/-- a fragment as `_maybe_abandon` leaves it when it moves it over from the outbound queue -/
def abUnsent (c : SChunk) : SChunk := { c with abandoned := true }

theorem abMark_idem (c : SChunk) : abMark (abMark c) = abMark c := rfl
theorem abMark_w (c : SChunk) : (abMark c).w = 0 := by simp [abMark, SChunk.w]
theorem abMark_flags (c : SChunk) : (abMark c).flags = c.flags := rfl

theorem flightSum_map_abMark (l : List SChunk) : flightSum (l.map abMark) = 0 :=
  flightSum_eq_zero fun _ hd => by obtain ⟨c, -, rfl⟩ := List.mem_map.1 hd; rfl

theorem markAb_eq_abMark (fl : Nat) (c : SChunk) : markAb fl c = (fl - c.w, abMark c) :=
  decFlight_eq fl { c with abandoned := true, retransmit := false }

/-! ## the three loops -/

def cutAt {α} (p : α → Bool) : List α → List α × List α
  | [] => ([], [])
  | c :: cs => if p c then ([c], cs) else (c :: (cutAt p cs).1, (cutAt p cs).2)

theorem cutAt_of_first {α} (p : α → Bool) {a : List α} {x : α} (b : List α) (ha : ∀ c ∈ a, p c = false) (hx : p x = true) :
    cutAt p (a ++ x :: b) = (a ++ [x], b) := by
  induction a with
  | nil => simp [cutAt, hx]
  | cons c a ih => simp [cutAt, ha c (by simp), ih fun d hd => ha d (by simp [hd])]

theorem cutAt_of_none {α} (p : α → Bool) {l : List α} (hl : ∀ c ∈ l, p c = false) : cutAt p l = (l, []) := by
  induction l with
  | nil => rfl
  | cons c l ih => simp [cutAt, hl c (by simp), ih fun d hd => hl d (by simp [hd])]

theorem cutAt_append {α} (p : α → Bool) : ∀ l, (cutAt p l).1 ++ (cutAt p l).2 = l
  | [] => rfl
  | c :: cs => by unfold cutAt; split <;> simp [cutAt_append p cs]

theorem cutAt_cons {α} (p : α → Bool) (c : α) (cs : List α) :
    (cutAt p (c :: cs)).1 = c :: (cutAt p (c :: cs)).1.tail
    ∧ (cutAt p (c :: cs)).1.tail ++ (cutAt p (c :: cs)).2 = cs := by
  unfold cutAt; split <;> simp [cutAt_append p cs]

theorem cutAt_fst_append {α} (p : α → Bool) : ∀ (l l' : List α),
    (cutAt p (l ++ l')).1 = (cutAt p l).1 ++ (if (cutAt p l).1.any p then [] else (cutAt p l').1)
  | [], _ => by simp [cutAt]
  | c :: l, l' => by
    by_cases h : p c = true
    · simp [cutAt, h]
    · simp [cutAt, h, cutAt_fst_append p l l']

theorem cutAt_const {α κ} (p : α → Bool) (K : α → κ) : ∀ (l : List α) (c : α),
    List.Adjacent (fun a b => p a = false → K b = K a) (c :: l) → ∀ d ∈ (cutAt p (c :: l)).1, K d = K c
  | [], c, _, d, hd => by
    have : d = c := by unfold cutAt at hd; split at hd <;> simpa [cutAt] using hd
    rw [this]
  | e :: l, c, h, d, hd => by
    unfold cutAt at hd
    split at hd
    · rw [List.mem_singleton.1 hd]
    · rename_i hp
      rcases List.mem_cons.1 hd with rfl | hd
      · rfl
      · exact (cutAt_const p K l e h.2 d hd).trans (h.1 (by simpa using hp))

theorem abandonBack_cut : ∀ (l : List SChunk) (fl : Nat), abandonBack fl l =
    (fl - flightSum (cutAt (flagB ·.flags) l).1, (cutAt (flagB ·.flags) l).1.map abMark ++ (cutAt (flagB ·.flags) l).2)
  | [], fl => rfl
  | c :: cs, fl => by
    simp only [abandonBack, markAb_eq_abMark, cutAt, abandonBack_cut cs]
    split <;> simp [Nat.sub_sub]

theorem abandonFwd_cut : ∀ (l : List SChunk) (fl : Nat), abandonFwd fl l =
    (fl - flightSum (cutAt (flagE ·.flags) l).1, (cutAt (flagE ·.flags) l).1.map abMark ++ (cutAt (flagE ·.flags) l).2,
      (cutAt (flagE ·.flags) l).1.any (flagE ·.flags))
  | [], fl => rfl
  | c :: cs, fl => by
    simp only [abandonFwd, markAb_eq_abMark, cutAt, abandonFwd_cut cs]
    split <;> simp_all [Nat.sub_sub]

theorem abandonUnsent_cut : ∀ l : List SChunk, abandonUnsent l =
    ((cutAt (flagE ·.flags) l).1.map abUnsent, (cutAt (flagE ·.flags) l).2)
  | [] => rfl
  | c :: cs => by simp only [abandonUnsent, cutAt, abandonUnsent_cut cs]; split <;> rfl

/-! ## `_maybe_abandon`, exactly -/

/-- `A`/`C`: the sent queue before/behind the marked segment `M`; `U`: the prefix of the outbound queue moved over; `R`: what stays in it. -/
def abandonSeg (t : Tx) (A M C U R : List SChunk) : Tx :=
  { t with flight := t.flight - flightSum M, sentQ := A ++ M.map abMark ++ C ++ U.map abUnsent, outQ := R }

theorem mem_abandonSeg_sentQ {t : Tx} {A M C U R : List SChunk} {c : SChunk} :
    c ∈ (abandonSeg t A M C U R).sentQ ↔ c ∈ A ∨ c ∈ C ∨ (∃ d ∈ M, abMark d = c) ∨ ∃ d ∈ U, abUnsent d = c := by
  simp only [abandonSeg, List.mem_append, List.mem_map]
  constructor
  · rintro (((h | h) | h) | h)
    · exact .inl h
    · exact .inr (.inr (.inl h))
    · exact .inr (.inl h)
    · exact .inr (.inr (.inr h))
  · rintro (h | h | h | h)
    · exact .inl (.inl (.inl h))
    · exact .inl (.inr h)
    · exact .inl (.inl (.inr h))
    · exact .inr h

/-- With the sent queue `p ++ x :: q`, the walk back from `x` to the nearest B fragment: what it marks (nearest first, `x` at
the head) and what it leaves (reversed). -/
def abBack (p : List SChunk) (x : SChunk) : List SChunk × List SChunk := cutAt (flagB ·.flags) (x :: p.reverse)
/-- With the sent queue `p ++ x :: q`, the walk forward from `x` to the nearest E fragment: what it marks (`x` at the head) and what
it leaves. -/
def abFwd (x : SChunk) (q : List SChunk) : List SChunk × List SChunk := cutAt (flagE ·.flags) (x :: q)
/-- If the forward walk of `abFwd` met no E fragment, the outbound queue cut behind its first E fragment: what is moved over and
what stays (nothing moved otherwise). -/
def abMoved (t : Tx) (x : SChunk) (q : List SChunk) : List SChunk × List SChunk :=
  if (abFwd x q).1.any (flagE ·.flags) then ([], t.outQ) else cutAt (flagE ·.flags) t.outQ
theorem abMoved_fst (t : Tx) (x : SChunk) (q : List SChunk) :
    (abMoved t x q).1 = if (abFwd x q).1.any (flagE ·.flags) then [] else (cutAt (flagE ·.flags) t.outQ).1 := by
  unfold abMoved; split <;> rfl

def abSeg (p : List SChunk) (x : SChunk) (q : List SChunk) : List SChunk := (abBack p x).1.tail.reverse ++ x :: (abFwd x q).1.tail

/-- **`_maybe_abandon` in closed form** (the case where it abandons): the marked segment reaches back to the nearest B fragment
and forward to the nearest E fragment; if the sent queue holds no such E fragment, the outbound queue up to its first E fragment
is moved over. -/
theorem maybeAbandon_eq (t : Tx) (p q : List SChunk) (x : SChunk) (now : Int)
    (hq : t.sentQ = p ++ x :: q) (hx : x.abandoned = false) (hs : shouldAbandon x now = true) :
    t.maybeAbandon p.length now =
      (true, abandonSeg t (abBack p x).2.reverse (abSeg p x q) (abFwd x q).2 (abMoved t x q).1 (abMoved t x q).2) := by
  have h1 : t.sentQ[p.length]? = some x := by simp [hq]
  have h2 : (t.sentQ.take (p.length + 1)).reverse = x :: p.reverse := by
    rw [hq, List.take_append]; simp [List.take_of_length_le]
  have h3 : t.sentQ.drop (p.length + 1) = q := by
    rw [hq, List.drop_append]; simp [List.drop_of_length_le]
  unfold abSeg abMoved abBack abFwd
  obtain ⟨b1, _⟩ := cutAt_cons (flagB ·.flags) x p.reverse
  obtain ⟨f1, _⟩ := cutAt_cons (flagE ·.flags) x q
  have hf : cutAt (flagE ·.flags) (abMark x :: q)
      = (abMark x :: (cutAt (flagE ·.flags) (x :: q)).1.tail, (cutAt (flagE ·.flags) (x :: q)).2) := by
    by_cases h : flagE x.flags = true <;> simp [cutAt, h, abMark_flags]
  simp only [Tx.maybeAbandon, h1, hx, hs, h2, h3, abandonBack_cut, abandonFwd_cut, abandonUnsent_cut]
  generalize cutAt (flagB ·.flags) (x :: p.reverse) = bk at b1 ⊢
  rw [b1]
  simp only [List.map_cons, List.cons_append, List.reverse_cons, List.getLast?_append, List.getLast?_singleton,
    Option.some_or, Option.getD_some, List.dropLast_concat, hf, abMark_idem]
  generalize cutAt (flagE ·.flags) (x :: q) = fw at f1 ⊢
  have ha : (abMark x :: fw.1.tail).any (flagE ·.flags) = fw.1.any (flagE ·.flags) := by rw [f1]; rfl
  rw [ha]
  cases fw.1.any (flagE ·.flags) <;>
    simp [abandonSeg, abMark_w, Nat.sub_sub, Nat.add_comm, Nat.add_left_comm, List.map_reverse]

/-! ## what is marked or moved is one message -/

/-- neighbours `c, d` of a queue that are not separated by a message boundary (`c` an E fragment and `d` a B fragment)
agree on `K` (the stream; the reliability parameters) -/
abbrev MsgConst {κ} (K : SChunk → κ) : List SChunk → Prop :=
  List.Adjacent fun c d => (flagE c.flags = false ∨ flagB d.flags = false) → K d = K c

/-- **Whatever `_maybe_abandon` marks or moves belongs to the message of the chunk it was called for.** -/
theorem maybeAbandon_linked {κ} (K : SChunk → κ) (t : Tx) (p q : List SChunk) (x : SChunk)
    (hq : t.sentQ = p ++ x :: q) (hl : MsgConst K (t.sentQ ++ t.outQ)) :
    ∀ c ∈ abSeg p x q ++ (abMoved t x q).1, K c = K x := by
  rw [hq, List.append_assoc] at hl
  have h1 : List.Adjacent _ (p ++ [x]) := (List.adjacent_append.1 (show List.Adjacent _ ((p ++ [x]) ++ (q ++ t.outQ)) by simpa using hl)).1
  have h3 : List.Adjacent _ (x :: (q ++ t.outQ)) := (List.adjacent_append.1 hl).2.1
  have hB : ∀ c ∈ (abBack p x).1, K c = K x := by
    refine cutAt_const _ K _ x ?_
    have := h1.reverse
    rw [List.reverse_append] at this
    exact this.mono fun a b h hb => (h (.inr hb)).symm
  have hF : ∀ c ∈ (abFwd x q).1 ++ (abMoved t x q).1, K c = K x := by
    have := cutAt_const (flagE ·.flags) K _ x (h3.mono fun a b h ha => h (.inl ha))
    rw [← List.cons_append, cutAt_fst_append] at this
    rw [abMoved_fst]
    exact this
  intro c hc
  obtain ⟨b1, _⟩ := cutAt_cons (flagB ·.flags) x p.reverse
  obtain ⟨f1, _⟩ := cutAt_cons (flagE ·.flags) x q
  simp only [abSeg, List.mem_append, List.mem_reverse, List.mem_cons] at hc
  rcases hc with (hc | rfl | hc) | hc
  · exact hB c (by rw [abBack, b1]; exact List.mem_cons_of_mem _ hc)
  · rfl
  · exact hF c (List.mem_append_left _ (by rw [abFwd, f1]; exact List.mem_cons_of_mem _ hc))
  · exact hF c (List.mem_append_right _ hc)

/-! ## `_maybe_abandon`, as the properties use it -/

/-- `c` belongs to the message of a chunk of the sent queue that is due to be abandoned: it agrees with it on whatever is
constant within messages -/
def AbLink (t : Tx) (now : Int) (c : SChunk) : Prop :=
  ∃ x ∈ t.sentQ, shouldAbandon x now = true ∧ ∀ {κ : Type} (K : SChunk → κ), MsgConst K (t.sentQ ++ t.outQ) → K c = K x

/-- What `_maybe_abandon(sent_queue[pos])` may do: nothing (no chunk there, or no reason to abandon it), nothing but say
yes (already abandoned), or abandon a segment `M` around `pos`, moving `U` over from the outbound queue. -/
inductive AbOut (t : Tx) (pos : Nat) (now : Int) : Bool × Tx → Prop
  | no (h : ∀ c, t.sentQ[pos]? = some c → c.abandoned = false ∧ shouldAbandon c now = false) : AbOut t pos now (false, t)
  | done (c : SChunk) (h : t.sentQ[pos]? = some c) (ha : c.abandoned = true) : AbOut t pos now (true, t)
  | seg (A M C U R : List SChunk) (hs : t.sentQ = A ++ M ++ C) (ho : t.outQ = U ++ R)
      (hlo : A.length ≤ pos) (hhi : pos < A.length + M.length) (link : ∀ c ∈ M ++ U, AbLink t now c) :
      AbOut t pos now (true, abandonSeg t A M C U R)

theorem maybeAbandon_out (t : Tx) (pos : Nat) (now : Int) : AbOut t pos now (t.maybeAbandon pos now) := by
  cases hp : t.sentQ[pos]? with
  | none => simp only [Tx.maybeAbandon, hp]; exact .no (by simp [hp])
  | some x =>
    by_cases hx : x.abandoned = true
    · simp only [Tx.maybeAbandon, hp, hx, if_true]; exact .done x hp hx
    · by_cases hs : shouldAbandon x now = true
      · have hlt : pos < t.sentQ.length := (List.getElem?_eq_some_iff.mp hp).1
        have hq := List.split_at_idx t.sentQ pos x hp
        have hl : (t.sentQ.take pos).length = pos := by rw [List.length_take]; omega
        have := maybeAbandon_eq t _ _ x now hq (by simpa using hx) hs
        rw [hl] at this
        rw [this]
        obtain ⟨b1, b2⟩ := cutAt_cons (flagB ·.flags) x (t.sentQ.take pos).reverse
        obtain ⟨f1, f2⟩ := cutAt_cons (flagE ·.flags) x (t.sentQ.drop (pos + 1))
        have hb := congrArg List.reverse b2
        rw [List.reverse_append, List.reverse_reverse] at hb
        have hlen := congrArg List.length hb
        simp only [List.length_append, hl] at hlen
        refine .seg _ _ _ _ _ ?_ ?_ ?_ ?_ fun c hc =>
          ⟨x, List.mem_of_getElem? hp, hs, fun K hK => maybeAbandon_linked K t _ _ x hq hK c hc⟩
        · conv => lhs; rw [hq, ← hb, ← f2]
          simp [abSeg, abBack, abFwd]
        · unfold abMoved; split
          · rfl
          · exact (cutAt_append _ _).symm
        · show (abBack _ x).2.reverse.length ≤ pos
          rw [abBack]; omega
        · show pos < (abBack _ x).2.reverse.length + (abSeg _ x _).length
          simp only [abSeg, abBack, List.length_append, List.length_cons]; omega
      · simp only [Tx.maybeAbandon, hp, hx, hs]
        exact .no (by simp [hp, hx, hs])

/-! ## read off `AbOut` -/

theorem maybeAbandon_length (t : Tx) (pos : Nat) (now : Int) :
    t.sentQ.length ≤ (t.maybeAbandon pos now).2.sentQ.length := by
  have h := maybeAbandon_out t pos now
  generalize t.maybeAbandon pos now = r at h ⊢
  cases h with
  | no | done => exact Nat.le_refl _
  | seg A M C U R hs => simp [abandonSeg, hs]

theorem maybeAbandon_frame (t : Tx) (pos : Nat) (now : Int) :
    (t.maybeAbandon pos now).2 = { t with flight := (t.maybeAbandon pos now).2.flight,
                                          sentQ := (t.maybeAbandon pos now).2.sentQ,
                                          outQ := (t.maybeAbandon pos now).2.outQ } := by
  have h := maybeAbandon_out t pos now
  generalize t.maybeAbandon pos now = r at h ⊢
  cases h <;> rfl

/-- A predicate `P` on the chunks of the sent queue (`Q` on the outbound queue) is kept if marking and moving keep it; for that
they may use that the chunk is in the message of one that was due to be abandoned. -/
theorem maybeAbandon_all {P Q : SChunk → Prop} (t : Tx) (pos : Nat) (now : Int)
    (hm : ∀ c, AbLink t now c → P c → P (abMark c)) (hv : ∀ c, AbLink t now c → Q c → P (abUnsent c))
    (hs : ∀ c ∈ t.sentQ, P c) (ho : ∀ c ∈ t.outQ, Q c) :
    (∀ c ∈ (t.maybeAbandon pos now).2.sentQ, P c) ∧ ∀ c ∈ (t.maybeAbandon pos now).2.outQ, Q c := by
  have h := maybeAbandon_out t pos now
  generalize t.maybeAbandon pos now = r at h ⊢
  cases h with
  | no | done => exact ⟨hs, ho⟩
  | seg A M C U R e1 e2 _ _ link =>
    refine ⟨fun c hc => ?_, fun c hc => ho c (by rw [e2]; exact List.mem_append_right _ hc)⟩
    rcases mem_abandonSeg_sentQ.1 hc with hc | hc | ⟨d, hd, rfl⟩ | ⟨d, hd, rfl⟩
    · exact hs c (by simp [e1, hc])
    · exact hs c (by simp [e1, hc])
    · exact hm d (link d (List.mem_append_left _ hd)) (hs d (by simp [e1, hd]))
    · exact hv d (link d (List.mem_append_right _ hd)) (ho d (by simp [e2, hd]))

/-! ## the cases in which nothing is abandoned -/

theorem shouldAbandon_reliable (c : SChunk) (now : Int) (h1 : c.maxRetransmits = none) (h2 : c.expiry = none) :
    shouldAbandon c now = false := by
  simp [shouldAbandon, h1, h2]

theorem maybeAbandon_done (t : Tx) (pos : Nat) (now : Int) (c : SChunk) (hc : t.sentQ[pos]? = some c)
    (ha : c.abandoned = true) : t.maybeAbandon pos now = (true, t) := by
  simp [Tx.maybeAbandon, hc, ha]

theorem maybeAbandon_keep (t : Tx) (pos : Nat) (now : Int) :
    t.maybeAbandon pos now = (false, t) ↔
      ∀ c, t.sentQ[pos]? = some c → c.abandoned = false ∧ shouldAbandon c now = false := by
  constructor
  · intro he
    have h := maybeAbandon_out t pos now
    rw [he] at h
    cases h with
    | no h => exact h
  · intro h
    unfold Tx.maybeAbandon
    cases hp : t.sentQ[pos]? with
    | none => rfl
    | some c => simp [(h c hp).1, (h c hp).2]

end Aiortc.Sctp
