import Aiortc.Lemmas.SctpTx.Basic
/-!
# SCTP sender: `_transmit` in closed form

`_transmit` sends a pending FORWARD TSN (`Tx.fwd`), walks the sent queue retransmitting marked chunks (`rtxLoop`) and then
sends new chunks from the outbound queue while the window allows (`newLoop`).  Both loops visit a prefix of their queue whose
length depends on the flight counter only (`rtxCount`, `newCount`); what they do to a visited chunk is a map (`rtxStep`,
`newChunk`) and what they emit is a list function of the visited prefix (`rtxEvs`, `newEvs`).  `rtxLoop_eq`, `newLoop_eq` and
`transmit_eq` (`_transmit` in stages, for the two-run proofs of C17) are the three equations; `transmit_closed` puts them together
in one equation, for everybody else: what is in the queues afterwards, the wire image and the events that go out are list
facts about it (`mem_fwd`, `mem_rtxEvs`, `mem_newEvs`).
-/
namespace Aiortc.Sctp
open Aiortc.Gen

/-- bytes that enter the flight counter when the chunks of `p` are sent -/
def incSum (p : List SChunk) : Nat := (p.map fun c => if c.inFlight then 0 else c.bookSize).sum

theorem incSum_cons (c : SChunk) (p : List SChunk) :
    incSum (c :: p) = (if c.inFlight then 0 else c.bookSize) + incSum p := by simp [incSum]

theorem incFlight_add (fl : Nat) (c : SChunk) :
    (if c.inFlight then fl else fl + c.bookSize) = fl + (if c.inFlight then 0 else c.bookSize) := by
  split <;> rfl

/-! ## the retransmission pass -/

/-- the chunk as `_transmit` leaves it after a retransmission -/
def rtxChunk (c : SChunk) : SChunk :=
  { c with inFlight := true, misses := 0, retransmit := false, sentCount := c.sentCount + 1 }

def rtxSend (st : RtxSt) (c : SChunk) : RtxSt :=
  { st with flight := if c.inFlight then st.flight else st.flight + c.bookSize, frt := false,
            t3 := st.earliest || st.t3, earliest := false, done := rtxChunk c :: st.done,
            evs := if st.earliest then (t3Restart st.t3).reverse ++ TxEv.data (rtxChunk c).toR :: st.evs
                   else TxEv.data (rtxChunk c).toR :: st.evs }

theorem rtxLoop_cons (cwnd : Nat) (st : RtxSt) (c : SChunk) (cs : List SChunk) :
    rtxLoop cwnd st (c :: cs) =
      if c.retransmit then
        if !st.frt && decide (st.flight ≥ cwnd) then ({ st with ret := true }, c :: cs)
        else rtxLoop cwnd (rtxSend st c) cs
      else rtxLoop cwnd { st with earliest := false, done := c :: st.done } cs := by
  conv => lhs; unfold rtxLoop
  simp only [incFlight_eq]
  cases he : st.earliest <;> simp only [rtxSend, rtxChunk, he] <;> rfl

def rtxStep (c : SChunk) : SChunk := if c.retransmit then rtxChunk c else c

/-- how many chunks the pass visits: it returns in front of a marked chunk when the window is full, unless
`_fast_recovery_transmit` is set, which the first retransmission clears -/
def rtxCount (cwnd : Nat) : Bool → Nat → List SChunk → Nat
  | _, _, [] => 0
  | frt, fl, c :: cs =>
    if c.retransmit then
      if !frt && decide (fl ≥ cwnd) then 0
      else rtxCount cwnd false (if c.inFlight then fl else fl + c.bookSize) cs + 1
    else rtxCount cwnd frt fl cs + 1

def rtxData (p : List SChunk) : List TxEv := (p.filter (·.retransmit)).map fun c => TxEv.data (rtxChunk c).toR

/-- the events of the pass over `p`: T3 is restarted behind the first chunk of the queue if that one is retransmitted -/
def rtxEvs (earliest t3 : Bool) : List SChunk → List TxEv
  | [] => []
  | c :: cs =>
    (if c.retransmit then TxEv.data (rtxChunk c).toR :: (if earliest then t3Restart t3 else []) else []) ++ rtxData cs

theorem rtxEvs_cons (earliest t3 : Bool) (c : SChunk) (cs : List SChunk) :
    rtxEvs earliest t3 (c :: cs) =
      (if c.retransmit then TxEv.data (rtxChunk c).toR :: (if earliest then t3Restart t3 else []) else [])
        ++ rtxData cs := rfl

theorem rtxData_cons (c : SChunk) (cs : List SChunk) :
    rtxData (c :: cs) = (if c.retransmit then [TxEv.data (rtxChunk c).toR] else []) ++ rtxData cs := by
  by_cases h : c.retransmit = true <;> simp [rtxData, h]

theorem rtxEvs_false (t3 : Bool) (p : List SChunk) : rtxEvs false t3 p = rtxData p := by
  cases p with
  | nil => rfl
  | cons c cs => rw [rtxEvs_cons, rtxData_cons]; split <;> rfl

theorem rtxLoop_eq (cwnd : Nat) : ∀ (l : List SChunk) (st : RtxSt),
    rtxLoop cwnd st l =
      ({ flight := st.flight + incSum ((l.take (rtxCount cwnd st.frt st.flight l)).filter (·.retransmit)),
         frt := st.frt && !(l.take (rtxCount cwnd st.frt st.flight l)).any (·.retransmit),
         t3 := st.t3 || (st.earliest && (l.take (rtxCount cwnd st.frt st.flight l)).head?.any (·.retransmit)),
         earliest := st.earliest && (l.take (rtxCount cwnd st.frt st.flight l)).isEmpty,
         done := ((l.take (rtxCount cwnd st.frt st.flight l)).map rtxStep).reverse ++ st.done,
         evs := (rtxEvs st.earliest st.t3 (l.take (rtxCount cwnd st.frt st.flight l))).reverse ++ st.evs,
         ret := st.ret || decide (rtxCount cwnd st.frt st.flight l < l.length) },
       l.drop (rtxCount cwnd st.frt st.flight l))
  | [], st => by cases st; simp [rtxLoop, rtxCount, incSum, rtxEvs]
  | c :: cs, st => by
    rw [rtxLoop_cons, rtxCount]
    by_cases hm : c.retransmit = true
    · by_cases hc : (!st.frt && decide (st.flight ≥ cwnd)) = true
      · rw [if_pos hm, if_pos hc, if_pos hm, if_pos hc]
        cases st; simp [incSum, rtxEvs]
      · rw [if_pos hm, if_neg hc, if_pos hm, if_neg hc, rtxLoop_eq cwnd cs]
        simp [rtxSend, incSum_cons, rtxEvs_cons, rtxEvs_false, rtxStep, hm]
        refine ⟨?_, Bool.or_comm _ _, by cases st.earliest <;> rfl, rfl⟩
        split <;> omega
    · rw [if_neg hm, if_neg hm, rtxLoop_eq cwnd cs]
      simp [rtxEvs_cons, rtxEvs_false, rtxStep, hm]

theorem rtxPass_pw {R : SChunk → SChunk → Prop} (hr : ∀ c, R c c) (hs : ∀ c, R c (rtxStep c)) (l : List SChunk) (n : Nat) :
    PW R l ((l.take n).map rtxStep ++ l.drop n) := by
  have := PW.append (PW.map_right hs (l.take n)) (PW.refl hr (l.drop n))
  rwa [List.take_append_drop] at this

theorem flightSum_map_rtxStep : ∀ p : List SChunk,
    flightSum (p.map rtxStep) = flightSum p + incSum (p.filter (·.retransmit))
  | [] => rfl
  | c :: p => by
    rw [List.map_cons, flightSum_cons, flightSum_cons, flightSum_map_rtxStep p, List.filter_cons]
    by_cases h : c.retransmit = true
    · simp only [h, if_true, incSum_cons, rtxStep, rtxChunk, SChunk.w]; split <;> omega
    · simp only [h, Bool.false_eq_true, if_false, rtxStep]; omega

theorem rtxCount_full (cwnd : Nat) : ∀ (l : List SChunk) (frt : Bool) (fl : Nat),
    rtxCount cwnd frt fl l < l.length →
      cwnd ≤ fl + incSum ((l.take (rtxCount cwnd frt fl l)).filter (·.retransmit))
  | [], _, _, h => absurd h (Nat.lt_irrefl _)
  | c :: cs, frt, fl, h => by
    unfold rtxCount at h ⊢
    by_cases hm : c.retransmit = true
    · by_cases hc : (!frt && decide (fl ≥ cwnd)) = true
      · rw [if_pos hm, if_pos hc]
        simp only [Bool.and_eq_true, decide_eq_true_eq] at hc
        exact Nat.le_trans hc.2 (Nat.le_add_right _ _)
      · rw [if_pos hm, if_neg hc] at h ⊢
        have := rtxCount_full cwnd cs false _ (Nat.lt_of_succ_lt_succ h)
        rw [List.take_succ_cons, List.filter_cons, if_pos hm, incSum_cons]
        have := incFlight_add fl c
        omega
    · rw [if_neg hm] at h ⊢
      rw [List.take_succ_cons, List.filter_cons, if_neg hm]
      exact rtxCount_full cwnd cs frt fl (Nat.lt_of_succ_lt_succ h)

theorem mem_t3Restart {ev : TxEv} {t3 : Bool} (h : ev ∈ t3Restart t3) : ev = .t3cancel ∨ ev = .t3start := by
  unfold t3Restart at h
  split at h
  · simpa using h
  · exact .inr (List.mem_singleton.1 h)

/-- `rtxChunk` and `newChunk` rewrite bookkeeping attributes only, so what goes on the wire is `c.toR` (by `rfl`). -/
theorem mem_rtxData {ev : TxEv} {p : List SChunk} (h : ev ∈ rtxData p) :
    ∃ c ∈ p, c.retransmit = true ∧ ev = TxEv.data c.toR := by
  obtain ⟨c, hc, rfl⟩ := List.mem_map.1 h
  obtain ⟨hc, hm⟩ := List.mem_filter.1 hc
  exact ⟨c, hc, hm, rfl⟩

theorem mem_rtxEvs {ev : TxEv} {earliest t3 : Bool} {p : List SChunk} (h : ev ∈ rtxEvs earliest t3 p) :
    (∃ c ∈ p, c.retransmit = true ∧ ev = TxEv.data c.toR) ∨ ev = .t3cancel ∨ ev = .t3start := by
  cases p with
  | nil => cases h
  | cons c cs =>
    rw [rtxEvs_cons, List.mem_append] at h
    rcases h with h | h
    · split at h
      · rcases List.mem_cons.1 h with rfl | h
        · exact Or.inl ⟨c, List.mem_cons_self, ‹_›, rfl⟩
        · split at h
          · exact Or.inr (mem_t3Restart h)
          · cases h
      · cases h
    · obtain ⟨d, hd, hm, rfl⟩ := mem_rtxData h
      exact Or.inl ⟨d, List.mem_cons_of_mem _ hd, hm, rfl⟩

/-! ## the pass over the outbound queue -/

/-- the chunk as `_transmit` leaves it after its first transmission -/
def newChunk (c : SChunk) : SChunk := { c with inFlight := true, sentCount := c.sentCount + 1 }

theorem newLoop_cons (cwnd fuel fl : Nat) (t3 : Bool) (c : SChunk) (outQ sent : List SChunk) (evs : List TxEv) :
    newLoop cwnd (fuel + 1) fl t3 (c :: outQ) sent evs =
      if fl < cwnd then
        newLoop cwnd fuel (if c.inFlight then fl else fl + c.bookSize) true outQ (sent ++ [newChunk c])
          (evs ++ [TxEv.data (newChunk c).toR] ++ (if t3 then [] else [TxEv.t3start]))
      else (fl, t3, c :: outQ, sent, evs) := by
  conv => lhs; unfold newLoop
  simp only [incFlight_eq]
  rfl

def newCount (cwnd : Nat) : Nat → Nat → List SChunk → Nat
  | 0, _, _ => 0
  | _ + 1, _, [] => 0
  | fuel + 1, fl, c :: cs =>
    if fl < cwnd then newCount cwnd fuel (if c.inFlight then fl else fl + c.bookSize) cs + 1 else 0

/-- the events of first transmissions: T3 is started behind the first chunk unless it runs -/
def newEvs (t3 : Bool) : List SChunk → List TxEv
  | [] => []
  | c :: cs =>
    TxEv.data (newChunk c).toR :: (if t3 then [] else [TxEv.t3start]) ++ cs.map fun d => TxEv.data (newChunk d).toR

theorem newEvs_cons (t3 : Bool) (c : SChunk) (cs : List SChunk) :
    newEvs t3 (c :: cs) =
      TxEv.data (newChunk c).toR :: (if t3 then [] else [TxEv.t3start]) ++ cs.map fun d => TxEv.data (newChunk d).toR := rfl

theorem newEvs_true (p : List SChunk) : newEvs true p = p.map fun d => TxEv.data (newChunk d).toR := by
  cases p <;> rfl

theorem newLoop_eq (cwnd : Nat) : ∀ (fuel fl : Nat) (t3 : Bool) (outQ sent : List SChunk) (evs : List TxEv),
    newLoop cwnd fuel fl t3 outQ sent evs =
      (fl + incSum (outQ.take (newCount cwnd fuel fl outQ)), (t3 || !(outQ.take (newCount cwnd fuel fl outQ)).isEmpty),
       outQ.drop (newCount cwnd fuel fl outQ), sent ++ (outQ.take (newCount cwnd fuel fl outQ)).map newChunk,
       evs ++ newEvs t3 (outQ.take (newCount cwnd fuel fl outQ)))
  | 0, _, _, _, _, _ => by simp [newLoop, newEvs, newCount, incSum]
  | _ + 1, _, _, [], _, _ => by simp [newLoop, newEvs, newCount, incSum]
  | fuel + 1, fl, t3, c :: outQ, sent, evs => by
    rw [newLoop_cons, newCount]
    split
    · rw [newLoop_eq cwnd fuel, List.take_succ_cons, List.drop_succ_cons, incSum_cons, newEvs_cons, newEvs_true]
      simp only [Bool.true_or, List.isEmpty_cons, Bool.not_false, Bool.or_true, List.map_cons, List.append_assoc,
        List.cons_append, List.nil_append]
      rw [incFlight_add, Nat.add_assoc]
    · simp [newEvs, incSum]

theorem newCount_le (cwnd : Nat) : ∀ (fuel fl : Nat) (outQ : List SChunk), newCount cwnd fuel fl outQ ≤ outQ.length
  | 0, _, _ => Nat.zero_le _
  | _ + 1, _, [] => Nat.le_refl _
  | fuel + 1, fl, c :: cs => by
    unfold newCount; split
    · exact Nat.succ_le_succ (newCount_le cwnd fuel _ cs)
    · exact Nat.zero_le _

theorem newCount_full (cwnd : Nat) : ∀ (fuel fl : Nat) (outQ : List SChunk), outQ.length < fuel →
    outQ.drop (newCount cwnd fuel fl outQ) = [] ∨ cwnd ≤ fl + incSum (outQ.take (newCount cwnd fuel fl outQ))
  | 0, _, _, h => absurd h (Nat.not_lt_zero _)
  | _ + 1, _, [], _ => Or.inl rfl
  | fuel + 1, fl, c :: cs, h => by
    unfold newCount
    by_cases hw : fl < cwnd
    · rw [if_pos hw, List.drop_succ_cons, List.take_succ_cons, incSum_cons]
      have e := incFlight_add fl c
      exact (newCount_full cwnd fuel _ cs (Nat.lt_of_succ_lt_succ h)).imp id fun h => by omega
    · simp only [hw, if_false, List.take_zero, incSum, List.map_nil, List.sum_nil]
      exact Or.inr (by omega)

theorem mem_newEvs {ev : TxEv} {t3 : Bool} {p : List SChunk} (h : ev ∈ newEvs t3 p) :
    (∃ c ∈ p, ev = TxEv.data c.toR) ∨ ev = TxEv.t3start := by
  cases p with
  | nil => cases h
  | cons c cs =>
    simp only [newEvs, List.cons_append, List.mem_cons, List.mem_append, List.mem_map] at h
    rcases h with rfl | h | ⟨d, hd, rfl⟩
    · exact Or.inl ⟨c, List.mem_cons_self, rfl⟩
    · split at h
      · cases h
      · exact Or.inr (List.mem_singleton.1 h)
    · exact Or.inl ⟨d, List.mem_cons_of_mem _ hd, rfl⟩

/-! ## `_transmit` -/

def Tx.fwd (t : Tx) : Tx × List TxEv :=
  match t.forwardTsn with
  | some (cum, streams) =>
    ({ t with forwardTsn := none, t3 := true }, [TxEv.fwd cum streams] ++ (if t.t3 then [] else [TxEv.t3start]))
  | none => (t, [])

/-- the local `cwnd` of `_transmit`: `min(self._flight_size + burst_size, self._cwnd)` -/
def Tx.burstCwnd (t : Tx) : Nat :=
  min (t.flight + (if t.fastRecoveryExit.isSome then 2 * USERDATA_MAX else 4 * USERDATA_MAX)) t.cwnd

def Tx.rtxInit (t : Tx) : RtxSt :=
  { flight := t.flight, frt := t.fastRecoveryTransmit, t3 := t.t3, earliest := true, done := [], evs := [] }

def Tx.afterRtx (t : Tx) : Tx :=
  let r := rtxLoop t.burstCwnd t.rtxInit t.sentQ
  { t with flight := r.1.flight, fastRecoveryTransmit := r.1.frt, t3 := r.1.t3, sentQ := r.1.done.reverse ++ r.2 }

theorem transmit_eq (t : Tx) :
    t.transmit =
      let t0 := t.fwd.1
      let r := rtxLoop t0.burstCwnd t0.rtxInit t0.sentQ
      let t1 := t0.afterRtx
      if r.1.ret then (t1, t.fwd.2 ++ r.1.evs.reverse)
      else
        let n := newLoop t0.burstCwnd (t1.outQ.length + 1) t1.flight t1.t3 t1.outQ t1.sentQ (t.fwd.2 ++ r.1.evs.reverse)
        ({ t1 with flight := n.1, t3 := n.2.1, outQ := n.2.2.1, sentQ := n.2.2.2.1 }, n.2.2.2.2) := by
  unfold Tx.transmit Tx.fwd
  cases h : t.forwardTsn with
  | none => rfl
  | some p => rfl

theorem fwd_fields (t : Tx) :
    t.fwd.1 = { t with forwardTsn := none, t3 := t.fwd.1.t3 }
    ∧ (t.t3 = true → t.fwd.1.t3 = true) ∧ (t.forwardTsn.isSome = true → t.fwd.1.t3 = true)
    ∧ (t.fwd.1.t3 = true → t.t3 = true ∨ t.forwardTsn.isSome = true) := by
  unfold Tx.fwd
  cases h : t.forwardTsn with
  | none => refine ⟨?_, by simp, by simp, by simp⟩; cases t; simp_all
  | some p => simp

theorem mem_fwd {t : Tx} {ev : TxEv} (h : ev ∈ t.fwd.2) :
    (∃ cum streams, t.forwardTsn = some (cum, streams) ∧ ev = TxEv.fwd cum streams) ∨ ev = TxEv.t3start := by
  unfold Tx.fwd at h
  split at h
  · rename_i cum streams hf
    rcases List.mem_append.1 h with h | h
    · exact Or.inl ⟨cum, streams, hf, List.mem_singleton.1 h⟩
    · split at h
      · cases h
      · exact Or.inr (List.mem_singleton.1 h)
  · cases h

def Tx.rtxN (t : Tx) : Nat := rtxCount t.fwd.1.burstCwnd t.fastRecoveryTransmit t.flight t.sentQ

def Tx.rtxFl (t : Tx) : Nat := t.flight + incSum ((t.sentQ.take t.rtxN).filter (·.retransmit))

def Tx.rtxT3 (t : Tx) : Bool := t.fwd.1.t3 || (t.sentQ.take t.rtxN).head?.any (·.retransmit)

/-- how many chunks of the outbound queue `_transmit` sends: none when the retransmission pass returned early -/
def Tx.newN (t : Tx) : Nat :=
  if t.rtxN < t.sentQ.length then 0 else newCount t.fwd.1.burstCwnd (t.outQ.length + 1) t.rtxFl t.outQ

/-- **`_transmit` in one piece.**  A prefix of the sent queue is visited by the retransmission pass, a prefix of the outbound
queue is sent behind it; apart from the two queues only the FORWARD TSN slot, the flight counter, the fast-recovery flag and
the T3 flag are written. -/
theorem transmit_closed (t : Tx) :
    t.transmit =
      ({ t with forwardTsn := none, flight := t.rtxFl + incSum (t.outQ.take t.newN),
                fastRecoveryTransmit := t.fastRecoveryTransmit && !(t.sentQ.take t.rtxN).any (·.retransmit),
                t3 := t.rtxT3 || !(t.outQ.take t.newN).isEmpty,
                sentQ := (t.sentQ.take t.rtxN).map rtxStep ++ t.sentQ.drop t.rtxN ++ (t.outQ.take t.newN).map newChunk,
                outQ := t.outQ.drop t.newN },
       t.fwd.2 ++ rtxEvs true t.fwd.1.t3 (t.sentQ.take t.rtxN) ++ newEvs t.rtxT3 (t.outQ.take t.newN)) := by
  obtain ⟨hf, -⟩ := fwd_fields t
  have hn : rtxCount t.fwd.1.burstCwnd t.fwd.1.rtxInit.frt t.fwd.1.rtxInit.flight t.fwd.1.sentQ = t.rtxN := by
    rw [Tx.rtxN, hf]; rfl
  rw [transmit_eq]
  simp only [Tx.afterRtx, rtxLoop_eq, newLoop_eq, hn]
  unfold Tx.newN Tx.rtxT3 Tx.rtxFl
  by_cases hret : t.rtxN < t.sentQ.length
  · rw [if_pos hret, if_pos (by rw [hf]; simpa [Tx.rtxInit] using hret)]
    rw [hf]; simp [Tx.rtxInit, newEvs, incSum]
  · rw [if_neg hret, if_neg (by rw [hf]; simpa [Tx.rtxInit] using hret)]
    rw [hf]; simp [Tx.rtxInit]

end Aiortc.Sctp
