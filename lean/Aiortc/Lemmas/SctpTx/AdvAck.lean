import Aiortc.Lemmas.SctpTx.Basic
import Aiortc.Lemmas.Util.List
/-!
# SCTP sender: `_update_advanced_peer_ack_point` in closed form

The walk pops the maximal abandoned prefix of the sent queue; the new ack point is the TSN of the last popped chunk, the
FORWARD-TSN stream list is a fold over the popped chunks.  Every fact about `popAbandoned` / `updateAdvAck` (what is kept,
what stays in range, what the wire image is) is read off these two equations.
-/
namespace Aiortc.Sctp
open Aiortc.Gen

/-- the `_forward_tsn_streams` update for one popped chunk. -/
def fwdNote (streams : List (Nat × Int)) (c : SChunk) : List (Nat × Int) :=
  if !flagU c.flags then dictSet streams c.sid c.ssn else streams

theorem popAbandoned_eq (adv : Int) (streams : List (Nat × Int)) (needed : Bool) (q : List SChunk) :
    popAbandoned adv streams needed q =
      (((q.takeWhile (·.abandoned)).getLast?.map (·.tsn)).getD adv,
       (q.takeWhile (·.abandoned)).foldl fwdNote streams,
       needed || !(q.takeWhile (·.abandoned)).isEmpty,
       q.dropWhile (·.abandoned)) := by
  induction q generalizing adv streams needed with
  | nil => simp [popAbandoned]
  | cons c q ih =>
    unfold popAbandoned
    by_cases hc : c.abandoned = true
    · simp only [hc, ↓reduceIte, ih, List.takeWhile_cons, List.dropWhile_cons, List.foldl_cons, fwdNote]
      refine Prod.ext ?_ (Prod.ext rfl (Prod.ext ?_ rfl))
      · simp only [List.getLast?_cons]
        cases (q.takeWhile (·.abandoned)).getLast? <;> simp
      · simp
    · simp [hc]

theorem updateAdvAck_eq (t : Tx) :
    t.updateAdvAck =
      (let caught := uint32_gte t.lastSacked t.advAck
       let popped := t.sentQ.takeWhile (·.abandoned)
       let adv := (popped.getLast?.map (·.tsn)).getD (if caught then t.lastSacked else t.advAck)
       let streams := popped.foldl fwdNote (if caught then [] else t.forwardStreams)
       let needed := (if caught then false else t.forwardNeeded) || !popped.isEmpty
       { t with advAck := adv, forwardStreams := streams, forwardNeeded := needed,
                sentQ := t.sentQ.dropWhile (·.abandoned),
                forwardTsn := if needed then some (adv, streams) else t.forwardTsn }) := by
  unfold Tx.updateAdvAck
  by_cases hc : uint32_gte t.lastSacked t.advAck = true
  · simp only [hc, ↓reduceIte, popAbandoned_eq]
    split <;> simp_all
  · simp only [hc, Bool.false_eq_true, ↓reduceIte, popAbandoned_eq]
    split <;> simp_all

theorem popAbandoned_keep (adv : Int) (st : List (Nat × Int)) (nd : Bool) (l : List SChunk)
    (h : ∀ c ∈ l, c.abandoned = false) : popAbandoned adv st nd l = (adv, st, nd, l) := by
  obtain ⟨h1, h2⟩ := List.takeWhile_eq_nil_of_all_false (p := SChunk.abandoned) h
  rw [popAbandoned_eq, h1, h2]; simp

theorem updateAdvAck_keep (t : Tx) (h : ∀ c ∈ t.sentQ, c.abandoned = false) (hn : t.forwardNeeded = false) :
    t.updateAdvAck =
      { t with advAck := if uint32_gte t.lastSacked t.advAck then t.lastSacked else t.advAck,
               forwardStreams := if uint32_gte t.lastSacked t.advAck then [] else t.forwardStreams } := by
  obtain ⟨h1, h2⟩ := List.takeWhile_eq_nil_of_all_false (p := SChunk.abandoned) h
  rw [updateAdvAck_eq]
  simp only [h1, h2, hn, List.getLast?_nil, Option.map_none, Option.getD_none, List.foldl_nil, List.isEmpty_nil,
    Bool.not_true, Bool.or_false, ite_self, Bool.false_eq_true, if_false]

end Aiortc.Sctp
