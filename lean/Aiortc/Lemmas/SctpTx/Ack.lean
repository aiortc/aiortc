import Aiortc.Lemmas.SctpTx.Basic
import Aiortc.Lemmas.Util.List
/-!
# SCTP sender: the two list loops of `_receive_sack_chunk` in closed form

`ackLoop` pops the longest prefix of the sent queue that the cumulative TSN covers; `htnaLoop` walks the queue up to the
highest TSN the gap blocks mention and marks what they acknowledge (`htnaList`), remembering the last TSN it marked (`htnaHna`).
What a property needs of either loop — membership, the wire image, a relation kept chunk by chunk, the behaviour under a
renumbering — is a fact about `takeWhile`/`dropWhile` or about the chunk map `htnaChunk`.
-/

namespace Aiortc.Sctp
open Aiortc.Gen

/-! ## the cumulative-ack loop -/

theorem ackLoop_cons (cum : Int) (fl done db : Nat) (c : SChunk) (cs : List SChunk) :
    ackLoop cum fl done db (c :: cs) =
      if uint32_gte cum c.tsn then
        ackLoop cum (fl - c.w) (done + 1) (if !c.acked then db + c.bookSize else db) cs
      else (fl, done, db, c :: cs) := by
  conv => lhs; unfold ackLoop
  simp only [decFlight_eq]

/-- bytes newly acknowledged by popping `l` -/
def newBytes (l : List SChunk) : Nat := (l.map fun c => if !c.acked then c.bookSize else 0).sum

theorem ackLoop_eq (cum : Int) : ∀ (l : List SChunk) (fl done db : Nat), ackLoop cum fl done db l =
    (fl - flightSum (l.takeWhile (uint32_gte cum ·.tsn)), done + (l.takeWhile (uint32_gte cum ·.tsn)).length,
     db + newBytes (l.takeWhile (uint32_gte cum ·.tsn)), l.dropWhile (uint32_gte cum ·.tsn))
  | [], _, _, _ => by simp [ackLoop, newBytes]
  | c :: cs, fl, done, db => by
    rw [ackLoop_cons]
    by_cases h : uint32_gte cum c.tsn = true
    · simp only [h, if_true, ackLoop_eq cum cs, List.takeWhile_cons, List.dropWhile_cons, flightSum_cons,
        List.length_cons, newBytes, List.map_cons, List.sum_cons]
      refine Prod.ext (by simp [Nat.sub_sub]) (Prod.ext (by simp; omega) (Prod.ext ?_ rfl))
      cases c.acked <;> simp <;> omega
    · simp [h, newBytes]

theorem ackLoop_rest (cum : Int) (l : List SChunk) (fl done db : Nat) :
    (ackLoop cum fl done db l).2.2.2 = l.dropWhile (uint32_gte cum ·.tsn) := by rw [ackLoop_eq]

/-! ## the loop over the gap blocks -/

/-- what the HTNA loop does to a chunk it visits -/
def htnaChunk (seen : List Int) (c : SChunk) : SChunk :=
  if seen.contains c.tsn && !c.acked then { c with acked := true, inFlight := false } else c

def htnaList (seen : List Int) (hs : Int) : List SChunk → List SChunk
  | [] => []
  | c :: cs => if uint32_gt c.tsn hs then c :: cs else htnaChunk seen c :: htnaList seen hs cs

/-- `highest_newly_acked` -/
def htnaHna (seen : List Int) (hs : Int) : Int → List SChunk → Int
  | hna, [] => hna
  | hna, c :: cs =>
    if uint32_gt c.tsn hs then hna
    else htnaHna seen hs (if seen.contains c.tsn && !c.acked then c.tsn else hna) cs

theorem htnaLoop_cons (seen : List Int) (hs : Int) (fl db : Nat) (hna : Int) (acc : List SChunk) (c : SChunk)
    (cs : List SChunk) :
    htnaLoop seen hs fl db hna acc (c :: cs) =
      if uint32_gt c.tsn hs then (fl, db, hna, acc.reverse ++ c :: cs)
      else if seen.contains c.tsn && !c.acked then
        htnaLoop seen hs (fl - c.w) (db + c.bookSize) c.tsn ({ c with acked := true, inFlight := false } :: acc) cs
      else htnaLoop seen hs fl db hna (c :: acc) cs := by
  conv => lhs; unfold htnaLoop
  simp only [decFlight_eq]
  rfl

theorem htnaLoop_eq (seen : List Int) (hs : Int) : ∀ (l acc : List SChunk) (fl db : Nat) (hna : Int),
    (htnaLoop seen hs fl db hna acc l).2.2.2 = acc.reverse ++ htnaList seen hs l
    ∧ (htnaLoop seen hs fl db hna acc l).2.2.1 = htnaHna seen hs hna l := by
  intro l
  induction l with
  | nil => intro acc fl db hna; simp [htnaLoop, htnaList, htnaHna]
  | cons c cs ih =>
    intro acc fl db hna
    rw [htnaLoop_cons]
    unfold htnaList htnaHna
    by_cases hstop : uint32_gt c.tsn hs = true
    · simp only [if_pos hstop, and_self]
    · simp only [if_neg hstop]
      by_cases h : (seen.contains c.tsn && !c.acked) = true
      · have := ih ({ c with acked := true, inFlight := false } :: acc) (fl - c.w) (db + c.bookSize) c.tsn
        simp only [if_pos h, this.1, this.2, htnaChunk, List.reverse_cons, List.append_assoc, List.singleton_append, and_self]
      · have := ih (c :: acc) fl db hna
        simp only [if_neg h, this.1, this.2, htnaChunk, List.reverse_cons, List.append_assoc, List.singleton_append, and_self]

/-- the chunks the loop newly marks -/
def htnaAcked (seen : List Int) (hs : Int) : List SChunk → List SChunk
  | [] => []
  | c :: cs =>
    if uint32_gt c.tsn hs then []
    else if seen.contains c.tsn && !c.acked then c :: htnaAcked seen hs cs else htnaAcked seen hs cs

theorem htnaLoop_counts (seen : List Int) (hs : Int) : ∀ (l acc : List SChunk) (fl db : Nat) (hna : Int),
    (htnaLoop seen hs fl db hna acc l).1 = fl - flightSum (htnaAcked seen hs l)
    ∧ (htnaLoop seen hs fl db hna acc l).2.1 = db + ((htnaAcked seen hs l).map (·.bookSize)).sum
  | [], _, _, _, _ => by simp [htnaLoop, htnaAcked]
  | c :: cs, acc, fl, db, hna => by
    rw [htnaLoop_cons]
    unfold htnaAcked
    by_cases hstop : uint32_gt c.tsn hs = true
    · simp [hstop]
    · rw [if_neg hstop, if_neg hstop]
      by_cases h : (seen.contains c.tsn && !c.acked) = true
      · rw [if_pos h, if_pos h, (htnaLoop_counts seen hs cs _ _ _ _).1, (htnaLoop_counts seen hs cs _ _ _ _).2,
          flightSum_cons, List.map_cons, List.sum_cons]
        exact ⟨by rw [Nat.sub_sub], by rw [Nat.add_assoc]⟩
      · rw [if_neg h, if_neg h]
        exact htnaLoop_counts seen hs cs _ _ _ _

theorem flightSum_htnaList (seen : List Int) (hs : Int) : ∀ l : List SChunk,
    flightSum l = flightSum (htnaList seen hs l) + flightSum (htnaAcked seen hs l)
  | [] => rfl
  | c :: cs => by
    unfold htnaList htnaAcked
    by_cases hstop : uint32_gt c.tsn hs = true
    · simp [hstop]
    · rw [if_neg hstop, if_neg hstop, flightSum_cons, flightSum_cons, flightSum_htnaList seen hs cs, htnaChunk]
      by_cases h : (seen.contains c.tsn && !c.acked) = true
      · rw [if_pos h, if_pos h, flightSum_cons]; simp only [SChunk.w]; simp; omega
      · rw [if_neg h, if_neg h]; omega

theorem htnaList_pw {R : SChunk → SChunk → Prop} (seen : List Int) (hs : Int) (hr : ∀ c, R c c)
    (hc : ∀ c, R c (htnaChunk seen c)) : ∀ l, PW R l (htnaList seen hs l)
  | [] => trivial
  | c :: cs => by
    unfold htnaList; split
    · exact PW.refl hr _
    · exact ⟨hc c, htnaList_pw seen hs hr hc cs⟩

end Aiortc.Sctp
