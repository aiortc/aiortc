import Aiortc.Lemmas.SctpTx.Abandon
/-!
# The two loops of the sender that go through `_maybe_abandon`

`hitBody`: `_maybe_abandon(chunk)` followed by "mark for retransmission unless abandoned, forget the gap-ack, not in flight" —
the body of the marking loop of `_t3_expired` (`t3Mark_succ`) and, with the miss counter reset before and the flight size
discounted after, of the third miss in the strike loop of `_receive_sack_chunk` (`strikeHit`, `strikeLoop_succ`).
`strikeLoop_ind`, `t3Mark_ind`: the induction over each loop for what does not depend on the position: what holds of the loop is
what is reflexive, transitive and holds across one body.
-/
namespace Aiortc.Sctp
open Aiortc.Gen

/-- what happens to the chunk at `pos` after `_maybe_abandon` returned `ab` -/
def hitMark (ab : Bool) (c : SChunk) : SChunk :=
  { (if !ab then { c with retransmit := true } else c) with acked := false, inFlight := false }

theorem hitMark_w (ab : Bool) (c : SChunk) : (hitMark ab c).w = 0 := by simp [hitMark, SChunk.w]

/-- `_maybe_abandon(sent_queue[pos])`, then mark the chunk -/
def hitBody (t : Tx) (pos : Nat) (now : Int) : Tx :=
  { (t.maybeAbandon pos now).2 with
    sentQ := (t.maybeAbandon pos now).2.sentQ.modify pos (hitMark (t.maybeAbandon pos now).1) }

theorem hitBody_length (t : Tx) (pos : Nat) (now : Int) : t.sentQ.length ≤ (hitBody t pos now).sentQ.length := by
  simp only [hitBody, List.length_modify]; exact maybeAbandon_length t pos now

theorem hitBody_frame (t : Tx) (pos : Nat) (now : Int) :
    hitBody t pos now = { t with flight := (hitBody t pos now).flight, sentQ := (hitBody t pos now).sentQ,
                                 outQ := (hitBody t pos now).outQ } := by
  unfold hitBody
  rw [maybeAbandon_frame t pos now]

/-! ## the strike loop of `_receive_sack_chunk` -/

/-- state after the third miss of the chunk at `pos` -/
def strikeHit (t : Tx) (pos : Nat) (c : SChunk) (now : Int) : Tx :=
  let t1 := { t with sentQ := t.sentQ.modify pos fun d => { d with misses := 0 } }
  { hitBody t1 pos now with
    flight := (t1.maybeAbandon pos now).2.flight - ((t1.maybeAbandon pos now).2.sentQ[pos]?.getD c).w }

theorem strikeHit_length (t : Tx) (pos : Nat) (c : SChunk) (now : Int) :
    t.sentQ.length ≤ (strikeHit t pos c now).sentQ.length := by
  have := hitBody_length { t with sentQ := t.sentQ.modify pos fun d => { d with misses := 0 } } pos now
  simpa [strikeHit] using this

theorem strikeLoop_succ (seen : List Int) (hna now : Int) (fuel pos : Nat) (t : Tx) (loss : Bool) :
    strikeLoop seen hna now (fuel + 1) pos t loss =
      match t.sentQ[pos]? with
      | none => (t, loss)
      | some c =>
        if uint32_gt c.tsn hna then (t, loss)
        else if !seen.contains c.tsn then
          if c.misses + 1 = 3 then strikeLoop seen hna now fuel (pos + 1) (strikeHit t pos c now) true
          else strikeLoop seen hna now fuel (pos + 1)
                 { t with sentQ := t.sentQ.modify pos fun d => { d with misses := c.misses + 1 } } loss
        else strikeLoop seen hna now fuel (pos + 1) t loss := by
  conv => lhs; unfold strikeLoop
  cases hp : t.sentQ[pos]? with
  | none => rfl
  | some c =>
    simp only
    by_cases h1 : uint32_gt c.tsn hna = true
    · simp only [if_pos h1]
    · simp only [if_neg h1]
      by_cases h2 : (!seen.contains c.tsn) = true
      · simp only [if_pos h2]
        by_cases h3 : c.misses + 1 = 3
        · simp only [if_pos h3]
          congr 1
          simp only [strikeHit, hitBody]
          generalize hr : Tx.maybeAbandon { t with sentQ := t.sentQ.modify pos fun d => { d with misses := 0 } } pos now = r
          -- `_maybe_abandon` keeps the snapshot part of the queue, so there still is a chunk at `pos`
          have hlen : pos < r.2.sentQ.length := by
            have h1 := maybeAbandon_length { t with sentQ := t.sentQ.modify pos fun d => { d with misses := 0 } } pos now
            rw [hr] at h1
            simp only [List.length_modify] at h1
            exact Nat.lt_of_lt_of_le (List.getElem?_eq_some_iff.mp hp).1 h1
          obtain ⟨cur, hcur⟩ : ∃ cur, r.2.sentQ[pos]? = some cur := ⟨r.2.sentQ[pos], List.getElem?_eq_getElem hlen⟩
          simp only [hcur, Option.getD_some, decFlight_eq]
          have hw : ({ (if (!r.1) = true then { cur with retransmit := true } else cur) with acked := false } : SChunk).w
              = cur.w := by
            cases r.1 <;> simp [SChunk.w]
          rw [hw]
          congr 1
          rw [List.modify_split _ _ _ _ hcur, List.modify_split _ _ _ _ hcur]
          rfl
        · simp only [if_neg h3]
      · simp only [if_neg h2]

/-- Whatever relation between sender states (with the `loss` flag) is reflexive, transitive and holds across one hit and one
counted miss holds across the strike loop.  `hit` and `miss` are given what the loop has just tested: the chunk is not beyond the
highest TSN newly acknowledged, no gap block covers it, and this is (is not) its third miss.  For an invariant see `strikeLoop_keeps`. -/
theorem strikeLoop_ind (seen : List Int) (hna now : Int) {I : Tx × Bool → Tx × Bool → Prop} (refl : ∀ x, I x x)
    (trans : ∀ {x y z}, I x y → I y z → I x z)
    (hit : ∀ (t : Tx) (loss : Bool) (pos : Nat) (c : SChunk), t.sentQ[pos]? = some c → uint32_gt c.tsn hna = false →
      c.tsn ∉ seen → c.misses + 1 = 3 → I (t, loss) (strikeHit t pos c now, true))
    (miss : ∀ (t : Tx) (loss : Bool) (pos : Nat) (c : SChunk), t.sentQ[pos]? = some c → uint32_gt c.tsn hna = false →
      c.tsn ∉ seen → c.misses + 1 ≠ 3 →
      I (t, loss) ({ t with sentQ := t.sentQ.modify pos fun d => { d with misses := c.misses + 1 } }, loss)) :
    ∀ (fuel pos : Nat) (t : Tx) (loss : Bool), I (t, loss) (strikeLoop seen hna now fuel pos t loss) := by
  intro fuel
  induction fuel with
  | zero => intro pos t loss; exact refl _
  | succ fuel ih =>
    intro pos t loss
    rw [strikeLoop_succ]
    cases hp : t.sentQ[pos]? with
    | none => exact refl _
    | some c =>
      simp only
      by_cases hgt : uint32_gt c.tsn hna = true
      · rw [if_pos hgt]; exact refl _
      rw [if_neg hgt]
      by_cases hs : (!seen.contains c.tsn) = true
      · rw [if_pos hs]
        by_cases hm : c.misses + 1 = 3
        · rw [if_pos hm]
          exact trans (hit t loss pos c hp (Bool.eq_false_iff.mpr hgt) (by simpa using hs) hm) (ih _ _ _)
        · rw [if_neg hm]
          exact trans (miss t loss pos c hp (Bool.eq_false_iff.mpr hgt) (by simpa using hs) hm) (ih _ _ _)
      · rw [if_neg hs]; exact ih _ _ _

/-- For an invariant that does not read `misses` (`miss` is asked for any new value of the counter). -/
theorem strikeLoop_keeps {J : Tx → Prop} (seen : List Int) (hna now : Int)
    (hit : ∀ (t : Tx) (pos : Nat) (c : SChunk), t.sentQ[pos]? = some c → J t → J (strikeHit t pos c now))
    (miss : ∀ (t : Tx) (pos m : Nat), J t → J { t with sentQ := t.sentQ.modify pos fun d => { d with misses := m } })
    (fuel pos : Nat) (t : Tx) (loss : Bool) (h : J t) : J (strikeLoop seen hna now fuel pos t loss).1 :=
  strikeLoop_ind seen hna now (I := fun x y => J x.1 → J y.1) (fun _ h => h) (fun h1 h2 h => h2 (h1 h))
    (fun t _ pos c hp _ _ _ h => hit t pos c hp h) (fun t _ pos _ _ _ _ _ h => miss t pos _ h) fuel pos t loss h

theorem strikeLoop_frame (seen : List Int) (hna now : Int) (fuel pos : Nat) (t : Tx) (loss : Bool) :
    (strikeLoop seen hna now fuel pos t loss).1 =
      { t with flight := (strikeLoop seen hna now fuel pos t loss).1.flight,
               sentQ := (strikeLoop seen hna now fuel pos t loss).1.sentQ,
               outQ := (strikeLoop seen hna now fuel pos t loss).1.outQ } :=
  strikeLoop_ind seen hna now
    (I := fun x y => y.1 = { x.1 with flight := y.1.flight, sentQ := y.1.sentQ, outQ := y.1.outQ })
    (fun _ => rfl) (fun {x y z} h1 h2 => h2.trans (by rw [show y.1 = _ from h1]))
    (fun t _ pos c _ _ _ _ => by
      show strikeHit t pos c now = _
      unfold strikeHit
      dsimp only
      rw [hitBody_frame])
    (fun _ _ _ _ _ _ _ _ => rfl) fuel pos t loss

/-! ## the marking loop of `_t3_expired` -/

theorem t3Mark_succ (now : Int) (fuel pos : Nat) (t : Tx) :
    t3Mark now (fuel + 1) pos t = t3Mark now fuel (pos + 1) (hitBody t pos now) := rfl

theorem t3Mark_ind (now : Int) {I : Tx → Tx → Prop} (refl : ∀ t, I t t) (trans : ∀ {x y z}, I x y → I y z → I x z)
    (hit : ∀ (t : Tx) (pos : Nat), I t (hitBody t pos now)) :
    ∀ (fuel pos : Nat) (t : Tx), I t (t3Mark now fuel pos t) := by
  intro fuel
  induction fuel with
  | zero => intro pos t; exact refl t
  | succ fuel ih => intro pos t; rw [t3Mark_succ]; exact trans (hit t pos) (ih _ _)

theorem t3Mark_frame (now : Int) (fuel pos : Nat) (t : Tx) :
    t3Mark now fuel pos t = { t with flight := (t3Mark now fuel pos t).flight, sentQ := (t3Mark now fuel pos t).sentQ,
                                     outQ := (t3Mark now fuel pos t).outQ } :=
  t3Mark_ind now (I := fun x y => y = { x with flight := y.flight, sentQ := y.sentQ, outQ := y.outQ })
    (fun _ => rfl) (fun {x y z} h1 h2 => h2.trans (by rw [show y = _ from h1])) (fun t pos => hitBody_frame t pos now) fuel pos t

theorem t3Mark_keeps {J : Tx → Prop} (now : Int) (hit : ∀ (t : Tx) (pos : Nat), J t → J (hitBody t pos now))
    (fuel pos : Nat) (t : Tx) (h : J t) : J (t3Mark now fuel pos t) :=
  t3Mark_ind now (I := fun x y => J x → J y) (fun _ h => h) (fun h1 h2 h => h2 (h1 h)) hit fuel pos t h

end Aiortc.Sctp
