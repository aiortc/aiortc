import Aiortc.Model.Stats
import Aiortc.Lemmas.Serial
/-!
# Lemmas for C18: the specification machine on *unwrapped* sequence numbers and the refinement
# `StreamStatistics` model ⊑ specification.

`Spec` is RFC 3550 A.1/A.3/A.8 written on unbounded integers: the extended sequence number of every
packet is given (ghost), nothing wraps.  `conc g` is the `StreamStatistics` state that represents `g`.
-/
namespace Aiortc.Lemmas.Stats
open Aiortc Aiortc.Gen Aiortc.Model.Stats

/-- A packet of the arrival history with its ghost unwrapped sequence number `e`
(`sequence_number = e mod 2^16` on the wire), RTP timestamp and arrival tick. -/
structure Pkt where
  e : Int
  ts : Int
  arr : Int
  deriving Repr, DecidableEq

/-- Specification state (RFC 3550 source structure on unwrapped numbers). -/
structure Spec where
  e0 : Int         -- extended sequence number of the first packet
  maxE : Int       -- extended highest sequence number received
  n : Int          -- packets received
  j : Int          -- jitter estimate, scaled by 16 (A.8)
  prevArr : Int    -- arrival tick / timestamp of the last in-order packet
  prevTs : Int
  expPrior : Int   -- A.3 expected_prior / received_prior
  recPrior : Int
  deriving Repr, DecidableEq

def Spec.first (p : Pkt) : Spec := ⟨p.e, p.e, 1, 0, p.arr, p.ts, 0, 0⟩

/-- RFC 3550 A.8 on an in-order packet that begins a new timestamp: `D` in 32-bit arithmetic. -/
def Spec.jitterNext (g : Spec) (p : Pkt) : Int :=
  if p.ts ≠ g.prevTs then jitterStep g.j (absDiff p.arr g.prevArr p.ts g.prevTs) else g.j

def Spec.add (g : Spec) (p : Pkt) : Spec :=
  if p.e > g.maxE then
    { g with maxE := p.e, n := g.n + 1, j := g.jitterNext p, prevArr := p.arr, prevTs := p.ts }
  else { g with n := g.n + 1 }

def Spec.expected (g : Spec) : Int := g.maxE - g.e0 + 1

/-- Cumulative number of packets lost as carried in the 24-bit signed field. -/
def Spec.lost (g : Spec) : Int := clamp_packets_lost (g.expected - g.n)

/-- RFC 3550 A.3. -/
def Spec.fraction (g : Spec) : Int := fractionOf (g.expected - g.expPrior) (g.n - g.recPrior)

def Spec.closeInterval (g : Spec) : Spec := { g with expPrior := g.expected, recPrior := g.n }

/-- The state of `StreamStatistics` representing `g`. -/
def conc (g : Spec) : Stats :=
  { baseSeq := some (g.e0 % 65536), maxSeq := some (g.maxE % 65536),
    cycles := 65536 * (g.maxE / 65536) - 65536 * (g.e0 / 65536),
    received := g.n, jitterQ4 := g.j, lastArrival := some g.prevArr, lastTimestamp := some g.prevTs,
    expectedPrior := g.expPrior, receivedPrior := g.recPrior }

/-- "Reordering within half the sequence space": the packet is less than 2^15 away from the running
maximum (behind: at most 32768, ahead: at most 32767). -/
def Window (maxE e : Int) : Prop := -32768 ≤ e - maxE ∧ e - maxE < 32768

instance (m e : Int) : Decidable (Window m e) := by unfold Window; infer_instance

theorem signed32_range (x : Int) : -2147483648 ≤ signed32 x ∧ signed32 x < 2147483648 := by
  unfold signed32; omega

theorem signed32_periodic (x k : Int) : signed32 (x + 4294967296 * k) = signed32 x := by
  unfold signed32; omega

theorem signed32_id (x : Int) (h : -2147483648 ≤ x ∧ x < 2147483648) : signed32 x = x := by
  unfold signed32; omega

theorem absDiff_range (a la t lt : Int) : 0 ≤ absDiff a la t lt ∧ absDiff a la t lt ≤ 2147483648 := by
  unfold absDiff
  have h := signed32_range ((a - la) - (t - lt))
  omega

theorem jitterStep_bound (j d : Int) (hj : 0 ≤ j ∧ j ≤ 34359738375) (hd : 0 ≤ d ∧ d ≤ 2147483648) :
    0 ≤ jitterStep j d ∧ jitterStep j d ≤ 34359738375 := by
  unfold jitterStep; omega

theorem add_first (p : Pkt) :
    add init (p.e % 65536) p.ts p.arr = .ok (conc (Spec.first p)) := by
  simp [add, init, inOrder, nextCycles, nextBase, conc, Spec.first]

theorem inOrder_conc (g : Spec) (p : Pkt) (hw : Window g.maxE p.e) :
    inOrder (conc g) (p.e % 65536) = decide (p.e > g.maxE) := by
  have := Serial.gt16 0 (i := p.e) (j := g.maxE) hw
  rwa [Int.zero_add, Int.zero_add] at this

theorem nextCycles_conc (g : Spec) (p : Pkt) (hw : Window g.maxE p.e) (hgt : p.e > g.maxE) :
    nextCycles (conc g) (p.e % 65536) = 65536 * (p.e / 65536) - 65536 * (g.e0 / 65536) := by
  unfold Window at hw
  simp only [nextCycles, conc]
  split <;> omega

theorem add_conc (g : Spec) (p : Pkt) (hn : 1 ≤ g.n) (hw : Window g.maxE p.e) :
    add (conc g) (p.e % 65536) p.ts p.arr = .ok (conc (g.add p)) := by
  unfold add
  rw [inOrder_conc g p hw]
  by_cases hgt : p.e > g.maxE
  · have hc := nextCycles_conc g p hw hgt
    simp only [hgt, decide_true, if_true]
    rw [hc]
    by_cases hts : p.ts = g.prevTs
    · simp [conc, Spec.add, Spec.jitterNext, hgt, hts, nextBase]
    · simp [conc, Spec.add, Spec.jitterNext, hgt, hts, nextBase]
      omega
  · simp [hgt, conc, Spec.add, nextBase]

theorem expected_conc (g : Spec) : packetsExpected (conc g) = .ok g.expected := by
  simp only [packetsExpected, conc, Spec.expected]
  congr 1; omega

theorem lost_conc (g : Spec) : packetsLost (conc g) = .ok g.lost := by
  simp only [packetsLost, expected_conc, Spec.lost]; rfl

theorem fraction_conc (g : Spec) :
    fractionLost (conc g) = .ok (g.fraction, conc g.closeInterval) := by
  simp only [fractionLost, expected_conc, Spec.fraction]; rfl

/-- cycles + max_seq is the extended highest sequence number, relative to the cycle of the first packet. -/
theorem ext_conc (g : Spec) :
    (conc g).cycles + g.maxE % 65536 = g.maxE - (g.e0 - g.e0 % 65536) := by
  simp only [conc]; omega

structure Spec.WF (g : Spec) : Prop where
  n_pos : 1 ≤ g.n
  base_le : g.e0 ≤ g.maxE
  j_lo : 0 ≤ g.j
  j_hi : g.j ≤ 34359738375            -- 2^35 + 7
  rec_le : g.recPrior ≤ g.n
  exp_le : g.expPrior ≤ g.expected
  prog : g.expPrior < g.expected → g.recPrior < g.n

theorem wf_first (p : Pkt) : (Spec.first p).WF := by
  constructor <;> simp [Spec.first, Spec.expected]

theorem wf_add (g : Spec) (p : Pkt) (h : g.WF) : (g.add p).WF := by
  obtain ⟨h1, h2, h3, h4, h5, h6, h7⟩ := h
  unfold Spec.expected at h6 h7
  unfold Spec.add
  by_cases hgt : p.e > g.maxE
  · have hj : 0 ≤ g.jitterNext p ∧ g.jitterNext p ≤ 34359738375 := by
      unfold Spec.jitterNext
      split
      · exact jitterStep_bound _ _ ⟨h3, h4⟩ (absDiff_range _ _ _ _)
      · exact ⟨h3, h4⟩
    simp only [hgt, if_true]
    constructor <;> simp only [Spec.expected] <;> omega
  · simp only [hgt, if_false]
    constructor <;> simp only [Spec.expected] <;> omega

theorem wf_close (g : Spec) (h : g.WF) : g.closeInterval.WF := by
  obtain ⟨h1, h2, h3, h4, h5, h6, h7⟩ := h
  constructor <;> simp only [Spec.closeInterval, Spec.expected] <;> omega

theorem fraction_range (g : Spec) (h : g.WF) : 0 ≤ g.fraction ∧ g.fraction ≤ 255 := by
  obtain ⟨h1, h2, h3, h4, h5, h6, h7⟩ := h
  unfold Spec.fraction fractionOf
  simp only
  split
  · omega
  · rename_i hc
    have hpos : 0 < g.expected - g.expPrior := by omega
    rw [Int.fdiv_eq_ediv_of_nonneg _ (by omega)]
    have hlt : g.expected - g.expPrior - (g.n - g.recPrior) < g.expected - g.expPrior := by omega
    constructor
    · apply Int.ediv_nonneg <;> omega
    · have : (g.expected - g.expPrior - (g.n - g.recPrior)) * 256 < 256 * (g.expected - g.expPrior) := by omega
      have := Int.ediv_lt_of_lt_mul hpos this
      omega

inductive Ev where
  | pkt (p : Pkt)
  | report (ssrc lsr dlsr : Int)     -- `_run_rtcp` builds a report for this stream now
  deriving Repr, DecidableEq

/-- The model run over a history: the final `StreamStatistics` state and the `RtcpReceiverInfo` of every
report instant.  The sequence number on the wire is `e mod 2^16`. -/
def run : Stats → List Ev → Outcome (Stats × List RrInfo)
  | s, [] => .ok (s, [])
  | s, .pkt p :: rest =>
    match add s (p.e % 65536) p.ts p.arr with
    | .ok s' => run s' rest
    | .valueError => .valueError
    | .crash k => .crash k
    | .hang => .hang
  | s, .report ssrc lsr dlsr :: rest =>
    match mkInfo ssrc s lsr dlsr with
    | .ok (info, s') =>
      match run s' rest with
      | .ok (s'', infos) => .ok (s'', info :: infos)
      | .valueError => .valueError
      | .crash k => .crash k
      | .hang => .hang
    | .valueError => .valueError
    | .crash k => .crash k
    | .hang => .hang

/-- The report RFC 3550 prescribes in specification state `g`. -/
def Spec.info (g : Spec) (ssrc lsr dlsr : Int) : RrInfo :=
  { ssrc := ssrc, fractionLost := g.fraction, packetsLost := g.lost,
    highestSequence := (g.maxE - (g.e0 - g.e0 % 65536)) % 4294967296,
    jitter := g.j / 16, lsr := lsr, dlsr := dlsr }

def specRun : Spec → List Ev → Spec × List RrInfo
  | g, [] => (g, [])
  | g, .pkt p :: rest => specRun (g.add p) rest
  | g, .report ssrc lsr dlsr :: rest =>
    ((specRun g.closeInterval rest).1, g.info ssrc lsr dlsr :: (specRun g.closeInterval rest).2)

/-- The property's hypothesis on a history, relative to the running maximum. -/
def Valid : Int → List Ev → Prop
  | _, [] => True
  | m, .pkt p :: rest => Window m p.e ∧ Valid (max m p.e) rest
  | m, .report _ _ _ :: rest => Valid m rest

def numPkts : List Ev → Int
  | [] => 0
  | .pkt _ :: rest => 1 + numPkts rest
  | .report _ _ _ :: rest => numPkts rest

def maxOf : Int → List Ev → Int
  | m, [] => m
  | m, .pkt p :: rest => maxOf (max m p.e) rest
  | m, .report _ _ _ :: rest => maxOf m rest

theorem Ev.rec' {motive : List Ev → Prop} (nil : motive [])
    (pkt : ∀ p rest, motive rest → motive (.pkt p :: rest))
    (report : ∀ a b c rest, motive rest → motive (.report a b c :: rest)) : ∀ evs, motive evs
  | [] => nil
  | .pkt p :: rest => pkt p rest (Ev.rec' nil pkt report rest)
  | .report a b c :: rest => report a b c rest (Ev.rec' nil pkt report rest)

theorem add_maxE (g : Spec) (p : Pkt) : (g.add p).maxE = max g.maxE p.e := by
  unfold Spec.add; split <;> simp only <;> omega

theorem add_n (g : Spec) (p : Pkt) : (g.add p).n = g.n + 1 := by
  unfold Spec.add; split <;> rfl

theorem add_e0 (g : Spec) (p : Pkt) : (g.add p).e0 = g.e0 := by
  unfold Spec.add; split <;> rfl

theorem mkInfo_conc (g : Spec) (ssrc lsr dlsr : Int) :
    mkInfo ssrc (conc g) lsr dlsr = .ok (g.info ssrc lsr dlsr, conc g.closeInterval) := by
  unfold mkInfo
  rw [fraction_conc]
  simp only [lost_conc]
  have h1 : (conc g.closeInterval).maxSeq = some (g.maxE % 65536) := rfl
  have h2 : g.closeInterval.lost = g.lost := rfl
  have h3 := ext_conc g.closeInterval
  rw [h1]
  simp only [Spec.info, h2, jitter]
  congr 3
  exact congrArg (fun x => x % 4294967296) h3

theorem run_conc (evs : List Ev) : ∀ g : Spec, 1 ≤ g.n → Valid g.maxE evs →
    run (conc g) evs = .ok (conc (specRun g evs).1, (specRun g evs).2) := by
  induction evs using Ev.rec' with
  | nil => intro g _ _; rfl
  | pkt p rest ih =>
    intro g hn hv
    simp only [run, specRun, add_conc g p hn hv.1]
    apply ih
    · rw [add_n]; omega
    · rw [add_maxE]; exact hv.2
  | report ssrc lsr dlsr rest ih =>
    intro g hn hv
    simp only [run, specRun, mkInfo_conc]
    rw [ih g.closeInterval hn hv]

theorem specRun_n (evs : List Ev) : ∀ g : Spec, (specRun g evs).1.n = g.n + numPkts evs := by
  induction evs using Ev.rec' with
  | nil => intro g; exact (Int.add_zero _).symm
  | pkt p rest ih => intro g; simp only [specRun, numPkts, ih, add_n]; omega
  | report a b c rest ih => intro g; exact ih _

theorem specRun_maxE (evs : List Ev) : ∀ g : Spec, (specRun g evs).1.maxE = maxOf g.maxE evs := by
  induction evs using Ev.rec' with
  | nil => intro g; rfl
  | pkt p rest ih => intro g; simp only [specRun, maxOf, ih, add_maxE]
  | report a b c rest ih => intro g; exact ih _

theorem specRun_e0 (evs : List Ev) : ∀ g : Spec, (specRun g evs).1.e0 = g.e0 := by
  induction evs using Ev.rec' with
  | nil => intro g; rfl
  | pkt p rest ih => intro g; simp only [specRun, ih, add_e0]
  | report a b c rest ih => intro g; exact ih _

theorem specRun_append (a b : List Ev) : ∀ g : Spec,
    specRun g (a ++ b) = ((specRun (specRun g a).1 b).1, (specRun g a).2 ++ (specRun (specRun g a).1 b).2) := by
  induction a using Ev.rec' with
  | nil => intro g; rfl
  | pkt p rest ih => intro g; simp only [List.cons_append, specRun, ih]
  | report x y z rest ih => intro g; simp only [List.cons_append, specRun, ih]

theorem maxOf_append (a b : List Ev) : ∀ m : Int, maxOf m (a ++ b) = maxOf (maxOf m a) b := by
  induction a using Ev.rec' with
  | nil => intro m; rfl
  | pkt p rest ih => intro m; exact ih _
  | report x y z rest ih => intro m; exact ih _

theorem numPkts_append (a b : List Ev) : numPkts (a ++ b) = numPkts a + numPkts b := by
  induction a using Ev.rec' with
  | nil => exact (Int.zero_add _).symm
  | pkt p rest ih => simp only [List.cons_append, numPkts, ih]; omega
  | report x y z rest ih => exact ih

theorem maxOf_ge (evs : List Ev) : ∀ m : Int, m ≤ maxOf m evs := by
  induction evs using Ev.rec' with
  | nil => intro m; exact Int.le_refl m
  | pkt p rest ih => intro m; exact Int.le_trans (Int.le_max_left m p.e) (ih _)
  | report x y z rest ih => intro m; exact ih m

/-- The unwrapped number of wire sequence number `seq` next to the running maximum `m`. -/
def unwrapE (m seq : Int) : Int := m + ((seq - m + 32768) % 65536 - 32768)

theorem unwrapE_mod (m seq : Int) : unwrapE m seq % 65536 = seq % 65536 := by
  unfold unwrapE; omega

theorem unwrapE_window (m seq : Int) : Window m (unwrapE m seq) := by
  unfold Window unwrapE; omega

/-- Any wire number whatsoever is an `add` of the specification: its ghost is `unwrapE` next to the running maximum. -/
theorem add_any (g : Spec) (hn : 1 ≤ g.n) (seq ts arr : Int) :
    add (conc g) (seq % 65536) ts arr = .ok (conc (g.add ⟨unwrapE g.maxE seq, ts, arr⟩)) := by
  have := add_conc g ⟨unwrapE g.maxE seq, ts, arr⟩ hn (unwrapE_window _ _)
  rwa [unwrapE_mod] at this

def U32 (x : Int) : Prop := 0 ≤ x ∧ x < 4294967296

/-- Every field of the report fits its RTCP field (8 / 24 signed / 32 / 32 / 32 / 32 bits, 32-bit SSRC). -/
structure Fits (i : RrInfo) : Prop where
  ssrc : U32 i.ssrc
  fraction : 0 ≤ i.fractionLost ∧ i.fractionLost ≤ 255
  lost : -8388608 ≤ i.packetsLost ∧ i.packetsLost ≤ 8388607
  highest : U32 i.highestSequence
  jitter : U32 i.jitter
  lsr : U32 i.lsr
  dlsr : U32 i.dlsr

/-- All report instants of the history are given a 32-bit SSRC / LSR / DLSR. -/
def ParamsOk : List Ev → Prop
  | [] => True
  | .pkt _ :: rest => ParamsOk rest
  | .report a b c :: rest => (U32 a ∧ U32 b ∧ U32 c) ∧ ParamsOk rest

theorem lost_range (g : Spec) : -8388608 ≤ g.lost ∧ g.lost ≤ 8388607 := by
  unfold Spec.lost clamp_packets_lost; omega

theorem info_fits (g : Spec) (h : g.WF) (ssrc lsr dlsr : Int) (hs : U32 ssrc) (hl : U32 lsr) (hd : U32 dlsr) :
    Fits (g.info ssrc lsr dlsr) := by
  refine ⟨hs, fraction_range g h, lost_range g, ?_, ?_, hl, hd⟩
  · exact ⟨Int.emod_nonneg _ (by decide), Int.emod_lt_of_pos _ (by decide)⟩
  · have := h.j_lo
    have := h.j_hi
    show 0 ≤ g.j / 16 ∧ g.j / 16 < 4294967296
    omega

/-- "The state is `conc` of a well-formed specification state" is kept by every event, whatever the sequence numbers: what
holds of all histories rests on this, not on `Valid` (`GoodStream` is the same invariant, per stream of a receiver). -/
theorem run_good (evs : List Ev) : ∀ g : Spec, g.WF →
    ∃ g' infos, run (conc g) evs = .ok (conc g', infos) ∧ g'.WF ∧ g'.n = g.n + numPkts evs ∧
      (∀ i ∈ infos, 0 ≤ i.fractionLost ∧ i.fractionLost ≤ 255) ∧ (ParamsOk evs → ∀ i ∈ infos, Fits i) := by
  induction evs using Ev.rec' with
  | nil => exact fun g h => ⟨g, [], rfl, h, (Int.add_zero _).symm, List.forall_mem_nil _, fun _ => List.forall_mem_nil _⟩
  | pkt p rest ih =>
    intro g h
    obtain ⟨g', infos, hr, hw, hn, hf⟩ := ih _ (wf_add g ⟨unwrapE g.maxE p.e, p.ts, p.arr⟩ h)
    refine ⟨g', infos, by simp only [run, add_any g h.n_pos, hr], hw, ?_, hf⟩
    rw [hn, add_n, numPkts]; omega
  | report a b c rest ih =>
    intro g h
    obtain ⟨g', infos, hr, hw, hn, hf, hF⟩ := ih _ (wf_close g h)
    exact ⟨g', _, by simp only [run, mkInfo_conc, hr], hw, hn, List.forall_mem_cons.2 ⟨fraction_range g h, hf⟩,
      fun hp => List.forall_mem_cons.2 ⟨info_fits g h a b c hp.1.1 hp.1.2.1 hp.1.2.2, hF hp.2⟩⟩

theorem run_init_good (p0 : Pkt) (evs : List Ev) :
    ∃ g' infos, run init (.pkt p0 :: evs) = .ok (conc g', infos) ∧ g'.WF ∧ g'.n = 1 + numPkts evs ∧
      (∀ i ∈ infos, 0 ≤ i.fractionLost ∧ i.fractionLost ≤ 255) ∧ (ParamsOk evs → ∀ i ∈ infos, Fits i) := by
  simp only [run, add_first]
  exact run_good evs _ (wf_first p0)

theorem u32be_length (n : Nat) : (u32be n).length = 4 := rfl

theorem bytes_of_ranges (i : RrInfo) (h1 : U32 i.ssrc) (h2 : 0 ≤ i.fractionLost ∧ i.fractionLost < 256)
    (h3 : -2147483648 ≤ i.packetsLost ∧ i.packetsLost < 2147483648) (h4 : U32 i.highestSequence)
    (h5 : U32 i.jitter) (h6 : U32 i.lsr) (h7 : U32 i.dlsr) : ∃ b, i.bytes = .ok b ∧ b.length = 24 := by
  unfold U32 at *
  unfold RrInfo.bytes packU32? packU8? packPacketsLost?
  simp only [h1, h2, h3, h4, h5, h6, h7, and_self, if_true]
  exact ⟨_, rfl, rfl⟩

theorem bytes_of_fits (i : RrInfo) (h : Fits i) : ∃ b, i.bytes = .ok b ∧ b.length = 24 :=
  bytes_of_ranges i h.ssrc (by have := h.fraction; omega) (by have := h.lost; omega) h.highest h.jitter h.lsr h.dlsr

theorem unpackPacketsLost_low (N : Nat) :
    unpackPacketsLost ((u32be N).drop 1) =
      some (if N % 16777216 ≥ 8388608 then ((N % 16777216 : Nat) : Int) - 16777216 else (N % 16777216 : Nat)) := by
  have e : (N / 65536 % 256 * 256 + N / 256 % 256) * 256 + N % 256 = N % 16777216 := by omega
  have t : N / 65536 % 256 % 256 ≥ 128 ↔ N % 16777216 ≥ 8388608 := by omega
  simp only [u32be, List.drop_succ_cons, List.drop_zero, unpackPacketsLost, e, t]

theorem run_valid (p0 : Pkt) (evs : List Ev) (hv : Valid p0.e evs) :
    run init (.pkt p0 :: evs)
      = .ok (conc (specRun (Spec.first p0) evs).1, (specRun (Spec.first p0) evs).2) := by
  simp only [run, add_first]
  exact run_conc _ (Spec.first p0) (by simp [Spec.first]) hv

/-- a valid history that ends in a report: what the run returns, with the last report taken from the state before it -/
theorem run_valid_report (p0 : Pkt) (pre : List Ev) (a b c : Int) (hv : Valid p0.e (pre ++ [Ev.report a b c])) :
    run init (.pkt p0 :: (pre ++ [Ev.report a b c]))
      = .ok (conc (specRun (Spec.first p0) (pre ++ [Ev.report a b c])).1,
             (specRun (Spec.first p0) pre).2 ++ [(specRun (Spec.first p0) pre).1.info a b c]) := by
  rw [run_valid p0 _ hv]
  congr 2
  rw [specRun_append]
  simp only [specRun]

theorem specRun_pkts_infos (l : List Pkt) : ∀ g : Spec, (specRun g (l.map Ev.pkt)).2 = [] := by
  induction l with
  | nil => intro g; rfl
  | cons p r ih => intro g; simp only [List.map_cons, specRun, ih]

theorem numPkts_pkts (l : List Pkt) : numPkts (l.map Ev.pkt) = l.length := by
  induction l with
  | nil => rfl
  | cons p r ih => simp only [List.map_cons, numPkts, ih, List.length_cons]; omega

theorem specRun_pkts_priors (l : List Pkt) : ∀ g : Spec,
    (specRun g (l.map Ev.pkt)).1.expPrior = g.expPrior ∧ (specRun g (l.map Ev.pkt)).1.recPrior = g.recPrior := by
  induction l with
  | nil => intro g; exact ⟨rfl, rfl⟩
  | cons p r ih =>
    intro g
    simp only [List.map_cons, specRun]
    rw [(ih _).1, (ih _).2]
    unfold Spec.add; split <;> exact ⟨rfl, rfl⟩

end Aiortc.Lemmas.Stats
