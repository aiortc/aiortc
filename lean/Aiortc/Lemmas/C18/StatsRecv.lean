import Aiortc.Lemmas.C18.Stats
import Aiortc.Lemmas.Dict
/-!
# Lemmas for C18, receiver level: every per-SSRC `StreamStatistics` of a reachable `RTCRtpReceiver`
# represents a well-formed specification state, so one iteration of `_run_rtcp` cannot raise.
-/
namespace Aiortc.Lemmas.Stats
open Aiortc Aiortc.Gen Aiortc.Model.Stats Aiortc.Model.Router

def GoodStream (x : Int × Stats) : Prop := U32 x.1 ∧ ∃ g : Spec, g.WF ∧ x.2 = conc g

def GoodRecv (r : Receiver) : Prop := (∀ x ∈ r.streams, GoodStream x) ∧ (∀ y ∈ r.lsr, U32 y.2)

theorem lookup_eq_dget {β : Type} (k : Int) (l : List (Int × β)) : lookup k l = dget k l := by
  induction l with
  | nil => rfl
  | cons x t ih => obtain ⟨a, b⟩ := x; simp only [lookup, dget, ih]

theorem assign_eq_dset {β : Type} (k : Int) (v : β) (l : List (Int × β)) : assign k v l = dset k v l := by
  induction l with
  | nil => rfl
  | cons x t ih => obtain ⟨a, b⟩ := x; simp only [assign, dset, ih]

theorem rtp_good (r : Receiver) (h : GoodRecv r) (ssrc seq ts arr : Int) (hs : U32 ssrc)
    (hq : 0 ≤ seq ∧ seq < 65536) :
    ∃ r', r.rtp ssrc seq ts arr = .ok r' ∧ GoodRecv r' ∧ r'.streams.length ≤ r.streams.length + 1 := by
  simp only [Receiver.rtp]
  have hseq : seq % 65536 = seq := by omega
  have key : ∃ g : Spec, g.WF ∧ add (r.streamOf ssrc) seq ts arr = .ok (conc g) := by
    unfold Receiver.streamOf
    cases hl : lookup ssrc r.streams with
    | none => exact ⟨Spec.first ⟨seq, ts, arr⟩, wf_first _, by simpa only [hseq] using add_first ⟨seq, ts, arr⟩⟩
    | some s =>
      obtain ⟨_, g, hg, rfl⟩ := h.1 _ (mem_of_dget (lookup_eq_dget .. ▸ hl))
      exact ⟨_, wf_add _ _ hg, hseq ▸ add_any g hg.n_pos seq ts arr⟩
  obtain ⟨g, hg, hadd⟩ := key
  rw [hadd]
  refine ⟨_, rfl, ⟨?_, h.2⟩, (assign_eq_dset .. ▸ length_dset_le ..)⟩
  intro x hx
  rcases mem_dset (assign_eq_dset .. ▸ hx) with hx | hx
  · subst hx; exact ⟨hs, g, hg, rfl⟩
  · exact h.1 x hx

theorem lsrOf_u32 (ntp : Int) : U32 (lsrOf ntp) := by unfold U32 lsrOf; omega

theorem dlsrOf_u32 (num den : Int) (hden : 0 < den) : U32 (dlsrOf num den) := by
  unfold U32 dlsrOf
  split
  · constructor
    · apply Int.ediv_nonneg <;> omega
    · apply Int.ediv_lt_of_lt_mul hden
      omega
  · omega

theorem sr_good (r : Receiver) (h : GoodRecv r) (ssrc ntp : Int) : GoodRecv (r.sr ssrc ntp) := by
  refine ⟨h.1, ?_⟩
  intro y (hy : y ∈ assign ssrc (lsrOf ntp) r.lsr)
  rcases mem_dset (assign_eq_dset .. ▸ hy) with hy | hy
  · subst hy; exact lsrOf_u32 ntp
  · exact h.2 y hy

theorem pickLsr_good {lsrs delays : List (Int × Int)} (hl : ∀ y ∈ lsrs, U32 y.2) (hd : ∀ d ∈ delays, 0 < d.2)
    (ssrc : Int) :
    U32 (pickLsr ssrc lsrs delays).1 ∧ U32 (pickLsr ssrc lsrs delays).2.1 ∧
      ∀ d ∈ (pickLsr ssrc lsrs delays).2.2, 0 < d.2 := by
  have h0 : U32 0 := ⟨Int.le_refl 0, by decide⟩
  unfold pickLsr
  cases hlk : lookup ssrc lsrs with
  | none => exact ⟨h0, h0, hd⟩
  | some l =>
    have hl' : U32 l := hl _ (mem_of_dget (lookup_eq_dget .. ▸ hlk))
    cases delays with
    | nil => exact ⟨hl', h0, hd⟩
    | cons nd ds =>
      exact ⟨hl', dlsrOf_u32 nd.1 nd.2 (hd nd List.mem_cons_self), fun x hx => hd x (List.mem_cons_of_mem _ hx)⟩

theorem buildReports_good (lsrs : List (Int × Int)) (hl : ∀ y ∈ lsrs, U32 y.2) :
    ∀ (streams : List (Int × Stats)) (delays : List (Int × Int)),
      (∀ x ∈ streams, GoodStream x) → (∀ d ∈ delays, 0 < d.2) →
      ∃ infos streams', buildReports streams lsrs delays = .ok (infos, streams') ∧
        (∀ i ∈ infos, Fits i) ∧ infos.length = streams.length ∧ streams'.length = streams.length ∧
        (∀ x ∈ streams', GoodStream x) := by
  intro streams
  induction streams with
  | nil => intro d _ _; exact ⟨[], [], rfl, by simp, rfl, rfl, by simp⟩
  | cons x rest ih =>
    obtain ⟨ssrc, s⟩ := x
    intro delays hg hd
    obtain ⟨hs, g, hwf, hc⟩ := hg (ssrc, s) List.mem_cons_self
    simp only at hs hc
    subst hc
    obtain ⟨hl1, hdl, hds⟩ := pickLsr_good hl hd ssrc
    obtain ⟨infos, streams', hb, hf, hlen, hlen', hgood⟩ :=
      ih _ (fun x hx => hg x (List.mem_cons_of_mem _ hx)) hds
    simp only [buildReports, mkInfo_conc, hb]
    refine ⟨_, _, rfl, List.forall_mem_cons.2 ⟨info_fits g hwf ssrc _ _ hs hl1 hdl, hf⟩, by simp [hlen],
      by simp [hlen'], List.forall_mem_cons.2 ⟨⟨hs, g.closeInterval, wf_close g hwf, rfl⟩, hgood⟩⟩

theorem concatBytes_fits : ∀ infos : List RrInfo, (∀ i ∈ infos, Fits i) →
    ∃ b, concatBytes infos = .ok b ∧ b.length = 24 * infos.length := by
  intro infos
  induction infos with
  | nil => intro _; exact ⟨[], rfl, rfl⟩
  | cons i rest ih =>
    intro h
    obtain ⟨h1, h2⟩ := List.forall_mem_cons.1 h
    obtain ⟨b, hb, hbl⟩ := bytes_of_fits i h1
    obtain ⟨bs, hbs, hbsl⟩ := ih h2
    unfold concatBytes
    simp only [hb, hbs]
    exact ⟨_, rfl, by simp only [List.length_append, List.length_cons, hbl, hbsl]; omega⟩

theorem packU8_ok (n : Int) (h : 0 ≤ n ∧ n < 256) : packU8? n = some (u8 n.toNat) := by
  unfold packU8?; simp only [h, and_self, if_true]

theorem packU16_ok (n : Int) (h : 0 ≤ n ∧ n < 65536) : packU16? n = some (u16be n.toNat) := by
  unfold packU16?; simp only [h, and_self, if_true]

theorem packU32_ok (n : Int) (h : 0 ≤ n ∧ n < 4294967296) : packU32? n = some (u32be n.toNat) := by
  unfold packU32?; simp only [h, and_self, if_true]

theorem rrPacketBytes_eq (ssrc : Int) (hs : U32 ssrc) (infos : List RrInfo) (hf : ∀ i ∈ infos, Fits i)
    (hc : infos.length < 256) :
    ∃ body, concatBytes infos = .ok body ∧ body.length = 24 * infos.length ∧
      rrPacketBytes ssrc infos
        = .ok ((128 ||| infos.length) :: 201 :: (u16be (1 + 6 * infos.length) ++ (u32be ssrc.toNat ++ body))) := by
  obtain ⟨body, hbody, hlen⟩ := concatBytes_fits infos hf
  refine ⟨body, hbody, hlen, ?_⟩
  have hpl : (u32be ssrc.toNat ++ body).length = 4 * (1 + 6 * infos.length) := by
    rw [List.length_append, hlen]; show 4 + _ = _; omega
  have hor : (128 ||| infos.length) < 256 := Nat.or_lt_two_pow (n := 8) (by omega) (by omega)
  unfold rrPacketBytes
  rw [packU32_ok ssrc hs]
  simp only [hbody, hpl, Nat.mul_mod_right, ne_eq, not_true, if_false, Nat.mul_div_cancel_left _ (show 0 < 4 by decide)]
  rw [packU8_ok _ (by omega), packU8_ok _ (by decide), packU16_ok _ (by omega)]
  simp only [Int.toNat_natCast, u8, Nat.mod_eq_of_lt hor]
  rfl

theorem rrPacketBytes_ok (ssrc : Int) (hs : U32 ssrc) (infos : List RrInfo) (hf : ∀ i ∈ infos, Fits i)
    (hc : infos.length < 256) :
    ∃ b, rrPacketBytes ssrc infos = .ok b ∧ b.length = 8 + 24 * infos.length := by
  obtain ⟨body, _, hlen, h⟩ := rrPacketBytes_eq ssrc hs infos hf hc
  refine ⟨_, h, ?_⟩
  simp only [List.length_cons, List.length_append, hlen, u16be, u32be, List.length_nil]
  omega

theorem runRtcp_good (r : Receiver) (h : GoodRecv r) (rtcp : Option Int) (hr : ∀ s, rtcp = some s → U32 s)
    (delays : List (Int × Int)) (hd : ∀ d ∈ delays, 0 < d.2) (hc : r.streams.length < 256) :
    ∃ out r', r.runRtcp rtcp delays = .ok (out, r') ∧ GoodRecv r' ∧ r'.streams.length = r.streams.length ∧
      (∀ b, out = some b → b.length = 8 + 24 * r.streams.length) := by
  obtain ⟨infos, streams', hb, hf, hlen, hlen', hgood⟩ := buildReports_good r.lsr h.2 r.streams delays h.1 hd
  unfold Receiver.runRtcp
  simp only [hb]
  cases rtcp with
  | none => exact ⟨none, _, rfl, ⟨hgood, h.2⟩, hlen', by simp⟩
  | some ssrc =>
    simp only
    by_cases he : infos.isEmpty = true
    · simp only [he, if_true]
      exact ⟨none, _, rfl, ⟨hgood, h.2⟩, hlen', by simp⟩
    · obtain ⟨b, hbb, hbl⟩ := rrPacketBytes_ok ssrc (hr ssrc rfl) infos hf (by omega)
      simp only [he, hbb]
      refine ⟨some b, _, rfl, ⟨hgood, h.2⟩, hlen', ?_⟩
      intro b' hb'
      injection hb' with hb'
      subst hb'
      rw [hbl, hlen]

theorem statsLoop_good : ∀ (streams : List (Int × Stats)) (acc : Option (Int × Int × Int)),
    (∀ x ∈ streams, GoodStream x) → ∃ o, statsLoop streams acc = .ok o := by
  intro streams
  induction streams with
  | nil => intro acc _; exact ⟨acc, rfl⟩
  | cons x rest ih =>
    obtain ⟨k, s⟩ := x
    intro acc h
    obtain ⟨_, g, _, hc⟩ := h (k, s) List.mem_cons_self
    simp only at hc
    subst hc
    unfold statsLoop
    simp only [lost_conc]
    exact ih _ (fun x hx => h x (List.mem_cons_of_mem _ hx))

/-- Receiver states reachable by RTP packets (16-bit sequence number, 32-bit SSRC), sender reports and
iterations of `_run_rtcp` (any delays with positive denominators, fewer than 256 streams). -/
inductive RReach (rtcp : Option Int) : Receiver → Prop
  | init : RReach rtcp Receiver.init
  | rtp {r r' : Receiver} (ssrc seq ts arr : Int) : RReach rtcp r → U32 ssrc → (0 ≤ seq ∧ seq < 65536) →
      r.rtp ssrc seq ts arr = .ok r' → RReach rtcp r'
  | sr {r : Receiver} (ssrc ntp : Int) : RReach rtcp r → RReach rtcp (r.sr ssrc ntp)
  | rr {r r' : Receiver} {out : Option Bytes} (delays : List (Int × Int)) : RReach rtcp r →
      (∀ d ∈ delays, 0 < d.2) → r.streams.length < 256 →
      r.runRtcp rtcp delays = .ok (out, r') → RReach rtcp r'

theorem reach_good (rtcp : Option Int) (hr : ∀ s, rtcp = some s → U32 s) (r : Receiver) (h : RReach rtcp r) :
    GoodRecv r := by
  induction h with
  | init => exact ⟨by simp [Receiver.init], by simp [Receiver.init]⟩
  | rtp ssrc seq ts arr _ hs hq heq ih =>
    obtain ⟨r'', h1, h2, _⟩ := rtp_good _ ih ssrc seq ts arr hs hq
    rw [h1] at heq
    injection heq with heq
    subst heq
    exact h2
  | sr ssrc ntp _ ih => exact sr_good _ ih ssrc ntp
  | rr delays _ hd hc heq ih =>
    obtain ⟨out', r'', h1, h2, _⟩ := runRtcp_good _ ih rtcp hr delays hd hc
    rw [h1] at heq
    injection heq with heq
    injection heq with _ heq
    subst heq
    exact h2

end Aiortc.Lemmas.Stats
