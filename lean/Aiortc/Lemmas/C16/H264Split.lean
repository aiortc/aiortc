import Aiortc.Lemmas.C16.H264
/-! `_split_bitstream` inverts start-code framing (3- and 4-byte start codes). -/
namespace Aiortc.Lemmas.H264
open Aiortc Aiortc.Gen Aiortc.Model.H264

def NoStartCode (n : Bytes) : Prop := ∀ pre post, n ≠ pre ++ [0, 0, 1] ++ post

/-- A NAL unit that survives start-code framing: no `00 00 01` inside and it does not end in `00`. -/
def Clean (n : Bytes) : Prop := NoStartCode n ∧ n.getLast? ≠ some 0

/-- start code with `k` leading zero bytes (`k = 0`: 3-byte, `k = 1`: 4-byte) -/
def sc (k : Nat) : Bytes := zeros k ++ [0, 0, 1]

theorem NoStartCode.tail {b : Nat} {n : Bytes} (h : NoStartCode (b :: n)) : NoStartCode n := by
  intro pre post e
  exact h (b :: pre) post (by rw [e]; simp)

theorem findFrom_none (n : Bytes) : ∀ base, NoStartCode n → findFrom n base = none := by
  induction n with
  | nil => intro _ _; rfl
  | cons b t ih =>
    intro base h
    rw [findFrom]
    have : ¬ ((b :: t).take 3 = [0, 0, 1]) := by
      intro e
      apply h [] ((b :: t).drop 3)
      rw [← e]; simp
    rw [if_neg this]
    exact ih _ h.tail

theorem findFrom_sc (k : Nat) (hk : k ≤ 1) (tail : Bytes) (base : Nat) :
    findFrom (sc k ++ tail) base = some (base + k) := by
  rcases Nat.le_one_iff_eq_zero_or_eq_one.mp hk with rfl | rfl
  · simp [sc, zeros, findFrom]
  · simp [sc, zeros, findFrom, List.replicate]

theorem findFrom_clean (n : Bytes) : ∀ (k : Nat) (tail : Bytes) (base : Nat), k ≤ 1 → NoStartCode n →
    findFrom (n ++ sc k ++ tail) base = some (base + n.length + k) := by
  induction n with
  | nil => intro k tail base hk _; simpa using findFrom_sc k hk tail base
  | cons b t ih =>
    intro k tail base hk h
    rw [List.cons_append, List.cons_append, findFrom]
    have hne : ¬ ((b :: (t ++ sc k ++ tail)).take 3 = [0, 0, 1]) := by
      intro e
      match t, h with
      | [], _ | [_], _ =>
        rcases Nat.le_one_iff_eq_zero_or_eq_one.mp hk with rfl | rfl <;> simp [sc, zeros, List.replicate] at e
      | x :: y :: r, h =>
        simp at e
        apply h [] r
        simp [e]
    rw [if_neg hne, ih k tail (base + 1) hk h.tail]
    simp; omega

theorem find_at (pre rest : Bytes) : find (pre ++ rest) pre.length = findFrom rest pre.length := by
  unfold find; rw [List.drop_left' rfl]

theorem prev_byte (pre n tail : Bytes) (k k2 : Nat) (hc : Clean n) (hk2 : k2 ≤ 1) :
    ∃ p, getB (pre ++ sc k ++ (n ++ sc k2 ++ tail)) ((pre ++ sc k).length + n.length + k2 - 1) = .ok p ∧
      (p = 0 ↔ k2 = 1) := by
  rcases Nat.le_one_iff_eq_zero_or_eq_one.mp hk2 with rfl | rfl
  · rcases List.eq_nil_or_concat n with rfl | ⟨n0, x, h⟩
    · refine ⟨1, ?_, by simp⟩
      have e : pre ++ sc k ++ ([] ++ sc 0 ++ tail) = (pre ++ zeros k ++ [0, 0]) ++ 1 :: (sc 0 ++ tail) := by
        simp [sc, zeros, List.append_assoc]
      have e2 : (pre ++ sc k).length + ([] : Bytes).length + 0 - 1 = (pre ++ zeros k ++ [0, 0]).length := by
        simp [sc, zeros]
      rw [e, e2, getB_mid]
    · rw [List.concat_eq_append] at h; subst h
      refine ⟨x, ?_, ?_⟩
      · have e : pre ++ sc k ++ (n0 ++ [x] ++ sc 0 ++ tail) = (pre ++ sc k ++ n0) ++ x :: (sc 0 ++ tail) := by
          simp [List.append_assoc]
        have e2 : (pre ++ sc k).length + (n0 ++ [x]).length + 0 - 1 = (pre ++ sc k ++ n0).length := by
          simp; omega
        rw [e, e2, getB_mid]
      · have := hc.2
        simp at this
        simp [this]
  · refine ⟨0, ?_, by simp⟩
    have e : pre ++ sc k ++ (n ++ sc 1 ++ tail) = (pre ++ sc k ++ n) ++ 0 :: ([0, 0, 1] ++ tail) := by
      simp [sc, zeros, List.replicate, List.append_assoc]
    have e2 : (pre ++ sc k).length + n.length + 1 - 1 = (pre ++ sc k ++ n).length := by simp; omega
    rw [e, e2, getB_mid]

/-- the framed bitstream: every unit behind a 3-byte (`k = 0`) or 4-byte (`k = 1`) start code -/
def framed (items : List (Nat × Bytes)) : Bytes := (items.map fun it => sc it.1 ++ it.2).flatten

theorem framed_cons (k : Nat) (n : Bytes) (items : List (Nat × Bytes)) :
    framed ((k, n) :: items) = sc k ++ n ++ framed items := by
  simp [framed]

theorem splitLoop_framed : ∀ (items : List (Nat × Bytes)) (pre : Bytes) (fuel j : Nat),
    items ≠ [] → (∀ it ∈ items, it.1 ≤ 1 ∧ Clean it.2) → items.length < fuel →
    (∀ it ∈ items.head?, j ≤ it.1) →
    splitLoop (pre ++ framed items) fuel (pre.length + j) = .ok (items.map (·.2)) := by
  intro items
  induction items with
  | nil => intro _ _ _ h; exact absurd rfl h
  | cons it items ih =>
    intro pre fuel j _ hall hf hj
    obtain ⟨k, n⟩ := it
    obtain ⟨hk, hclean⟩ := hall (k, n) (by simp)
    have hjk : j ≤ k := hj (k, n) (by simp)
    simp only at hk hclean
    cases fuel with
    | zero => omega
    | succ f =>
      rw [splitLoop]
      have hbuf : pre ++ framed ((k, n) :: items) = pre ++ (sc k ++ (n ++ framed items)) := by
        rw [framed_cons]; simp [List.append_assoc]
      have h1 : find (pre ++ framed ((k, n) :: items)) (pre.length + j) = some (pre.length + k) := by
        have e : pre ++ framed ((k, n) :: items) = (pre ++ zeros j) ++ (sc (k - j) ++ (n ++ framed items)) := by
          rw [hbuf]; unfold sc; rw [zeros_split j k hjk]; simp [List.append_assoc]
        have e2 : pre.length + j = (pre ++ zeros j).length := by simp [zeros]
        rw [e, e2, find_at, findFrom_sc (k - j) (by omega)]
        simp [zeros]; omega
      rw [h1]
      simp only
      -- nal_start
      have hsclen : (sc k).length = k + 3 := by simp [sc, zeros]
      have hstart : pre.length + k + 3 = (pre ++ sc k).length := by simp [hsclen]; omega
      cases items with
      | nil =>
        have hbuf2 : pre ++ framed [(k, n)] = (pre ++ sc k) ++ n := by
          rw [hbuf]; simp [framed, List.append_assoc]
        have h2 : find (pre ++ framed [(k, n)]) (pre.length + k + 3) = none := by
          rw [hbuf2, hstart, find_at, findFrom_none n _ hclean.1]
        rw [h2]
        simp only
        have : slice (pre ++ framed [(k, n)]) (pre.length + k + 3) (pre ++ framed [(k, n)]).length = n := by
          rw [hbuf2, ← List.append_nil (pre ++ sc k ++ n)]
          exact slice_mid _ n [] hstart.symm (by rw [List.append_nil, List.length_append, hstart])
        rw [this]; rfl
      | cons it2 items2 =>
        obtain ⟨k2, n2⟩ := it2
        obtain ⟨hk2, _⟩ := hall (k2, n2) (by simp)
        simp only at hk2
        have hbuf2 : pre ++ framed ((k, n) :: (k2, n2) :: items2)
            = (pre ++ sc k) ++ (n ++ sc k2 ++ (n2 ++ framed items2)) := by
          rw [hbuf, framed_cons]; simp [List.append_assoc]
        have h2 : find (pre ++ framed ((k, n) :: (k2, n2) :: items2)) (pre.length + k + 3)
            = some (pre.length + k + 3 + n.length + k2) := by
          rw [hbuf2, hstart, find_at, findFrom_clean n k2 _ _ hk2 hclean.1]
        rw [h2]
        simp only
        have hbuf3 : pre ++ framed ((k, n) :: (k2, n2) :: items2)
            = (pre ++ sc k ++ n) ++ framed ((k2, n2) :: items2) := by
          rw [hbuf2, framed_cons]; simp [List.append_assoc]
        have hlen3 : pre.length + k + 3 + n.length + k2 = (pre ++ sc k ++ n).length + k2 := by
          simp [hsclen]; omega
        have hrec := ih (pre ++ sc k ++ n) f k2 (by simp) (fun it hit => hall it (by simp [hit]))
          (by simp at hf ⊢; omega) (by simp)
        rw [← hbuf3, ← hlen3] at hrec
        rw [hrec]
        obtain ⟨p, hp, hp0⟩ := prev_byte pre n (n2 ++ framed items2) k k2 hclean hk2
        rw [hbuf2]
        rw [hstart]
        rw [hp]
        simp only [Outcome.ok_bind_do, Outcome.pure_eq_ok, List.map_cons]
        have hsl : ∀ j, j = (pre ++ sc k).length + n.length →
            slice (pre ++ sc k ++ (n ++ sc k2 ++ (n2 ++ framed items2))) (pre ++ sc k).length j = n := by
          intro j hj
          rw [List.append_assoc n, ← List.append_assoc (pre ++ sc k)]
          exact slice_mid _ n _ rfl hj.symm
        by_cases h0 : p = 0
        · have hk21 := hp0.mp h0
          rw [if_pos h0, hsl _ (by omega)]
        · have hk20 : k2 = 0 := by
            have : ¬ k2 = 1 := fun h => h0 (hp0.mpr h)
            omega
          rw [if_neg h0, hsl _ (by omega)]

theorem framed_length_ge (items : List (Nat × Bytes)) : items.length ≤ (framed items).length := by
  induction items with
  | nil => simp
  | cons it items ih =>
    obtain ⟨k, n⟩ := it
    rw [framed_cons]
    simp [sc, zeros]; omega
