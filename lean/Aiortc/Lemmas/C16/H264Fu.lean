import Aiortc.Lemmas.C16.H264
/-! FU-A fragmentation: the loop of `_packetize_fu_a` as a pure function (`fuSpec`) and its properties. -/
namespace Aiortc.Lemmas.H264
open Aiortc Aiortc.Gen Aiortc.Model.H264

/-- The fragments the loop produces from the bytes not yet sent: `k` fragments left, the first
`larger` of them one byte longer. -/
def fuSpec (ind nal q : Nat) : Nat → Bytes → Nat → Bool → List Bytes
  | 0, _, _, _ => []
  | k + 1, rest, larger, first =>
    ([ind, if k = 0 then nal ||| 0x40 else if first then nal ||| 0x80 else nal]
        ++ rest.take (if larger > 0 then q + 1 else q))
      :: fuSpec ind nal q k (rest.drop (if larger > 0 then q + 1 else q)) (larger - 1) false

theorem fuLoop_eq_spec (data : Bytes) (ind nal q : Nat) (hq : 1 ≤ q) :
    ∀ (k fuel offset larger : Nat) (first : Bool), larger ≤ k → offset + k * q + larger = data.length → k < fuel →
      fuLoop data ind nal q fuel offset larger first = .ok (fuSpec ind nal q k (data.drop offset) larger first) := by
  intro k
  induction k with
  | zero =>
    intro fuel offset larger first hl he hf
    cases fuel with
    | zero => omega
    | succ f =>
      have : offset = data.length := by omega
      subst this
      simp [fuLoop, fuSpec]
  | succ k ih =>
    intro fuel offset larger first hl he hf
    cases fuel with
    | zero => omega
    | succ f =>
      rw [Nat.succ_mul] at he
      have hkq : k = 0 ∨ q ≤ k * q := by
        cases k with
        | zero => left; rfl
        | succ j => right; exact Nat.le_mul_of_pos_left q (Nat.succ_pos j)
      have c1 : offset < data.length := by omega
      rw [fuLoop, fuSpec]
      have hsz : q ≤ (if larger > 0 then q + 1 else q) ∧
          (if larger > 0 then q + 1 else q) + (larger - 1) = q + larger := by split <;> omega
      have hlg : (if larger > 0 then larger - 1 else larger) = larger - 1 := by split <;> omega
      generalize (if larger > 0 then q + 1 else q) = sz at hsz ⊢
      have c2 : (offset + sz = data.length) ↔ k = 0 := by
        constructor
        · intro h; rcases hkq with h0 | h1
          · exact h0
          · omega
        · intro h; subst h; omega
      have ih' := ih f (offset + sz) (larger - 1) false (by omega) (by omega) (by omega)
      simp only [c1, hlg, if_true, ih', Outcome.ok_bind_do, Outcome.pure_eq_ok, slice_add, c2, List.drop_drop]
      rw [apply_ite (fun x => [ind, x]), apply_ite (fun x => [ind, x])]

theorem fuSpec_length (ind nal q : Nat) : ∀ (k : Nat) (rest : Bytes) (larger : Nat) (first : Bool),
    (fuSpec ind nal q k rest larger first).length = k := by
  intro k
  induction k with
  | zero => intros; rfl
  | succ k ih => intro rest larger first; simp [fuSpec, ih]

def FuInv (q k : Nat) (rest : Bytes) (larger : Nat) : Prop := larger ≤ k ∧ k * q + larger = rest.length

theorem FuInv.step {q k larger : Nat} {rest : Bytes} (h : FuInv q (k + 1) rest larger) :
    FuInv q k (rest.drop (if larger > 0 then q + 1 else q)) (larger - 1) := by
  obtain ⟨hl, he⟩ := h
  rw [Nat.succ_mul] at he
  refine ⟨by omega, ?_⟩
  rw [List.length_drop]; split <;> omega

theorem FuInv.zero {q larger : Nat} {rest : Bytes} (h : FuInv q 0 rest larger) : rest = [] :=
  List.eq_nil_of_length_eq_zero (by have := h.1; have := h.2; omega)

theorem fuSpec_size (ind nal q : Nat) : ∀ (k : Nat) (rest : Bytes) (larger : Nat) (first : Bool),
    ∀ f ∈ fuSpec ind nal q k rest larger first, f.length ≤ 2 + (if larger > 0 then q + 1 else q) := by
  intro k
  induction k with
  | zero => intro _ _ _ f hf; simp [fuSpec] at hf
  | succ k ih =>
    intro rest larger first f hf
    simp only [fuSpec, List.mem_cons] at hf
    rcases hf with hf | hf
    · subst hf
      simp only [List.length_append, List.length_cons, List.length_nil, List.length_take]
      split <;> omega
    · have := ih _ _ _ f hf
      split at this <;> split <;> omega

theorem fuSpec_nonempty (ind nal q : Nat) (hq : 1 ≤ q) : ∀ (k : Nat) (rest : Bytes) (larger : Nat) (first : Bool),
    FuInv q k rest larger → ∀ f ∈ fuSpec ind nal q k rest larger first, 3 ≤ f.length := by
  intro k
  induction k with
  | zero => intro _ _ _ _ f hf; simp [fuSpec] at hf
  | succ k ih =>
    intro rest larger first h f hf
    simp only [fuSpec, List.mem_cons] at hf
    rcases hf with hf | hf
    · obtain ⟨hl, he⟩ := h
      rw [Nat.succ_mul] at he
      subst hf
      simp only [List.length_append, List.length_cons, List.length_nil, List.length_take]
      split <;> omega
    · exact ih _ _ _ h.step f hf

theorem fuSpec_payload (ind nal q : Nat) : ∀ (k : Nat) (rest : Bytes) (larger : Nat) (first : Bool),
    FuInv q k rest larger → ((fuSpec ind nal q k rest larger first).map (List.drop 2)).flatten = rest := by
  intro k
  induction k with
  | zero =>
    intro rest larger first h
    simp [fuSpec, h.zero]
  | succ k ih =>
    intro rest larger first h
    simp only [fuSpec, List.map_cons, List.flatten_cons]
    rw [ih _ _ _ h.step]
    simp

theorem fuSpec_headers_cont (ind nal q : Nat) : ∀ (k : Nat) (rest : Bytes) (larger : Nat),
    (fuSpec ind nal q (k + 1) rest larger false).map (List.take 2)
      = List.replicate k [ind, nal] ++ [[ind, nal ||| 0x40]] := by
  intro k
  induction k with
  | zero => intro rest larger; simp [fuSpec]
  | succ k ih =>
    intro rest larger
    rw [fuSpec, List.map_cons, ih]
    simp [List.replicate_succ]

theorem fuSpec_headers_first (ind nal q : Nat) (k : Nat) (rest : Bytes) (larger : Nat) :
    (fuSpec ind nal q (k + 2) rest larger true).map (List.take 2)
      = [ind, nal ||| 0x80] :: (List.replicate k [ind, nal] ++ [[ind, nal ||| 0x40]]) := by
  rw [fuSpec, List.map_cons, fuSpec_headers_cont]
  simp

theorem fuSpec_depayload_cont (b q : Nat) : ∀ (k : Nat) (rest : Bytes) (larger : Nat), FuInv q k rest larger →
    depayloadAll (fuSpec ((b &&& 0xE0) ||| 28) (b &&& 0x1F) q k rest larger false) = .ok rest := by
  intro k
  induction k with
  | zero =>
    intro rest larger h
    simp [fuSpec, depayloadAll, h.zero]
  | succ k ih =>
    intro rest larger h
    rw [fuSpec]
    have hs : (if k = 0 then (b &&& 0x1F) ||| 0x40 else if false = true then (b &&& 0x1F) ||| 0x80 else b &&& 0x1F)
        &&& 0x80 = 0 := by
      split
      · exact fu_end_nostart b
      · simp only [Bool.false_eq_true, if_false]; exact (fu_mid_bits b).1
    have h1 := depayload_fu_cont ((b &&& 0xE0) ||| 28) _ (rest.take (if larger > 0 then q + 1 else q))
      (fu_indicator_type b) hs
    rw [depayloadAll_cons_ok h1 (ih _ _ h.step), List.take_append_drop]

theorem fuSpec_depayload_first (b q : Nat) (hb : b < 256) (k : Nat) (rest : Bytes) (larger : Nat)
    (h : FuInv q (k + 2) rest larger) :
    depayloadAll (fuSpec ((b &&& 0xE0) ||| 28) (b &&& 0x1F) q (k + 2) rest larger true)
      = .ok (startCode ++ [b] ++ rest) := by
  rw [fuSpec]
  have h1 := depayload_fu_start ((b &&& 0xE0) ||| 28) ((b &&& 0x1F) ||| 0x80)
    (rest.take (if larger > 0 then q + 1 else q)) (fu_indicator_type b) (fu_start_bit b)
  rw [byte_fu_restore b hb] at h1
  simp only [Nat.succ_ne_zero, if_false, if_true]
  rw [depayloadAll_cons_ok h1 (fuSpec_depayload_cont b q (k + 1) _ _ h.step), List.append_assoc,
    List.take_append_drop]

/-- How `_packetize_fu_a` cuts `p` payload bytes under a budget of `M` bytes per fragment: `n = ⌈p / M⌉` fragments of
`p / n` bytes, the first `p % n` of them one byte longer; none exceeds the budget. -/
structure FuSplit (M p n : Nat) : Prop where
  pos : 1 ≤ n
  le : n ≤ p
  size_pos : 1 ≤ p / n
  size_le : p / n ≤ M
  larger_le : 0 < p % n → p / n + 1 ≤ M
  total : n * (p / n) + p % n = p
  rem_lt : p % n < n
  two : M < p → 2 ≤ n

theorem fuSplit (M p : Nat) (hM : 1 ≤ M) (hp : 1 ≤ p) : FuSplit M p ((p + M - 1) / M) := by
  obtain ⟨m, rfl⟩ : ∃ m, M = m + 1 := ⟨M - 1, by omega⟩
  generalize hn : (p + (m + 1) - 1) / (m + 1) = n
  -- `M * n + r = p + M - 1` with `r < M`; the products `m * n`, `m * p` are atoms for `omega`
  have hdm := Nat.div_add_mod (p + (m + 1) - 1) (m + 1)
  have hr : (p + (m + 1) - 1) % (m + 1) < m + 1 := Nat.mod_lt _ (by omega)
  rw [hn, Nat.add_mul, Nat.one_mul] at hdm
  have hn1 : 1 ≤ n := by
    rcases Nat.eq_zero_or_pos n with h | h
    · rw [h, Nat.mul_zero] at hdm; omega
    · exact h
  have hnp : n ≤ p := by
    rcases Nat.lt_or_ge p n with h | h
    · have := Nat.mul_le_mul_left m (Nat.succ_le_of_lt h)
      rw [Nat.mul_succ] at this
      omega
    · exact h
  have hub : p ≤ (m + 1) * n := by rw [Nat.add_mul, Nat.one_mul]; omega
  have hq2 : p / n ≤ m + 1 := Nat.div_le_of_le_mul (by rw [Nat.mul_comm]; exact hub)
  have htot := Nat.div_add_mod p n
  refine ⟨hn1, hnp, Nat.div_pos hnp hn1, hq2, fun hrem => ?_, htot, Nat.mod_lt _ hn1, fun h => ?_⟩
  · -- `n * q + r = p ≤ M * n` with `r > 0` gives `q < M`
    have : n * (p / n) < n * (m + 1) := by rw [Nat.mul_comm n (m + 1)]; omega
    exact Nat.lt_of_mul_lt_mul_left this
  · rcases Nat.lt_or_ge n 2 with h2 | h2
    · have : n = 1 := by omega
      rw [this, Nat.mul_one] at hub; omega
    · exact h2

theorem packetizeFuA_eq (b0 : Nat) (t : Bytes) (ht : 1 ≤ t.length) :
    packetizeFuA (b0 :: t) =
      .ok (fuSpec ((b0 &&& 0xE0) ||| 28) (b0 &&& 0x1F) (t.length / ((t.length + 1298 - 1) / 1298))
            ((t.length + 1298 - 1) / 1298) t (t.length % ((t.length + 1298 - 1) / 1298)) true) := by
  have sp := fuSplit 1298 t.length (by decide) ht
  have hq1 := sp.size_pos; have hnp := sp.le; have hdm := sp.total; have hmod := sp.rem_lt
  unfold packetizeFuA
  simp only [H264_PACKET_MAX, H264_FU_A_HEADER_SIZE, H264_NAL_HEADER_SIZE, H264_NAL_TYPE_FU_A, ceilDiv,
    List.length_cons, Nat.add_sub_cancel]
  rw [if_neg (by omega)]
  simp only [getB, List.getElem?_cons_zero, Outcome.ok_bind_do]
  have := fuLoop_eq_spec (b0 :: t) ((b0 &&& 0xE0) ||| 28) (b0 &&& 0x1F)
    (t.length / ((t.length + 1298 - 1) / 1298)) hq1 ((t.length + 1298 - 1) / 1298) ((b0 :: t).length + 1) 1
    (t.length % ((t.length + 1298 - 1) / 1298)) true (by omega)
    (by simp only [List.length_cons]; omega) (by simp only [List.length_cons]; omega)
  simpa using this
