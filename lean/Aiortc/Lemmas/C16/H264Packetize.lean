import Aiortc.Lemmas.C16.H264Fu
import Aiortc.Lemmas.C16.H264Stap
/-! `_packetize` as a whole: bounded, never raises, lossless (for valid NAL units). -/
namespace Aiortc.Lemmas.H264
open Aiortc Aiortc.Gen Aiortc.Model.H264

/-- A NAL unit the property quantifies over: at least two bytes, every element a byte, type 1..23. -/
def ValidNal (n : Bytes) : Prop :=
  2 ≤ n.length ∧ IsBytes n ∧ 1 ≤ n.headD 0 &&& 0x1F ∧ n.headD 0 &&& 0x1F < 24

instance (n : Bytes) : Decidable (ValidNal n) := by unfold ValidNal; infer_instance

theorem ValidNal.ne_nil {n : Bytes} (h : ValidNal n) : n ≠ [] := by
  intro e; subst e; have := h.1; simp at this

theorem packetizeLoop_none (f : Nat) (it : List Bytes) : packetizeLoop (f + 1) none it = .ok [] := by
  simp [packetizeLoop]

def Carries (payloads : List Bytes) (out : Bytes) : Prop :=
  (∀ p ∈ payloads, p.length ≤ 1300) ∧ depayloadAll payloads = .ok out

theorem Carries.nil : Carries [] [] := ⟨nofun, rfl⟩

theorem Carries.append {ps qs : List Bytes} {a b : Bytes} (h1 : Carries ps a) (h2 : Carries qs b) :
    Carries (ps ++ qs) (a ++ b) :=
  ⟨fun p hp => (List.mem_append.mp hp).elim (h1.1 p) (h2.1 p), depayloadAll_append_ok h1.2 h2.2⟩

theorem Carries.cons {p : Bytes} {qs : List Bytes} {a b : Bytes} (hl : p.length ≤ 1300) (hp : depayload p = .ok a)
    (h2 : Carries qs b) : Carries (p :: qs) (a ++ b) :=
  ⟨fun q hq => (List.mem_cons.mp hq).elim (fun e => e ▸ hl) (h2.1 q), depayloadAll_cons_ok hp h2.2⟩

/-- `_packetize_fu_a` on a unit of more than 1300 bytes: at least two fragments, of `q` or `q + 1 ≤ 1298` payload bytes
(`1298 = H264_PACKET_MAX - H264_FU_A_HEADER_SIZE`). -/
theorem packetizeFuA_big_eq (b0 : Nat) (t : Bytes) (ht : 1300 ≤ t.length) :
    ∃ k q r, packetizeFuA (b0 :: t) = .ok (fuSpec ((b0 &&& 0xE0) ||| 28) (b0 &&& 0x1F) q (k + 2) t r true) ∧
      FuInv q (k + 2) t r ∧ 1 ≤ q ∧ (if r > 0 then q + 1 else q) ≤ 1298 := by
  have sp := fuSplit 1298 t.length (by decide) (by omega)
  obtain ⟨k, hk⟩ : ∃ k, (t.length + 1298 - 1) / 1298 = k + 2 := ⟨_, (Nat.sub_add_cancel (sp.two (by omega))).symm⟩
  have h := packetizeFuA_eq b0 t (by omega)
  rw [hk] at sp h
  refine ⟨k, _, _, h, ⟨Nat.le_of_lt sp.rem_lt, sp.total⟩, sp.size_pos, ?_⟩
  split
  · exact sp.larger_le ‹_›
  · exact sp.size_le

theorem packetizeFuA_big (b0 : Nat) (t : Bytes) (hb : b0 < 256) (ht : 1300 ≤ t.length) :
    ∃ frags, packetizeFuA (b0 :: t) = .ok frags ∧ (∀ f ∈ frags, f.length ≤ 1300) ∧
      depayloadAll frags = .ok (startCode ++ (b0 :: t)) := by
  obtain ⟨k, q, r, h, hinv, _, hsz⟩ := packetizeFuA_big_eq b0 t ht
  refine ⟨_, h, fun f hf => ?_, ?_⟩
  · have := fuSpec_size _ _ _ _ _ _ _ f hf; omega
  · simpa using fuSpec_depayload_first b0 q hb k t r hinv

theorem packetizeLoop_spec : ∀ (fuel : Nat) (cur : Bytes) (it : List Bytes), it.length + 2 ≤ fuel →
    ValidNal cur → (∀ n ∈ it, ValidNal n) →
    ∃ payloads, packetizeLoop fuel (some cur) it = .ok payloads ∧ Carries payloads (withStartCodes (cur :: it)) := by
  intro fuel
  induction fuel with
  | zero => intro _ _ h; omega
  | succ f ih =>
    intro cur it hf hcur hit
    obtain ⟨f', rfl⟩ : ∃ f', f = f' + 1 := ⟨f - 1, by omega⟩
    obtain ⟨b0, t, rfl⟩ := List.exists_cons_of_ne_nil hcur.ne_nil
    have ⟨hlen, hbytes, ht1, ht2⟩ := hcur
    simp only [List.headD_cons] at ht1 ht2
    rw [packetizeLoop]
    by_cases hbig : (b0 :: t).length > H264_PACKET_MAX
    · -- FU-A
      rw [if_pos hbig]
      simp only [H264_PACKET_MAX, List.length_cons] at hbig
      obtain ⟨frags, hfr, hfc⟩ := packetizeFuA_big b0 t (hbytes b0 (by simp)) (by omega)
      simp only [hfr, Outcome.ok_bind_do]
      cases it with
      | nil => exact ⟨frags ++ [], by simp [packetizeLoop_none, iterNext], by simpa using Carries.append hfc .nil⟩
      | cons n r =>
        obtain ⟨pl, hpl, hc⟩ := ih n r (by simp at hf; omega) (hit n (by simp)) (fun m hm => hit m (by simp [hm]))
        exact ⟨frags ++ pl, by simp [hpl, iterNext], by simpa [List.append_assoc] using Carries.append hfc hc⟩
    · -- single NAL / STAP-A
      rw [if_neg hbig]
      simp only [H264_PACKET_MAX, List.length_cons, gt_iff_lt, Nat.not_lt] at hbig
      obtain ⟨agg, packet, next, rest, hst, hl, hnone, hshape⟩ :=
        packetizeStapA_spec (b0 :: t) it (by simp) (fun n hn => (hit n hn).ne_nil)
      simp only [hst, Outcome.ok_bind_do]
      have hpk : packet.length ≤ 1300 ∧ depayload packet = .ok (withStartCodes agg) := by
        rcases hshape with ⟨ha, hp⟩ | ⟨_, h, hh, hp, hsz, hlens⟩
        · subst ha hp
          refine ⟨by simpa using hbig, ?_⟩
          rw [depayload_single b0 t hlen ht1 ht2]
          simp
        · subst hp
          refine ⟨by simp; omega, ?_⟩
          exact depayload_stap_a h agg hh (by intro e; subst e; simp at *) hlens
      cases next with
      | none =>
        have hr := hnone rfl
        subst hr
        simp only [Option.toList_none, List.append_nil] at hl
        exact ⟨[packet], by simp [packetizeLoop_none], by simpa [hl] using Carries.cons hpk.1 hpk.2 .nil⟩
      | some n =>
        simp only [Option.toList_some, List.singleton_append] at hl
        have hagg : 1 ≤ agg.length := by
          rcases hshape with ⟨ha, _⟩ | ⟨h2, _⟩
          · subst ha; simp
          · omega
        have hlen2 : it.length + 1 = agg.length + (rest.length + 1) := by
          have := congrArg List.length hl
          simpa using this
        have hmem : ∀ m ∈ n :: rest, ValidNal m := by
          intro m hm
          have : m ∈ (b0 :: t) :: it := by rw [hl]; exact List.mem_append_right _ hm
          rcases List.mem_cons.mp this with h | h
          · subst h; exact hcur
          · exact hit m h
        obtain ⟨pl, hpl, hc⟩ := ih n rest (by omega) (hmem n (by simp)) (fun m hm => hmem m (by simp [hm]))
        exact ⟨packet :: pl, by simp [hpl], by rw [hl, withStartCodes_append]; exact Carries.cons hpk.1 hpk.2 hc⟩

theorem packetize_spec (nals : List Bytes) (hv : ∀ n ∈ nals, ValidNal n) :
    (packetize nals).Returns fun payloads => Carries payloads (withStartCodes nals) := by
  cases nals with
  | nil => exact ⟨[], by simp [packetize, packetizeLoop], .nil⟩
  | cons p it =>
    unfold packetize
    exact packetizeLoop_spec _ p it (by simp) (hv p (by simp)) (fun n hn => hv n (by simp [hn]))
end Aiortc.Lemmas.H264
