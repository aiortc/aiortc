import Aiortc.Model.H264
import Aiortc.Lemmas.Bytes
/-! Helper lemmas for C16 (H.264 part): byte/bit facts, `parse` on the three payload shapes. -/
namespace Aiortc.Lemmas.H264
open Aiortc Aiortc.Gen Aiortc.Model.H264

@[simp] theorem ok_bind {α β} (a : α) (f : α → Outcome β) : (Outcome.ok a >>= f) = f a := Outcome.ok_bind_do a f
@[simp] theorem pure_eq {α} (a : α) : (pure a : Outcome α) = Outcome.ok a := Outcome.pure_eq_ok a

theorem getB_ok (data : Bytes) (i : Nat) (h : i < data.length) : getB data i = .ok data[i] := by
  unfold getB
  rw [List.getElem?_eq_getElem h]

theorem getB_cons (b : Nat) (t : Bytes) : getB (b :: t) 0 = .ok b := rfl

theorem getB_mid (l : Bytes) (a : Nat) (r : Bytes) : getB (l ++ a :: r) l.length = .ok a := by
  simp [getB]

theorem byte_split : ∀ b < 256, (b &&& 0xE0) ||| (b &&& 0x1F) = b := by
  intro b hb
  rw [← Nat.and_or_distrib_left]
  exact (Nat.and_two_pow_sub_one_eq_mod b 8).trans (Nat.mod_eq_of_lt hb)

theorem fu_indicator_type (b : Nat) : ((b &&& 0xE0) ||| 28) &&& 0x1F = 28 := by
  simp [Nat.and_or_distrib_right, Nat.and_assoc]

theorem fu_indicator_nri (b : Nat) : ((b &&& 0xE0) ||| 28) &&& 0xE0 = b &&& 0xE0 := by
  simp [Nat.and_or_distrib_right, Nat.and_assoc]

theorem fu_start_bit (b : Nat) : ((b &&& 0x1F) ||| 0x80) &&& 0x80 = 0x80 := by
  simp [Nat.and_or_distrib_right, Nat.and_assoc]
theorem fu_start_type (b : Nat) : ((b &&& 0x1F) ||| 0x80) &&& 0x1F = b &&& 0x1F := by
  simp [Nat.and_or_distrib_right, Nat.and_assoc]
theorem byte_fu_restore (b : Nat) (hb : b < 256) :
    (((b &&& 0xE0) ||| 28) &&& 0xE0) ||| (((b &&& 0x1F) ||| 0x80) &&& 0x1F) = b := by
  rw [fu_indicator_nri, fu_start_type, byte_split b hb]
theorem fu_start_noend (b : Nat) : ((b &&& 0x1F) ||| 0x80) &&& 0x40 = 0 := by
  simp [Nat.and_or_distrib_right, Nat.and_assoc]
theorem fu_mid_bits (b : Nat) : (b &&& 0x1F) &&& 0x80 = 0 ∧ (b &&& 0x1F) &&& 0x40 = 0 := by
  simp [Nat.and_assoc]
theorem fu_end_bit (b : Nat) : ((b &&& 0x1F) ||| 0x40) &&& 0x40 = 0x40 := by
  simp [Nat.and_or_distrib_right, Nat.and_assoc]
theorem fu_end_nostart (b : Nat) : ((b &&& 0x1F) ||| 0x40) &&& 0x80 = 0 := by
  simp [Nat.and_or_distrib_right, Nat.and_assoc]
theorem fu_end_type (b : Nat) : ((b &&& 0x1F) ||| 0x40) &&& 0x1F = b &&& 0x1F := by
  simp [Nat.and_or_distrib_right, Nat.and_assoc]

theorem stap_hdr_f (h n : Nat) : (h ||| (n &&& 0x80)) &&& 0x1F = h &&& 0x1F := by
  simp [Nat.and_or_distrib_right, Nat.and_assoc]
theorem stap_hdr_nri (h n : Nat) : (h &&& 0x9F ||| (n &&& 0x60)) &&& 0x1F = h &&& 0x1F := by
  simp [Nat.and_or_distrib_right, Nat.and_assoc]
theorem stap_hdr_init (d : Nat) : (24 ||| (d &&& 0xE0)) &&& 0x1F = 24 := by
  simp [Nat.and_or_distrib_right, Nat.and_assoc]

/-- NAL units behind 4-byte start codes: what the depacketiser must reproduce. -/
def withStartCodes (nals : List Bytes) : Bytes := (nals.map fun n => startCode ++ n).flatten

/-- STAP-A body: 16-bit length + unit, for each aggregated unit. -/
def stapEnc (nals : List Bytes) : Bytes := (nals.map fun n => u16be n.length ++ n).flatten

@[simp] theorem withStartCodes_nil : withStartCodes [] = [] := rfl
@[simp] theorem withStartCodes_cons (n : Bytes) (ns : List Bytes) :
    withStartCodes (n :: ns) = startCode ++ n ++ withStartCodes ns := by
  simp [withStartCodes]
theorem withStartCodes_append (a b : List Bytes) :
    withStartCodes (a ++ b) = withStartCodes a ++ withStartCodes b := by
  simp [withStartCodes]
@[simp] theorem stapEnc_nil : stapEnc [] = [] := rfl
@[simp] theorem stapEnc_cons (n : Bytes) (ns : List Bytes) :
    stapEnc (n :: ns) = u16be n.length ++ n ++ stapEnc ns := by
  simp [stapEnc]
theorem stapEnc_append (a b : List Bytes) : stapEnc (a ++ b) = stapEnc a ++ stapEnc b := by
  simp [stapEnc]

theorem append_stapEnc_cons (pre n : Bytes) (ns : List Bytes) :
    pre ++ stapEnc (n :: ns) = (pre ++ u16be n.length ++ n) ++ stapEnc ns := by
  simp [List.append_assoc]

theorem length_append_unit (pre n : Bytes) : (pre ++ u16be n.length ++ n).length = pre.length + 2 + n.length := by
  simp; omega

theorem parse_single (b0 : Nat) (t : Bytes) (hlen : 2 ≤ (b0 :: t).length)
    (h1 : 1 ≤ b0 &&& 0x1F) (h2 : b0 &&& 0x1F < 24) :
    parse (b0 :: t) = .ok (true, startCode ++ b0 :: t) := by
  unfold parse
  rw [if_neg (by omega)]
  simp [getB, h1, h2]

theorem parse_fu_a (ind hdr : Nat) (payload : Bytes) (hi : ind &&& 0x1F = 28) :
    parse (ind :: hdr :: payload) =
      .ok ((hdr &&& 0x80) != 0,
        (if (hdr &&& 0x80) != 0 then startCode ++ [(ind &&& 0xE0) ||| (hdr &&& 0x1F)] else []) ++ payload) := by
  unfold parse
  simp [getB, hi, H264_NAL_TYPE_FU_A, H264_NAL_HEADER_SIZE]

/-- offsets recorded by the STAP-A loop for a well-formed body -/
def stapOffs : List Bytes → Nat → List Nat
  | [], _ => []
  | n :: ns, pos => (pos + 2) :: stapOffs ns (pos + 2 + n.length)

theorem stapOffsets_enc (nals : List Bytes) : ∀ (pre : Bytes) (fuel : Nat),
    (∀ n ∈ nals, n.length < 65536) → nals.length < fuel →
    stapOffsets (pre ++ stapEnc nals) fuel pre.length = .ok (stapOffs nals pre.length) := by
  induction nals with
  | nil =>
    intro pre fuel _ hf
    cases fuel with
    | zero => simp at hf
    | succ f => simp [stapOffsets, stapOffs]
  | cons n ns ih =>
    intro pre fuel hl hf
    cases fuel with
    | zero => simp at hf
    | succ f =>
      have hn : n.length < 65536 := hl n (by simp)
      have hsl : slice (pre ++ stapEnc (n :: ns)) pre.length (pre.length + 2) = u16be n.length := by
        rw [stapEnc_cons, List.append_assoc, ← List.append_assoc pre]
        exact slice_mid pre _ _ rfl rfl
      have hdata := append_stapEnc_cons pre n ns
      have hlen : (pre ++ stapEnc (n :: ns)).length = pre.length + 2 + n.length + (stapEnc ns).length := by
        simp; omega
      have c1 : pre.length < (pre ++ stapEnc (n :: ns)).length := by omega
      have c2 : ¬ ((pre ++ stapEnc (n :: ns)).length < pre.length + 2) := by omega
      have c3 : ¬ ((pre ++ stapEnc (n :: ns)).length < pre.length + 2 + n.length) := by omega
      rw [stapOffsets]
      simp only [H264_LENGTH_FIELD_SIZE, hsl, unpackU16_u16be _ hn, Outcome.ofStruct, Outcome.ok_bind_do, c1, c2, c3,
        if_true, if_false]
      have ih' := ih (pre ++ u16be n.length ++ n) f (fun m hm => hl m (by simp [hm])) (by simp at hf; omega)
      have hpl := length_append_unit pre n
      rw [hpl, ← hdata] at ih'
      rw [ih']
      simp [stapOffs]

theorem stapOutput_cons2 (data : Bytes) (a b : Nat) (l : List Nat) :
    stapOutput data (a :: b :: l) = startCode ++ slice data a (b - 2) ++ stapOutput data (b :: l) := by
  simp [stapOutput, pairwise, H264_LENGTH_FIELD_SIZE]

theorem stapOutput_single (data : Bytes) (a : Nat) : stapOutput data [a] = [] := by
  simp [stapOutput, pairwise]

theorem stapOutput_enc (nals : List Bytes) : ∀ (pre : Bytes), nals ≠ [] →
    stapOutput (pre ++ stapEnc nals) (stapOffs nals pre.length ++ [(pre ++ stapEnc nals).length + 2])
      = withStartCodes nals := by
  induction nals with
  | nil => intro _ h; exact absurd rfl h
  | cons n ns ih =>
    intro pre _
    have hdata := append_stapEnc_cons pre n ns
    have hpl := length_append_unit pre n
    have hsl : ∀ j, j = pre.length + 2 + n.length → slice (pre ++ stapEnc (n :: ns)) (pre.length + 2) j = n := by
      intro j hj
      rw [hdata]
      exact slice_mid _ _ _ (by simp) (by omega)
    cases ns with
    | nil =>
      have hsl := hsl ((pre ++ stapEnc [n]).length + 2 - 2) (by simp; omega)
      simp only [stapOffs, List.cons_append, List.nil_append, stapOutput_cons2, stapOutput_single, hsl]
      simp
    | cons m ms =>
      have ih' := ih (pre ++ u16be n.length ++ n) (by simp)
      rw [← hdata, hpl] at ih'
      have hsl := hsl (pre.length + 2 + n.length + 2 - 2) (by omega)
      simp only [stapOffs, List.cons_append] at ih' ⊢
      rw [stapOutput_cons2, hsl, ih']
      simp

/-- Every unit costs at least its length field: the fuel `parse` gives the offset loop suffices. -/
theorem length_le_stapEnc (nals : List Bytes) : nals.length ≤ (stapEnc nals).length := by
  induction nals with
  | nil => simp
  | cons n ns ih => simp; omega

theorem parse_stap_a (h : Nat) (nals : List Bytes) (hh : h &&& 0x1F = 24) (hne : nals ≠ [])
    (hl : ∀ n ∈ nals, n.length < 65536) :
    parse (h :: stapEnc nals) = .ok (true, withStartCodes nals) := by
  have hlen2 : 2 ≤ (stapEnc nals).length := by
    cases nals with
    | nil => exact absurd rfl hne
    | cons n ns => simp
  have ho := stapOffsets_enc nals [h] ((h :: stapEnc nals).length + 1) hl (by
    have := length_le_stapEnc nals
    simp; omega)
  have hout := stapOutput_enc nals [h] hne
  simp only [List.singleton_append, List.length_singleton] at ho hout
  unfold parse
  rw [if_neg (by simp; omega)]
  simp only [getB, List.getElem?_cons_zero, Outcome.ok_bind_do, hh, H264_NAL_HEADER_SIZE, H264_NAL_TYPE_FU_A,
    H264_NAL_TYPE_STAP_A, H264_LENGTH_FIELD_SIZE, ho, hout]
  simp

theorem depayloadAll_cons_ok {p : Bytes} {ps : List Bytes} {a b : Bytes}
    (h1 : depayload p = .ok a) (h2 : depayloadAll ps = .ok b) : depayloadAll (p :: ps) = .ok (a ++ b) := by
  simp [depayloadAll, h1, h2]

theorem depayloadAll_append_ok {xs ys : List Bytes} {a b : Bytes}
    (h1 : depayloadAll xs = .ok a) (h2 : depayloadAll ys = .ok b) : depayloadAll (xs ++ ys) = .ok (a ++ b) := by
  induction xs generalizing a with
  | nil => cases h1; exact h2
  | cons x xs ih =>
    obtain ⟨ax, hx, h1⟩ := Outcome.bind_eq_ok.1 (show (depayload x).bind _ = _ from h1)
    obtain ⟨axs, hxs, h1⟩ := Outcome.bind_eq_ok.1 h1
    cases h1
    rw [List.cons_append, depayloadAll_cons_ok hx (ih hxs), List.append_assoc]

theorem depayload_single (b0 : Nat) (t : Bytes) (hlen : 2 ≤ (b0 :: t).length)
    (h1 : 1 ≤ b0 &&& 0x1F) (h2 : b0 &&& 0x1F < 24) : depayload (b0 :: t) = .ok (startCode ++ b0 :: t) := by
  simp [depayload, parse_single b0 t hlen h1 h2]

theorem depayload_fu_cont (ind hdr : Nat) (payload : Bytes) (hi : ind &&& 0x1F = 28) (hs : hdr &&& 0x80 = 0) :
    depayload ([ind, hdr] ++ payload) = .ok payload := by
  simp [depayload, parse_fu_a ind hdr payload hi, hs]

theorem depayload_fu_start (ind hdr : Nat) (payload : Bytes) (hi : ind &&& 0x1F = 28) (hs : hdr &&& 0x80 = 0x80) :
    depayload ([ind, hdr] ++ payload) = .ok (startCode ++ [(ind &&& 0xE0) ||| (hdr &&& 0x1F)] ++ payload) := by
  simp [depayload, parse_fu_a ind hdr payload hi, hs]

theorem depayload_stap_a (h : Nat) (nals : List Bytes) (hh : h &&& 0x1F = 24) (hne : nals ≠ [])
    (hl : ∀ n ∈ nals, n.length < 65536) : depayload (h :: stapEnc nals) = .ok (withStartCodes nals) := by
  simp [depayload, parse_stap_a h nals hh hne hl]
