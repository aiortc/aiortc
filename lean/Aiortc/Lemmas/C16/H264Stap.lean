import Aiortc.Lemmas.C16.H264
/-! STAP-A aggregation: what `_packetize_stap_a` returns for non-empty NAL units. -/
namespace Aiortc.Lemmas.H264
open Aiortc Aiortc.Gen Aiortc.Model.H264

theorem packU16_nat (n : Nat) (h : n < 65536) : packU16? (n : Int) = some (u16be n) := by
  unfold packU16?
  split
  · rw [Int.toNat_natCast]
  · omega

/-- STAP header after one more unit with first byte `b`: F bit or-ed in, NRI raised to the maximum. -/
def stapHdr (h b : Nat) : Nat :=
  if (h ||| (b &&& 0x80)) &&& 0x60 < b &&& 0x60 then (h ||| (b &&& 0x80)) &&& 0x9F ||| (b &&& 0x60)
  else h ||| (b &&& 0x80)

theorem stapHdr_type (h b : Nat) : stapHdr h b &&& 0x1F = h &&& 0x1F := by
  unfold stapHdr; split
  · rw [stap_hdr_nri, stap_hdr_f]
  · rw [stap_hdr_f]

theorem stapBody_cons (b : Nat) (t : Bytes) (avail : Int) (counter h : Nat) (payload : Bytes)
    (hlen : (b :: t).length < 65536) :
    stapBody (b :: t) avail counter h payload = .ok
      (avail - ((H264_LENGTH_FIELD_SIZE + (b :: t).length : Nat) : Int), counter + 1, stapHdr h b,
       payload ++ u16be (b :: t).length ++ (b :: t)) := by
  have hpk : packU16? (((b :: t).length : Nat) : Int) = some (u16be (b :: t).length) :=
    packU16_nat _ hlen
  unfold stapBody
  rw [getB_cons, hpk]
  rfl

theorem stapLoop_stop (it : List Bytes) (nalu : Bytes) (avail : Int) (counter h : Nat) (payload : Bytes)
    (hc : ¬ ((nalu.length : Int) ≤ avail ∧ counter < 9)) :
    stapLoop it nalu avail counter h payload = .ok ⟨counter, h, payload, some nalu, it⟩ := by
  cases it <;> rw [stapLoop, if_neg hc]

/-- What the aggregation loop leaves in `st` when started on the units `all` (current one first) with `avail` bytes
left, `counter` units and header `h` behind `payload`: it has appended the units `agg`, a prefix of `all`. -/
structure StapPost (all : List Bytes) (avail : Int) (counter h : Nat) (payload : Bytes) (agg : List Bytes)
    (st : StapSt) : Prop where
  payload : st.payload = payload ++ stapEnc agg
  counter : st.counter = counter + agg.length
  split : all = agg ++ (st.nalu.toList ++ st.rest)
  drained : st.nalu = none → st.rest = []
  type : st.stap_header &&& 0x1F = h &&& 0x1F
  size : agg ≠ [] → ((stapEnc agg).length : Int) ≤ avail + 2
  lens : ∀ n ∈ agg, n.length < 65536

/-- Nothing aggregated: the loop condition failed, or the iterator was exhausted. -/
theorem StapPost.refl (st : StapSt) (avail : Int) (hd : st.nalu = none → st.rest = []) :
    StapPost (st.nalu.toList ++ st.rest) avail st.counter st.stap_header st.payload [] st :=
  ⟨by simp, by simp, by simp, hd, rfl, by simp, by simp⟩

/-- One round of the loop in front of a run that aggregated `agg`. -/
theorem StapPost.cons {b : Nat} {t : Bytes} {all : List Bytes} {avail : Int} {counter h : Nat} {payload : Bytes}
    {agg : List Bytes} {st : StapSt} (hc : ((b :: t).length : Int) ≤ avail ∧ counter < 9) (hav : avail ≤ 65535)
    (p : StapPost all (avail - ((H264_LENGTH_FIELD_SIZE + (b :: t).length : Nat) : Int)) (counter + 1) (stapHdr h b)
      (payload ++ u16be (b :: t).length ++ (b :: t)) agg st) :
    StapPost ((b :: t) :: all) avail counter h payload ((b :: t) :: agg) st where
  payload := by rw [p.payload]; simp [List.append_assoc]
  counter := by rw [p.counter]; simp; omega
  split := by rw [p.split]; simp
  drained := p.drained
  type := by rw [p.type, stapHdr_type]
  size := fun _ => by
    by_cases ha : agg = []
    · subst ha; simp at hc ⊢; omega
    · have := p.size ha
      simp [H264_LENGTH_FIELD_SIZE] at this hc ⊢; omega
  lens := fun n hn => by
    rcases List.mem_cons.1 hn with rfl | hn
    · simp at hc ⊢; omega
    · exact p.lens n hn

theorem stapLoop_spec : ∀ (rest : List Bytes) (nalu : Bytes) (avail : Int) (counter h : Nat) (payload : Bytes),
    nalu ≠ [] → (∀ n ∈ rest, n ≠ []) → avail ≤ 65535 →
    ∃ (agg : List Bytes) (st : StapSt), stapLoop rest nalu avail counter h payload = .ok st ∧
      StapPost (nalu :: rest) avail counter h payload agg st := by
  intro rest
  induction rest with
  | nil =>
    intro nalu avail counter h payload hne _ hav
    by_cases hc : (nalu.length : Int) ≤ avail ∧ counter < 9
    · obtain ⟨b, t, rfl⟩ := List.exists_cons_of_ne_nil hne
      rw [stapLoop, if_pos hc, stapBody_cons b t avail counter h payload (by omega)]
      exact ⟨[b :: t], _, rfl, .cons hc hav (.refl ⟨_, _, _, none, []⟩ _ fun _ => rfl)⟩
    · rw [stapLoop_stop _ _ _ _ _ _ hc]
      exact ⟨[], _, rfl, .refl ⟨counter, h, payload, some nalu, []⟩ avail (by simp)⟩
  | cons next rest ih =>
    intro nalu avail counter h payload hne hrest hav
    by_cases hc : (nalu.length : Int) ≤ avail ∧ counter < 9
    · obtain ⟨b, t, rfl⟩ := List.exists_cons_of_ne_nil hne
      rw [stapLoop, if_pos hc, stapBody_cons b t avail counter h payload (by omega)]
      obtain ⟨agg, st, hst, p⟩ := ih next (avail - ((H264_LENGTH_FIELD_SIZE + (b :: t).length : Nat) : Int))
        (counter + 1) (stapHdr h b) (payload ++ u16be (b :: t).length ++ (b :: t))
        (hrest next (by simp)) (fun n hn => hrest n (by simp [hn])) (by simp [H264_LENGTH_FIELD_SIZE]; omega)
      exact ⟨(b :: t) :: agg, st, hst, .cons hc hav p⟩
    · rw [stapLoop_stop _ _ _ _ _ _ hc]
      exact ⟨[], _, rfl, .refl ⟨counter, h, payload, some nalu, next :: rest⟩ avail (by simp)⟩

theorem packetizeStapA_spec (data : Bytes) (it : List Bytes) (hd : data ≠ []) (hit : ∀ n ∈ it, n ≠ []) :
    ∃ (agg : List Bytes) (packet : Bytes) (next : Option Bytes) (rest : List Bytes),
      packetizeStapA data it = .ok (packet, next, rest) ∧
      data :: it = agg ++ (next.toList ++ rest) ∧ (next = none → rest = []) ∧
      ((agg = [data] ∧ packet = data) ∨
       (2 ≤ agg.length ∧ ∃ h, h &&& 0x1F = 24 ∧ packet = h :: stapEnc agg ∧ (stapEnc agg).length ≤ 1299 ∧
          ∀ n ∈ agg, n.length < 65536)) := by
  obtain ⟨b, t, rfl⟩ := List.exists_cons_of_ne_nil hd
  obtain ⟨agg, st, hst, ⟨hp, hcn, hl, hnone, hh, hsz, hlen⟩⟩ :=
    stapLoop_spec it (b :: t) (((H264_PACKET_MAX : Nat) : Int) - ((H264_STAP_A_HEADER_SIZE : Nat) : Int)) 0
      (H264_NAL_TYPE_STAP_A ||| (b &&& 0xE0)) [] hd hit (by simp [H264_PACKET_MAX, H264_STAP_A_HEADER_SIZE])
  unfold packetizeStapA
  simp only [getB_cons, Outcome.ok_bind_do, hst, Outcome.pure_eq_ok]
  simp only [Nat.zero_add, List.nil_append] at hcn hp
  match agg, hcn, hl, hp, hsz, hlen with
  | [], hcn, hl, hp, _, _ =>
    -- counter = 0: the unit does not fit an aggregate; it is sent alone and the next one is fetched
    simp only [List.length_nil] at hcn
    simp only [List.nil_append] at hl
    have hsn : st.nalu = some (b :: t) ∧ st.rest = it := by
      cases hn : st.nalu with
      | none => rw [hn, hnone hn] at hl; simp at hl
      | some x => rw [hn] at hl; simp at hl; exact ⟨by rw [hl.1], hl.2.symm⟩
    rw [hcn, hsn.2]
    cases it with
    | nil => exact ⟨[b :: t], b :: t, none, [], by simp, by simp, by simp, Or.inl ⟨rfl, rfl⟩⟩
    | cons n r => exact ⟨[b :: t], b :: t, some n, r, by simp, by simp, by simp, Or.inl ⟨rfl, rfl⟩⟩
  | [x], hcn, hl, hp, _, _ =>
    simp only [List.length_singleton] at hcn
    have hx : x = b :: t := by simp at hl; exact hl.1.symm
    subst hx
    rw [hcn]
    exact ⟨[b :: t], b :: t, st.nalu, st.rest, by simp, hl, hnone, Or.inl ⟨rfl, rfl⟩⟩
  | x :: y :: zs, hcn, hl, hp, hsz, hlen =>
    simp only [List.length_cons] at hcn
    have hc2 : ¬ (st.counter = 0) := by omega
    have hc3 : ¬ (st.counter ≤ 1) := by omega
    refine ⟨x :: y :: zs, [st.stap_header] ++ st.payload, st.nalu, st.rest, ?_, hl, hnone, Or.inr ⟨by simp, ?_⟩⟩
    · simp only [hc2, hc3, if_false]
    · refine ⟨st.stap_header, ?_, by rw [hp]; rfl, ?_, hlen⟩
      · rw [hh]; exact stap_hdr_init b
      · have := hsz (by simp)
        simp only [H264_PACKET_MAX, H264_STAP_A_HEADER_SIZE] at this
        omega
