import Aiortc.Model.Vp8
import Aiortc.Lemmas.Bytes
/-! Helper lemmas for C16 (VP8 part): the descriptor's wire form, `parse` read in stages against it, and the
packetiser loop as a pure function. -/
namespace Aiortc.Lemmas.Vp8
open Aiortc Aiortc.Gen Aiortc.Model.Vp8

/-- The descriptor `Vp8Encoder._packetize` uses: S bit, partition 0, 15-bit picture id, no extensions. -/
def D (s pic : Nat) : Descr := { partition_start := s, partition_id := 0, picture_id := some pic }

/-- Its wire form: `X|S<<4`, `I`, then the picture id in 7 or 15 bits (M bit set). -/
def hdr (s pic : Nat) : Bytes :=
  [0x80 ||| (s <<< 4), 0x80] ++ (if pic < 128 then [pic] else u16be (0x8000 ||| pic))

theorem pure_eq {α} (a : α) : (pure a : Outcome α) = Outcome.ok a := Outcome.pure_eq_ok a

theorem packB_ok (n : Nat) (h : n < 256) : packB n = .ok [n] := by
  unfold packB packU8?
  split
  · simp [Outcome.ofStruct, u8, Nat.mod_eq_of_lt h]
  · omega

theorem packH_ok (n : Nat) (h : n < 65536) : packH n = .ok (u16be n) := by
  unfold packH packU16?
  split
  · simp [Outcome.ofStruct]
  · omega

theorem or_8000 (pic : Nat) (h : pic < 32768) : 0x8000 ||| pic = 32768 + pic :=
  or_eq_add 1 pic 15 h

theorem and_7fff (pic : Nat) (h : pic < 32768) : (32768 + pic) &&& 0x7FFF = pic :=
  (Nat.and_two_pow_sub_one_eq_mod (32768 + pic) 15).trans ((Nat.add_mod_left _ _).trans (Nat.mod_eq_of_lt h))

def picB : Option Nat → Bytes
  | none => []
  | some p => if p < 128 then [p] else u16be (0x8000 ||| p)

def tl0B : Option Nat → Bytes
  | none => []
  | some t => [t]

def tkB (tid : Option (Nat × Nat)) (k : Option Nat) : Bytes :=
  if tid.isSome ∨ k.isSome then [tkVal tid k] else []

theorem tk_bits : ∀ (t0 : Fin 4) (t1 : Fin 2) (k : Fin 32),
    tkVal (some (t0.val, t1.val)) (some k.val) < 256 ∧ (tkVal (some (t0.val, t1.val)) (some k.val) >>> 6) &&& 3 = t0.val ∧
    (tkVal (some (t0.val, t1.val)) (some k.val) >>> 5) &&& 1 = t1.val ∧
    tkVal (some (t0.val, t1.val)) (some k.val) &&& 0x1F = k.val := by
  decide

theorem tkVal_bits (tid : Option (Nat × Nat)) (k : Option Nat) (ht : ∀ t ∈ tid, t.1 < 4 ∧ t.2 < 2)
    (hk : ∀ x ∈ k, x < 32) :
    tkVal tid k < 256 ∧ (∀ t ∈ tid, ((tkVal tid k >>> 6) &&& 3, (tkVal tid k >>> 5) &&& 1) = t)
      ∧ ∀ x ∈ k, tkVal tid k &&& 0x1F = x := by
  rcases tid with _ | ⟨t0, t1⟩ <;> rcases k with _ | x
  · exact ⟨by decide, nofun, nofun⟩
  · have := tk_bits 0 0 ⟨x, hk x rfl⟩
    exact ⟨this.1, nofun, fun _ h => Option.some.inj h ▸ this.2.2.2⟩
  · obtain ⟨h0, h1⟩ := ht _ rfl
    have := tk_bits ⟨t0, h0⟩ ⟨t1, h1⟩ 0
    rw [show tkVal (some (t0, t1)) none = tkVal (some (t0, t1)) (some 0) from (Nat.or_zero _).symm]
    exact ⟨this.1, fun _ h => Option.some.inj h ▸ Prod.ext this.2.1 this.2.2.1, nofun⟩
  · obtain ⟨h0, h1⟩ := ht _ rfl
    have := tk_bits ⟨t0, h0⟩ ⟨t1, h1⟩ ⟨x, hk x rfl⟩
    exact ⟨this.1, fun _ h => Option.some.inj h ▸ Prod.ext this.2.1 this.2.2.1,
      fun _ h => Option.some.inj h ▸ this.2.2.2⟩

theorem picBytes_ok (o : Option Nat) (h : ∀ p ∈ o, p < 32768) : picBytes o = .ok (picB o) := by
  cases o with
  | none => rfl
  | some p =>
    have hp := h p rfl
    show (if p < 128 then packB p else packH ((1 <<< 15) ||| p)) = _
    by_cases hlt : p < 128
    · rw [if_pos hlt, packB_ok p (by omega)]; simp only [picB, hlt, if_true]
    · rw [if_neg hlt, packH_ok _ (by rw [show (1 <<< 15 : Nat) = 0x8000 from rfl, or_8000 p hp]; omega)]
      simp only [picB, hlt, if_false]; rfl

theorem tl0Bytes_ok (o : Option Nat) (h : ∀ t ∈ o, t < 256) : tl0Bytes o = .ok (tl0B o) := by
  cases o with
  | none => rfl
  | some t => exact packB_ok t (h t rfl)

theorem tkBytes_ok (tid : Option (Nat × Nat)) (k : Option Nat) (ht : ∀ t ∈ tid, t.1 < 4 ∧ t.2 < 2)
    (hk : ∀ x ∈ k, x < 32) : tkBytes tid k = .ok (tkB tid k) := by
  unfold tkBytes tkB
  split
  · rw [packB_ok _ (tkVal_bits tid k ht hk).1]
  · rfl

theorem extOctet_bits (d : Descr) :
    extOctet d < 256 ∧ ((extOctet d >>> 7) &&& 1 ≠ 0 ↔ d.picture_id.isSome) ∧ ((extOctet d >>> 6) &&& 1 ≠ 0 ↔ d.tl0picidx.isSome)
    ∧ ((extOctet d >>> 5) &&& 1 ≠ 0 ↔ d.tid.isSome) ∧ ((extOctet d >>> 4) &&& 1 ≠ 0 ↔ d.keyidx.isSome)
    ∧ (extOctet d = 0 ↔ d.picture_id = none ∧ d.tl0picidx = none ∧ d.tid = none ∧ d.keyidx = none) := by
  obtain ⟨s, pid, pic, tl0, tid, k⟩ := d
  cases pic <;> cases tl0 <;> cases tid <;> cases k <;> simp [extOctet]

def InRange (d : Descr) : Prop :=
  d.partition_start < 2 ∧ d.partition_id < 16 ∧ (∀ p ∈ d.picture_id, p < 32768) ∧
  (∀ t ∈ d.tl0picidx, t < 256) ∧ (∀ t ∈ d.tid, t.1 < 4 ∧ t.2 < 2) ∧ (∀ k ∈ d.keyidx, k < 32)

def xOctet (s pid : Nat) : Nat := (1 <<< 7) ||| ((s <<< 4) ||| pid)
def plainOctet (s pid : Nat) : Nat := (s <<< 4) ||| pid

/-- The first octet is a byte and `parse` reads X, S and the partition id back from it. -/
theorem xOctet_bits : ∀ (s : Fin 2) (pid : Fin 16),
    xOctet s pid < 256 ∧ xOctet s pid >>> 7 ≠ 0 ∧ (xOctet s pid >>> 4) &&& 1 = s.val ∧ xOctet s pid &&& 0xF = pid.val := by
  decide

theorem plainOctet_bits : ∀ (s : Fin 2) (pid : Fin 16),
    plainOctet s pid < 256 ∧ ¬ plainOctet s pid >>> 7 ≠ 0 ∧ (plainOctet s pid >>> 4) &&& 1 = s.val ∧
    plainOctet s pid &&& 0xF = pid.val := by
  decide

/-- Closed form of `__bytes__` for in-range fields. -/
def wire (d : Descr) : Bytes :=
  if extOctet d ≠ 0 then
    [xOctet d.partition_start d.partition_id, extOctet d] ++
      picB d.picture_id ++ tl0B d.tl0picidx ++ tkB d.tid d.keyidx
  else [plainOctet d.partition_start d.partition_id]

theorem toBytes_wire (d : Descr) (h : InRange d) : d.toBytes = .ok (wire d) := by
  obtain ⟨hs, hpid, hpic, htl0, htid, hk⟩ := h
  have hx := (xOctet_bits ⟨_, hs⟩ ⟨_, hpid⟩).1
  have hp := (plainOctet_bits ⟨_, hs⟩ ⟨_, hpid⟩).1
  unfold xOctet at hx; unfold plainOctet at hp
  unfold Descr.toBytes wire xOctet plainOctet
  by_cases hext : extOctet d ≠ 0
  · rw [if_pos hext, if_pos hext]
    rw [packB_ok _ hx, Outcome.ok_bind_do, packB_ok _ (extOctet_bits d).1, Outcome.ok_bind_do, picBytes_ok _ hpic,
      Outcome.ok_bind_do, tl0Bytes_ok _ htl0, Outcome.ok_bind_do, tkBytes_ok _ _ htid hk, Outcome.ok_bind_do]
    rfl
  · rw [if_neg hext, if_neg hext]
    exact packB_ok _ hp

def readPic (data : Bytes) (flag pos : Nat) : Outcome (Option Nat × Nat) :=
  if flag ≠ 0 then
    match data[pos]? with
    | none => .valueError
    | some b =>
      if b &&& 0x80 ≠ 0 then
        if data.length < pos + 2 then .valueError
        else match unpackU16? (slice data pos (pos + 2)) with
          | some v => .ok (some (v &&& 0x7FFF), pos + 2)
          | none => .crash "struct.error"
      else .ok (some b, pos + 1)
  else .ok (none, pos)

def readTl0 (data : Bytes) (flag pos : Nat) : Outcome (Option Nat × Nat) :=
  if flag ≠ 0 then
    match data[pos]? with
    | none => .valueError
    | some b => .ok (some b, pos + 1)
  else .ok (none, pos)

def readTk (data : Bytes) (flagT flagK pos : Nat) : Outcome (Option (Nat × Nat) × Option Nat × Bytes) :=
  if flagT ≠ 0 ∨ flagK ≠ 0 then
    match data[pos]? with
    | none => .valueError
    | some t_k =>
      .ok (if flagT ≠ 0 then some ((t_k >>> 6) &&& 3, (t_k >>> 5) &&& 1) else none,
        if flagK ≠ 0 then some (t_k &&& 0x1F) else none, data.drop (pos + 1))
  else .ok (none, none, data.drop pos)

section
open Aiortc.Rtp

/-! the three stages raise nothing but `ValueError`, whatever the data and the position -/

theorem readPic_safe (data : Bytes) (flag pos : Nat) : Safe (readPic data flag pos) := by
  unfold readPic
  refine safe_ite ?_ (safe_ok _)
  split
  · exact safe_ve
  · refine safe_ite (safe_ite_of (fun _ => safe_ve) fun h => ?_) (safe_ok _)
    obtain ⟨v, hv⟩ := unpackU16_slice data pos (by omega)
    rw [hv]; exact safe_ok _

theorem readTl0_safe (data : Bytes) (flag pos : Nat) : Safe (readTl0 data flag pos) := by
  unfold readTl0
  refine safe_ite ?_ (safe_ok _)
  split
  · exact safe_ve
  · exact safe_ok _

theorem readTk_safe (data : Bytes) (t k pos : Nat) : Safe (readTk data t k pos) := by
  unfold readTk
  refine safe_ite ?_ (safe_ok _)
  split
  · exact safe_ve
  · exact safe_ok _

end

theorem parse_cons (octet : Nat) (tl : Bytes) :
    parse (octet :: tl) =
      if octet >>> 7 ≠ 0 then
        match tl.head? with
        | none => .valueError
        | some e =>
          (readPic (octet :: tl) ((e >>> 7) &&& 1) 2).bind fun r1 =>
          (readTl0 (octet :: tl) ((e >>> 6) &&& 1) r1.2).bind fun r2 =>
          (readTk (octet :: tl) ((e >>> 5) &&& 1) ((e >>> 4) &&& 1) r2.2).bind fun r3 =>
          .ok (⟨(octet >>> 4) &&& 1, octet &&& 0xF, r1.1, r2.1, r3.1, r3.2.1⟩, r3.2.2)
      else .ok (⟨(octet >>> 4) &&& 1, octet &&& 0xF, none, none, none, none⟩, tl) := by
  unfold parse readPic readTl0 readTk
  by_cases hx : octet >>> 7 ≠ 0
  · simp only [List.getElem?_cons_succ, List.head?_eq_getElem?]
    rw [if_pos hx, if_pos hx]
    cases tl[0]? with
    | none => rfl
    | some e =>
      dsimp only
      generalize (if (e >>> 7) &&& 1 ≠ 0 then _ else _ : Outcome (Option Nat × Nat)) = r1
      rcases r1 with ⟨pic, pos⟩ | _ | _ | _ <;> try rfl
      dsimp only [Outcome.bind]
      generalize (if (e >>> 6) &&& 1 ≠ 0 then _ else _ : Outcome (Option Nat × Nat)) = r2
      rcases r2 with ⟨tl0, pos⟩ | _ | _ | _ <;> try rfl
      dsimp only
      split
      · cases (octet :: tl)[pos]? <;> rfl
      · rfl
  · dsimp only; rw [if_neg hx, if_neg hx]; rfl

theorem getElem?_at_prefix (pre s : Bytes) : (pre ++ s)[pre.length]? = s.head? := by
  rw [List.getElem?_append_right (Nat.le_refl _), Nat.sub_self, List.head?_eq_getElem?]

theorem readPic_wire (pre rest : Bytes) (pic : Option Nat) (h : ∀ p ∈ pic, p < 32768) (flag : Nat)
    (hf : flag ≠ 0 ↔ pic.isSome) (pos : Nat) (hpos : pre.length = pos) :
    readPic (pre ++ (picB pic ++ rest)) flag pos = .ok (pic, pos + (picB pic).length) := by
  subst hpos
  unfold readPic
  cases pic with
  | none => exact if_neg (mt hf.mp nofun)
  | some p =>
    have hp := h p rfl
    rw [if_pos (hf.mpr rfl), getElem?_at_prefix]
    by_cases hlt : p < 128
    · have hb : p &&& 0x80 = 0 := (by decide : ∀ h : Fin 128, h.val &&& 0x80 = 0) ⟨p, hlt⟩
      simp only [picB, hlt, ↓reduceIte, List.cons_append, List.nil_append, List.head?_cons, hb, ne_eq,
        not_true_eq_false, List.length_singleton]
    · have hq : p / 256 < 128 := Nat.div_lt_of_lt_mul hp
      have hb : (32768 + p) / 256 % 256 &&& 0x80 ≠ 0 := by
        rw [show 32768 + p = 256 * 128 + p from rfl, Nat.mul_add_div (by decide), Nat.add_comm,
          Nat.mod_eq_of_lt (Nat.add_lt_add_right hq 128)]
        exact (by decide : ∀ h : Fin 128, (h.val + 128) &&& 0x80 ≠ 0) ⟨p / 256, hq⟩
      have hs : slice (pre ++ (u16be (32768 + p) ++ rest)) pre.length (pre.length + 2) = u16be (32768 + p) := by
        rw [slice_append_right _ _ (Nat.le_refl _), Nat.sub_self, Nat.add_sub_cancel_left, slice_zero]
        exact List.take_left' rfl
      simp only [picB, hlt, ↓reduceIte, or_8000 p hp]
      rw [show (u16be (32768 + p) ++ rest).head? = some ((32768 + p) / 256 % 256) from rfl]
      dsimp only
      rw [if_pos hb, if_neg (by simp only [List.length_append, length_u16be]; omega), hs,
        unpackU16_u16be _ (by omega)]
      dsimp only
      rw [and_7fff p hp]
      rfl

theorem readTl0_wire (pre rest : Bytes) (t : Option Nat) (flag : Nat) (hf : flag ≠ 0 ↔ t.isSome) (pos : Nat)
    (hpos : pre.length = pos) :
    readTl0 (pre ++ (tl0B t ++ rest)) flag pos = .ok (t, pos + (tl0B t).length) := by
  subst hpos
  unfold readTl0
  cases t with
  | none => exact if_neg (mt hf.mp nofun)
  | some t => rw [if_pos (hf.mpr rfl), getElem?_at_prefix]; rfl

theorem readTk_wire (pre rest : Bytes) (tid : Option (Nat × Nat)) (k : Option Nat)
    (ht : ∀ t ∈ tid, t.1 < 4 ∧ t.2 < 2) (hk : ∀ x ∈ k, x < 32) (flagT flagK : Nat)
    (hT : flagT ≠ 0 ↔ tid.isSome) (hK : flagK ≠ 0 ↔ k.isSome) (pos : Nat) (hpos : pre.length = pos) :
    readTk (pre ++ (tkB tid k ++ rest)) flagT flagK pos = .ok (tid, k, rest) := by
  subst hpos
  obtain ⟨_, htid, hkey⟩ := tkVal_bits tid k ht hk
  have e1 : (if flagT ≠ 0 then some ((tkVal tid k >>> 6) &&& 3, (tkVal tid k >>> 5) &&& 1) else none) = tid := by
    cases tid with
    | none => exact if_neg (mt hT.mp nofun)
    | some t => rw [if_pos (hT.mpr rfl), htid t rfl]
  have e2 : (if flagK ≠ 0 then some (tkVal tid k &&& 0x1F) else none) = k := by
    cases k with
    | none => exact if_neg (mt hK.mp nofun)
    | some x => rw [if_pos (hK.mpr rfl), hkey x rfl]
  unfold readTk tkB
  by_cases h : tid.isSome ∨ k.isSome
  · rw [if_pos (h.imp hT.mpr hK.mpr), if_pos h, getElem?_at_prefix]
    show Outcome.ok (_, _, List.drop (pre.length + 1) (pre ++ (tkVal tid k :: rest))) = _
    rw [e1, e2, List.append_cons, List.drop_left' (by rw [List.length_append, List.length_singleton])]
  · rw [if_neg (fun h' => h (h'.imp hT.mp hK.mp)), if_neg h, List.nil_append, List.drop_left]
    cases tid
    · cases k
      · rfl
      · exact absurd (Or.inr rfl) h
    · exact absurd (Or.inl rfl) h
theorem parse_wire (d : Descr) (rest : Bytes) (h : InRange d) : parse (wire d ++ rest) = .ok (d, rest) := by
  obtain ⟨hs, hpid, hpic, htl0, htid, hk⟩ := h
  obtain ⟨_, x7, x4, x0⟩ := xOctet_bits ⟨_, hs⟩ ⟨_, hpid⟩
  obtain ⟨_, p7, p4, p0⟩ := plainOctet_bits ⟨_, hs⟩ ⟨_, hpid⟩
  obtain ⟨_, hI, hL, hT, hK, h0⟩ := extOctet_bits d
  unfold wire
  by_cases hext : extOctet d ≠ 0
  · have h1 := readPic_wire [xOctet d.partition_start d.partition_id, extOctet d]
      (tl0B d.tl0picidx ++ (tkB d.tid d.keyidx ++ rest)) _ hpic _ hI 2 rfl
    have h2 := readTl0_wire ([xOctet d.partition_start d.partition_id, extOctet d] ++ picB d.picture_id)
      (tkB d.tid d.keyidx ++ rest) _ _ hL (2 + (picB d.picture_id).length) (by rw [List.length_append]; rfl)
    have h3 := readTk_wire ([xOctet d.partition_start d.partition_id, extOctet d] ++ picB d.picture_id
      ++ tl0B d.tl0picidx) rest _ _ htid hk _ _ hT hK (2 + (picB d.picture_id).length + (tl0B d.tl0picidx).length)
      (by rw [List.length_append, List.length_append]; rfl)
    simp only [List.append_assoc, List.cons_append, List.nil_append] at h1 h2 h3
    rw [if_pos hext]
    simp only [List.append_assoc, List.cons_append, List.nil_append]
    rw [parse_cons, if_pos x7]
    simp only [List.head?_cons]
    rw [h1, Outcome.bind, h2, Outcome.bind, h3, Outcome.bind, x4, x0]
  · rw [if_neg hext, List.cons_append, List.nil_append, parse_cons, if_neg p7, p4, p0]
    obtain ⟨e1, e2, e3, e4⟩ := h0.mp (Classical.not_not.mp hext)
    cases d; cases e1; cases e2; cases e3; cases e4; rfl

theorem inRange_D (s pic : Nat) (hs : s < 2) (hp : pic < 32768) : InRange (D s pic) :=
  ⟨hs, Nat.zero_lt_succ _, fun _ h => Option.some.inj h ▸ hp, nofun, nofun, nofun⟩

theorem wire_D (s pic : Nat) : wire (D s pic) = hdr s pic := by
  simp [wire, D, hdr, extOctet, picB, tl0B, tkB, xOctet]

theorem hdr_length (s pic : Nat) : (hdr s pic).length = if pic < 128 then 3 else 4 := by
  unfold hdr; split <;> simp

theorem hdr_length_eq (s pic : Nat) : (hdr s pic).length = (hdr 0 pic).length := by rw [hdr_length, hdr_length]

theorem hdr_length_le (s pic : Nat) : (hdr s pic).length ≤ 4 := by rw [hdr_length]; split <;> omega

theorem toBytes_D (s pic : Nat) (hs : s < 2) (hp : pic < 32768) : (D s pic).toBytes = .ok (hdr s pic) :=
  wire_D s pic ▸ toBytes_wire _ (inRange_D s pic hs hp)

theorem parse_hdr (s pic : Nat) (c : Bytes) (hs : s < 2) (hp : pic < 32768) :
    parse (hdr s pic ++ c) = .ok (D s pic, c) :=
  wire_D s pic ▸ parse_wire _ c (inRange_D s pic hs hp)

def chunksOf (m : Nat) : Nat → Bytes → List Bytes
  | 0, _ => []
  | f + 1, rest =>
    if 0 < rest.length then
      rest.take (min rest.length m) :: chunksOf m f (rest.drop (min rest.length m))
    else []

def attach (h0 h : Bytes) : List Bytes → List Bytes
  | [] => []
  | c :: cs => (h0 ++ c) :: cs.map (h ++ ·)

theorem attach_same (h : Bytes) (cs : List Bytes) : attach h h cs = cs.map (h ++ ·) := by
  cases cs <;> simp [attach]

theorem mem_attach {h0 h p : Bytes} {cs : List Bytes} (hp : p ∈ attach h0 h cs) :
    ∃ c ∈ cs, p = h0 ++ c ∨ p = h ++ c := by
  cases cs with
  | nil => cases hp
  | cons c cs =>
    rcases List.mem_cons.1 hp with rfl | hp
    · exact ⟨c, List.mem_cons_self .., .inl rfl⟩
    · obtain ⟨c', hc', rfl⟩ := List.mem_map.1 hp
      exact ⟨c', List.mem_cons_of_mem _ hc', .inr rfl⟩

theorem length_attach (h0 h : Bytes) (cs : List Bytes) : (attach h0 h cs).length = cs.length := by
  cases cs <;> simp [attach]

theorem D_set_zero (s pic : Nat) : { D s pic with partition_start := 0 } = D 0 pic := rfl

theorem packetizeLoop_eq (buffer : Bytes) (pic : Nat) (hp : pic < 32768) :
    ∀ (fuel pos s : Nat), s < 2 → buffer.length - pos < fuel →
      packetizeLoop buffer fuel (D s pic) pos =
        .ok (attach (hdr s pic) (hdr 0 pic)
          (chunksOf (1300 - (hdr 0 pic).length) fuel (buffer.drop pos))) := by
  intro fuel
  induction fuel with
  | zero => intro _ _ _ h; omega
  | succ f ih =>
    intro pos s hs hf
    rw [packetizeLoop, chunksOf]
    by_cases hpos : pos < buffer.length
    · have hl3 := hdr_length_le 0 pic
      have hdl : (buffer.drop pos).length = buffer.length - pos := List.length_drop
      rw [if_pos hpos, toBytes_D s pic hs hp, if_pos (by rw [hdl]; omega)]
      simp only [D_set_zero, VPX_PACKET_MAX, hdr_length_eq s pic, hdl]
      rw [ih (pos + min (buffer.length - pos) (1300 - (hdr 0 pic).length)) 0 (by omega) (by omega)]
      rw [attach_same]
      simp only [attach, slice_add, List.drop_drop]
    · rw [if_neg hpos, if_neg (by simp; omega)]
      rfl

theorem chunksOf_spec (m : Nat) (hm : 1 ≤ m) : ∀ (fuel : Nat) (rest : Bytes), rest.length < fuel →
    (chunksOf m fuel rest).flatten = rest ∧ (∀ c ∈ chunksOf m fuel rest, 1 ≤ c.length ∧ c.length ≤ m) ∧
      (chunksOf m fuel rest).length = (rest.length + m - 1) / m := by
  intro fuel
  induction fuel with
  | zero => intro _ h; omega
  | succ f ih =>
    intro rest hf
    rw [chunksOf]
    by_cases h0 : 0 < rest.length
    · obtain ⟨i1, i2, i3⟩ := ih (rest.drop (min rest.length m)) (by rw [List.length_drop]; omega)
      rw [if_pos h0, List.flatten_cons, i1, List.take_append_drop, List.length_cons, i3, List.length_drop]
      refine ⟨rfl, fun c hc => ?_, ?_⟩
      · rcases List.mem_cons.mp hc with h | h
        · subst h; rw [List.length_take]; omega
        · exact i2 c h
      · by_cases hle : rest.length ≤ m
        · rw [Nat.min_eq_left hle, Nat.sub_self, Nat.zero_add, Nat.div_eq_of_lt (by omega),
            show rest.length + m - 1 = (rest.length - 1) + 1 * m by omega, Nat.add_mul_div_right _ _ (by omega),
            Nat.div_eq_of_lt (by omega)]
        · rw [Nat.min_eq_right (by omega),
            show rest.length + m - 1 = (rest.length - m + m - 1) + 1 * m by omega, Nat.add_mul_div_right _ _ (by omega)]
    · have : rest = [] := List.eq_nil_of_length_eq_zero (by omega)
      subst this
      rw [if_neg h0]
      exact ⟨rfl, nofun, by rw [List.length_nil, List.length_nil, Nat.zero_add, Nat.div_eq_of_lt (by omega)]⟩

/-- `Vp8Encoder._packetize` for a 15-bit picture id: the frame cut into chunks of at most
`1300 - len(descriptor)` bytes, the first behind the S=1 descriptor, the others behind the S=0 one. -/
theorem packetize_returns (buffer : Bytes) (pic : Nat) (hp : pic < 32768) :
    (packetize buffer pic).Returns fun payloads => ∃ chunks, payloads = attach (hdr 1 pic) (hdr 0 pic) chunks ∧
      chunks.flatten = buffer ∧ (∀ c ∈ chunks, 1 ≤ c.length ∧ c.length + (hdr 0 pic).length ≤ 1300) ∧
      chunks.length = (buffer.length + (1300 - (hdr 0 pic).length) - 1) / (1300 - (hdr 0 pic).length) := by
  have hl3 := hdr_length_le 0 pic
  have h := packetizeLoop_eq buffer pic hp (buffer.length + 1) 0 1 (by omega) (by omega)
  obtain ⟨h1, h2, h3⟩ := chunksOf_spec (1300 - (hdr 0 pic).length) (by omega) (buffer.length + 1) (buffer.drop 0)
    (Nat.lt_succ_self _)
  exact ⟨_, h, _, rfl, h1, fun c hc => by have := h2 c hc; omega, h3⟩

theorem depayload_hdr (s pic : Nat) (c : Bytes) (hs : s < 2) (hp : pic < 32768) :
    depayload (hdr s pic ++ c) = .ok c := by
  unfold depayload; rw [parse_hdr s pic c hs hp]

theorem depayloadAll_map (pic : Nat) (hp : pic < 32768) (cs : List Bytes) :
    depayloadAll (cs.map (hdr 0 pic ++ ·)) = .ok cs.flatten := by
  induction cs with
  | nil => rfl
  | cons c cs ih =>
    simp only [List.map_cons, depayloadAll, depayload_hdr 0 pic c (by omega) hp, ih, List.flatten_cons]

theorem depayloadAll_attach (pic : Nat) (hp : pic < 32768) (cs : List Bytes) :
    depayloadAll (attach (hdr 1 pic) (hdr 0 pic) cs) = .ok cs.flatten := by
  cases cs with
  | nil => rfl
  | cons c cs =>
    simp only [attach, depayloadAll, depayload_hdr 1 pic c (by omega) hp, depayloadAll_map pic hp cs,
      List.flatten_cons]

end Aiortc.Lemmas.Vp8
