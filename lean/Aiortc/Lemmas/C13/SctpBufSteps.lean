import Aiortc.Lemmas.SctpEndpoint.Handlers
import Aiortc.Lemmas.C13.SctpBuf
import Aiortc.Lemmas.C13.SctpUserData
/-!
# `bufferedAmount` bookkeeping of `send()` and `_data_channel_flush`

`BufInv` is carried through the three shapes of update the channel operations make: the channel objects stay
(`bufInv_queue`), object `i` is replaced (`bufInv_set`), an object is appended (`bufInv_push`); `fwd_same`, `fwd_set`,
`fwd_push` of `SctpLife` are the same three for `fwdSpec`.  While the flush loop has popped an entry but not yet
subtracted its bytes the objects account for the old queue (`BufPre`); `BufInvX i` leaves out object `i`, whose
entries were just dropped.
-/
namespace Aiortc.Sctp
open Aiortc.Gen Aiortc.Sctp.Wire

theorem bufInv_set {e : Ep} (h : BufInv e) {i : Nat} {c c' : Chan} (hc : e.chans[i]? = some c)
    {e' : Ep} (hch : e'.chans = e.chans.set i c')
    (hidx : ∀ x ∈ e'.dcQueue, x.1 < e.chans.length)
    (hoth : ∀ j, j ≠ i → qsum e'.dcQueue j = qsum e.dcQueue j)
    (hself : c'.ready ≠ 3 → c.ready ≠ 3 ∧ c'.buffered - qsum e'.dcQueue i = c.buffered - qsum e.dcQueue i) :
    BufInv e' := by
  refine ⟨?_, ?_⟩
  · intro x hx; rw [hch, List.length_set]; exact hidx x hx
  · intro j x hx h3
    rw [hch] at hx
    rcases getElem?_set_cases hx with ⟨rfl, rfl⟩ | ⟨hj, hx⟩
    · obtain ⟨h3', he⟩ := hself h3
      have := h.2 j c hc h3'
      omega
    · rw [hoth j hj]
      exact h.2 j x hx h3

/-- the same when no channel object changes -/
theorem bufInv_queue {e : Ep} (h : BufInv e) {e' : Ep} (hch : e'.chans = e.chans)
    (hidx : ∀ x ∈ e'.dcQueue, x.1 < e.chans.length)
    (hq : ∀ j, qsum e'.dcQueue j = qsum e.dcQueue j) : BufInv e' := by
  refine ⟨?_, ?_⟩
  · intro x hx; rw [hch]; exact hidx x hx
  · intro j x hx h3
    rw [hch] at hx
    rw [hq j]; exact h.2 j x hx h3

theorem qsum_dcep_zero (q2 : List (Nat × Nat × Bytes)) (h : ∀ x ∈ q2, x.2.1 = WEBRTC_DCEP) (j : Nat) :
    qsum q2 j = 0 := by
  induction q2 with
  | nil => rfl
  | cons a t ih =>
    obtain ⟨k, ppid, d⟩ := a
    have := h (k, ppid, d) (by simp)
    simp only at this
    simp only [qsum, this, ne_eq, not_true_eq_false, and_false, if_false]
    rw [ih (fun x hx => h x (by simp [hx]))]; rfl

/-- the same when a channel object with nothing buffered is appended, and DCEP messages for it are queued -/
theorem bufInv_push {e : Ep} (h : BufInv e) {e' : Ep} {c' : Chan} {q2 : List (Nat × Nat × Bytes)}
    (hch : e'.chans = e.chans ++ [c']) (hq : e'.dcQueue = e.dcQueue ++ q2)
    (hq2 : ∀ x ∈ q2, x.1 = e.chans.length ∧ x.2.1 = WEBRTC_DCEP) (hb : c'.buffered = 0) : BufInv e' := by
  have hz : ∀ j, qsum q2 j = 0 := fun j => qsum_dcep_zero q2 (fun x hx => (hq2 x hx).2) j
  refine ⟨?_, ?_⟩
  · intro x hx
    rw [hq] at hx; rw [hch]
    simp only [List.length_append, List.length_singleton]
    rcases List.mem_append.1 hx with h' | h'
    · have := h.1 x h'; omega
    · have := (hq2 x h').1; omega
  · intro j x hx h3
    rw [hq, qsum_append, hz]
    rw [hch] at hx
    by_cases hlt : j < e.chans.length
    · rw [List.getElem?_append_left hlt] at hx
      have := h.2 j x hx h3; omega
    · rw [List.getElem?_append_right (by omega)] at hx
      have hj : j - e.chans.length = 0 := by
        cases hj : j - e.chans.length with
        | zero => rfl
        | succ m => rw [hj] at hx; simp at hx
      rw [hj] at hx; simp at hx
      have hje : j = e.chans.length := by omega
      rw [← hx, hb, qsum_eq_zero_of_absent _ _ (fun y hy => by have := h.1 y hy; omega)]
      rfl

@[handler] theorem buf_dcSend (i : Nat) (isStr : Bool) (data : Bytes) : Pres bufSpec (dcSend i isStr data) := by
  constructor; intro s hI
  unfold dcSend addBuffered0
  simp only [WPh_assoc]
  rw [WPh_addBufferedCore]
  cases hc : s.1.chans[i]? with
  | none => exact fun h => (h trivial).elim
  | some c =>
    have hlt : i < s.1.chans.length := (List.getElem?_eq_some_iff.1 hc).1
    simp only
    wp_head
    intro _
    have hp := (userData_ppid isStr data).2
    refine ⟨bufInv_set hI hc rfl ?_ ?_ ?_, trivial⟩
    · intro x hx
      simp only [List.mem_append, List.mem_singleton] at hx
      rcases hx with h | h
      · exact hI.1 x h
      · rw [h]; exact hlt
    · intro j hj
      simp only [qsum_append, qsum, hj.symm, false_and, if_false]
      omega
    · intro h3
      refine ⟨h3, ?_⟩
      simp only [qsum_append, qsum, true_and, ne_eq, hp, not_false_eq_true, if_true]
      omega

/-- an application handler that re-enters `send()` is accounted like a `send()` -/
@[handler] theorem buf_react (k i : Nat) : Pres bufSpec (react k i) :=
  pres_react k i buf_dcSend (fun _ _ _ hI _ => ⟨bufInv_queue hI rfl hI.1 (fun _ => rfl), trivial⟩)

/-- continue with an accounted action after an explicit state that satisfies the invariant -/
theorem WP.after_buf {α : Type} {x : M α} (hx : Pres bufSpec x) {s1 : St} (h : BufInv s1.1) :
    WP x (fun r s' => IsOk r → BufInv s'.1) s1 :=
  WP.call hx h (fun _ _ h2 hk => (h2 (fun _ => hk)).1)

theorem buf_send (i : Nat) (isStr : Bool) (data : Bytes) : Pres bufSpec (handle (.send i isStr data)) := by
  constructor; intro s hI
  simp only [handle]
  wp_head
  cases hc : s.1.chans[i]? with
  | none => simp only; exact fun h => (h trivial).elim
  | some c =>
    simp only
    wp_split
    · wp_head; intro _; exact ⟨bufInv_queue hI rfl hI.1 (fun _ => rfl), trivial⟩
    · exact (buf_dcSend i isStr data).out s hI

/-- the invariant while an entry has been popped but its bytes not yet subtracted: the channel objects
still account for the queue `old` -/
def BufPre (old : List (Nat × Nat × Bytes)) (e : Ep) : Prop :=
  (∀ x ∈ e.dcQueue, x.1 < e.chans.length) ∧
  (∀ (j : Nat) cj, e.chans[j]? = some cj → cj.ready ≠ 3 → cj.buffered = qsum old j)

theorem bufPre_frame {old} {s s' : St} (h : FrameRel s s') (hp : BufPre old s.1) : BufPre old s'.1 := by
  exact ⟨by rw [h.chans, h.dcQueue]; exact hp.1, by rw [h.chans]; exact hp.2⟩

theorem bufPre_dcep {i : Nat} {data : Bytes} {rest} {e : Ep}
    (hp : BufPre ((i, WEBRTC_DCEP, data) :: rest) e) (hq : e.dcQueue = rest) : BufInv e := by
  refine ⟨hp.1, ?_⟩
  intro j cj hj h3
  rw [hp.2 j cj hj h3, hq]
  simp [qsum]

theorem bufPre_user {i ppid : Nat} {data : Bytes} {rest} {e e' : Ep}
    (hp : BufPre ((i, ppid, data) :: rest) e) (hne : ppid ≠ WEBRTC_DCEP) (hq : e.dcQueue = rest)
    {ci : Chan} (hci : e.chans[i]? = some ci)
    (hch : e'.chans = e.chans.set i { ci with buffered := ci.buffered + -(data.length : Int) })
    (hq' : e'.dcQueue = rest) : BufInv e' := by
  refine ⟨?_, ?_⟩
  · intro x hx; rw [hch, List.length_set]; rw [hq'] at hx; exact hp.1 x (by rw [hq]; exact hx)
  · intro j x hx h3
    rw [hch] at hx
    rw [hq']
    rcases getElem?_set_cases hx with ⟨rfl, rfl⟩ | ⟨hj, hx⟩
    · have := hp.2 j ci hci h3
      simp only [qsum, hne, ne_eq, not_false_eq_true, and_self, if_true] at this
      simp only
      omega
    · have := hp.2 j x hx h3
      simp only [qsum, Ne.symm hj, false_and, if_false] at this
      omega

/-- the accounting holds except for channel object `i`, whose queue entries were just dropped: the state between the
filtering of the queue and `setReady i 3` in `dcClose`, and after the flush loop dropped the entry of a channel that gets
no id -/
def BufInvX (i : Nat) (e : Ep) : Prop :=
  (∀ x ∈ e.dcQueue, x.1 < e.chans.length) ∧
  (∀ (j : Nat) c, j ≠ i → e.chans[j]? = some c → c.ready ≠ 3 → c.buffered = qsum e.dcQueue j)

/-- the accounting holds in the state `setReady` stores, whatever event and handler follow -/
theorem wp_setReady_of {s : St} {i st : Nat} (hsame : ∀ c, s.1.chans[i]? = some c → c.ready = st → BufInv s.1)
    (hset : ∀ c, s.1.chans[i]? = some c →
      BufInv { s.1 with chans := s.1.chans.set i { c with ready := st } }) :
    WP (setReady i st) (fun r s' => IsOk r → BufInv s'.1) s := by
  rw [setReady_spec]
  cases hc : s.1.chans[i]? with
  | none => exact fun h => h.elim
  | some c =>
    simp only
    split
    · exact fun _ => hsame c hc ‹_›
    · split
      · exact WP.after_buf (buf_react 0 i) (hset c hc)
      · split
        · exact WP.after_buf (buf_react 1 i) (hset c hc)
        · exact fun _ => hset c hc

theorem wp_setReady3_X {s : St} {i : Nat} (hX : BufInvX i s.1) :
    WP (setReady i 3) (fun r s' => IsOk r → BufInv s'.1) s := by
  refine wp_setReady_of ?_ ?_
  · intro c hc h3
    refine ⟨hX.1, ?_⟩
    intro j x hx hx3
    by_cases hj : j = i
    · subst hj; rw [hc] at hx; cases hx; exact absurd h3 hx3
    · exact hX.2 j x hj hx hx3
  · intro c hc
    refine ⟨by simpa using hX.1, ?_⟩
    intro j x hx hx3
    rcases getElem?_set_cases hx with ⟨rfl, rfl⟩ | ⟨hj, hx⟩
    · exact absurd rfl hx3
    · exact hX.2 j x hj hx hx3

/-- `_data_channel_flush`'s loop keeps `bufferedAmount` exact (on runs that do not raise) -/
@[handler] theorem buf_flushLoop (fuel : Nat) : Pres bufSpec (flushLoop fuel) := by
  induction fuel with
  | zero => unfold flushLoop; exact pres_pure _
  | succ n ih =>
    constructor; intro s hI
    rw [flushLoop_succ]
    split
    · exact fun _ => ⟨hI, trivial⟩
    · rename_i i ppid data rest hq
      split
      · exact fun _ => ⟨hI, trivial⟩
      have hlt : i < s.1.chans.length := hI.1 (i, ppid, data) (by rw [hq]; simp)
      have hrest : ∀ x ∈ rest, x.1 < s.1.chans.length := fun x hx => hI.1 x (by rw [hq]; simp [hx])
      -- Once the stream id is known the entry goes to `_send` and its bytes leave `bufferedAmount`; until then the
      -- channel objects still account for the popped entry (`BufPre`).
      have hsend : ∀ c sid (s2 : St), BufPre ((i, ppid, data) :: rest) s2.1 → s2.1.dcQueue = rest →
          i < s2.1.chans.length →
          WP (flushSend n i ppid data c sid) (fun r s' => (bufSpec.okOnly → IsOk r) → bufSpec.I s'.1 ∧ bufSpec.R s s') s2 := by
        intro c sid s2 hp2 hq2 hlt2
        unfold flushSend
        wp_split
        · rename_i hdcep
          refine WP.call_bind (pres_sendData (S := frameSpec) _ _ _ _ _ _) trivial ?_
          intro r s3 h3
          have hf := (h3 (fun h => h.elim)).2
          cases r with
          | error k => exact fun h => (h trivial).elim
          | ok u =>
            have hp3 := bufPre_frame hf hp2
            rw [hdcep] at hp3
            exact WP.pres_after ih (bufPre_dcep hp3 (hf.dcQueue.trans hq2)) trivial
        · rename_i hdcep
          rw [WPh_getE]
          refine WP.call_bind (pres_sendData (S := frameSpec) _ _ _ _ _ _) trivial ?_
          intro r s3 h3
          have hf := (h3 (fun h => h.elim)).2
          cases r with
          | error k => exact fun h => (h trivial).elim
          | ok u =>
            have hp3 := bufPre_frame hf hp2
            have hq3 : s3.1.dcQueue = rest := hf.dcQueue.trans hq2
            obtain ⟨ci, hci⟩ : ∃ ci, s3.1.chans[i]? = some ci :=
              ⟨_, List.getElem?_eq_getElem (by rw [hf.chans]; exact hlt2)⟩
            unfold addBuffered
            simp only [WPh_assoc]
            rw [WPh_addBufferedCore, hci]
            exact WP.pres_after (by pres) (bufPre_user hp3 hdcep hq3 hci rfl hq3) trivial
      split
      · rename_i hn
        exact absurd (List.getElem?_eq_none_iff.1 hn) (by simpa using hlt)
      · rename_i c hc
        split
        · -- the channel has an id
          exact hsend _ _ (_, _) ⟨hrest, fun j cj hj h3 => by rw [← hq]; exact hI.2 j cj hj h3⟩ rfl hlt
        · exact fun h => (h trivial).elim
        · rename_i start hid hstart
          split
          · -- no stream id left: the channel is closed, its entry is dropped
            have hX : BufInvX i { s.1 with dcQueue := rest } := by
              refine ⟨hrest, ?_⟩
              intro j cj hj hcj h3
              have := hI.2 j cj hcj h3
              rw [hq] at this
              simp only [qsum, Ne.symm hj, false_and, if_false] at this
              simp only
              omega
            apply WP.bind_of (wp_setReady3_X (s := (_, _)) hX)
            intro r s2 hI2
            cases r with
            | error k => exact fun h => (h trivial).elim
            | ok u => exact WP.pres_after ih (hI2 trivial) trivial
          · refine hsend _ _ (_, _) ⟨by simpa using hrest, ?_⟩ rfl (by simpa using hlt)
            intro j cj hj h3
            rw [← hq]
            rcases getElem?_set_cases hj with ⟨rfl, rfl⟩ | ⟨_, hj⟩
            · exact hI.2 j c hc h3
            · exact hI.2 j cj hj h3

theorem buf_flush : Pres bufSpec flush := by
  unfold flush; pres

end Aiortc.Sctp
