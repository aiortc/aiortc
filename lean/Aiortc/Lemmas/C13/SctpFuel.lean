import Aiortc.Lemmas.C13.SctpReact
/-!
# The fuel of `flush` suffices: `len(queue) + len(armed reactions) + 1` iterations are never exhausted

`mu e = dcQueue.length + reactions.length` does not increase in any action inside a loop iteration (a handler
that sends consumes its reaction and appends one queue entry) and every iteration pops one entry.
-/
namespace Aiortc.Sctp
open Aiortc.Gen Aiortc.Sctp.Wire

def mu (e : Ep) : Nat := e.dcQueue.length + e.reactions.length

def MuLe (s s' : St) : Prop := mu s'.1 ≤ mu s.1

def muSpec : Spec :=
  { I := fun _ => True, R := MuLe, okOnly := False, refl := fun _ => Nat.le_refl _,
    trans := fun _ _ _ h1 h2 => Nat.le_trans h2 h1 }

instance : Framed muSpec where
  frame := by
    intro s s' h _
    exact ⟨trivial, by unfold muSpec MuLe mu; simp only; rw [h.reactions, h.dcQueue]; exact Nat.le_refl _⟩

@[handler] theorem mu_modE (f : Ep → Ep) (h : ∀ e, (f e).reactions = e.reactions) (h2 : ∀ e, (f e).dcQueue = e.dcQueue) :
    Pres muSpec (modE f) := by
  constructor; intro s _
  wp_head
  intro _
  exact ⟨trivial, by unfold muSpec MuLe mu; simp only; rw [h, h2]; exact Nat.le_refl _⟩
@[handler] theorem mu_chanSet (i : Nat) (c : Chan) : Pres muSpec (chanSet i c) := mu_modE _ (fun _ => rfl) (fun _ => rfl)
@[handler] theorem mu_emit (o : Out) : Pres muSpec (emit o) := by
  constructor; intro s _
  wp_head
  exact fun _ => ⟨trivial, Nat.le_refl _⟩

@[handler] theorem mu_addBufferedCore (i : Nat) (a : Int) : Pres muSpec (addBufferedCore i a) := by
  unfold addBufferedCore; pres

theorem wp_dcSend_mu (i : Nat) (isStr : Bool) (d : Bytes) (s1 : St) :
    WP (dcSend i isStr d) (fun _ s' => mu s'.1 ≤ mu s1.1 + 1) s1 := by
  unfold dcSend addBuffered0
  simp only [WPh_assoc]
  rw [WPh_addBufferedCore]
  cases s1.1.chans[i]? with
  | none => simp only; unfold mu; omega
  | some c =>
    simp only
    wp_head
    unfold mu
    simp only [List.length_append, List.length_singleton]
    omega

@[handler] theorem mu_react (k i : Nat) : Pres muSpec (react k i) := by
  constructor; intro s _
  rw [react_spec]
  cases ha : armed s.1 k i with
  | none => exact fun _ => ⟨trivial, Nat.le_refl _⟩
  | some r =>
    simp only
    have hl := armed_erase_length ha
    cases s.1.chans[i]? with
    | none => exact fun _ => ⟨trivial, by unfold muSpec MuLe mu; simp only; omega⟩
    | some c =>
      simp only
      wp_split
      · exact fun _ => ⟨trivial, by unfold muSpec MuLe mu; simp only; omega⟩
      · refine WP.mono (wp_dcSend_mu _ _ _ (_, _)) ?_
        intro r' s' h2 _
        refine ⟨trivial, ?_⟩
        unfold muSpec MuLe
        unfold mu at h2 ⊢
        simp only at h2 ⊢
        omega

@[handler] theorem mu_setReady (i st : Nat) : Pres muSpec (setReady i st) := by
  unfold setReady; pres
@[handler] theorem mu_addBuffered (i : Nat) (a : Int) : Pres muSpec (addBuffered i a) := by
  unfold addBuffered; pres

/-- the loop condition `self._data_channel_queue and not self._outbound_queue` is false -/
def LoopDone (r : Except String Unit) (s' : St) : Prop :=
  IsOk r → (s'.1.dcQueue = [] ∨ s'.1.tx.outQ.isEmpty = false)

/-- Started with `mu + 1 ≤ n`, the action ends with the loop's exit condition or with an exception. -/
def Ends (n : Nat) (x : M Unit) : Prop := ∀ s : St, mu s.1 + 1 ≤ n → WP x LoopDone s

/-- A `muSpec` step first does not use up any fuel. -/
theorem Ends.bind {α} {x : M α} {f : α → M Unit} {n : Nat} (hx : Pres muSpec x) (hf : ∀ a, Ends n (f a)) :
    Ends n (x >>= f) := by
  intro s hs
  refine WP.call_bind hx trivial ?_
  intro r s1 h1
  have h1 : mu s1.1 ≤ mu s.1 := (h1 (fun h => h.elim)).2
  cases r with
  | error k => exact fun h => h.elim
  | ok a => exact hf a s1 (by omega)

/-- **The fuel of `flush` suffices.** Started with at least `len(queue) + len(reactions) + 1` units of fuel, the loop only
returns normally when its real exit condition holds (queue empty or outbound queue non-empty) - never because the
fuel ran out - although handlers running inside the loop may append entries. -/
theorem flushLoop_fuel (fuel : Nat) : ∀ s : St, mu s.1 + 1 ≤ fuel → WP (flushLoop fuel) LoopDone s := by
  induction fuel with
  | zero => intro s h; omega
  | succ n ih =>
    intro s h
    rw [flushLoop_succ]
    have ih' : Ends n (flushLoop n) := ih
    -- once the stream id is known: a chain of `muSpec` steps (`Ends.bind`) that ends in `flushLoop n` or in an exception
    have hsend : ∀ i ppid data c sid, Ends n (flushSend n i ppid data c sid) := by
      intro i ppid data c sid
      unfold flushSend
      split
      · exact Ends.bind (by pres) fun _ => ih'
      · exact Ends.bind pres_getE fun _ => Ends.bind (by pres) fun _ => Ends.bind (mu_addBuffered _ _) fun _ => ih'
    split
    · rename_i hq
      exact fun _ => Or.inl hq
    · rename_i i ppid data rest hq
      split
      · rename_i ho
        exact fun _ => Or.inr ho
      -- the pop pays for the recursive call: `mu` drops by one
      have hlen : s.1.dcQueue.length = rest.length + 1 := by rw [hq]; rfl
      have hmu : ∀ e' : Ep, e'.dcQueue = rest → e'.reactions = s.1.reactions → mu e' + 1 ≤ n := by
        intro e' h1 h2; unfold mu at h ⊢; rw [h1, h2]; omega
      split
      · exact fun h => h.elim
      · split
        · exact hsend _ _ _ _ _ _ (hmu _ rfl rfl)
        · exact fun h => h.elim
        · split
          · exact Ends.bind (mu_setReady i 3) (fun _ => ih') _ (hmu _ rfl rfl)
          · exact hsend _ _ _ _ _ _ (hmu _ rfl rfl)

end Aiortc.Sctp
