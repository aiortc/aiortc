import Aiortc.Lemmas.SctpEndpoint.Ops
/-!
# `bufferedAmount` = bytes accepted by `send()` and not yet handed to `_send`

`qsum q i` is the number of user-data bytes queued for channel object `i` in `_data_channel_queue`
(DCEP control messages are not counted: they never touch `bufferedAmount`).  `BufInv`: every channel
that is not closed has `buffered = qsum dcQueue i`, and the queue only mentions existing channels.
-/
namespace Aiortc.Sctp
open Aiortc.Gen Aiortc.Sctp.Wire

def qsum : List (Nat × Nat × Bytes) → Nat → Int
  | [], _ => 0
  | (j, ppid, d) :: r, i => (if j = i ∧ ppid ≠ WEBRTC_DCEP then (d.length : Int) else 0) + qsum r i

theorem qsum_nonneg (q : List (Nat × Nat × Bytes)) (i : Nat) : 0 ≤ qsum q i := by
  induction q with
  | nil => simp [qsum]
  | cons a t ih =>
    obtain ⟨j, ppid, d⟩ := a
    simp only [qsum]
    split <;> omega

theorem qsum_append (a b : List (Nat × Nat × Bytes)) (i : Nat) : qsum (a ++ b) i = qsum a i + qsum b i := by
  induction a with
  | nil => simp [qsum]
  | cons x t ih =>
    obtain ⟨j, ppid, d⟩ := x
    simp only [List.cons_append, qsum, ih]
    omega

theorem qsum_eq_zero_of_absent (q : List (Nat × Nat × Bytes)) (i : Nat) (h : ∀ x ∈ q, x.1 ≠ i) :
    qsum q i = 0 := by
  induction q with
  | nil => simp [qsum]
  | cons a t ih =>
    obtain ⟨j, ppid, d⟩ := a
    have hj : j ≠ i := h (j, ppid, d) (by simp)
    simp only [qsum, hj, false_and, if_false]
    rw [ih (fun x hx => h x (by simp [hx]))]
    rfl

theorem qsum_filter_ne (q : List (Nat × Nat × Bytes)) (i j : Nat) (h : j ≠ i) :
    qsum (q.filter fun x => x.1 != i) j = qsum q j := by
  induction q with
  | nil => simp [qsum]
  | cons a t ih =>
    obtain ⟨k, ppid, d⟩ := a
    by_cases hk : k = i
    · subst hk
      have hkj : ¬ (k = j) := fun h' => h h'.symm
      simp [qsum, ih, hkj]
    · simp [qsum, ih, hk]

def BufInv (e : Ep) : Prop :=
  (∀ x ∈ e.dcQueue, x.1 < e.chans.length) ∧
  (∀ (i : Nat) c, e.chans[i]? = some c → c.ready ≠ 3 → c.buffered = qsum e.dcQueue i)

theorem BufInv.nonneg {e : Ep} (h : BufInv e) {i : Nat} {c : Chan} (hc : e.chans[i]? = some c)
    (h3 : c.ready ≠ 3) : 0 ≤ c.buffered := by
  rw [h.2 i c hc h3]; exact qsum_nonneg _ _

theorem BufInv.drained {e : Ep} (h : BufInv e) {i : Nat} {c : Chan} (hc : e.chans[i]? = some c)
    (h3 : c.ready ≠ 3) (hq : ∀ x ∈ e.dcQueue, x.1 ≠ i) : c.buffered = 0 := by
  rw [h.2 i c hc h3]; exact qsum_eq_zero_of_absent _ _ hq

/-- Only runs that return normally are covered (`okOnly`): a serialisation failure in `_send` between popping a queue
entry and subtracting its bytes leaves `buffered ≠ qsum`, as it does in the real code when `_data_channel_flush`
raises in the middle of its loop. -/
def bufSpec : Spec :=
  { I := BufInv, R := fun _ _ => True, okOnly := True, refl := fun _ => trivial, trans := fun _ _ _ _ _ => trivial }

instance : Framed bufSpec where
  frame := by
    intro s s' h hI
    refine ⟨⟨?_, ?_⟩, trivial⟩
    · rw [h.chans, h.dcQueue]; exact hI.1
    · rw [h.chans, h.dcQueue]; exact hI.2

end Aiortc.Sctp
