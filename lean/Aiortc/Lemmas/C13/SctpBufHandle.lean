import Aiortc.Lemmas.C13.SctpBufAll
/-!
# `bufferedAmount` stays exact: `createChannel`, hence every handler (`ChanOps bufSpec`, `buf_handle`)
-/
namespace Aiortc.Sctp
open Aiortc.Gen Aiortc.Sctp.Wire

@[handler] theorem buf_createChannel (p : CreateParams) : Pres bufSpec (createChannel p) := by
  constructor; intro s hI
  unfold createChannel
  wp_head
  wp_split
  · -- refused: `negotiated` without a usable id
    wp_head; exact Framed.done hI (by frame_rel)
  wp_split
  · -- `_data_channel_open`: a DATA_CHANNEL_OPEN is queued for the new channel object; if it cannot be encoded
    -- (`struct.error`) only `dataChannels` grows
    split
    · wp_split
      · wp_head; exact Framed.done hI (by frame_rel)
      · split
        · wp_head; exact fun _ => ⟨bufInv_push hI (q2 := [_]) rfl rfl (by simp) rfl, trivial⟩
        · wp_head; exact fun _ => ⟨bufInv_queue hI rfl hI.1 (fun _ => rfl), trivial⟩
    · split
      · wp_head; exact fun _ => ⟨bufInv_push hI (q2 := [_]) rfl rfl (by simp) rfl, trivial⟩
      · wp_head; exact fun _ => ⟨bufInv_queue hI rfl hI.1 (fun _ => rfl), trivial⟩
  · -- `_data_channel_add_negotiated`: a channel object with nothing buffered
    split
    · wp_split
      · wp_head; exact Framed.done hI (by frame_rel)
      · wp_head; exact fun _ => ⟨bufInv_push hI (q2 := []) rfl (by simp) (by simp) (by split <;> rfl), trivial⟩
    · wp_head; exact Framed.done hI (by frame_rel)
instance : ChanOps bufSpec where
  setState := buf_setState
  flushLoop := buf_flushLoop
  dcReceive := buf_dcReceive
  dcClose := buf_dcClose
  dcClosed := buf_dcClosed
  dcSend := buf_dcSend
  createChannel := buf_createChannel
  start := fun rp => by
    constructor; intro s hI
    simp only [handle]
    wp_head
    wp_split
    · wp_head
      exact WP.pres_after (S := bufSpec) (by pres) (bufInv_queue hI rfl hI.1 (fun _ => rfl)) trivial
    · wp_head; exact Framed.done hI (by frame_rel)
  threshold := fun i v => by
    constructor; intro s hI
    simp only [handle]
    wp_split
    · wp_head; exact Framed.done hI (by frame_rel)
    · wp_head
      cases hc : s.1.chans[i]? with
      | none => simp only; exact fun h => (h trivial).elim
      | some c =>
        simp only
        intro _
        exact ⟨bufInv_set hI hc rfl hI.1 (fun _ _ => rfl) (fun h3 => ⟨h3, rfl⟩), trivial⟩

theorem buf_handle (inp : Input) : Pres bufSpec (handle inp) :=
  pres_handle inp (fun _ _ _ _ he => by subst he; simp only [handle]; pres)

end Aiortc.Sctp
