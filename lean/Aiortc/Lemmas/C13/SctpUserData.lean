import Aiortc.Model.Sctp.Endpoint
/-!
# What `_data_channel_send` queues: a user PPID (never the DCEP one) and at least one byte
-/
namespace Aiortc.Sctp
open Aiortc.Gen

theorem userData_ppid (isStr : Bool) (data : Bytes) :
    (userData isStr data).1 < 4294967296 ∧ (userData isStr data).1 ≠ WEBRTC_DCEP := by
  unfold userData
  rcases Bool.eq_false_or_eq_true data.isEmpty with h1 | h1 <;>
    rcases Bool.eq_false_or_eq_true isStr with h2 | h2 <;> simp [h1, h2] <;> decide

theorem userData_len (isStr : Bool) (d : Bytes) : 1 ≤ (userData isStr d).2.length := by
  unfold userData
  cases d with
  | nil => simp
  | cons a t => simp

end Aiortc.Sctp
