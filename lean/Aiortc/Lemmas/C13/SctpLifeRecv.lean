import Aiortc.Lemmas.C13.SctpLifeSteps
/-!
# `dcReceive` makes forward steps (DATA_CHANNEL_OPEN / ACK / user messages)
-/
namespace Aiortc.Sctp
open Aiortc.Gen Aiortc.Sctp.Wire

theorem fwd_announce {s : St} {e1 : Ep} {c : Chan}
    (hch1 : e1.chans = s.1.chans ++ [c])
    (h01 : FwdRel s (e1, s.2))
    {s2 : St} (hI2 : LifeInv s2.1) (hR : FwdRel (e1, s.2) s2)
    {c2 : Chan} (hc2 : s2.1.chans[s.1.chans.length]? = some c2)
    {e3 : Ep} (hch3 : e3.chans = s2.1.chans.set s.1.chans.length { c2 with silent := false })
    (hsrv3 : e3.isServer = s2.1.isServer) (hdc3 : e3.dcId = s2.1.dcId) :
    LifeInv e3 ∧ FwdRel s (e3, s2.2 ++ [.evChannel s.1.chans.length]) := by
  have h02 := FwdRel.trans _ _ _ h01 hR
  have hlt : s.1.chans.length < s2.1.chans.length := (List.getElem?_eq_some_iff.1 hc2).1
  have hp3 : parity e3 = parity s2.1 := by unfold parity; rw [hsrv3]
  refine ⟨⟨?_, ?_⟩, hsrv3.trans h02.1, ?_, ?_⟩
  · intro x hx; rw [hch3] at hx
    rcases List.mem_or_eq_of_mem_set hx with h | h
    · exact hI2.1 x h
    · rw [h]; exact hI2.1 c2 (List.mem_of_getElem? hc2)
  · rw [hp3, hdc3]; exact hI2.2
  · intro j x hx
    obtain ⟨y, hy, hxy⟩ := h02.2.1 j x hx
    have hjlt := (List.getElem?_eq_some_iff.1 hx).1
    have hj : s.1.chans.length ≠ j := by omega
    exact ⟨y, by simpa [hch3, List.getElem?_set_ne hj] using hy, hxy⟩
  · intro k j
    have a := h01.2.2 k j
    have b := hR.2.2 k j
    simp only [List.countP_append, bud, hch3, hch1] at a b ⊢
    by_cases hj : s.1.chans.length = j
    · subst hj
      rw [List.getElem?_set_self hlt]
      rw [hc2] at b
      have hn : s.1.chans[s.1.chans.length]? = none := List.getElem?_eq_none_iff.2 (Nat.le_refl _)
      rw [hn]
      rw [List.getElem?_concat_length] at b
      simp only at b ⊢
      clear a
      have h1 : (if c.ready = 0 then 1 else 0) ≤ 1 := by split <;> omega
      have h2 : (if c.ready < 3 then 1 else 0) ≤ 1 := by split <;> omega
      cases k <;> simp [Kind.ev, Kind.pending] at b ⊢ <;> omega
    · rw [List.getElem?_set_ne hj]
      have : [Out.evChannel s.1.chans.length].countP (Kind.ev k j) = 0 := by
        cases k <;> simp [Kind.ev] <;> omega
      rw [this]
      omega

theorem WP.push_then {α : Type} {s : St} (hI : LifeInv s.1) {E1 : Ep}
    (hch : ∃ c' : Chan, E1.chans = s.1.chans ++ [c'] ∧ c'.ready ≤ 3) (hsrv : E1.isServer = s.1.isServer)
    (hdc : ∀ d, E1.dcId = some d → d = parity s.1) {x : M α} {Q}
    (k : LifeInv E1 → FwdRel s (E1, s.2) → WP x Q (E1, s.2)) : WP x Q (E1, s.2) := by
  obtain ⟨c', hch, h3⟩ := hch
  have := fwd_push hI (l' := s.2) (l2 := []) hch hsrv hdc (by simp) h3 (by simp)
  exact k this.1 this.2

theorem WP.keep_then {α : Type} {s : St} (hI : LifeInv s.1) {E1 : Ep}
    (hch : E1.chans = s.1.chans) (hsrv : E1.isServer = s.1.isServer)
    (hdc : ∀ d, E1.dcId = some d → d = parity s.1) {x : M α} {Q}
    (k : LifeInv E1 → FwdRel s (E1, s.2) → WP x Q (E1, s.2)) : WP x Q (E1, s.2) := by
  have := fwd_same hI (l' := s.2) (l2 := []) hch hsrv hdc (by simp) (by simp)
  exact k this.1 this.2

@[handler] theorem fwd_dcReceive (sid ppid : Nat) (data : Bytes) : Pres fwdSpec (dcReceive sid ppid data) := by
  constructor; intro s hI
  unfold dcReceive
  wp_head
  wp_split
  · wp_split
    · wp_split
      · wp_head; exact Framed.done hI (by frame_rel)
      · wp_split
        · wp_head; exact Framed.done hI (by frame_rel)
        · wp_head
          refine WP.push_then hI ?_ ?_ ?_ ?_
          · exact ⟨_, rfl, by simp⟩
          · rfl
          · exact hI.2
          intro hI1 h01
          refine WP.call_bind (s := (_, _)) fwd_flush hI1 ?_
          intro r s2 h2
          obtain ⟨hI2, h12⟩ := h2 (fun h => h.elim)
          cases r with
          | error k => exact fun _ => ⟨hI2, FwdRel.trans _ _ _ h01 h12⟩
          | ok u =>
            simp only
            wp_head
            wp_split
            · wp_head
              obtain ⟨c2, hc2, _⟩ := h12.2.1 s.1.chans.length _ (List.getElem?_concat_length)
              rw [hc2]
              simp only
              refine WP.pres_after (S := fwdSpec) (s1 := (_, _)) (fwd_react 4 _) ?_ ?_
              · refine (fwd_announce rfl h01 hI2 h12 hc2 ?_ ?_ ?_).1 <;> rfl
              · refine (fwd_announce rfl h01 hI2 h12 hc2 ?_ ?_ ?_).2 <;> rfl
            · wp_head; exact fun _ => ⟨hI2, FwdRel.trans _ _ _ h01 h12⟩
    · wp_split
      · wp_split
        · wp_head; exact Framed.done hI (by frame_rel)
        · rename_i i hi
          wp_head
          cases hc : s.1.chans[i]? with
          | none => simp only; exact Framed.done hI (by frame_rel)
          | some c =>
            simp only
            wp_split
            · rename_i h0
              refine WP.mono (wp_setReady hI i 1 ?_ (by omega)) (fun _ _ h _ => h)
              intro c' hc'; rw [hc] at hc'; cases hc'; omega
            · wp_head; exact Framed.done hI (by frame_rel)
      · wp_head; exact Framed.done hI (by frame_rel)
  · -- a user message: a `message` event and the application's handler, no channel object is written
    exact Pres.out (by pres) s hI

end Aiortc.Sctp
