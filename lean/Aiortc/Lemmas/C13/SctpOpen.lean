import Aiortc.Lemmas.C13.SctpLifeRecv
import Aiortc.Lemmas.C13.SctpDcep
/-!
# A received DATA_CHANNEL_OPEN creates a channel object with exactly the decoded parameters and the
stream id it arrived on, and announces it with one `datachannel` event
-/
namespace Aiortc.Sctp
open Aiortc.Gen Aiortc.Sctp.Wire

def OpenPost (sid : Nat) (p : OpenParams) (s : St) (r : Except String Unit) (s' : St) : Prop :=
  IsOk r → ∃ c, s'.1.chans[s.1.chans.length]? = some c ∧ c.openParams = p ∧ c.id = some sid ∧
    c.negotiated = false ∧
    (s'.1.listeners = true → Out.evChannel s.1.chans.length ∈ s'.2 ∧ c.silent = false)

/-- what an application handler (a re-entrant `send()`) can change: the reaction list, `bufferedAmount`, the queue and
the log - every other field of every channel object, and the transport's listeners, stay -/
def ReactKeepPost (s1 : St) (_ : Except String Unit) (s' : St) : Prop :=
  s'.1.listeners = s1.1.listeners ∧ (∃ l2, s'.2 = s1.2 ++ l2) ∧
  ∀ (j : Nat) c, s1.1.chans[j]? = some c → ∃ c', s'.1.chans[j]? = some c' ∧ c' = { c with buffered := c'.buffered }

theorem wp_react_keeps (k i : Nat) (s1 : St) : WP (react k i) (ReactKeepPost s1) s1 := by
  have same : ∀ (e' : Ep) (l' : List Out) (r : Except String Unit), e'.listeners = s1.1.listeners →
      e'.chans = s1.1.chans → (∃ l2, l' = s1.2 ++ l2) → ReactKeepPost s1 r (e', l') := by
    intro e' l' r h1 h2 h3
    exact ⟨h1, h3, fun j c hc => ⟨c, by rw [h2]; exact hc, rfl⟩⟩
  rw [react_spec]
  cases armed s1.1 k i with
  | none => exact same _ _ _ rfl rfl ⟨[], by simp⟩
  | some r =>
    simp only
    cases hc : s1.1.chans[i]? with
    | none => exact same _ _ _ rfl rfl ⟨[], by simp⟩
    | some c =>
      simp only
      have hlt : i < s1.1.chans.length := (List.getElem?_eq_some_iff.1 hc).1
      split
      · exact same _ _ _ rfl rfl ⟨_, rfl⟩
      · unfold dcSend addBuffered0
        simp only [WPh_assoc]
        rw [WPh_addBufferedCore, hc]
        simp only
        -- only `buffered` of channel `i` is written
        have upd : ∀ (e' : Ep) (l' : List Out) (b : Int) (r : Except String Unit), e'.listeners = s1.1.listeners →
            e'.chans = s1.1.chans.set i { c with buffered := b } → (∃ l2, l' = s1.2 ++ l2) →
            ReactKeepPost s1 r (e', l') := by
          intro e' l' b r h1 h2 h3
          refine ⟨h1, h3, ?_⟩
          intro j x hx
          rw [h2]
          by_cases hj : i = j
          · subst hj
            rw [hc] at hx; cases hx
            exact ⟨_, List.getElem?_set_self hlt, rfl⟩
          · exact ⟨x, by simpa [List.getElem?_set_ne hj] using hx, rfl⟩
        wp_head
        exact upd _ _ _ _ rfl rfl ⟨_, List.append_assoc _ _ _⟩

/-- a forward step keeps what the DATA_CHANNEL_OPEN message carried -/
theorem ChanStep.openParams {par : Nat} {c c' : Chan} (h : ChanStep par c c') : c'.openParams = c.openParams := by
  simp only [Chan.openParams, h.label, h.protocol, h.ordered, h.maxRetransmits, h.maxPacketLifeTime]

theorem dcReceive_open (sid : Nat) (data : Bytes) (p : OpenParams) (hp : decodeOpen data = some p)
    (s : St) (hI : LifeInv s.1) (hfree : dictGet s.1.dataChannels sid = none) :
    WP (dcReceive sid WEBRTC_DCEP data) (OpenPost sid p s) s := by
  unfold decodeOpen at hp
  split at hp
  · rename_i hopen
    simp only at hp
    split at hp
    · cases hp
    · rename_i hutf
      simp only [Option.some.injEq] at hp
      have hne : (!data.isEmpty) = true := by
        simp only [Bool.and_eq_true, decide_eq_true_eq] at hopen
        cases data with
        | nil => simp at hopen
        | cons a t => rfl
      unfold dcReceive
      wp_head
      simp only [hne, decide_true, Bool.and_self, if_true, hopen, hfree, Option.isSome_none, Bool.false_eq_true,
        if_false, hutf]
      wp_head
      refine WP.push_then hI ?_ ?_ ?_ ?_
      · exact ⟨_, rfl, by simp⟩
      · rfl
      · exact hI.2
      intro hI1 h01
      refine WP.call_bind (s := (_, _)) fwd_flush hI1 ?_
      intro r s2 h2
      obtain ⟨hI2, h12⟩ := h2 (fun h => h.elim)
      obtain ⟨c2, hc2, hst⟩ := h12.2.1 s.1.chans.length _ (List.getElem?_concat_length)
      cases r with
      | error k => exact fun h => h.elim
      | ok u =>
        simp only
        wp_head
        wp_split
        · rename_i hl
          wp_head
          rw [hc2]
          simp only
          have hlt : s.1.chans.length < s2.1.chans.length := (List.getElem?_eq_some_iff.1 hc2).1
          refine WP.mono (wp_react_keeps 4 _ (_, _)) ?_
          intro r s' ⟨hl', ⟨l2, hl2⟩, hk⟩ _
          obtain ⟨c', hc', he⟩ := hk s.1.chans.length { c2 with silent := false }
            (by simp [List.getElem?_set_self hlt])
          refine ⟨c', hc', ?_, ?_, ?_, ?_⟩
          · rw [← hp, he]; exact hst.openParams
          · rw [he]; exact hst.id_keep sid rfl
          · rw [he]; exact hst.negotiated
          · intro _
            refine ⟨by rw [hl2]; simp, ?_⟩
            rw [he]
        · rename_i hl
          wp_head
          intro _
          refine ⟨c2, hc2, ?_, hst.id_keep sid rfl, hst.negotiated, fun h => absurd h hl⟩
          rw [← hp]; exact hst.openParams
  · cases hp

end Aiortc.Sctp
