import Aiortc.Lemmas.SctpEndpoint.Wp
/-!
# `_transmit_reconfig` resets a stream only once nothing is queued for it in `_data_channel_queue`
-/
set_option linter.unusedVariables false  -- `ResetPost` holds whatever the call returns: its result argument is unused
namespace Aiortc.Sctp
open Aiortc.Gen Aiortc.Sctp.Wire

/-- the stream id a queue entry will be sent on (`channel.id` of the queued channel object) -/
def queuedId (e : Ep) (q : Nat × Nat × Bytes) : Option Nat := (e.chans[q.1]?).bind (·.id)

/-- if `_transmit_reconfig` issues a new request, none of its streams is the id of a channel that still has an
entry in `_data_channel_queue` (whatever the outcome of the call) -/
def ResetPost (s : St) (r : Except String Unit) (s' : St) : Prop :=
  s.1.reconfigRequest = none → ∀ p, s'.1.reconfigRequest = some p →
    ∀ x ∈ p.2.2.2, ∀ q ∈ s'.1.dcQueue, queuedId s'.1 q ≠ some x

theorem streams_not_queued (rq : List Nat) (queued : List (Option Nat)) (n x : Nat)
    (hx : x ∈ (rq.filter fun x => !queued.contains (some x)).take n) : some x ∉ queued := by
  have h1 := List.mem_of_mem_take hx
  have h2 := (List.mem_filter.1 h1).2
  simpa using h2

end Aiortc.Sctp
