import Aiortc.Lemmas.C13.SctpBufSteps
import Aiortc.Lemmas.C13.SctpClose
/-!
# `bufferedAmount` stays exact: `setReady`, `dcClosed`, `dcClose`, `setState`, `dcReceive`

Each walk ends in one of the update lemmas of `SctpBufSteps` (`bufInv_queue`, `bufInv_set`, `bufInv_push`) or hands the
rest of the action to `pres`.
-/
namespace Aiortc.Sctp
open Aiortc.Gen Aiortc.Sctp.Wire

@[handler] theorem buf_modE (f : Ep → Ep) (h1 : ∀ e, (f e).chans = e.chans) (h2 : ∀ e, (f e).dcQueue = e.dcQueue) :
    Pres bufSpec (modE f) := by
  constructor; intro s hI
  wp_head
  intro _
  exact ⟨bufInv_queue hI (h1 _) (by rw [h2]; exact hI.1) (fun _ => by rw [h2]), trivial⟩

/-- `_setReadyState`: closing a channel, or moving a channel that is not closed, keeps the accounting -/
theorem wp_setReady_buf {s : St} (hI : BufInv s.1) (i st : Nat)
    (h : st = 3 ∨ ∀ c, s.1.chans[i]? = some c → c.ready ≠ 3) :
    WP (setReady i st) (fun r s' => IsOk r → BufInv s'.1) s := by
  refine wp_setReady_of (fun _ _ _ => hI) ?_
  intro c hc
  refine bufInv_set hI hc rfl hI.1 (fun _ _ => rfl) ?_
  intro h3
  rcases h with h | h
  · exact absurd h h3
  · exact ⟨h c hc, rfl⟩

@[handler] theorem buf_setReady3 (i : Nat) : Pres bufSpec (setReady i 3) := by
  constructor; intro s hI
  exact WP.mono (wp_setReady_buf hI i 3 (Or.inl rfl)) (fun _ _ h hk => ⟨h (hk trivial), trivial⟩)

@[handler] theorem buf_dcClosed (sid : Nat) : Pres bufSpec (dcClosed sid) := by
  unfold dcClosed; pres

@[handler] theorem buf_dcClose (i : Nat) : Pres bufSpec (dcClose i) := by
  constructor; intro s hI
  unfold dcClose
  wp_head
  cases hc : s.1.chans[i]? with
  | none => simp only; exact fun h => (h trivial).elim
  | some c =>
    simp only
    wp_split
    · rename_i hg
      have hpre : ∀ c', s.1.chans[i]? = some c' → c'.ready ≠ 3 :=
        forall_getElem?_of hc (by simp at hg; omega)
      apply WP.bind_of (wp_setReady_buf hI i 2 (Or.inr hpre))
      intro r s1 hI1'
      cases r with
      | error k => exact fun h => (h trivial).elim
      | ok u =>
        have hI1 := hI1' trivial
        simp only
        wp_head
        wp_split
        · wp_head
          wp_split
          · wp_head; intro _; exact ⟨bufInv_queue hI1 rfl hI1.1 (fun _ => rfl), trivial⟩
          · wp_head; intro _; exact ⟨bufInv_queue hI1 rfl hI1.1 (fun _ => rfl), trivial⟩
        · wp_head
          have hX : ∀ (e' : Ep), e'.chans = s1.1.chans → e'.dcQueue = (s1.1.dcQueue.filter fun q => q.1 != i) →
              ∀ l', WP (setReady i 3) (fun r s' => (bufSpec.okOnly → IsOk r) → bufSpec.I s'.1 ∧ bufSpec.R s s') (e', l') := by
            intro e' h1 h2 l'
            have : BufInvX i e' := by
              refine ⟨?_, ?_⟩
              · intro x hx; rw [h2] at hx; rw [h1]; exact hI1.1 x (List.mem_filter.1 hx).1
              · intro j x hj hx hx3
                rw [h2, qsum_filter_ne _ _ _ hj]
                rw [h1] at hx
                exact hI1.2 j x hx hx3
            exact WP.mono (wp_setReady3_X (s := (e', l')) this) (fun _ _ h hk => ⟨h (hk trivial), trivial⟩)
          wp_split
          · wp_split
            · wp_head; exact fun h => (h trivial).elim
            · wp_head; refine hX _ ?_ ?_ _ <;> rfl
          · refine hX _ ?_ ?_ _ <;> rfl
    · wp_head; exact fun _ => ⟨hI, trivial⟩

@[handler] theorem buf_setState (st : AState) : Pres bufSpec (setState st) := by
  unfold setState
  refine pres_bind ?_ (fun _ => ?_); pres_step
  split
  · refine pres_bind ?_ (fun _ => ?_); pres_step
    apply pres_bind pres_getE; intro e
    refine pres_bind ?_ (fun _ => ?_)
    rotate_left
    · pres
    apply pres_forIn; intro a b
    constructor; intro s hI
    wp_split
    wp_head
    rename_i i
    cases hc : s.1.chans[i]? with
    | none => simp only; exact fun h => (h trivial).elim
    | some c =>
      simp only
      wp_split
      · rename_i hg
        have hpre : ∀ c', s.1.chans[i]? = some c' → c'.ready ≠ 3 :=
          forall_getElem?_of hc (by simp at hg; omega)
        apply WP.bind_of (wp_setReady_buf hI i 1 (Or.inr hpre))
        intro r s1 h1
        cases r with
        | error k => exact fun h => (h trivial).elim
        | ok u => simp only; wp_head; exact fun _ => ⟨h1 trivial, trivial⟩
      · wp_head; exact fun _ => ⟨hI, trivial⟩
  · split
    · -- CLOSED
      refine pres_bind ?_ (fun _ => ?_); pres_step
      refine pres_bind ?_ (fun _ => ?_); pres_step
      refine pres_bind ?_ (fun _ => ?_); pres_step
      refine pres_bind ?_ (fun _ => ?_); pres_step
      refine pres_bind ?_ (fun _ => ?_); pres_step
      apply pres_bind pres_getE; intro e
      refine pres_bind ?_ (fun _ => ?_)
      · pres
      constructor; intro s hI
      wp_head
      refine WP.bind_of (closeLoop (fun x : Nat × Nat × Bytes => x.1) _ (fun x b => rfl) _ s) ?_
      intro r s6 ⟨k1, k2, k3, k4⟩
      cases r with
      | error k => exact fun h => (h trivial).elim
      | ok u =>
        simp only
        wp_head
        intro _
        refine ⟨⟨(by intro x hx; cases hx), ?_⟩, trivial⟩
        intro j c' hc' h3
        have hlt : j < s.1.chans.length := by
          rw [← k3.1]; exact (List.getElem?_eq_some_iff.1 hc').1
        obtain ⟨c'', hc'', hr, hb⟩ := k3.2 j _ (List.getElem?_eq_getElem hlt)
        simp only at hc'
        rw [hc''] at hc'; cases hc'
        have hr' : c'.ready = (s.1.chans[j]).ready := by
          rcases hr with h | h
          · exact h
          · exact absurd h h3
        have hq0 : qsum s.1.dcQueue j = 0 := by
          apply qsum_eq_zero_of_absent
          intro x hx hxj
          obtain ⟨c2, hc2, h32⟩ := k4 trivial x hx
          simp only at hc2
          rw [hxj, hc''] at hc2; cases hc2
          exact h3 h32
        have := hI.2 j _ (List.getElem?_eq_getElem hlt) (by rw [← hr']; exact h3)
        simp only [qsum]
        rw [hb, this, hq0]
    · pres

@[handler] theorem buf_dcReceive (sid ppid : Nat) (data : Bytes) : Pres bufSpec (dcReceive sid ppid data) := by
  constructor; intro s hI
  unfold dcReceive
  wp_head
  wp_split
  · wp_split
    · wp_split
      · wp_head; exact fun _ => ⟨hI, trivial⟩
      · wp_split
        · wp_head; exact fun _ => ⟨hI, trivial⟩
        · wp_head
          refine WP.call_bind (s := (_, _)) buf_flush ?_ ?_
          · exact bufInv_push hI (q2 := [(s.1.chans.length, WEBRTC_DCEP, [DATA_CHANNEL_ACK])])
              rfl rfl (by simp) rfl
          intro r s2 h2
          cases r with
          | error k => exact fun h => (h trivial).elim
          | ok u =>
            obtain ⟨hI2, _⟩ := h2 (fun _ => trivial)
            simp only
            wp_head
            wp_split
            · wp_head
              cases hc2 : s2.1.chans[s.1.chans.length]? with
              | none => simp only; exact fun h => (h trivial).elim
              | some c2 =>
                simp only
                refine WP.pres_after (S := bufSpec) (s1 := (_, _)) (buf_react 4 _) ?_ trivial
                exact bufInv_set hI2 hc2 rfl hI2.1 (fun _ _ => rfl) (fun h3 => ⟨h3, rfl⟩)
            · wp_head; exact fun _ => ⟨hI2, trivial⟩
    · wp_split
      · wp_split
        · wp_head; exact fun _ => ⟨hI, trivial⟩
        · rename_i i hi
          wp_head
          cases hc : s.1.chans[i]? with
          | none => simp only; exact fun h => (h trivial).elim
          | some c =>
            simp only
            wp_split
            · rename_i h0
              refine WP.mono (wp_setReady_buf hI i 1 (Or.inr ?_)) (fun _ _ h hk => ⟨h (hk trivial), trivial⟩)
              intro c' hc'; rw [hc] at hc'; cases hc'; omega
            · wp_head; exact fun _ => ⟨hI, trivial⟩
      · wp_head; exact fun _ => ⟨hI, trivial⟩
  · -- a user message: a `message` event and the application's handler, no channel object is written
    exact Pres.out (by pres) s hI

end Aiortc.Sctp
