import Aiortc.Lemmas.C13.SctpLifeRecv
/-!
# Forward steps: `createChannel`, hence every handler (`ChanOps fwdSpec`); `step`, runs
-/
namespace Aiortc.Sctp
open Aiortc.Gen Aiortc.Sctp.Wire

@[handler] theorem fwd_createChannel (p : CreateParams) : Pres fwdSpec (createChannel p) := by
  constructor; intro s hI
  unfold createChannel
  wp_head
  wp_split
  · -- refused: `negotiated` without a usable id
    wp_head; exact Framed.done hI (by frame_rel)
  wp_split
  · -- `_data_channel_open`: the channel object is appended and its DATA_CHANNEL_OPEN queued; if that cannot be
    -- encoded (`struct.error`) only the id stays registered
    split
    · wp_split
      · wp_head; exact Framed.done hI (by frame_rel)
      · split
        · wp_head; exact fun _ => fwd_push hI rfl rfl hI.2 rfl (by simp) (by simp [Out.isChanEvOrCrash])
        · wp_head; exact fun _ => fwd_same hI rfl rfl hI.2 rfl (by simp [Out.isChanEvOrCrash])
    · split
      · wp_head; exact fun _ => fwd_push hI rfl rfl hI.2 rfl (by simp) (by simp [Out.isChanEvOrCrash])
      · wp_head; exact fun _ => fwd_same hI rfl rfl hI.2 rfl (by simp [Out.isChanEvOrCrash])
  · -- `_data_channel_add_negotiated`: the channel object is appended, open at once on an established association
    split
    · wp_split
      · wp_head; exact Framed.done hI (by frame_rel)
      · wp_head
        exact fun _ => fwd_push hI (l2 := []) rfl rfl hI.2 (by simp) (by split <;> simp) (by simp)
    · wp_head; exact Framed.done hI (by frame_rel)

instance : ChanOps fwdSpec where
  setState := fwd_setState
  flushLoop := fwd_flushLoop
  dcReceive := fwd_dcReceive
  dcClose := fwd_dcClose
  dcClosed := fwd_dcClosed
  dcSend := fwd_dcSend
  createChannel := fwd_createChannel
  start := fun rp => by
    constructor; intro s hI
    simp only [handle]
    wp_head
    wp_split
    · wp_head
      refine WP.keep_then hI ?_ ?_ ?_ ?_
      · rfl
      · rfl
      · intro d hd; exact (Option.some.inj hd).symm
      · intro hI1 h01; exact WP.pres_after (S := fwdSpec) (by pres) hI1 h01
    · wp_head; exact Framed.done hI (by frame_rel)
  threshold := fun i v => by
    constructor; intro s hI
    simp only [handle]
    wp_split
    · wp_head; exact Framed.done hI (by frame_rel)
    · wp_head
      cases hc : s.1.chans[i]? with
      | none => simp only; exact Framed.done hI (by frame_rel)
      | some c =>
        simp only
        intro _
        exact fwd_set hI hc rfl rfl hI.2 (by simp)
          (.of_same rfl rfl rfl rfl rfl rfl rfl rfl)
          (hI.1 c (List.mem_of_getElem? hc)) .none

theorem fwd_handle (inp : Input) : Pres fwdSpec (handle inp) :=
  pres_handle inp (fun _ _ _ _ he => by subst he; simp only [handle]; pres)

/-! ## one atomic step, and runs -/

/-- the log before the step does not matter -/
theorem FwdRel.shift {e e' : Ep} {o : List Out} (h : FwdRel (e, []) (e', o)) (l : List Out) :
    FwdRel (e, l) (e', l ++ o) := by
  refine ⟨h.1, h.2.1, ?_⟩
  intro k i
  have := h.2.2 k i
  simp only [List.countP_append, List.countP_nil] at this ⊢
  omega

theorem step_forward (e : Ep) (now : Int) (inp : Input) (hI : LifeInv e) :
    LifeInv (step e now inp).1 ∧ FwdRel (e, []) (step e now inp) := by
  have h0 : LifeInv { e with now := now } ∧ FwdRel (e, []) ({ e with now := now }, []) :=
    fwd_same (s := (e, [])) hI (l2 := []) rfl rfl hI.2 (by simp) (by simp)
  refine WP.step (P := fun r => LifeInv r.1 ∧ FwdRel (e, []) r) (((fwd_handle inp).out ({ e with now := now }, []) h0.1).mono ?_)
  intro r s' h1
  have h2 := h1 (fun h => h.elim)
  cases r with
  | ok u => exact ⟨h2.1, FwdRel.trans _ _ _ h0.2 h2.2⟩
  | error k =>
    -- the marker `.crash k` is no event of a channel
    refine ⟨h2.1, FwdRel.trans _ _ _ h0.2 ⟨h2.2.1, h2.2.2.1, fun kd i => ?_⟩⟩
    have hk : Kind.ev kd i (Out.crash k) = false := by cases kd <;> rfl
    simpa [List.countP_append, List.countP_cons, hk] using h2.2.2.2 kd i

/-- a run: inputs with their clock values, outputs concatenated -/
def runSteps (e : Ep) : List (Int × Input) → Ep × List Out
  | [] => (e, [])
  | (now, inp) :: rest =>
    let r1 := step e now inp
    let r2 := runSteps r1.1 rest
    (r2.1, r1.2 ++ r2.2)

theorem runSteps_append (e : Ep) (a b : List (Int × Input)) :
    runSteps e (a ++ b) =
      ((runSteps (runSteps e a).1 b).1, (runSteps e a).2 ++ (runSteps (runSteps e a).1 b).2) := by
  induction a generalizing e with
  | nil => simp [runSteps]
  | cons x a ih =>
    obtain ⟨now, inp⟩ := x
    simp only [List.cons_append, runSteps, ih, List.append_assoc]

theorem run_forward (e : Ep) (ins : List (Int × Input)) (hI : LifeInv e) :
    LifeInv (runSteps e ins).1 ∧ FwdRel (e, []) (runSteps e ins) := by
  induction ins generalizing e with
  | nil => exact ⟨hI, FwdRel.refl _⟩
  | cons x rest ih =>
    obtain ⟨now, inp⟩ := x
    have h1 := step_forward e now inp hI
    have h2 := ih (step e now inp).1 h1.1
    refine ⟨h2.1, ?_⟩
    have h3 := FwdRel.shift (e := (step e now inp).1) h2.2 (step e now inp).2
    exact FwdRel.trans _ _ _ h1.2 h3

end Aiortc.Sctp
