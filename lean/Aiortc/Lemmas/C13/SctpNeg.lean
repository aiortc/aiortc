import Aiortc.Lemmas.SctpEndpoint.Wp
/-!
# Out-of-band negotiated channels: `RTCDataChannel(..., negotiated=True, id=n)` registers exactly id `n`
or raises `ValueError` leaving the transport unchanged
-/
namespace Aiortc.Sctp
open Aiortc.Gen Aiortc.Sctp.Wire

def NegPost (p : CreateParams) (e : Ep) (l : List Out) (r : Except String Unit) (s' : St) : Prop :=
  r = .ok () ∧
  (s' = (e, l ++ [.exc "ValueError"]) ∨
   ∃ v : Int, p.id = some v ∧ 0 ≤ v ∧ v ≤ 65534 ∧ dictGet e.dataChannels v.toNat = none ∧
     s'.2 = l ∧ ∃ c : Chan,
       s'.1 = { e with chans := e.chans ++ [c], dataChannels := e.dataChannels ++ [(v.toNat, e.chans.length)] } ∧
       c.id = some v.toNat ∧ c.negotiated = true ∧ c.label = p.label ∧ c.protocol = p.protocol ∧
       c.ordered = p.ordered ∧ c.maxRetransmits = p.maxRetransmits ∧ c.maxPacketLifeTime = p.maxPacketLifeTime ∧
       c.buffered = 0 ∧ c.ready = (if e.assoc = .established then 1 else 0))

end Aiortc.Sctp
