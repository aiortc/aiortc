import Aiortc.Model.Sctp.Endpoint
import Aiortc.Lemmas.SctpDict
/-!
# Id allocation in `_data_channel_flush`: `while stream_id in self._data_channels: stream_id += 2`

`flushLoop.pick e fuel s` is that loop with fuel `len(_data_channels) + 1`.  It passes `k` registered ids and stops
at `s + 2 * k` (`pick_spec`); `k` distinct registered ids need `k ≤ len(_data_channels)` (`keys_pigeon`), so the fuel is
never exhausted and the id found is not registered (`pick_free`); it has the parity of the start value (`pick_parity`).
-/
namespace Aiortc.Sctp

theorem pick_succ (e : Ep) (f s : Nat) :
    flushLoop.pick e (f + 1) s = if (dictGet e.dataChannels s).isSome then flushLoop.pick e f (s + 2) else s := by
  simp [flushLoop.pick]

theorem pick_spec (e : Ep) : ∀ (fuel s : Nat), ∃ k, k ≤ fuel ∧ flushLoop.pick e fuel s = s + 2 * k ∧
    (∀ j, j < k → (dictGet e.dataChannels (s + 2 * j)).isSome = true) ∧
    (k < fuel → (dictGet e.dataChannels (s + 2 * k)).isSome = false) := by
  intro fuel
  induction fuel with
  | zero => intro s; exact ⟨0, Nat.le_refl _, by simp [flushLoop.pick], by intro j hj; omega, by intro h; omega⟩
  | succ f ih =>
    intro s
    rw [pick_succ]
    split
    · rename_i hs
      obtain ⟨k, hk, he, hin, hout⟩ := ih (s + 2)
      refine ⟨k + 1, by omega, by rw [he]; omega, ?_, ?_⟩
      · intro j hj
        cases j with
        | zero => simpa using hs
        | succ j =>
          have := hin j (by omega)
          rw [show s + 2 * (j + 1) = s + 2 + 2 * j by omega]; exact this
      · intro hlt
        have := hout (by omega)
        rw [show s + 2 * (k + 1) = s + 2 + 2 * k by omega]; exact this
    · rename_i hs
      exact ⟨0, by omega, by simp, by intro j hj; omega, by intro _; simpa using hs⟩

/-- Pigeonhole: `k` distinct keys `s, s+2, …` in the dict need `k ≤ len`. -/
theorem keys_pigeon {β} (d : List (Nat × β)) (s k : Nat)
    (h : ∀ j, j < k → (dictGet d (s + 2 * j)).isSome = true) : k ≤ d.length := by
  have hnd : ((List.range k).map fun j => s + 2 * j).Nodup := by
    unfold List.Nodup
    rw [List.pairwise_map]
    exact (List.nodup_range (n := k)).imp (by intro a b hab; omega)
  have hsub : ((List.range k).map fun j => s + 2 * j) ⊆ d.map (·.1) := by
    intro x hx
    obtain ⟨j, hj, rfl⟩ := List.mem_map.mp hx
    have hj' : j < k := by simpa using hj
    have := h j hj'
    cases hg : dictGet d (s + 2 * j) with
    | none => rw [hg] at this; cases this
    | some v => exact List.mem_map.mpr ⟨_, dictGet_mem _ _ _ hg, rfl⟩
  have := List.Nodup.length_le_of_subset hnd hsub
  simpa using this

theorem pick_parity (e : Ep) (fuel s : Nat) : flushLoop.pick e fuel s % 2 = s % 2 := by
  obtain ⟨k, -, he, -, -⟩ := pick_spec e fuel s
  omega

theorem pick_free (e : Ep) (s : Nat) :
    dictGet e.dataChannels (flushLoop.pick e (e.dataChannels.length + 1) s) = none := by
  obtain ⟨k, -, he, hin, hout⟩ := pick_spec e (e.dataChannels.length + 1) s
  have hk := keys_pigeon e.dataChannels s k hin
  rw [he]
  exact Option.isSome_eq_false_iff.mp (hout (by omega)) |> Option.isNone_iff_eq_none.mp

end Aiortc.Sctp
