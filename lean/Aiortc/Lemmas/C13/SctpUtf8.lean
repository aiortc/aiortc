import Aiortc.Model.Sctp.Dcep
import Aiortc.Lemmas.Bytes
/-!
# `utf8Valid` accepts exactly the well-formed UTF-8 byte sequences (Unicode Table 3-7)

The two directions are `utf8Valid_sound` and `utf8Valid_flatMap`; `Props.C13.utf8_exact` puts them together.

`encodeCp` is the UTF-8 encoding of a code point (Unicode Table 3-6); `Scalar n` says `n` is a Unicode
scalar value (no surrogates, at most U+10FFFF).
-/
namespace Aiortc.Sctp

theorem utf8Valid_cons (b0 : Nat) (r : Bytes) : utf8Valid (b0 :: r) =
    if b0 < 0x80 then utf8Valid r
    else if 0xC2 ≤ b0 ∧ b0 ≤ 0xDF then
      match r with
      | b1 :: r => (0x80 ≤ b1 && b1 ≤ 0xBF) && utf8Valid r
      | _ => false
    else if 0xE0 ≤ b0 ∧ b0 ≤ 0xEF then
      match r with
      | b1 :: b2 :: r =>
        ((if b0 = 0xE0 then 0xA0 else 0x80) ≤ b1 && b1 ≤ (if b0 = 0xED then 0x9F else 0xBF)) &&
          (0x80 ≤ b2 && b2 ≤ 0xBF) && utf8Valid r
      | _ => false
    else if 0xF0 ≤ b0 ∧ b0 ≤ 0xF4 then
      match r with
      | b1 :: b2 :: b3 :: r =>
        ((if b0 = 0xF0 then 0x90 else 0x80) ≤ b1 && b1 ≤ (if b0 = 0xF4 then 0x8F else 0xBF)) &&
          (0x80 ≤ b2 && b2 ≤ 0xBF) && (0x80 ≤ b3 && b3 ≤ 0xBF) && utf8Valid r
      | _ => false
    else false := by
  rw [utf8Valid.eq_def]; rfl

/-! ## the multi-byte forms on base-64 digits

A lead byte is `0xC0 + a`, `0xE0 + a` or `0xF0 + a`, a continuation byte is `0x80 + d` with `d < 64`, and the
code point is the number `((a * 64 + d1) * 64 + d2) …` with these digits.  The arithmetic of both directions
is done here, once per form, on the digits. -/

theorem digits64 (n : Nat) : ∃ x d, d < 64 ∧ n = x * 64 + d :=
  ⟨n / 64, n % 64, Nat.mod_lt _ (by decide), (Nat.div_add_mod' n 64).symm⟩

theorem cont_digit {b : Nat} (h1 : 0x80 ≤ b) (h2 : b ≤ 0xBF) : ∃ d, d < 64 ∧ b = 0x80 + d :=
  ⟨b - 0x80, by omega, by omega⟩

theorem encodeCp_2 (a d : Nat) (h : 2 ≤ a) (ha : a < 32) (hd : d < 64) :
    encodeCp (a * 64 + d) = [0xC0 + a, 0x80 + d] := by
  unfold encodeCp
  rw [if_neg (by omega), if_pos (by omega), (mul_add_div_mod _ 64 _ hd).1, (mul_add_div_mod _ 64 _ hd).2]

theorem encodeCp_3 (a d1 d2 : Nat) (ha : a < 16) (h1 : d1 < 64) (h2 : d2 < 64) (h : a = 0 → 32 ≤ d1) :
    encodeCp ((a * 64 + d1) * 64 + d2) = [0xE0 + a, 0x80 + d1, 0x80 + d2] := by
  unfold encodeCp
  rw [if_neg (by omega), if_neg (by omega), if_pos (by omega), show (4096 : Nat) = 64 * 64 from rfl,
    ← Nat.div_div_eq_div_mul, (mul_add_div_mod _ 64 _ h2).1, (mul_add_div_mod _ 64 _ h1).1, (mul_add_div_mod _ 64 _ h1).2, (mul_add_div_mod _ 64 _ h2).2]

theorem encodeCp_4 (a d1 d2 d3 : Nat) (h1 : d1 < 64) (h2 : d2 < 64) (h3 : d3 < 64) (h : a = 0 → 16 ≤ d1) :
    encodeCp (((a * 64 + d1) * 64 + d2) * 64 + d3) = [0xF0 + a, 0x80 + d1, 0x80 + d2, 0x80 + d3] := by
  unfold encodeCp
  rw [if_neg (by omega), if_neg (by omega), if_neg (by omega), show (262144 : Nat) = 64 * 64 * 64 from rfl,
    show (4096 : Nat) = 64 * 64 from rfl, ← Nat.div_div_eq_div_mul, ← Nat.div_div_eq_div_mul,
    (mul_add_div_mod _ 64 _ h3).1, (mul_add_div_mod _ 64 _ h2).1, (mul_add_div_mod _ 64 _ h1).1, (mul_add_div_mod _ 64 _ h1).2, (mul_add_div_mod _ 64 _ h2).2, (mul_add_div_mod _ 64 _ h3).2]

theorem cont_ok (d : Nat) (h : d < 64) : (decide (0x80 ≤ 0x80 + d) && decide (0x80 + d ≤ 0xBF)) = true := by
  rw [decide_eq_true (by omega), decide_eq_true (by omega)]; rfl

theorem valid_2 (a d : Nat) (r : Bytes) (h : 2 ≤ a) (ha : a < 32) (hd : d < 64) :
    utf8Valid ((0xC0 + a) :: (0x80 + d) :: r) = utf8Valid r := by
  rw [utf8Valid_cons, if_neg (by omega), if_pos (by omega)]
  simp only [cont_ok d hd, Bool.true_and]

/-- Three bytes: not overlong (`a = 0 → 32 ≤ d1`) and no surrogate (`a = 13 → d1 < 32`). -/
theorem valid_3 (a d1 d2 : Nat) (r : Bytes) (ha : a < 16) (h1 : d1 < 64) (h2 : d2 < 64)
    (hlo : a = 0 → 32 ≤ d1) (hhi : a = 13 → d1 < 32) :
    utf8Valid ((0xE0 + a) :: (0x80 + d1) :: (0x80 + d2) :: r) = utf8Valid r := by
  rw [utf8Valid_cons, if_neg (by omega), if_neg (by omega), if_pos (by omega)]
  have b1 : (if 0xE0 + a = 0xE0 then 0xA0 else 0x80) ≤ 0x80 + d1 := by split <;> omega
  have b2 : 0x80 + d1 ≤ (if 0xE0 + a = 0xED then 0x9F else 0xBF) := by split <;> omega
  simp only [decide_eq_true b1, decide_eq_true b2, cont_ok d2 h2, Bool.and_self, Bool.true_and]

/-- Four bytes: not overlong (`a = 0 → 16 ≤ d1`) and at most U+10FFFF (`a ≤ 4`, `a = 4 → d1 < 16`). -/
theorem valid_4 (a d1 d2 d3 : Nat) (r : Bytes) (ha : a ≤ 4) (h1 : d1 < 64) (h2 : d2 < 64) (h3 : d3 < 64)
    (hlo : a = 0 → 16 ≤ d1) (hhi : a = 4 → d1 < 16) :
    utf8Valid ((0xF0 + a) :: (0x80 + d1) :: (0x80 + d2) :: (0x80 + d3) :: r) = utf8Valid r := by
  rw [utf8Valid_cons, if_neg (by omega), if_neg (by omega), if_neg (by omega), if_pos (by omega)]
  have b1 : (if 0xF0 + a = 0xF0 then 0x90 else 0x80) ≤ 0x80 + d1 := by split <;> omega
  have b2 : 0x80 + d1 ≤ (if 0xF0 + a = 0xF4 then 0x8F else 0xBF) := by split <;> omega
  simp only [decide_eq_true b1, decide_eq_true b2, cont_ok d2 h2, cont_ok d3 h3, Bool.and_self, Bool.true_and]

theorem utf8Valid_encodeCp (n : Nat) (h : Scalar n) (r : Bytes) :
    utf8Valid (encodeCp n ++ r) = utf8Valid r := by
  unfold Scalar at h
  by_cases h1 : n < 0x80
  · rw [show encodeCp n = [n] from if_pos h1, List.singleton_append, utf8Valid_cons, if_pos h1]
  obtain ⟨x, d3, hd3, rfl⟩ := digits64 n
  by_cases h2 : x * 64 + d3 < 0x800
  · rw [encodeCp_2 x d3 (by omega) (by omega) hd3]
    exact valid_2 x d3 r (by omega) (by omega) hd3
  obtain ⟨y, d2, hd2, rfl⟩ := digits64 x
  by_cases h3 : (y * 64 + d2) * 64 + d3 < 0x10000
  · rw [encodeCp_3 y d2 d3 (by omega) hd2 hd3 (by omega)]
    exact valid_3 y d2 d3 r (by omega) hd2 hd3 (by omega) (by omega)
  obtain ⟨a, d1, hd1, rfl⟩ := digits64 y
  rw [encodeCp_4 a d1 d2 d3 hd1 hd2 hd3 (by omega)]
  exact valid_4 a d1 d2 d3 r (by omega) hd1 hd2 hd3 (by omega) (by omega)

theorem utf8Valid_flatMap (cps : List Nat) (h : ∀ n ∈ cps, Scalar n) :
    utf8Valid (cps.flatMap encodeCp) = true := by
  induction cps with
  | nil => rfl
  | cons n t ih =>
    rw [List.flatMap_cons, utf8Valid_encodeCp n (List.forall_mem_cons.1 h).1]
    exact ih (List.forall_mem_cons.1 h).2

/-! ## soundness: the bytes a multi-byte test accepts are the encoding of a scalar value -/

theorem form_2 (b0 b1 : Nat) (h0 : 0xC2 ≤ b0 ∧ b0 ≤ 0xDF) (c1 : 0x80 ≤ b1) (c2 : b1 ≤ 0xBF) :
    ∃ n, Scalar n ∧ encodeCp n = [b0, b1] := by
  obtain ⟨a, rfl⟩ : ∃ a, b0 = 0xC0 + a := ⟨b0 - 0xC0, by omega⟩
  obtain ⟨d, hd, rfl⟩ := cont_digit c1 c2
  exact ⟨a * 64 + d, .inl (by omega), encodeCp_2 a d (by omega) (by omega) hd⟩

theorem form_3 (b0 b1 b2 : Nat) (h0 : 0xE0 ≤ b0 ∧ b0 ≤ 0xEF)
    (c1 : (if b0 = 0xE0 then 0xA0 else 0x80) ≤ b1) (c2 : b1 ≤ if b0 = 0xED then 0x9F else 0xBF)
    (c3 : 0x80 ≤ b2) (c4 : b2 ≤ 0xBF) : ∃ n, Scalar n ∧ encodeCp n = [b0, b1, b2] := by
  obtain ⟨a, rfl⟩ : ∃ a, b0 = 0xE0 + a := ⟨b0 - 0xE0, by omega⟩
  have hlo : 0x80 ≤ b1 ∧ (a = 0 → 0xA0 ≤ b1) := by split at c1 <;> omega
  have hhi : b1 ≤ 0xBF ∧ (a = 13 → b1 ≤ 0x9F) := by split at c2 <;> omega
  clear c1 c2
  obtain ⟨d1, hd1, rfl⟩ := cont_digit hlo.1 hhi.1
  obtain ⟨d2, hd2, rfl⟩ := cont_digit c3 c4
  refine ⟨(a * 64 + d1) * 64 + d2, ?_, encodeCp_3 a d1 d2 (by omega) hd1 hd2 (by omega)⟩
  unfold Scalar; omega

theorem form_4 (b0 b1 b2 b3 : Nat) (h0 : 0xF0 ≤ b0 ∧ b0 ≤ 0xF4)
    (c1 : (if b0 = 0xF0 then 0x90 else 0x80) ≤ b1) (c2 : b1 ≤ if b0 = 0xF4 then 0x8F else 0xBF)
    (c3 : 0x80 ≤ b2) (c4 : b2 ≤ 0xBF) (c5 : 0x80 ≤ b3) (c6 : b3 ≤ 0xBF) :
    ∃ n, Scalar n ∧ encodeCp n = [b0, b1, b2, b3] := by
  obtain ⟨a, rfl⟩ : ∃ a, b0 = 0xF0 + a := ⟨b0 - 0xF0, by omega⟩
  have hlo : 0x80 ≤ b1 ∧ (a = 0 → 0x90 ≤ b1) := by split at c1 <;> omega
  have hhi : b1 ≤ 0xBF ∧ (a = 4 → b1 ≤ 0x8F) := by split at c2 <;> omega
  clear c1 c2
  obtain ⟨d1, hd1, rfl⟩ := cont_digit hlo.1 hhi.1
  obtain ⟨d2, hd2, rfl⟩ := cont_digit c3 c4
  obtain ⟨d3, hd3, rfl⟩ := cont_digit c5 c6
  refine ⟨((a * 64 + d1) * 64 + d2) * 64 + d3, ?_, encodeCp_4 a d1 d2 d3 hd1 hd2 hd3 (by omega)⟩
  unfold Scalar; omega

/-- What is accepted starts with the encoding of a scalar value, and the rest is accepted. -/
theorem utf8Valid_head (b0 : Nat) (r : Bytes) (hv : utf8Valid (b0 :: r) = true) :
    ∃ n r', Scalar n ∧ b0 :: r = encodeCp n ++ r' ∧ utf8Valid r' = true ∧ r'.length ≤ r.length := by
  rw [utf8Valid_cons] at hv
  by_cases h1 : b0 < 0x80
  · rw [if_pos h1] at hv
    exact ⟨b0, r, .inl (by omega), by rw [show encodeCp b0 = [b0] from if_pos h1]; rfl, hv, Nat.le_refl _⟩
  rw [if_neg h1] at hv
  by_cases h2 : 0xC2 ≤ b0 ∧ b0 ≤ 0xDF
  · rw [if_pos h2] at hv
    match r, hv with
    | [], hv => cases hv
    | b1 :: r, hv =>
      simp only [Bool.and_eq_true, decide_eq_true_eq] at hv
      obtain ⟨n, hn, he⟩ := form_2 b0 b1 h2 hv.1.1 hv.1.2
      exact ⟨n, r, hn, by rw [he]; rfl, hv.2, Nat.le_succ _⟩
  rw [if_neg h2] at hv
  by_cases h3 : 0xE0 ≤ b0 ∧ b0 ≤ 0xEF
  · rw [if_pos h3] at hv
    match r, hv with
    | [], hv => cases hv
    | [_], hv => cases hv
    | b1 :: b2 :: r, hv =>
      simp only [Bool.and_eq_true, decide_eq_true_eq] at hv
      obtain ⟨n, hn, he⟩ := form_3 b0 b1 b2 h3 hv.1.1.1 hv.1.1.2 hv.1.2.1 hv.1.2.2
      exact ⟨n, r, hn, by rw [he]; rfl, hv.2, Nat.le_add_right _ 2⟩
  rw [if_neg h3] at hv
  by_cases h4 : 0xF0 ≤ b0 ∧ b0 ≤ 0xF4
  · rw [if_pos h4] at hv
    match r, hv with
    | [], hv => cases hv
    | [_], hv => cases hv
    | [_, _], hv => cases hv
    | b1 :: b2 :: b3 :: r, hv =>
      simp only [Bool.and_eq_true, decide_eq_true_eq] at hv
      obtain ⟨n, hn, he⟩ := form_4 b0 b1 b2 b3 h4 hv.1.1.1.1 hv.1.1.1.2 hv.1.1.2.1 hv.1.1.2.2 hv.1.2.1 hv.1.2.2
      exact ⟨n, r, hn, by rw [he]; rfl, hv.2, Nat.le_add_right _ 3⟩
  · rw [if_neg h4] at hv; cases hv

theorem utf8Valid_sound (k : Nat) : ∀ b : Bytes, b.length ≤ k → utf8Valid b = true →
    ∃ cps : List Nat, (∀ n ∈ cps, Scalar n) ∧ b = cps.flatMap encodeCp := by
  induction k with
  | zero =>
    intro b hb _
    exact ⟨[], nofun, List.length_eq_zero_iff.1 (Nat.le_zero.1 hb)⟩
  | succ k ih =>
    intro b hb hv
    cases b with
    | nil => exact ⟨[], nofun, rfl⟩
    | cons b0 r =>
      obtain ⟨n, r', hn, he, hv', hl⟩ := utf8Valid_head b0 r hv
      obtain ⟨cps, hs, he'⟩ := ih r' (by simp at hb; omega) hv'
      exact ⟨n :: cps, List.forall_mem_cons.2 ⟨hn, hs⟩, by rw [he, he']; rfl⟩

end Aiortc.Sctp
