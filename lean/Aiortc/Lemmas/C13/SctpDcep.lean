import Aiortc.Model.Sctp.Dcep
import Aiortc.Lemmas.Bytes
/-!
# DCEP `DATA_CHANNEL_OPEN`: the parser inside `dcReceive`, restated purely, inverts `encodeOpen`

What `decodeOpen` reads from an `openMsg`; `Props.C13.dcep_roundtrip` shows that `encodeOpen` writes one.
-/
namespace Aiortc.Sctp
open Aiortc.Gen Aiortc.Sctp.Wire

/-- the message built by `_data_channel_open` -/
def openMsg (ct rel : Nat) (label protocol : Bytes) : Bytes :=
  [DATA_CHANNEL_OPEN, ct] ++ u16be 0 ++ u32be rel ++ u16be label.length ++ u16be protocol.length
    ++ label ++ protocol

theorem decodeOpen_openMsg (ct rel : Nat) (label protocol : Bytes)
    (hl : label.length < 65536) (hp : protocol.length < 65536) (hr : rel < 4294967296)
    (hul : utf8Valid label = true) (hup : utf8Valid protocol = true) :
    decodeOpen (openMsg ct rel label protocol) = some {
      label := label, protocol := protocol
      ordered := ct / 128 % 2 = 0
      maxRetransmits := if ct % 4 = 1 then some rel else none
      maxPacketLifeTime := if ct % 4 = 2 then some rel else none } := by
  have e1 : openMsg ct rel label protocol =
      DATA_CHANNEL_OPEN :: ct :: (u16be 0 ++ (u32be rel ++ (u16be label.length ++ (u16be protocol.length
        ++ (label ++ protocol))))) := by
    simp [openMsg]
  have h4 : ((openMsg ct rel label protocol).drop 4).take 4 = u32be rel := by
    rw [e1]; simp [u16be, u32be]
  have h8 : ((openMsg ct rel label protocol).drop 8).take 2 = u16be label.length := by
    rw [e1]; simp [u16be, u32be]
  have h10 : ((openMsg ct rel label protocol).drop 10).take 2 = u16be protocol.length := by
    rw [e1]; simp [u16be, u32be]
  have h12 : (openMsg ct rel label protocol).drop 12 = label ++ protocol := by
    rw [e1]; simp [u16be, u32be]
  have h12' : (openMsg ct rel label protocol).drop (12 + label.length) = protocol := by
    rw [← List.drop_drop, h12]; simp
  have hlen : (openMsg ct rel label protocol).length ≥ 12 := by
    rw [e1]; simp [u16be, u32be]
  have hhd : (openMsg ct rel label protocol).headD 0 = DATA_CHANNEL_OPEN := by rw [e1]; rfl
  have hct : (openMsg ct rel label protocol).getD 1 0 = ct := by rw [e1]; rfl
  unfold decodeOpen
  simp only [hhd, hlen, hct, h4, h8, h10, beVal_u32be rel hr, beVal_u16be _ hl, beVal_u16be _ hp, h12, h12']
  simp [hul, hup]

end Aiortc.Sctp
