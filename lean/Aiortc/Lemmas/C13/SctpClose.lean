import Aiortc.Lemmas.SctpEndpoint.Frame
import Aiortc.Lemmas.SctpEndpoint.Ops
import Aiortc.Lemmas.SctpDict
/-!
# When the association ends every channel closes (`_set_state(CLOSED)`)

`ChansRel s s'`: there are as many channel objects as before, each has its `buffered` amount and either its
`ready` state or `ready = 3` (closed); `closeIdsLoop`/`closeLoop` are the two `for` loops of `_set_state(CLOSED)`.
-/
namespace Aiortc.Sctp
open Aiortc.Gen Aiortc.Sctp.Wire

def ClosedAt (e : Ep) (i : Nat) : Prop := ∃ c, e.chans[i]? = some c ∧ c.ready = 3

def ChansRel (s s' : St) : Prop :=
  s'.1.chans.length = s.1.chans.length ∧
  ∀ (j : Nat) c, s.1.chans[j]? = some c →
    ∃ c', s'.1.chans[j]? = some c' ∧ (c'.ready = c.ready ∨ c'.ready = 3) ∧ c'.buffered = c.buffered

theorem ChansRel.refl (s : St) : ChansRel s s := ⟨rfl, fun _ c h => ⟨c, h, Or.inl rfl, rfl⟩⟩

theorem ChansRel.trans {a b c : St} (h1 : ChansRel a b) (h2 : ChansRel b c) : ChansRel a c := by
  refine ⟨h2.1.trans h1.1, ?_⟩
  intro j x hx
  obtain ⟨y, hy, hr1, hb1⟩ := h1.2 j x hx
  obtain ⟨z, hz, hr2, hb2⟩ := h2.2 j y hy
  refine ⟨z, hz, ?_, hb2.trans hb1⟩
  rcases hr2 with h | h
  · rcases hr1 with h' | h'
    · left; rw [h, h']
    · right; rw [h, h']
  · right; exact h

theorem ChansRel.closed_stays {s s' : St} (h : ChansRel s s') {i : Nat} (hc : ClosedAt s.1 i) : ClosedAt s'.1 i := by
  obtain ⟨c, hc, h3⟩ := hc
  obtain ⟨c', hc', hr, _⟩ := h.2 i c hc
  exact ⟨c', hc', by rcases hr with h | h <;> omega⟩

/-- postcondition of `_setReadyState("closed")` on channel object `i` -/
def CloseStep (i : Nat) (s : St) (r : Except String Unit) (s' : St) : Prop :=
  s'.1.dcQueue = s.1.dcQueue ∧ s'.1.dataChannels = s.1.dataChannels ∧ ChansRel s s' ∧ (IsOk r → ClosedAt s'.1 i)

/-- postcondition of a handler running on a closed channel: channel objects, queue and ids are as before -/
def ReactClosedPost (s1 : St) (_ : Except String Unit) (s' : St) : Prop :=
  s'.1.chans = s1.1.chans ∧ s'.1.dcQueue = s1.1.dcQueue ∧ s'.1.dataChannels = s1.1.dataChannels

/-- a handler that calls `send()` on a closed channel gets `InvalidStateError`: no channel object, queue or id changes -/
theorem wp_react_closed (k i : Nat) (s1 : St) (h : ClosedAt s1.1 i) : WP (react k i) (ReactClosedPost s1) s1 := by
  obtain ⟨c, hc, h3⟩ := h
  rw [react_spec]
  cases armed s1.1 k i with
  | none => exact ⟨rfl, rfl, rfl⟩
  | some r =>
    simp only [hc]
    rw [if_pos (by omega)]
    exact ⟨rfl, rfl, rfl⟩

theorem wp_setReady3 (i : Nat) (s : St) : WP (setReady i 3) (CloseStep i s) s := by
  rw [setReady_spec]
  cases hc : s.1.chans[i]? with
  | none => exact ⟨rfl, rfl, ChansRel.refl s, fun h => h.elim⟩
  | some c =>
    simp only
    have hlt : i < s.1.chans.length := (List.getElem?_eq_some_iff.1 hc).1
    -- whatever else happens once `ready := 3` is stored at `i`
    have key : ∀ (s' : St) (r : Except String Unit), s'.1.chans = s.1.chans.set i { c with ready := 3 } →
        s'.1.dcQueue = s.1.dcQueue → s'.1.dataChannels = s.1.dataChannels → CloseStep i s r s' := by
      intro s' r h1 h2 h4
      refine ⟨h2, h4, ⟨by simp [h1], ?_⟩, fun _ => ⟨_, by rw [h1]; exact List.getElem?_set_self hlt, rfl⟩⟩
      intro j x hx
      rw [h1]
      by_cases hj : i = j
      · subst hj
        rw [hc] at hx; cases hx
        exact ⟨_, List.getElem?_set_self hlt, Or.inr rfl, rfl⟩
      · exact ⟨x, by simpa [List.getElem?_set_ne hj] using hx, Or.inl rfl, rfl⟩
    by_cases h3 : c.ready = 3
    · rw [if_pos h3]; exact ⟨rfl, rfl, ChansRel.refl s, fun _ => ⟨c, hc, h3⟩⟩
    rw [if_neg h3, if_neg (fun h => absurd h.2 (by decide))]
    split
    · refine WP.mono (wp_react_closed 1 i _ ⟨_, List.getElem?_set_self hlt, rfl⟩) ?_
      intro r s' ⟨h1, h2, h4⟩
      exact key s' r h1 h2 h4
    · exact key _ _ rfl rfl rfl

def CloseLoopPost {γ : Type} (g : γ → Nat) (l : List γ) (s : St) (r : Except String PUnit) (s' : St) : Prop :=
  s'.1.dcQueue = s.1.dcQueue ∧ s'.1.dataChannels = s.1.dataChannels ∧
    ChansRel s s' ∧ (IsOk r → ∀ x ∈ l, ClosedAt s'.1 (g x))

/-- `for channel, _, _ in self._data_channel_queue: channel._setReadyState("closed")` -/
theorem closeLoop {γ : Type} (g : γ → Nat) (f : γ → PUnit → M (ForInStep PUnit))
    (hf : ∀ x b, f x b = (setReady (g x) 3 >>= fun _ => pure (ForInStep.yield PUnit.unit)))
    (l : List γ) : ∀ s : St, WP (forIn l PUnit.unit f) (CloseLoopPost g l s) s := by
  induction l with
  | nil =>
    intro s
    simp only [List.forIn_nil]
    wp_head
    exact ⟨rfl, rfl, ChansRel.refl s, fun _ x hx => by cases hx⟩
  | cons a t ih =>
    intro s
    rw [List.forIn_cons, hf]
    wp_head
    apply WP.bind_of (wp_setReady3 (g a) s)
    intro r s1 ⟨h1, h2, h3, h4⟩
    cases r with
    | error k => exact ⟨h1, h2, h3, fun h => h.elim⟩
    | ok u =>
      simp only
      wp_head
      refine WP.mono (ih s1) ?_
      intro r s2 ⟨k1, k2, k3, k4⟩
      refine ⟨k1.trans h1, k2.trans h2, h3.trans k3, ?_⟩
      intro hok x hx
      rcases List.mem_cons.1 hx with h | h
      · rw [h]; exact k3.closed_stays (h4 trivial)
      · exact k4 hok x h

def CloseIdsPost (l : List (Nat × Nat)) (s : St) (r : Except String PUnit) (s' : St) : Prop :=
  s'.1.dcQueue = s.1.dcQueue ∧ ChansRel s s' ∧
    (IsOk r → s'.1.dataChannels = [] ∧ ∀ x ∈ l, ClosedAt s'.1 x.2)

/-- `for stream_id in list(self._data_channels.keys()): self._data_channel_closed(stream_id)` -/
theorem closeIdsLoop (f : Nat × Nat → PUnit → M (ForInStep PUnit))
    (hf : ∀ x b, f x b = (dcClosed x.1 >>= fun _ => pure (ForInStep.yield PUnit.unit)))
    (l : List (Nat × Nat)) : ∀ s : St, s.1.dataChannels = l → (l.map (·.1)).Nodup →
      WP (forIn l PUnit.unit f) (CloseIdsPost l s) s := by
  induction l with
  | nil =>
    intro s hl _
    simp only [List.forIn_nil]
    wp_head
    exact ⟨rfl, ChansRel.refl s, fun _ => ⟨hl, fun x hx => by cases hx⟩⟩
  | cons a t ih =>
    intro s hl hnd
    obtain ⟨sid, i⟩ := a
    rw [List.forIn_cons, hf]
    unfold dcClosed
    wp_head
    have hget : dictGet s.1.dataChannels sid = some i := by
      rw [hl]; simp [dictGet]
    rw [hget]
    simp only
    wp_head
    have hdel : dictDel s.1.dataChannels sid = t := by rw [hl]; exact dictDel_cons_nodup hnd
    apply WP.bind_of (wp_setReady3 i _)
    intro r s1 ⟨h1, h2, h3, h4⟩
    cases r with
    | error k => exact ⟨h1, h3, fun h => h.elim⟩
    | ok u =>
      simp only
      wp_head
      have hnd' : (t.map (·.1)).Nodup := by
        simp only [List.map_cons, List.nodup_cons] at hnd; exact hnd.2
      refine WP.mono (ih s1 (h2.trans hdel) hnd') ?_
      intro r s2 ⟨k1, k3, k4⟩
      refine ⟨k1.trans h1, ChansRel.trans h3 k3, ?_⟩
      intro hok
      refine ⟨(k4 hok).1, ?_⟩
      intro x hx
      rcases List.mem_cons.1 hx with h | h
      · rw [h]; exact k3.closed_stays (h4 trivial)
      · exact (k4 hok).2 x h

def ClosedAllPost (s : St) (r : Except String Unit) (s' : St) : Prop :=
  IsOk r → s'.1.dataChannels = [] ∧ s'.1.dcQueue = [] ∧ (∀ x ∈ s.1.dataChannels, ClosedAt s'.1 x.2) ∧
    (∀ x ∈ s.1.dcQueue, ClosedAt s'.1 x.1) ∧ ChansRel s s'

/-- **when the association ends every channel closes**: after `_set_state(CLOSED)` every channel object
that was registered in `_data_channels` or still waiting in `_data_channel_queue` is closed, both
containers are empty, and (`ChansRel`) every channel object is still there with its `buffered` amount and either its
old `ready` state or closed -/
theorem closed_all (s : St) (hnd : (s.1.dataChannels.map (·.1)).Nodup) :
    WP (setState .closed) (ClosedAllPost s) s := by
  unfold setState
  wp_head
  wp_split
  · rename_i h; cases h
  wp_split
  · have hfr : FrameRel s ({ s.1 with assoc := AState.closed }, s.2) := by frame_rel
    have hk : ∀ e s', ClosedAllPost s (.error e) s' := fun _ _ h => h.elim
    refine WP.frame_bind pres_t1Cancel hfr hk fun _ _ hfr => ?_
    refine WP.frame_bind pres_t2Cancel hfr hk fun _ _ hfr => ?_
    refine WP.frame_bind pres_t3Cancel hfr hk fun _ _ hfr => ?_
    refine WP.frame_bind pres_rcCancel hfr hk fun _ s4 hfr => ?_
    wp_head
    have f1 := hfr.chans; have f2 := hfr.dcQueue; have f3 := hfr.dataChannels
    refine WP.bind_of (closeIdsLoop _ (fun x b => rfl) _ (_, _) rfl (by rw [f3]; exact hnd)) ?_
    intro r s5 ⟨h1, h3, h4⟩
    cases r with
    | error k => exact fun h => h.elim
    | ok u =>
      simp only
      wp_head
      refine WP.bind_of (closeLoop (fun x : Nat × Nat × Bytes => x.1) _ (fun x b => rfl) _ s5) ?_
      intro r s6 ⟨k1, k2, k3, k4⟩
      cases r with
      | error k => exact fun h => h.elim
      | ok u =>
        simp only
        wp_head
        intro _
        have hc45 : ChansRel s s5 := by
          refine ⟨h3.1.trans (by simp [f1]), ?_⟩
          intro j c hc
          exact h3.2 j c (by simpa [f1] using hc)
        have hc46 := ChansRel.trans hc45 k3
        refine ⟨k2.trans (h4 trivial).1, rfl, ?_, ?_, ⟨hc46.1, hc46.2⟩⟩
        · intro x hx
          have := (h4 trivial).2 x (by simpa [f3] using hx)
          exact (k3.closed_stays this)
        · intro x hx
          exact k4 trivial x (by rw [h1]; simpa [f2] using hx)
  · rename_i h; exact absurd trivial h

end Aiortc.Sctp
