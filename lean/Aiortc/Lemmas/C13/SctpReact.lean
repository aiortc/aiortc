import Aiortc.Lemmas.SctpEndpoint.Handlers
import Aiortc.Lemmas.SctpEndpoint.Ops
/-!
# Re-entrant application handlers (`react`) are one-shot
-/
namespace Aiortc.Sctp
open Aiortc.Gen Aiortc.Sctp.Wire

/-! ## No handler of the automaton ever arms a reaction, or writes the marker `crash`

`boundSpec n`: at most `n` reactions are armed, and a log without `Out.crash` stays so.  The two facts hold of every
handler for one reason, so one traversal of the automaton proves both: only `react` writes the field `reactions` (it
erases the reaction it consumes), every other update leaves it alone or writes back a state read with `getE`, which
satisfied the bound when it was read (`pres_getE_bind`); and the log is only touched through `emit`, whose argument is
everywhere a literal constructor other than `.crash` (that marker is appended by `step`, after an exception escaped). -/

def boundSpec (n : Nat) : Spec :=
  { I := fun e => e.reactions.length ≤ n, R := fun s s' => NoCrash s.2 → NoCrash s'.2, okOnly := False,
    refl := fun _ h => h, trans := fun _ _ _ h1 h2 h => h2 (h1 h) }

variable {n : Nat}

theorem NoCrash.append {l l2 : List Out} (hl : NoCrash l) (h2 : ∀ o ∈ l2, ∀ k, o ≠ .crash k) : NoCrash (l ++ l2) :=
  fun k hk => (List.mem_append.1 hk).elim (hl k) fun hk => h2 _ hk k rfl

instance : Framed (boundSpec n) where
  frame := by
    intro s s' h hI
    obtain ⟨l2, hl, h2⟩ := h.2
    refine ⟨Nat.le_trans (Nat.le_of_eq (congrArg List.length h.reactions)) hI, fun hs => hl ▸ hs.append ?_⟩
    intro o ho k hk
    have := h2 o ho; rw [hk] at this; cases this

@[handler] theorem bound_modE (f : Ep → Ep) (h : ∀ e, (f e).reactions = e.reactions) :
    Pres (boundSpec n) (modE f) := by
  constructor; intro s hI
  wp_head
  exact fun _ => ⟨Nat.le_trans (Nat.le_of_eq (congrArg List.length (h _))) hI, id⟩

theorem bound_emit {o : Out} (h : ∀ k, o ≠ .crash k) : Pres (boundSpec n) (emit o) := by
  constructor; intro s hI
  wp_head
  exact fun _ => ⟨hI, fun hs => hs.append (by simpa using h)⟩

/-- the channel events, which `pres_emit` leaves to the specification. One conjunction under `@[handler]`, which `simp`
splits, and not `bound_emit` itself: its side condition `∀ k, o ≠ .crash k` is no equation, `simp only [handler]` could not
discharge it. -/
@[handler] theorem bound_chanEv (i : Nat) :
    Pres (boundSpec n) (emit (.evOpen i)) ∧ Pres (boundSpec n) (emit (.evClose i)) ∧
    Pres (boundSpec n) (emit (.evLow i)) ∧ Pres (boundSpec n) (emit (.evChannel i)) :=
  ⟨bound_emit nofun, bound_emit nofun, bound_emit nofun, bound_emit nofun⟩

@[handler] theorem bound_chanSet (i : Nat) (c : Chan) : Pres (boundSpec n) (chanSet i c) :=
  bound_modE _ (fun _ => rfl)

@[handler] theorem bound_dcSend (i : Nat) (isStr : Bool) (d : Bytes) : Pres (boundSpec n) (dcSend i isStr d) := by
  unfold dcSend addBuffered0 addBufferedCore; pres

@[handler] theorem bound_react (k i : Nat) : Pres (boundSpec n) (react k i) :=
  pres_react k i bound_dcSend fun _ _ _ hI h =>
    ⟨Nat.le_trans List.length_erase_le hI, fun hs => hs.append fun o ho k hk => by
      have := h o ho; rw [hk] at this; cases this⟩

@[handler] theorem bound_setReady (i st : Nat) : Pres (boundSpec n) (setReady i st) := by
  unfold setReady; pres

@[handler] theorem bound_addBuffered (i : Nat) (a : Int) : Pres (boundSpec n) (addBuffered i a) := by
  unfold addBuffered addBufferedCore; pres

@[handler] theorem bound_dcClosed (sid : Nat) : Pres (boundSpec n) (dcClosed sid) := by
  unfold dcClosed; pres

@[handler] theorem bound_flushLoop (fuel : Nat) : Pres (boundSpec n) (flushLoop fuel) := by
  induction fuel with
  | zero => unfold flushLoop; exact pres_pure _
  | succ m ih => unfold flushLoop; pres

@[handler] theorem bound_flush : Pres (boundSpec n) flush := pres_flush bound_flushLoop

@[handler] theorem bound_dcClose (i : Nat) : Pres (boundSpec n) (dcClose i) := by
  unfold dcClose; pres

@[handler] theorem bound_setState (st : AState) : Pres (boundSpec n) (setState st) := by
  unfold setState; pres

@[handler] theorem bound_dcReceive (sid ppid : Nat) (d : Bytes) : Pres (boundSpec n) (dcReceive sid ppid d) := by
  unfold dcReceive; pres

@[handler] theorem bound_createChannel (p : CreateParams) : Pres (boundSpec n) (createChannel p) := by
  unfold createChannel; pres

instance : ChanOps (boundSpec n) where
  setState := bound_setState
  flushLoop := bound_flushLoop
  dcReceive := bound_dcReceive
  dcClose := bound_dcClose
  dcClosed := bound_dcClosed
  dcSend := bound_dcSend
  createChannel := bound_createChannel
  start := fun rp => by simp only [handle]; pres
  threshold := fun i v => by simp only [handle]; pres

theorem step_reactions_le (e : Ep) (now : Int) (inp : Input) (h : ∀ k i isStr data, inp ≠ .react k i isStr data) :
    (step e now inp).1.reactions.length ≤ e.reactions.length :=
  (pres_handle (S := boundSpec e.reactions.length) inp
    (fun k i isStr data he => absurd he (h k i isStr data))).step_inv e now (Nat.le_refl _) (fun h => h.elim)

/-- **Reactions are one-shot**: a step makes the list of armed reactions longer by at most one, and only the
`.react` input (the application attaching a handler) does so. -/
theorem step_reactions (e : Ep) (now : Int) (inp : Input) :
    (step e now inp).1.reactions.length ≤ e.reactions.length + 1 := by
  cases inp with
  | react k i isStr data =>
    refine WP.step (P := fun r => r.1.reactions.length ≤ e.reactions.length + 1) ?_
    simp only [handle]
    wp_head
    simp
  | _ => exact Nat.le_succ_of_le (step_reactions_le e now _ (by intro k i b d h; cases h))

theorem react_consumes (k i : Nat) (s : St) (h : (armed s.1 k i).isSome) :
    WP (react k i) (fun _ s' => s'.1.reactions.length < s.1.reactions.length) s := by
  rw [react_spec]
  cases ha : armed s.1 k i with
  | none => rw [ha] at h; cases h
  | some r =>
    simp only
    have hl : (s.1.reactions.erase r).length < s.1.reactions.length := by
      have := armed_erase_length ha; omega
    cases s.1.chans[i]? with
    | none => exact hl
    | some c =>
      simp only
      split
      · exact hl
      · -- `dcSend` keeps the bound that holds once the reaction is erased
        refine WP.mono ((bound_dcSend (n := s.1.reactions.length - 1) _ _ _).out (_, _) ?_) ?_
        · exact Nat.le_sub_one_of_lt hl
        · intro r' s' h2
          have : s'.1.reactions.length ≤ s.1.reactions.length - 1 := (h2 (fun h => h.elim)).1
          omega

end Aiortc.Sctp
