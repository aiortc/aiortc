import Aiortc.Lemmas.SctpEndpoint.Ops
/-!
# Data channel lifecycle: the forward-only step relation and its basic update lemmas

`FwdRel s s'` relates the endpoint state/output log before and after (part of) a step:
* every channel object survives at its index, its `ready` does not decrease, its parameters never
  change, an id once set stays, and an id that gets *assigned* has the parity of the endpoint's role;
* for every channel index `i` and event kind (open, close, datachannel) the number of such events in
  the log plus the "budget" still available to the channel (1 while it has not yet been open /
  closed / announced, 0 afterwards) never increases - hence at most one event of each kind per channel.
-/
namespace Aiortc.Sctp
open Aiortc.Gen Aiortc.Sctp.Wire

inductive Kind where
  | opened | closed | announced
  deriving DecidableEq, Repr

/-- is `o` the event of kind `k` for channel `i` -/
def Kind.ev : Kind → Nat → Out → Bool
  | .opened, i, .evOpen j => j == i
  | .closed, i, .evClose j => j == i
  | .announced, i, .evChannel j => j == i
  | _, _, _ => false

/-- may the event of kind `k` still happen for a channel in this state -/
def Kind.pending : Kind → Chan → Bool
  | .opened, c => c.ready = 0
  | .closed, c => c.ready < 3
  | .announced, _ => false   -- a `datachannel` event is only possible for an index that does not exist yet

def bud (k : Kind) (e : Ep) (i : Nat) : Nat :=
  match e.chans[i]? with
  | some c => if k.pending c then 1 else 0
  | none => 1

theorem bud_le_one (k : Kind) (e : Ep) (i : Nat) : bud k e i ≤ 1 := by
  unfold bud
  split
  · split <;> omega
  · omega

/-- 0 on the side with `is_server` (even ids), 1 on the other side (odd ids) -/
def parity (e : Ep) : Nat := if e.isServer then 0 else 1

structure ChanStep (par : Nat) (c c' : Chan) : Prop where
  ready : c.ready ≤ c'.ready
  label : c'.label = c.label
  protocol : c'.protocol = c.protocol
  ordered : c'.ordered = c.ordered
  maxRetransmits : c'.maxRetransmits = c.maxRetransmits
  maxPacketLifeTime : c'.maxPacketLifeTime = c.maxPacketLifeTime
  negotiated : c'.negotiated = c.negotiated
  id_keep : ∀ s, c.id = some s → c'.id = some s
  id_auto : c.id = none → ∀ s, c'.id = some s → s % 2 = par ∧ s ≤ 65535

theorem ChanStep.refl (par : Nat) (c : Chan) : ChanStep par c c :=
  ⟨Nat.le_refl _, rfl, rfl, rfl, rfl, rfl, rfl, fun _ h => h, fun h s hs => by rw [h] at hs; cases hs⟩

theorem ChanStep.trans {par : Nat} {a b c : Chan} (h1 : ChanStep par a b) (h2 : ChanStep par b c) :
    ChanStep par a c := by
  refine ⟨Nat.le_trans h1.ready h2.ready, h2.label.trans h1.label, h2.protocol.trans h1.protocol,
    h2.ordered.trans h1.ordered, h2.maxRetransmits.trans h1.maxRetransmits,
    h2.maxPacketLifeTime.trans h1.maxPacketLifeTime, h2.negotiated.trans h1.negotiated,
    fun s h => h2.id_keep s (h1.id_keep s h), ?_⟩
  intro ha s hs
  cases hb : b.id with
  | none => exact h2.id_auto hb s hs
  | some t =>
    have := h2.id_keep t hb
    rw [this] at hs
    have hts : t = s := Option.some.inj hs
    subst hts
    exact h1.id_auto ha t hb

def FwdRel (s s' : St) : Prop :=
  s'.1.isServer = s.1.isServer ∧
  (∀ (i : Nat) c, s.1.chans[i]? = some c → ∃ c', s'.1.chans[i]? = some c' ∧ ChanStep (parity s.1) c c') ∧
  (∀ k (i : Nat), s'.2.countP (Kind.ev k i) + bud k s'.1 i ≤ s.2.countP (Kind.ev k i) + bud k s.1 i)

theorem FwdRel.refl (s : St) : FwdRel s s :=
  ⟨rfl, fun _ c h => ⟨c, h, ChanStep.refl _ c⟩, fun _ _ => Nat.le_refl _⟩

theorem FwdRel.trans (a b c : St) (h1 : FwdRel a b) (h2 : FwdRel b c) : FwdRel a c := by
  obtain ⟨a1, a2, a3⟩ := h1
  obtain ⟨b1, b2, b3⟩ := h2
  refine ⟨b1.trans a1, ?_, fun k i => Nat.le_trans (b3 k i) (a3 k i)⟩
  intro i x hx
  obtain ⟨y, hy, hxy⟩ := a2 i x hx
  obtain ⟨z, hz, hyz⟩ := b2 i y hy
  have hp : parity b.1 = parity a.1 := by unfold parity; rw [a1]
  rw [hp] at hyz
  exact ⟨z, hz, hxy.trans hyz⟩

theorem FwdRel.length_le {s s' : St} (h : FwdRel s s') : s.1.chans.length ≤ s'.1.chans.length := by
  by_cases hl : s.1.chans.length = 0
  · omega
  · have hlt : s.1.chans.length - 1 < s.1.chans.length := by omega
    obtain ⟨c', hc', _⟩ := h.2.1 (s.1.chans.length - 1) _ (List.getElem?_eq_getElem hlt)
    have := (List.getElem?_eq_some_iff.1 hc').1
    omega

/-- every `ready` is one of the four states; the id allocator starts at the role's parity (needed where the flush
loop assigns an id: `ChanStep.id_auto` promises that parity) -/
def LifeInv (e : Ep) : Prop :=
  (∀ c ∈ e.chans, c.ready ≤ 3) ∧ (∀ d, e.dcId = some d → d = parity e)

def fwdSpec : Spec :=
  { I := LifeInv, R := FwdRel, okOnly := False, refl := FwdRel.refl, trans := FwdRel.trans }

theorem Kind.ev_isChanEv {k : Kind} {i : Nat} {o : Out} (h : k.ev i o = true) : o.isChanEvOrCrash = true := by
  unfold Kind.ev at h
  split at h
  · rfl
  · rfl
  · rfl
  · cases h

theorem countP_ev_of_not_chanEv {l2 : List Out} (h : ∀ o ∈ l2, o.isChanEvOrCrash = false) (k : Kind) (i : Nat) :
    l2.countP (Kind.ev k i) = 0 := by
  rw [List.countP_eq_zero]
  intro o ho hk
  have := h o ho
  rw [Kind.ev_isChanEv hk] at this
  cases this

/-- the state keeps its channel objects (other fields may change), outputs are not channel events -/
theorem fwd_same {s : St} (hI : LifeInv s.1) {e' : Ep} {l' : List Out} {l2 : List Out}
    (hch : e'.chans = s.1.chans) (hsrv : e'.isServer = s.1.isServer)
    (hdc : ∀ d, e'.dcId = some d → d = parity s.1)
    (hl : l' = s.2 ++ l2) (hev : ∀ o ∈ l2, o.isChanEvOrCrash = false) :
    LifeInv e' ∧ FwdRel s (e', l') := by
  subst hl
  have hp : parity e' = parity s.1 := by unfold parity; rw [hsrv]
  refine ⟨⟨by rw [hch]; exact hI.1, by rw [hp]; exact hdc⟩, hsrv, ?_, ?_⟩
  · intro i c hc
    exact ⟨c, by simpa [hch] using hc, ChanStep.refl _ c⟩
  · intro k i
    simp only [List.countP_append, countP_ev_of_not_chanEv hev, bud, hch]
    omega

instance : Framed fwdSpec where
  frame := by
    intro s s' h hI
    obtain ⟨-, l2, h6, h7⟩ := id h
    have : s' = (s'.1, s'.2) := rfl
    rw [this]
    exact fwd_same hI h.chans h.isServer (by rw [h.dcId]; exact hI.2) h6 h7

/-- What may be logged when channel object `i` goes from `c` to `c'`: nothing the lifecycle counts, `open` on leaving
`connecting`, `close` on reaching `closed`. -/
inductive EvOk (i : Nat) (c c' : Chan) : List Out → Prop
  | none : EvOk i c c' []
  | low : EvOk i c c' [.evLow i]
  | opened : c.ready = 0 → 0 < c'.ready → EvOk i c c' [.evOpen i]
  | closed : c.ready < 3 → c'.ready = 3 → EvOk i c c' [.evClose i]

/-- such a log stays within the budget of channel `i` and does not touch that of the others -/
theorem EvOk.budget {i : Nat} {c c' : Chan} {l2 : List Out} (h : EvOk i c c' l2) (hr : c.ready ≤ c'.ready) :
    (∀ k, l2.countP (Kind.ev k i) + (if k.pending c' then 1 else 0) ≤ (if k.pending c then 1 else 0)) ∧
    ∀ k j, j ≠ i → l2.countP (Kind.ev k j) = 0 := by
  constructor
  · intro k
    -- twelve cases; what `simp` leaves of a budget is an `if` on `ready`
    cases h <;> cases k <;> simp [Kind.ev, Kind.pending] <;> (repeat' split) <;> omega
  · intro k j hj
    cases h <;> cases k <;> simp [Kind.ev] <;> omega

/-- channel object `i` is replaced by a later version of itself -/
theorem fwd_set {s : St} (hI : LifeInv s.1) {e' : Ep} {l' l2 : List Out} {i : Nat} {c c' : Chan}
    (hc : s.1.chans[i]? = some c)
    (hch : e'.chans = s.1.chans.set i c') (hsrv : e'.isServer = s.1.isServer)
    (hdc : ∀ d, e'.dcId = some d → d = parity s.1)
    (hl : l' = s.2 ++ l2)
    (hstep : ChanStep (parity s.1) c c') (h3 : c'.ready ≤ 3) (hlog : EvOk i c c' l2) :
    LifeInv e' ∧ FwdRel s (e', l') := by
  subst hl
  obtain ⟨hev, hoth⟩ := hlog.budget hstep.ready
  have hp : parity e' = parity s.1 := by unfold parity; rw [hsrv]
  have hlt : i < s.1.chans.length := (List.getElem?_eq_some_iff.1 hc).1
  refine ⟨⟨?_, by rw [hp]; exact hdc⟩, hsrv, ?_, ?_⟩
  · intro x hx
    rw [hch] at hx
    rcases List.mem_or_eq_of_mem_set hx with h | h
    · exact hI.1 x h
    · rw [h]; exact h3
  · intro j x hx
    by_cases hj : i = j
    · subst hj
      rw [hc] at hx; cases hx
      exact ⟨c', by simp [hch, List.getElem?_set_self hlt], hstep⟩
    · exact ⟨x, by simpa [hch, List.getElem?_set_ne hj] using hx, ChanStep.refl _ x⟩
  · intro k j
    simp only [List.countP_append, bud, hch]
    by_cases hj : i = j
    · subst hj
      rw [List.getElem?_set_self hlt, hc]
      have := hev k
      simp only at this ⊢
      omega
    · rw [List.getElem?_set_ne hj, hoth k j (Ne.symm hj)]
      omega

/-- a new channel object is appended -/
theorem fwd_push {s : St} (hI : LifeInv s.1) {e' : Ep} {l' l2 : List Out} {c' : Chan}
    (hch : e'.chans = s.1.chans ++ [c']) (hsrv : e'.isServer = s.1.isServer)
    (hdc : ∀ d, e'.dcId = some d → d = parity s.1)
    (hl : l' = s.2 ++ l2) (h3 : c'.ready ≤ 3)
    (hev : ∀ o ∈ l2, o.isChanEvOrCrash = false) :
    LifeInv e' ∧ FwdRel s (e', l') := by
  subst hl
  have hp : parity e' = parity s.1 := by unfold parity; rw [hsrv]
  refine ⟨⟨?_, by rw [hp]; exact hdc⟩, hsrv, ?_, ?_⟩
  · intro x hx
    rw [hch] at hx
    rcases List.mem_append.1 hx with h | h
    · exact hI.1 x h
    · simp at h; rw [h]; exact h3
  · intro j x hx
    have hlt : j < s.1.chans.length := (List.getElem?_eq_some_iff.1 hx).1
    exact ⟨x, by simpa [hch, List.getElem?_append_left hlt] using hx, ChanStep.refl _ x⟩
  · intro k j
    simp only [List.countP_append, countP_ev_of_not_chanEv hev, bud, hch]
    by_cases hlt : j < s.1.chans.length
    · rw [List.getElem?_append_left hlt]; omega
    · have : s.1.chans[j]? = none := List.getElem?_eq_none_iff.2 (by omega)
      rw [this]
      cases h : (s.1.chans ++ [c'])[j]? with
      | none => simp
      | some y => simp only; split <;> omega

end Aiortc.Sctp
