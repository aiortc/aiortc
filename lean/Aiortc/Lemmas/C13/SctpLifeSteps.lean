import Aiortc.Lemmas.SctpEndpoint.Handlers
import Aiortc.Lemmas.C13.SctpLife
import Aiortc.Lemmas.C13.SctpIds
/-!
# The data channel operations make forward steps (`Pres fwdSpec`)

Bottom-up through the call graph of `Model/Sctp/Endpoint.lean`: `setReady` at its call sites (with the guard
that the real code checks), `addBuffered`, `dcClosed`, `flushLoop`, `dcClose`, `setState`; `dcReceive` and
`createChannel` follow in `SctpLifeRecv` and `SctpLifeHandle`, where `ChanOps fwdSpec` then gives every handler.
-/
namespace Aiortc.Sctp
open Aiortc.Gen Aiortc.Sctp.Wire

theorem fwd_via {s0 s : St} (hR0 : FwdRel s0 s) {e' : Ep} {l' : List Out}
    (h : LifeInv e' ∧ FwdRel s (e', l')) : LifeInv e' ∧ FwdRel s0 (e', l') :=
  ⟨h.1, FwdRel.trans _ _ _ hR0 h.2⟩

theorem ChanStep.of_ready {par : Nat} {c : Chan} {st : Nat} (h : c.ready ≤ st) :
    ChanStep par c { c with ready := st } :=
  ⟨h, rfl, rfl, rfl, rfl, rfl, rfl, fun _ h => h, fun h s hs => by simp [h] at hs⟩

/-- a later version of a channel object that differs in fields the lifecycle does not look at -/
theorem ChanStep.of_same {par : Nat} {c c' : Chan} (hr : c'.ready = c.ready) (hl : c'.label = c.label)
    (hp : c'.protocol = c.protocol) (ho : c'.ordered = c.ordered) (hm : c'.maxRetransmits = c.maxRetransmits)
    (ht : c'.maxPacketLifeTime = c.maxPacketLifeTime) (hn : c'.negotiated = c.negotiated) (hi : c'.id = c.id) :
    ChanStep par c c' :=
  ⟨Nat.le_of_eq hr.symm, hl, hp, ho, hm, ht, hn, fun _ h => hi ▸ h, fun h s hs => by rw [hi, h] at hs; cases hs⟩

@[handler] theorem fwd_addBufferedCore (i : Nat) (amount : Int) : Pres fwdSpec (addBufferedCore i amount) := by
  constructor; intro s hI
  rw [← bind_pure (addBufferedCore i amount), WPh_addBufferedCore]
  cases hc : s.1.chans[i]? with
  | none => exact fun _ => ⟨hI, FwdRel.refl s⟩
  | some c =>
    simp only
    rw [WP_pure]
    intro _
    refine fwd_set hI hc rfl rfl hI.2 rfl (.of_same rfl rfl rfl rfl rfl rfl rfl rfl)
      (hI.1 c (List.mem_of_getElem? hc)) ?_
    split
    · exact .low
    · exact .none

@[handler] theorem fwd_addBuffered0 (i : Nat) (amount : Int) : Pres fwdSpec (addBuffered0 i amount) := by
  unfold addBuffered0; pres

/-- changing only the bookkeeping of ids (`dataChannels`, `dcQueue`, …) -/
@[handler] theorem fwd_modE (f : Ep → Ep) (h1 : ∀ e, (f e).chans = e.chans) (h2 : ∀ e, (f e).isServer = e.isServer)
    (h3 : ∀ e, (f e).dcId = e.dcId) : Pres fwdSpec (modE f) := by
  constructor; intro s hI
  wp_head
  intro _
  exact fwd_same hI (l2 := []) (h1 _) (h2 _) (by rw [h3]; exact hI.2) (by simp) (by simp)

@[handler] theorem fwd_dcSend (i : Nat) (isStr : Bool) (data : Bytes) : Pres fwdSpec (dcSend i isStr data) := by
  unfold dcSend; pres

/-- an application handler that re-enters `send()`: the reaction is consumed, the channel objects only change
by `bufferedAmount` -/
@[handler] theorem fwd_react (k i : Nat) : Pres fwdSpec (react k i) :=
  pres_react k i fwd_dcSend (fun _ _ _ hI hev => fwd_same hI rfl rfl hI.2 rfl hev)

/-- continue with a forward action after an explicit forward step -/
theorem WP.after_fwd {α : Type} {x : M α} (hx : Pres fwdSpec x) {s : St} {e' : Ep} {l' : List Out}
    (h : LifeInv e' ∧ FwdRel s (e', l')) : WP x (fun _ s' => LifeInv s'.1 ∧ FwdRel s s') (e', l') :=
  WP.call hx h.1 (fun _ _ h2 =>
    ⟨(h2 (fun h => h.elim)).1, FwdRel.trans _ _ _ h.2 (h2 (fun h => h.elim)).2⟩)

/-- `_setReadyState(st)` where the caller has checked that the channel is not already beyond `st` -/
theorem wp_setReady {s : St} (hI : LifeInv s.1) (i st : Nat)
    (hpre : ∀ c, s.1.chans[i]? = some c → c.ready ≤ st) (h3 : st ≤ 3) :
    WP (setReady i st) (fun _ s' => LifeInv s'.1 ∧ FwdRel s s') s := by
  rw [setReady_spec]
  cases hc : s.1.chans[i]? with
  | none => exact ⟨hI, FwdRel.refl s⟩
  | some c =>
    simp only
    have hle := hpre c hc
    split
    · exact ⟨hI, FwdRel.refl s⟩
    · rename_i hne
      split
      · rename_i h1
        refine WP.after_fwd (fwd_react 0 i) ?_
        exact fwd_set hI hc rfl rfl hI.2 rfl (ChanStep.of_ready hle) h3
          (.opened (by omega) (Nat.lt_of_lt_of_eq Nat.zero_lt_one h1.2.symm))
      · split
        · rename_i h2
          refine WP.after_fwd (fwd_react 1 i) ?_
          exact fwd_set hI hc rfl rfl hI.2 rfl (ChanStep.of_ready hle) h3 (.closed (by omega) h2.2)
        · exact fwd_set hI hc rfl rfl hI.2 (by simp) (ChanStep.of_ready hle) h3 .none

/-- moving to `closed` is always a forward step -/
@[handler] theorem fwd_setReady3 (i : Nat) : Pres fwdSpec (setReady i 3) := by
  constructor; intro s hI
  refine WP.mono (wp_setReady hI i 3 ?_ (Nat.le_refl _)) (fun _ _ h _ => h)
  intro c hc
  exact hI.1 c (List.mem_of_getElem? hc)

@[handler] theorem fwd_addBuffered (i : Nat) (amount : Int) : Pres fwdSpec (addBuffered i amount) := by
  unfold addBuffered; pres

@[handler] theorem fwd_dcClosed (sid : Nat) : Pres fwdSpec (dcClosed sid) := by
  unfold dcClosed; pres

@[handler] theorem fwd_flushLoop (fuel : Nat) : Pres fwdSpec (flushLoop fuel) := by
  induction fuel with
  | zero => unfold flushLoop; exact pres_pure _
  | succ n ih =>
    constructor; intro s hI
    rw [flushLoop_succ]
    -- what happens once the stream id is known is a forward action, whatever the id
    have hsend : ∀ i ppid data c sid, Pres fwdSpec (flushSend n i ppid data c sid) := by
      intro i ppid data c sid; unfold flushSend; pres
    split
    · exact fun _ => ⟨hI, FwdRel.refl s⟩
    · rename_i i ppid data rest hq
      -- the entry is popped; `LifeInv` does not look at `dcQueue`
      have h1 := fwd_same hI (e' := { s.1 with dcQueue := rest }) (l' := s.2) (l2 := []) rfl rfl hI.2 (by simp) (by simp)
      split
      · exact fun _ => ⟨hI, FwdRel.refl s⟩
      split
      · exact fun _ => h1
      · rename_i c hc
        split
        · exact WP.pres_after (hsend _ _ _ _ _) h1.1 h1.2
        · exact fun _ => h1
        · rename_i start hid hstart
          split
          · -- every stream id of the local parity is in use: the channel is closed
            exact WP.pres_after (by pres) h1.1 h1.2
          · rename_i hsmall
            have hpar : start = parity s.1 := hI.2 start hstart
            have hst : ChanStep (parity s.1) c
                { c with id := some (flushLoop.pick s.1 (s.1.dataChannels.length + 1) start) } := by
              refine ⟨Nat.le_refl _, rfl, rfl, rfl, rfl, rfl, rfl, ?_, ?_⟩
              · intro x h; rw [hid] at h; cases h
              · intro _ x hx
                have hx' : flushLoop.pick s.1 (s.1.dataChannels.length + 1) start = x := Option.some.inj hx
                refine ⟨?_, by rw [← hx']; omega⟩
                rw [← hx', pick_parity, hpar]
                unfold parity; split <;> rfl
            suffices hr : LifeInv _ ∧ FwdRel s (_, s.2) from WP.pres_after (hsend _ _ _ _ _) hr.1 hr.2
            exact fwd_set hI hc rfl rfl hI.2 (by simp) hst (hI.1 c (List.mem_of_getElem? hc)) .none

@[handler] theorem fwd_flush : Pres fwdSpec flush := by
  unfold flush; pres

@[handler] theorem fwd_dcClose (i : Nat) : Pres fwdSpec (dcClose i) := by
  constructor; intro s hI
  unfold dcClose
  wp_head
  cases hc : s.1.chans[i]? with
  | none => simp only; exact fun _ => ⟨hI, FwdRel.refl s⟩
  | some c =>
    simp only
    have h3 : c.ready ≤ 3 := hI.1 c (List.mem_of_getElem? hc)
    wp_split
    · rename_i hg
      have hpre : ∀ c', s.1.chans[i]? = some c' → c'.ready ≤ 2 :=
        forall_getElem?_of hc (by simp at hg; omega)
      apply WP.bind_of (wp_setReady hI i 2 hpre (by omega))
      intro r s1 ⟨hI1, hR1⟩
      cases r with
      | error k => exact fun _ => ⟨hI1, hR1⟩
      | ok u =>
        simp only
        wp_head
        wp_split
        · wp_head
          wp_split
          · wp_head; intro _; exact fwd_via hR1 (fwd_same hI1 rfl rfl hI1.2 rfl (by simp [Out.isChanEvOrCrash]))
          · wp_head; intro _; exact fwd_via hR1 (fwd_same hI1 (l2 := []) rfl rfl hI1.2 (by simp) (by simp))
        · wp_head
          have hsame : ∀ (e' : Ep) , e'.chans = s1.1.chans → e'.isServer = s1.1.isServer → e'.dcId = s1.1.dcId →
              WP (setReady i 3) (fun r s' => (fwdSpec.okOnly → IsOk r) → fwdSpec.I s'.1 ∧ fwdSpec.R s s') (e', s1.2) := by
            intro e' h1 h2 h4
            have := fwd_via hR1 (fwd_same hI1 (e' := e') (l' := s1.2) (l2 := []) h1 h2
              (by rw [h4]; exact hI1.2) (by simp) (by simp))
            exact WP.pres_after (fwd_setReady3 i) this.1 this.2
          wp_split
          · wp_split
            · wp_head; intro _; exact fwd_via hR1 (fwd_same hI1 (l2 := []) rfl rfl hI1.2 (by simp) (by simp))
            · wp_head; exact hsame _ rfl rfl rfl
          · exact hsame _ rfl rfl rfl
    · wp_head; exact fun _ => ⟨hI, FwdRel.refl s⟩

@[handler] theorem fwd_setState (st : AState) : Pres fwdSpec (setState st) := by
  unfold setState
  apply pres_bind (by pres_step); intro _
  split
  · apply pres_bind (by pres_step); intro _
    apply pres_bind pres_getE; intro e
    refine pres_bind ?_ (fun _ => by pres)
    apply pres_forIn; intro a b
    constructor; intro s hI
    wp_split
    wp_head
    rename_i i
    cases hc : s.1.chans[i]? with
    | none => simp only; exact fun _ => ⟨hI, FwdRel.refl s⟩
    | some c =>
      simp only
      wp_split
      · rename_i hg
        have hpre : ∀ c', s.1.chans[i]? = some c' → c'.ready ≤ 1 :=
          forall_getElem?_of hc (by simp at hg; omega)
        apply WP.bind_of (wp_setReady hI i 1 hpre (by omega))
        intro r s1 h1
        cases r with
        | error k => exact fun _ => h1
        | ok u => simp only; wp_head; exact fun _ => h1
      · wp_head; exact fun _ => ⟨hI, FwdRel.refl s⟩
  · pres

end Aiortc.Sctp
