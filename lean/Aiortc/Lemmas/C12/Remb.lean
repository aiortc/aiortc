import Aiortc.Lemmas.C12.Router
import Aiortc.Lemmas.Bytes
/-! The REMB FCI decoder of `Model/Router.lean` against a declarative description of the wire format
(draft-alvestrand-rmcat-remb-03): `"REMB"`, count, 3 bytes of bitrate, `count` big-endian SSRCs. -/
namespace Aiortc.Model.Router

/-- `fci` is a well-formed REMB FCI carrying exactly `ssrcs` (trailing bytes are permitted, as in the code). -/
def IsRemb (fci : Bytes) (ssrcs : List Nat) : Prop :=
  ∃ b5 b6 b7 extra,
    fci = [82, 69, 77, 66, ssrcs.length, b5, b6, b7] ++ ssrcs.flatMap u32be ++ extra ∧
    ∀ s ∈ ssrcs, s < 4294967296

theorem rembSsrcs_flatMap (ssrcs : List Nat) (extra : Bytes) (h : ∀ s ∈ ssrcs, s < 4294967296) :
    rembSsrcs ssrcs.length (ssrcs.flatMap u32be ++ extra) = .ok ssrcs := by
  induction ssrcs with
  | nil => rfl
  | cons s t ih =>
    rw [List.flatMap_cons, List.append_assoc, List.length_cons, rembSsrcs, List.take_left' (length_u32be s),
      List.drop_left' (length_u32be s), unpackU32_u32be s (h s (by simp)), ih fun x hx => h x (by simp [hx])]

theorem unpackRembFci_of_isRemb {fci : Bytes} {ssrcs : List Nat} (h : IsRemb fci ssrcs) :
    ∃ b, unpackRembFci fci = .ok (b, ssrcs) := by
  obtain ⟨b5, b6, b7, extra, rfl, hlt⟩ := h
  have hlen : ¬ (ssrcs.flatMap u32be ++ extra).length < 4 * ssrcs.length := by
    rw [List.length_append, length_flatMap_u32be]; omega
  refine ⟨((b5 &&& 3) <<< 16 ||| b6 <<< 8 ||| b7) <<< ((b5 &&& 252) >>> 2), ?_⟩
  simp only [List.cons_append, List.nil_append, unpackRembFci]
  simp only [ne_eq, not_true_eq_false, if_false, hlen, rembSsrcs_flatMap ssrcs extra hlt]

/-- `h` is the length guard that fixes/C12-remb-truncated-fci.patch puts in front of the SSRC loop -/
theorem rembSsrcs_spec (n : Nat) (d : Bytes) (h : 4 * n ≤ d.length) :
    (rembSsrcs n d).Returns fun l => l.length = n ∧
      (IsBytes d → (∀ s ∈ l, s < 4294967296) ∧ ∃ extra, d = l.flatMap u32be ++ extra) := by
  induction n generalizing d with
  | zero => exact .ok ⟨rfl, fun _ => ⟨nofun, d, rfl⟩⟩
  | succ n ih =>
    match d, h with
    | a :: b :: c :: e :: rest, h =>
      rw [rembSsrcs]
      refine (ih rest (by simp at h; omega)).on fun l ⟨hlen, hl⟩ => .ok ⟨congrArg (· + 1) hlen, fun hd => ?_⟩
      simp only [isBytes_cons] at hd
      obtain ⟨h2, extra, h3⟩ := hl hd.2.2.2.2
      exact ⟨List.forall_mem_cons.mpr ⟨by omega, h2⟩, extra, by
        rw [List.flatMap_cons, u32be_unpack a b c e hd.1 hd.2.1 hd.2.2.1 hd.2.2.2.1, h3]; rfl⟩
    | [], h => simp at h
    | [_], h | [_, _], h | [_, _, _], h => simp at h; omega

theorem unpackRembFci_spec (fci : Bytes) :
    (unpackRembFci fci).SafeWith fun bl => IsBytes fci → IsRemb fci bl.2 := by
  unfold unpackRembFci
  split
  · rename_i a b c d n b5 b6 b7 rest
    refine .ite (fun _ => .ve) fun h1 => .ite (fun _ => .ve) fun h2 => ?_
    refine (rembSsrcs_spec n rest (by omega)).on fun l ⟨hl, hs⟩ => .ok fun hb => ?_
    obtain ⟨hlt, extra, hex⟩ := hs fun x hx => hb x (by simp [hx])
    obtain ⟨rfl, rfl, rfl, rfl⟩ : a = 82 ∧ b = 69 ∧ c = 77 ∧ d = 66 := by simpa using Decidable.of_not_not h1
    exact ⟨b5, b6, b7, extra, by simp [hl, hex], hlt⟩
  · exact .ve

theorem unpackRembFci_no_crash (fci : Bytes) :
    unpackRembFci fci = .valueError ∨ ∃ b l, unpackRembFci fci = .ok (b, l) :=
  (unpackRembFci_spec fci).on (.inl rfl) fun ⟨b, l⟩ _ => .inr ⟨b, l, rfl⟩

/-- … so the `try … except ValueError` of `route_rtcp` always completes. -/
theorem rembTargets_ok (fci : Bytes) : ∃ l, rembTargets fci = .ok l := by
  unfold rembTargets
  exact (unpackRembFci_spec fci).on ⟨_, rfl⟩ fun _ _ => ⟨_, rfl⟩

end Aiortc.Model.Router
