import Aiortc.Lemmas.Dict
/-! Lemmas about `__discard`, the set encodings and the table invariants of `Model/Router.lean`. -/
namespace Aiortc.Model.Router

section discard
variable {κ : Type}

theorem mem_dvals_ddiscard {x y : Nat} {d : List (κ × Nat)} :
    y ∈ dvals (ddiscard x d) ↔ y ≠ x ∧ y ∈ dvals d := by
  simp only [dvals, ddiscard, List.mem_map, List.mem_filter, decide_eq_true_eq]
  constructor
  · rintro ⟨e, ⟨he, hne⟩, rfl⟩; exact ⟨hne, e, he, rfl⟩
  · rintro ⟨hne, e, he, rfl⟩; exact ⟨e, ⟨he, hne⟩, rfl⟩

theorem nodup_dkeys_ddiscard (x : Nat) {d : List (κ × Nat)} (h : (dkeys d).Nodup) :
    (dkeys (ddiscard x d)).Nodup := by
  unfold dkeys ddiscard at *
  exact (List.filter_sublist.map Prod.fst).nodup h

theorem dget_ddiscard_ne [DecidableEq κ] (k : κ) (x : Nat) (d : List (κ × Nat)) : dget k (ddiscard x d) ≠ some x := by
  intro h
  have := dget_mem_dvals h
  rw [mem_dvals_ddiscard] at this
  exact this.1 rfl

theorem dget_ddiscard_of_ne [DecidableEq κ] {k : κ} {x v : Nat} {d : List (κ × Nat)} (h : dget k d = some v) (hv : v ≠ x) :
    dget k (ddiscard x d) = some v := by
  induction d with
  | nil => simp [dget] at h
  | cons e t ih =>
    obtain ⟨a, b⟩ := e
    by_cases ha : a = k
    · simp [dget, ha] at h; subst h
      simp [ddiscard, List.filter, hv, dget, ha]
    · simp [dget, ha] at h
      have := ih h
      by_cases hb : b = x
      · simpa [ddiscard, List.filter, hb] using this
      · simp only [ddiscard, List.filter, ne_eq, hb, not_false_eq_true, decide_true, dget, ha, if_false]
        simpa [ddiscard] using this

theorem dget_ddiscard [DecidableEq κ] (k : κ) (x : Nat) {d : List (κ × Nat)} (hd : (dkeys d).Nodup) :
    dget k (ddiscard x d) = if dget k d = some x then none else dget k d := by
  induction d with
  | nil => simp [ddiscard, dget]
  | cons e t ih =>
    obtain ⟨a, b⟩ := e
    have hd' : a ∉ dkeys t ∧ (dkeys t).Nodup := by simpa [dkeys] using hd
    by_cases ha : a = k
    · subst ha
      by_cases hb : b = x
      · subst hb
        have h1 : dget a (ddiscard b t) = none :=
          dget_none_of_not_key (fun hm => hd'.1 ((List.filter_sublist.map Prod.fst).subset hm))
        simpa [ddiscard, List.filter, dget] using h1
      · simp [ddiscard, List.filter, hb, dget]
    · by_cases hb : b = x
      · subst hb
        have := ih hd'.2
        simpa [ddiscard, List.filter, dget, ha] using this
      · have := ih hd'.2
        simp only [ddiscard, List.filter, ne_eq, hb, not_false_eq_true, decide_true, dget, ha, if_false]
        simpa [ddiscard] using this

end discard

/-! ## set -/

theorem mem_sadd {x y : Nat} {s : List Nat} : y ∈ sadd x s ↔ y = x ∨ y ∈ s := mem_insertNew

theorem nodup_sadd (x : Nat) {s : List Nat} (h : s.Nodup) : (sadd x s).Nodup := nodup_insertNew h

theorem mem_sdiscard {x y : Nat} {s : List Nat} : y ∈ sdiscard x s ↔ y ≠ x ∧ y ∈ s := by
  simp [sdiscard, and_comm]

theorem nodup_sdiscard (x : Nat) {s : List Nat} (h : s.Nodup) : (sdiscard x s).Nodup :=
  List.filter_sublist.nodup h

theorem mem_radd {x y : Recipient} {s : List Recipient} : y ∈ radd x s ↔ y = x ∨ y ∈ s := mem_insertNew

theorem nodup_radd (x : Recipient) {s : List Recipient} (h : s.Nodup) : (radd x s).Nodup := nodup_insertNew h

theorem only_member_iff {l : List Nat} (hn : l.Nodup) (r : Nat) : (∀ x, x ∈ l ↔ x = r) ↔ l = [r] := by
  rw [← List.perm_singleton, List.perm_ext_iff_of_nodup hn (List.pairwise_singleton _ r)]
  simp only [List.mem_singleton]

/-! ## payload-type table -/

theorem ptAdd_eq_dset (r pt : Nat) (tbl : List (Nat × List Nat)) :
    ptAdd r pt tbl = dset pt (sadd r (ptSet tbl pt)) tbl := by
  induction tbl with
  | nil => rfl
  | cons e t ih =>
    obtain ⟨k, s⟩ := e
    by_cases hk : k = pt
    · subst hk; simp only [ptAdd, dset, ptSet, dget, if_true, Option.getD_some]
    · simp only [ptAdd, dset, ptSet, dget, hk, if_false, List.cons.injEq, true_and]; exact ih

theorem ptSet_ptAdd (r pt pt' : Nat) (tbl : List (Nat × List Nat)) :
    ptSet (ptAdd r pt tbl) pt' = if pt' = pt then sadd r (ptSet tbl pt) else ptSet tbl pt' := by
  rw [ptAdd_eq_dset, ptSet, dget_dset]
  split <;> rfl

theorem ptSet_map_sdiscard (r pt : Nat) (tbl : List (Nat × List Nat)) :
    ptSet (tbl.map (fun e => (e.1, sdiscard r e.2))) pt = sdiscard r (ptSet tbl pt) := by
  induction tbl with
  | nil => simp [ptSet, dget, sdiscard]
  | cons e t ih =>
    obtain ⟨k, s⟩ := e
    by_cases hk : k = pt
    · simp [ptSet, dget, hk]
    · simpa [ptSet, dget, hk] using ih

/-- the `for payload_type in payload_types` loop -/
theorem mem_ptSet_foldl_ptAdd (r : Nat) (pts : List Nat) (tbl : List (Nat × List Nat)) (pt y : Nat) :
    y ∈ ptSet (pts.foldl (fun t p => ptAdd r p t) tbl) pt ↔ (y = r ∧ pt ∈ pts) ∨ y ∈ ptSet tbl pt := by
  induction pts generalizing tbl with
  | nil => simp
  | cons p ps ih =>
    simp only [List.foldl_cons, ih, ptSet_ptAdd, List.mem_cons]
    by_cases h : pt = p
    · subst h; simp only [if_true, mem_sadd]; grind
    · simp [h]

theorem nodup_ptSet_foldl_ptAdd (r : Nat) (pts : List Nat) (tbl : List (Nat × List Nat))
    (h : ∀ pt, (ptSet tbl pt).Nodup) : ∀ pt, (ptSet (pts.foldl (fun t p => ptAdd r p t) tbl) pt).Nodup := by
  induction pts generalizing tbl with
  | nil => simpa using h
  | cons p ps ih =>
    simp only [List.foldl_cons]
    apply ih
    intro pt
    rw [ptSet_ptAdd]
    split
    · exact nodup_sadd r (h p)
    · exact h pt

/-- the `for ssrc in ssrcs` loop -/
theorem dget_foldl_dset (r : Nat) (ssrcs : List Nat) (t : List (Nat × Nat)) (x : Nat) :
    dget x (ssrcs.foldl (fun t s => dset s r t) t) = if x ∈ ssrcs then some r else dget x t := by
  induction ssrcs generalizing t with
  | nil => simp
  | cons s ss ih =>
    simp only [List.foldl_cons, ih, dget_dset, List.mem_cons]
    by_cases h1 : x ∈ ss
    · simp [h1]
    · by_cases h2 : x = s <;> simp [h1, h2]

theorem nodup_dkeys_foldl_dset (r : Nat) (ssrcs : List Nat) (t : List (Nat × Nat)) (h : (dkeys t).Nodup) :
    (dkeys (ssrcs.foldl (fun t s => dset s r t) t)).Nodup := by
  induction ssrcs generalizing t with
  | nil => simpa using h
  | cons s ss ih => exact ih _ (nodup_dkeys_dset s r h)

theorem mem_dvals_foldl_dset {r x : Nat} (ssrcs : List Nat) (t : List (Nat × Nat))
    (h : x ∈ dvals (ssrcs.foldl (fun t s => dset s r t) t)) : x = r ∨ x ∈ dvals t := by
  induction ssrcs generalizing t with
  | nil => exact Or.inr (by simpa using h)
  | cons s ss ih =>
    rcases ih _ h with h | h
    · exact Or.inl h
    · exact mem_dvals_dset h

/-! ## the abstract view of a router state -/

/-- who is registered for an SSRC (`ssrc_table.get`) -/
def ssrcOf (st : Router) (x : Nat) : Option Nat := dget x st.ssrcTable
/-- receiver `r` accepts payload type `pt` (`r in payload_type_table.get(pt, set())`) -/
def accepts (st : Router) (pt r : Nat) : Prop := r ∈ ptSet st.ptTable pt
/-- which sender owns an SSRC (`senders.get`) -/
def senderOf (st : Router) (x : Nat) : Option Nat := dget x st.senders

instance (st : Router) (pt r : Nat) : Decidable (accepts st pt r) := by unfold accepts; infer_instance

structure WF (st : Router) : Prop where
  recvNodup : st.receivers.Nodup
  ptNodup : ∀ pt, (ptSet st.ptTable pt).Nodup
  ssrcKeys : (dkeys st.ssrcTable).Nodup
  sndKeys : (dkeys st.senders).Nodup
  midKeys : (dkeys st.midTable).Nodup
  ssrcRecv : ∀ r ∈ dvals st.ssrcTable, r ∈ st.receivers
  midRecv : ∀ r ∈ dvals st.midTable, r ∈ st.receivers
  ptRecv : ∀ pt r, r ∈ ptSet st.ptTable pt → r ∈ st.receivers

theorem WF.empty : WF Router.empty := by
  constructor <;> simp [Router.empty, dkeys, dvals, ptSet]

theorem WF.registerReceiver {st : Router} (h : WF st) (r : Nat) (ssrcs pts : List Nat) (mid : Option String) :
    WF (registerReceiver st r ssrcs pts mid) := by
  constructor
  · exact nodup_sadd r h.recvNodup
  · exact nodup_ptSet_foldl_ptAdd r pts _ h.ptNodup
  · exact nodup_dkeys_foldl_dset r ssrcs _ h.ssrcKeys
  · exact h.sndKeys
  · cases mid with
    | none => exact h.midKeys
    | some m => exact nodup_dkeys_dset m r h.midKeys
  · exact fun x hx => mem_sadd.2 ((mem_dvals_foldl_dset ssrcs _ hx).imp id (h.ssrcRecv x))
  · intro x hx
    cases mid with
    | none => exact mem_sadd.2 (Or.inr (h.midRecv x hx))
    | some m => exact mem_sadd.2 ((mem_dvals_dset hx).imp id (h.midRecv x))
  · exact fun pt x hx => mem_sadd.2 (((mem_ptSet_foldl_ptAdd r pts _ pt x).1 hx).imp And.left (h.ptRecv pt x))

theorem WF.registerSender {st : Router} (h : WF st) (s ssrc : Nat) : WF (registerSender st s ssrc) :=
  { h with sndKeys := nodup_dkeys_dset ssrc s h.sndKeys }

theorem ptSet_unregisterReceiver (st : Router) (r pt : Nat) :
    ptSet (unregisterReceiver st r).ptTable pt = sdiscard r (ptSet st.ptTable pt) :=
  ptSet_map_sdiscard r pt st.ptTable

theorem WF.unregisterReceiver {st : Router} (h : WF st) (r : Nat) : WF (unregisterReceiver st r) := by
  constructor
  · exact nodup_sdiscard r h.recvNodup
  · intro pt; rw [ptSet_unregisterReceiver]; exact nodup_sdiscard r (h.ptNodup pt)
  · exact nodup_dkeys_ddiscard r h.ssrcKeys
  · exact h.sndKeys
  · exact nodup_dkeys_ddiscard r h.midKeys
  · exact fun x hx => mem_sdiscard.2 ((mem_dvals_ddiscard.1 hx).imp id (h.ssrcRecv x))
  · exact fun x hx => mem_sdiscard.2 ((mem_dvals_ddiscard.1 hx).imp id (h.midRecv x))
  · intro pt x hx
    rw [ptSet_unregisterReceiver] at hx
    exact mem_sdiscard.2 ((mem_sdiscard.1 hx).imp id (h.ptRecv pt x))

theorem WF.unregisterSender {st : Router} (h : WF st) (s : Nat) : WF (unregisterSender st s) :=
  { h with sndKeys := nodup_dkeys_ddiscard s h.sndKeys }

theorem WF.routeRtp {st : Router} (h : WF st) (ssrc pt : Nat) : WF (routeRtp st ssrc pt).1 := by
  unfold Router.routeRtp
  cases hs : dget ssrc st.ssrcTable with
  | some r0 => simp only; split <;> exact h
  | none =>
    simp only
    split
    · rename_i r hr
      exact { h with
        ssrcKeys := nodup_dkeys_dset ssrc r h.ssrcKeys
        ssrcRecv := by
          intro x hx
          rcases mem_dvals_dset hx with hx | hx
          · subst hx; exact h.ptRecv pt x (by rw [hr]; simp)
          · exact h.ssrcRecv x hx }
    · exact h

theorem WF.step {st : Router} (h : WF st) (op : Op) : WF (step st op).1 := by
  cases op with
  | regReceiver r ssrcs pts mid => exact h.registerReceiver r ssrcs pts mid
  | regSender s ssrc => exact h.registerSender s ssrc
  | unregReceiver r => exact h.unregisterReceiver r
  | unregSender s => exact h.unregisterSender s
  | rtp ssrc pt => exact h.routeRtp ssrc pt
  | rtcp p => exact h

theorem WF.run {st : Router} (h : WF st) (ops : List Op) : WF (run st ops).1 := by
  induction ops generalizing st with
  | nil => exact h
  | cons op ops ih => exact ih (h.step op)

theorem run_nil (st : Router) : run st [] = (st, []) := rfl

theorem run_cons (st : Router) (op : Op) (ops : List Op) :
    run st (op :: ops) = ((run (step st op).1 ops).1, (step st op).2 :: (run (step st op).1 ops).2) := rfl

theorem run_append (st : Router) (a b : List Op) :
    run st (a ++ b) = ((run (run st a).1 b).1, (run st a).2 ++ (run (run st a).1 b).2) := by
  induction a generalizing st with
  | nil => simp [run_nil]
  | cons op ops ih => simp only [List.cons_append, run_cons, ih, List.cons_append]

/-! ## recipient sets -/

/-- `for x in xs: add_recipient(table.get(x))` with `f` tagging receivers / senders. -/
def addAll (f : Nat → Recipient) (g : Nat → Option Nat) (xs : List Nat) (acc : List Recipient) : List Recipient :=
  xs.foldl (fun a x => addOpt f (g x) a) acc

theorem mem_addOpt {f : Nat → Recipient} {o : Option Nat} {acc : List Recipient} {y : Recipient} :
    y ∈ addOpt f o acc ↔ (∃ v, o = some v ∧ y = f v) ∨ y ∈ acc := by
  cases o with
  | none => simp [addOpt]
  | some v => simp [addOpt, mem_radd]

theorem nodup_addOpt (f : Nat → Recipient) (o : Option Nat) {acc : List Recipient} (h : acc.Nodup) :
    (addOpt f o acc).Nodup := by
  cases o with
  | none => exact h
  | some v => exact nodup_radd _ h

theorem mem_addAll {f : Nat → Recipient} {g : Nat → Option Nat} {xs : List Nat} {acc : List Recipient} {y : Recipient} :
    y ∈ addAll f g xs acc ↔ (∃ x ∈ xs, ∃ v, g x = some v ∧ y = f v) ∨ y ∈ acc := by
  unfold addAll
  induction xs generalizing acc with
  | nil => simp
  | cons x xs ih =>
    simp only [List.foldl_cons, ih, mem_addOpt, List.mem_cons]
    constructor
    · rintro (⟨x', hx', v, hv⟩ | ⟨v, hv⟩ | h)
      · exact Or.inl ⟨x', Or.inr hx', v, hv⟩
      · exact Or.inl ⟨x, Or.inl rfl, v, hv⟩
      · exact Or.inr h
    · rintro (⟨x', hx' | hx', v, hv⟩ | h)
      · subst hx'; exact Or.inr (Or.inl ⟨v, hv⟩)
      · exact Or.inl ⟨x', hx', v, hv⟩
      · exact Or.inr (Or.inr h)

theorem nodup_addAll (f : Nat → Recipient) (g : Nat → Option Nat) (xs : List Nat) {acc : List Recipient}
    (h : acc.Nodup) : (addAll f g xs acc).Nodup := by
  unfold addAll
  induction xs generalizing acc with
  | nil => exact h
  | cons x xs ih => exact ih (nodup_addOpt f (g x) h)

end Aiortc.Model.Router
