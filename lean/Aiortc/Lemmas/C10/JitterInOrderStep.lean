import Aiortc.Lemmas.C10.JitterInOrder
/-! # One in-order arrival: release the first frame of the unreleased stream, or stay not ready. -/
namespace Aiortc.Lemmas.Jitter
open Aiortc Aiortc.Gen Aiortc.Model.Jitter

/-- State between two in-order arrivals: `k` packets arrived, `b … k-1` are held, fewer than
`max(prefetch,1)` frame boundaries among them. -/
structure St (ps : List Packet) (s0 : Int) (P : Int) (jb : JB) (b k : Nat) : Prop where
  inv : Inv jb
  pf : jb.prefetch = P
  bk : b ≤ k
  kn : k ≤ ps.length
  o0 : k = 0 → jb.origin = none
  hold : 0 < k → Holds ps s0 jb b k
  room : k - b < jb.capacity
  calm : (changes (seg ps b k) : Int) < max P 1

/-- An in-order packet is neither late nor beyond the window, so `add` takes the first-packet branch or the branch
where the packet fits. -/
theorem inorder_place {ps : List Packet} {s0 : Int} {P : Int} (hseq : SeqFrom s0 ps) {jb : JB}
    {b k : Nat} (hc32 : jb.capacity ≤ 32768) (hS : St ps s0 P jb b k) {p : Packet} (hk : ps[k]? = some p) :
    ∃ out jb3, add jb p = .ok out ∧ out.pli = false ∧ Holds ps s0 jb3 b (k + 1) ∧ Same jb jb3 ∧
      RFPost jb3 ((s0 + (b : Int)) % 65536) out.jb out.frame out.used := by
  have hI := hS.inv
  have hsp := hseq k p hk
  have hp16 : R16 p.seq := by rw [hsp]; unfold R16; omega
  have hbk := hS.bk
  have hroom := hS.room
  have hfit : ∀ o, jb.origin = some o → o = (s0 + (b : Int)) % 65536 ∧ ¬ LateC o p ∧ dist o p < jb.capacity := by
    intro o ho
    have hkpos : 0 < k := Nat.pos_of_ne_zero fun h0 => by rw [hS.o0 h0] at ho; cases ho
    obtain rfl := Option.some.inj (ho.symm.trans (hS.hold hkpos).orig)
    have hd := dist_seqFrom hseq hk hbk (by omega)
    exact ⟨rfl, fun h => by have := (lateC_seqFrom hseq hk (by omega) (by omega)).1 h; omega, by omega⟩
  have hheld : ∀ s q, Held jb s q ↔ ∃ i, b ≤ i ∧ i < k ∧ ps[i]? = some q ∧ s = pos jb q.seq := by
    rcases Nat.eq_zero_or_pos k with rfl | hkpos
    · exact fun s q => ⟨fun h => absurd h (hI.empty (hS.o0 rfl) s q), fun ⟨i, _, hi, _⟩ => absurd hi (Nat.not_lt_zero i)⟩
    · exact (hS.hold hkpos).held
  obtain ⟨out, e, hA⟩ := add_spec hI p hp16
  rcases hA with ⟨o, hD⟩ | ⟨jb2, o2, jb3, hSt⟩
  · exact absurd hD.late (hfit o hD.orig).2.1
  · obtain ⟨h1, h2, h3⟩ : o2 = (s0 + (b : Int)) % 65536 ∧ out.pli = false ∧ ∀ s q, Held jb2 s q ↔ Held jb s q := by
      rcases hSt.branch with ⟨h2, hE, ⟨ho, hpl⟩ | ⟨o, ho, _, ⟨hl, _⟩ | ⟨_, hd⟩⟩⟩ | ⟨o, ho, hl, hd, h2, hH, hpl⟩ |
          ⟨o, _, ho, hl, hd, _⟩
      · have hk0 : k = 0 := Nat.eq_zero_of_not_pos fun h => by rw [(hS.hold h).orig] at ho; cases ho
        obtain rfl : b = 0 := by omega
        exact ⟨by rw [h2, hsp, hk0], hpl, fun s q => ⟨fun h => absurd h (hE s q), fun h => absurd h (hI.empty ho s q)⟩⟩
      · exact absurd hl (hfit o ho).2.1
      · have := (hfit o ho).2.2; omega
      · exact ⟨h2 ▸ (hfit o ho).1, hpl, hH⟩
      · have := (hfit o ho).2.2; omega
    exact ⟨out, jb3, e, h2, holds_placed hseq hk hSt.inv hbk (h1 ▸ hSt.orig)
      (fun s q => by simp only [h3, hheld, pos_same hSt.same]) (by rw [← hSt.same.1]; exact hroom) hSt.placed,
      hSt.same3, h1 ▸ hSt.rf⟩

/-- Every segment of the stream with fewer than `max(prefetch,1)` frame boundaries is shorter than the
capacity: a frame plus its prefetch window always fits. -/
def Fits (ps : List Packet) (P : Int) (c : Nat) : Prop :=
  ∀ k, k ≤ ps.length → ∀ b, b ≤ k → (changes (seg ps b k) : Int) < max P 1 → k - b < c

theorem inorder_step {ps : List Packet} {s0 : Int} {P : Int} (hseq : SeqFrom s0 ps) {jb : JB}
    {b k : Nat} (hc32 : jb.capacity ≤ 32768) (hfit : Fits ps P jb.capacity) (hS : St ps s0 P jb b k)
    {p : Packet} (hk : ps[k]? = some p) :
    ∃ out, add jb p = .ok out ∧ out.pli = false ∧ out.jb.capacity = jb.capacity ∧
      ((out.frame = none ∧ St ps s0 P out.jb b (k + 1)) ∨
       (out.frame = some (firstFrame (ps.drop b)) ∧ max P 1 ≤ (changes (ps.drop b) : Int) ∧
        St ps s0 P out.jb (b + (firstRun (ps.drop b)).length) (k + 1))) := by
  obtain ⟨out, jb3, e, hpli, hH3, hS3, hRF⟩ := inorder_place hseq hc32 hS hk
  have hkn : k < ps.length := (List.getElem?_eq_some_iff.1 hk).1
  have hbk := hS.bk
  have hP3 : jb3.prefetch = P := by rw [← hS3.2.1]; exact hS.pf
  have hc3 : jb3.capacity = jb.capacity := hS3.1.symm
  have hsegle : changes (seg ps b (k + 1)) ≤ changes (seg ps b k) + 1 := by
    rw [seg_succ ps b k hbk p hk]; exact changes_append_one _ _
  have hcalm := hS.calm
  have hW : heldRun jb3 _ = seg ps b (k + 1) := window_eq hseq hH3
  refine ⟨out, e, hpli, ?_⟩
  rcases hRF with ⟨hf, _, hj, hnr⟩ | ⟨hready, hSh, hf, hu⟩
  · rw [hW, hP3] at hnr
    rw [hj]
    exact ⟨hc3, Or.inl ⟨hf, hH3.inv, hP3, by omega, hkn, fun h => by omega, fun _ => hH3,
      by rw [hc3]; exact hfit (k + 1) hkn b (by omega) hnr, hnr⟩⟩
  · -- the window is a prefix of the unreleased stream, so its first run is the stream's first frame
    rw [hW, hP3] at hready
    rw [hu, hW] at hSh; rw [hW] at hf
    obtain ⟨hfr, hff⟩ := firstRun_take (l := ps.drop b) (m := k + 1 - b) (by unfold seg at hready; omega)
    rw [show (ps.drop b).take (k + 1 - b) = seg ps b (k + 1) from rfl] at hfr hff
    rw [hfr] at hSh; rw [hff] at hf
    obtain ⟨hne, _, q, R, hL, _⟩ := firstRun_split (l := seg ps b (k + 1)) (by omega)
    have hn1 := List.length_pos_iff.2 (hfr ▸ hne)
    have hLlen := seg_length ps b (k + 1) hkn
    rw [hL, hfr, List.length_append, List.length_cons] at hLlen
    have hch := changes_drop_firstRun (seg ps b (k + 1)) (by omega)
    rw [hfr, seg_drop] at hch
    have hH' := hH3.shift hseq (by omega) hSh
    have hroom3 := hH3.room
    refine ⟨by rw [← hSh.same.1, hc3], Or.inr ⟨hf, ?_, hH'.inv, by rw [← hSh.same.2.1]; exact hP3, by omega, hkn,
      fun h => by omega, fun _ => hH', by rw [← hSh.same.1]; omega, by omega⟩⟩
    have := changes_take_le (ps.drop b) (k + 1 - b)
    unfold seg at hready
    omega

theorem inorder_run {ps : List Packet} {s0 : Int} {P : Int} (hseq : SeqFrom s0 ps) (c : Nat)
    (hc32 : c ≤ 32768) (hfit : Fits ps P c) : ∀ (m k b : Nat) (jb : JB), k + m = ps.length →
    jb.capacity = c → St ps s0 P jb b k →
    ∃ jb' obs, run jb (ps.drop k) = .ok (jb', obs) ∧ obs.filterMap (·.2) = expected P (ps.drop b) ∧
      ∀ o ∈ obs, o.1 = false := by
  intro m
  induction m with
  | zero =>
    intro k b jb hkm hc hS
    have hk : k = ps.length := by omega
    refine ⟨jb, [], by rw [List.drop_eq_nil_of_le (by omega)]; rfl, ?_, by simp⟩
    have hcalm := hS.calm
    have hseg : seg ps b k = ps.drop b := by
      unfold seg; apply List.take_of_length_le; simp; omega
    rw [hseg] at hcalm
    rw [expected, dif_neg (by omega)]; rfl
  | succ m ih =>
    intro k b jb hkm hc hS
    have hkn : k < ps.length := by omega
    have hk : ps[k]? = some ps[k] := List.getElem?_eq_getElem hkn
    obtain ⟨out, e, hpli, hcap, hcase⟩ := inorder_step hseq (by rw [hc]; exact hc32) (by rw [hc]; exact hfit) hS hk
    rw [List.drop_eq_getElem_cons hkn]
    -- either way the rest of the run releases what `expected` lists after this call's frame
    obtain ⟨b', hS', hexp⟩ : ∃ b', St ps s0 P out.jb b' (k + 1) ∧
        expected P (ps.drop b) = out.frame.toList ++ expected P (ps.drop b') := by
      rcases hcase with ⟨hf, hS'⟩ | ⟨hf, hready, hS'⟩
      · exact ⟨b, hS', by rw [hf]; rfl⟩
      · exact ⟨_, hS', by rw [hf, expected, dif_pos hready, List.drop_drop]; rfl⟩
    obtain ⟨jb', obs, e', hobs, hall⟩ := ih (k + 1) b' out.jb (by omega) (by rw [hcap, hc]) hS'
    refine ⟨jb', (out.pli, out.frame) :: obs, by simp only [run, e, e'], ?_, ?_⟩
    · rw [hexp, ← hobs]; cases out.frame <;> rfl
    · intro o ho; rcases List.mem_cons.1 ho with h | h
      · rw [h]; exact hpli
      · exact hall o h

end Aiortc.Lemmas.Jitter
