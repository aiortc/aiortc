import Aiortc.Lemmas.C10.JitterAdd
/-! # `add_spec`: `add` never fails under the invariant and satisfies `AddPost`; consequences of `Branch`. -/
namespace Aiortc.Lemmas.Jitter
open Aiortc Aiortc.Gen Aiortc.Model.Jitter

theorem add_finish {jb jb2 : JB} {p : Packet} {o2 : Int} {pli : Bool} (hp : R16 p.seq)
    (hS : Same jb jb2) (hI2 : Inv jb2) (ho2 : jb2.origin = some o2) (hn : dist o2 p < jb.capacity)
    (hB : Branch jb p jb2 o2 pli) (heq : add jb p = addPlace jb2 p pli) :
    ∃ out, add jb p = .ok out ∧ AddPost jb p out := by
  obtain ⟨out, jb3, e, hpli, hPl, hRF⟩ := addPlace_spec hI2 ho2 p hp (by rw [← hS.1]; exact hn) pli
  exact ⟨out, heq ▸ e, Or.inr ⟨jb2, o2, jb3, ⟨hS, hI2, ho2, hn, by rw [hpli]; exact hB, hPl, hRF⟩⟩⟩

/-- The three branches that restart an emptied buffer `jb1` at the arriving packet. -/
theorem add_restart {jb jb1 : JB} {p : Packet} {pli : Bool} (hI : Inv jb) (hp : R16 p.seq) (hS : Same jb jb1)
    (hI1 : Inv jb1) (hE : ∀ s q, ¬ Held jb1 s q)
    (why : (jb.origin = none ∧ pli = false) ∨ ∃ o, jb.origin = some o ∧ pli = jb.isVideo ∧
      ((LateC o p ∧ (MAX_MISORDER : Int) ≤ uint16_add o (-p.seq)) ∨ (¬ LateC o p ∧ (jb.capacity : Int) ≤ dist o p)))
    (heq : add jb p = addPlace { jb1 with origin := some p.seq } p pli) :
    ∃ out, add jb p = .ok out ∧ AddPost jb p out :=
  add_finish (jb2 := { jb1 with origin := some p.seq }) hp hS
    (inv_of_empty hI1.cap_pos hI1.cap_dvd hI1.len p.seq rfl hp hE) rfl
    (by rw [dist_self]; have := hI.cap_pos; omega) (.restart rfl hE why) heq

theorem add_spec {jb : JB} (hI : Inv jb) (p : Packet) (hp : R16 p.seq) :
    ∃ out, add jb p = .ok out ∧ AddPost jb p out := by
  have hcap : ¬ ((0 : Int) ≥ (jb.capacity : Int)) := by have := hI.cap_pos; omega
  cases ho : jb.origin with
  | none =>
    exact add_restart hI hp (Same.refl jb) hI (hI.empty ho) (.inl ⟨ho, rfl⟩)
      (by simp only [add, addDist, ho, addMisorder, Int.lt_irrefl, if_false, addOverflow, hcap])
  | some o =>
    have hO := hI.orig o ho
    have hdr := dist_range o p
    by_cases hlate : uint16_add o (-p.seq) < dist o p
    · by_cases hmax : uint16_add o (-p.seq) ≥ (MAX_MISORDER : Int)
      · -- `MAX_MISORDER` or more late: the ring is emptied and restarted at `p`
        obtain ⟨jb1, e1, hSh⟩ := remove_spec hI ho jb.capacity (Nat.le_refl _)
        have hS1 := hSh.same
        have hcap1 : ¬ ((0 : Int) ≥ (jb1.capacity : Int)) := by rw [← hS1.1]; exact hcap
        exact add_restart (pli := jb1.isVideo) hI hp hS1 hSh.inv (hSh.empty hI ho)
          (.inr ⟨o, ho, hS1.2.2.symm, .inl ⟨hlate, hmax⟩⟩)
          (by simp only [add, addDist, ho, addMisorder, uint16_sub_eq_dist, hlate, hmax, if_true, e1, addOverflow,
            hcap1, if_false])
      · -- late by less: dropped
        refine ⟨⟨jb, false, none, []⟩, ?_, Or.inl ⟨o, ⟨ho, hlate, by omega, rfl, rfl, rfl, rfl⟩⟩⟩
        simp only [add, addDist, ho, addMisorder, uint16_sub_eq_dist, hlate, hmax, if_true, if_false]
    · by_cases hov : dist o p ≥ (jb.capacity : Int)
      · -- beyond the window: `smart_remove` makes room, or empties the ring
        obtain ⟨jb1, b, k, e1, hk1, hSh, hb1, hb2, hb3⟩ := smartRemove_spec hI ho (dist o p - (jb.capacity : Int) + 1)
        have hS1 := hSh.same
        have heq : ∀ jb2, (if b = true then ({ jb1 with origin := some p.seq } : JB) else jb1) = jb2 →
            add jb p = addPlace jb2 p (false || jb2.isVideo) := fun jb2 h => by
          simp only [add, addDist, ho, addMisorder, uint16_sub_eq_dist, hlate, if_false, addOverflow, hov, if_true, e1, h]
        cases b with
        | true =>
          obtain ⟨rfl, _⟩ := hb1 rfl
          exact add_restart (pli := false || jb1.isVideo) hI hp hS1 hSh.inv (hSh.empty hI ho)
            (.inr ⟨o, ho, by rw [← hS1.2.2]; rfl, .inr ⟨hlate, hov⟩⟩) (heq _ rfl)
        | false =>
          have hkn := hb3 rfl hI.cap_pos
          have hcnt := hb2 rfl hkn
          have hnear : dist ((o + (k : Int)) % 65536) p < jb.capacity := by
            unfold dist R16 at *; simp at hcnt; omega
          exact add_finish (pli := false || jb1.isVideo) hp hS1 hSh.inv hSh.orig hnear
            (.advanced o k ho hlate hov hkn rfl hSh.held (by rw [← hS1.2.2]; rfl)) (heq _ rfl)
      · exact add_finish (pli := false) hp (Same.refl jb) hI ho (by omega)
          (.fits o ho hlate (by omega) rfl (fun s q => Iff.rfl) rfl)
          (by simp only [add, addDist, ho, addMisorder, uint16_sub_eq_dist, hlate, if_false, addOverflow, hov])

theorem add_post {jb : JB} (hI : Inv jb) {p : Packet} (hp : R16 p.seq) {out : AddOut} (e : add jb p = .ok out) :
    AddPost jb p out := by
  obtain ⟨out', e', hA⟩ := add_spec hI p hp
  obtain rfl := Outcome.ok.inj (e.symm.trans e')
  exact hA

theorem AddPost.inv_same {jb : JB} {p : Packet} {out : AddOut} (hA : AddPost jb p out) (hI : Inv jb) :
    Inv out.jb ∧ Same jb out.jb := by
  rcases hA with ⟨o, hD⟩ | ⟨jb2, o2, jb3, hSt⟩
  · rw [hD.unchanged]; exact ⟨hI, Same.refl jb⟩
  · rcases hSt.rf with hN | hR
    · rw [hN.unchanged]; exact ⟨hSt.placed.inv, hSt.same3⟩
    · exact ⟨hR.shift.inv, hSt.same3.trans hR.shift.same⟩

theorem AddPost.of_frame {jb : JB} {p : Packet} {out : AddOut} (hA : AddPost jb p out) {f : Frame}
    (hf : out.frame = some f) :
    ∃ jb2 o2 jb3, Stored jb p out jb2 o2 jb3 ∧ Released jb3 o2 out.jb out.frame out.used ∧
      FrameAt jb3 o2 f out.used := by
  rcases hA with ⟨o, hD⟩ | ⟨jb2, o2, jb3, hSt⟩
  · rw [hD.frame] at hf; cases hf
  · rcases hSt.rf with hN | hR
    · rw [hN.frame] at hf; cases hf
    · exact ⟨jb2, o2, jb3, hSt, hR, Option.some.inj (hf.symm.trans hR.frame) ▸ hR.frameAt⟩

theorem AddPost.used_nil {jb : JB} {p : Packet} {out : AddOut} (hA : AddPost jb p out) (hf : out.frame = none) :
    out.used = [] := by
  rcases hA with ⟨o, hD⟩ | ⟨jb2, o2, jb3, hSt⟩
  · exact hD.used
  · rcases hSt.rf with hN | hR
    · exact hN.used
    · rw [hR.frame] at hf; cases hf

theorem late_iff_lateC {jb : JB} {o : Int} (ho : jb.origin = some o) (p : Packet) (n : Int) :
    Late jb p n ↔ LateC o p ∧ n ≤ uint16_add o (-p.seq) := by
  unfold Late LateC; rw [ho, ← uint16_sub_eq_dist]
  exact ⟨fun ⟨o', e, h⟩ => Option.some.inj e ▸ h, fun h => ⟨o, rfl, h⟩⟩

theorem Branch.sub {jb jb2 : JB} {p : Packet} {o2 : Int} {pli : Bool} (hB : Branch jb p jb2 o2 pli) (s : Nat)
    (q : Packet) (h : Held jb2 s q) : Held jb s q := by
  rcases hB with ⟨_, hE, _⟩ | ⟨_, _, _, _, _, hH, _⟩ | ⟨_, _, _, _, _, _, _, hH, _⟩
  · exact absurd h (hE s q)
  · exact (hH s q).1 h
  · exact ((hH s q).1 h).1

/-- A video buffer that drops anything says so. -/
theorem Branch.keep {jb jb2 : JB} {p : Packet} {o2 : Int} {pli : Bool} (hB : Branch jb p jb2 o2 pli) (hI : Inv jb)
    (hv : jb.isVideo = true) (hpl : pli = false) (s : Nat) (q : Packet) (h : Held jb s q) : Held jb2 s q := by
  rcases hB with ⟨_, _, ⟨ho, _⟩ | ⟨_, _, e, _⟩⟩ | ⟨_, _, _, _, _, hH, _⟩ | ⟨_, _, _, _, _, _, _, _, e⟩
  · exact absurd h (hI.empty ho s q)
  · rw [hpl, hv] at e; cases e
  · exact (hH s q).2 h
  · rw [hpl, hv] at e; cases e

theorem Branch.adv {jb jb2 : JB} {p : Packet} {o2 : Int} {pli : Bool} (hB : Branch jb p jb2 o2 pli) (hI : Inv jb)
    (hp : R16 p.seq) (hn : ¬ Late jb p (MAX_MISORDER : Int)) {o : Int} (ho : jb.origin = some o) :
    ∃ a : Int, 0 ≤ a ∧ o2 = (o + a) % 65536 ∧ a ≤ dist o p ∧ dist o p ≤ 32768 ∧
      (a = 0 ∨ (jb.capacity : Int) ≤ dist o p) := by
  have hO := hI.orig o ho
  have hdr := dist_range o p
  have h32 : ¬ LateC o p → dist o p ≤ 32768 := by unfold LateC dist uint16_add R16 at *; omega
  rcases hB with ⟨h2, _, ⟨ho', _⟩ | ⟨o', ho', _, ⟨hl, hm⟩ | ⟨hl, hd⟩⟩⟩ | ⟨o', ho', hl, hd, h2, _⟩ |
      ⟨o', k, ho', hl, hd, hk, h2, _⟩
  · rw [ho] at ho'; cases ho'
  · exact absurd ((late_iff_lateC ho' p _).2 ⟨hl, hm⟩) hn
  · obtain rfl : o = o' := Option.some.inj (ho.symm.trans ho')
    exact ⟨dist o p, hdr.1, h2 ▸ seq_eq_of_dist o hp, Int.le_refl _, h32 hl, Or.inr hd⟩
  · obtain rfl : o = o' := Option.some.inj (ho.symm.trans ho')
    exact ⟨0, Int.le_refl _, by unfold R16 at hO; omega, hdr.1, h32 hl, Or.inl rfl⟩
  · obtain rfl : o = o' := Option.some.inj (ho.symm.trans ho')
    exact ⟨k, Int.natCast_nonneg k, h2, by omega, h32 hl, Or.inr hd⟩

end Aiortc.Lemmas.Jitter
