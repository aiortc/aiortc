import Aiortc.Lemmas.C10.JitterRemove
/-!
# `smart_remove`: succeeds under the invariant and is a `Shift` by some `k ≤ capacity`; it returns `True` only
after `capacity` steps, and when it returns `False` it removed at least `count` slots and fewer than `capacity`.
-/
namespace Aiortc.Lemmas.Jitter
open Aiortc Aiortc.Gen Aiortc.Model.Jitter

theorem smartLoop_succ {jb : JB} (hc : 0 < jb.capacity) (hl : jb.packets.length = jb.capacity) {o : Int}
    (ho : jb.origin = some o) (count : Int) (n i : Nat) (ts : Option Int) :
    smartLoop count (n + 1) i jb ts =
      match jb.packets[pos jb o]?.join with
      | some p =>
        if (i : Int) ≥ count ∧ ts ≠ some p.ts then .ok (jb, false)
        else if (i : Int) = (jb.capacity : Int) - 1 then .ok (adv1 jb o, true)
        else smartLoop count n (i + 1) (adv1 jb o) (some p.ts)
      | none =>
        if (i : Int) = (jb.capacity : Int) - 1 then .ok (adv1 jb o, true)
        else smartLoop count n (i + 1) (adv1 jb o) ts := by
  have hk : pos jb o < jb.packets.length := by rw [hl]; exact pos_lt jb hc o
  simp only [smartLoop, smartStep, ho, slotOf_ok jb hc, getSlot_ok jb _ hk, setSlot_ok jb _ _ hk, adv1]
  cases jb.packets[pos jb o]?.join with
  | none => by_cases hl : (i : Int) = (jb.capacity : Int) - 1 <;> simp only [hl, if_true, if_false]
  | some p =>
    simp only []
    by_cases hc : (i : Int) ≥ count ∧ ts ≠ some p.ts
    · simp only [if_pos hc]
    · rw [if_neg hc, if_neg hc]
      by_cases hl : (i : Int) = (jb.capacity : Int) - 1 <;> simp only [hl, if_true, if_false]

/-- The loop entered at round `i` with `n` rounds left: a `Shift` by the `k` slots it cleared.  It says `True` only after all
`n` rounds; when it stops before that, at least `count` rounds (the `i` earlier ones included) are behind it. -/
def SmartPost (count : Int) (n i : Nat) (jb : JB) (o : Int) (res : Outcome (JB × Bool)) : Prop :=
  ∃ jb' b, ∃ k : Nat, res = .ok (jb', b) ∧ k ≤ n ∧ Shift jb jb' o k ∧
    (b = true → k = n ∧ 0 < n) ∧ (b = false → k < n → count ≤ (i : Int) + k) ∧ (b = false → 0 < n → k < n)

theorem smartPost_stop {jb : JB} (hI : Inv jb) {o : Int} (ho : jb.origin = some o) (count : Int) (n i : Nat)
    (hc : n = 0 ∨ count ≤ (i : Int)) : SmartPost count n i jb o (.ok (jb, false)) :=
  ⟨jb, false, 0, rfl, Nat.zero_le _, Shift.refl hI ho, nofun,
    fun _ h => hc.elim (fun h0 => by omega) (fun hc => by simpa using hc), fun _ h => h⟩

theorem smartLoop_spec (count : Int) (n : Nat) :
    ∀ (i : Nat) {jb : JB}, Inv jb → ∀ {o : Int}, jb.origin = some o → ∀ (ts : Option Int),
      i + n = jb.capacity → SmartPost count n i jb o (smartLoop count n i jb ts) := by
  induction n with
  | zero => intro i jb hI o ho ts hin; exact smartPost_stop hI ho count 0 i (Or.inl rfl)
  | succ n ih =>
    intro i jb hI o ho ts hin
    have h1 := shift_adv1 hI ho
    -- the fall-through case (slot cleared, origin advanced)
    have thru : ∀ ts', SmartPost count (n + 1) i jb o
        (if (i : Int) = (jb.capacity : Int) - 1 then (Outcome.ok (adv1 jb o, true) : Outcome (JB × Bool))
          else smartLoop count n (i + 1) (adv1 jb o) ts') := by
      intro ts'
      by_cases hlast : (i : Int) = (jb.capacity : Int) - 1
      · obtain rfl : n = 0 := by omega
        exact ⟨adv1 jb o, true, 1, by simp [hlast], Nat.le_refl _, h1, by simp, by simp, by simp⟩
      · obtain ⟨jb2, b, k, e2, hk2, h2, hb1, hb2, hb3⟩ := ih (i + 1) h1.inv h1.orig ts' (by rw [← h1.same.1]; omega)
        refine ⟨jb2, b, 1 + k, by simp only [hlast, if_false]; exact e2, by omega, h1.trans h2, ?_, ?_, ?_⟩
        · intro hb; have := hb1 hb; omega
        · intro hb hk1
          have := hb2 hb (by omega); push_cast at this ⊢; omega
        · intro hb hn
          rcases Nat.eq_zero_or_pos n with h0 | h0
          · omega
          · have := hb3 hb h0; omega
    rw [smartLoop_succ hI.cap_pos hI.len ho]
    cases jb.packets[pos jb o]?.join with
    | none => exact thru ts
    | some p =>
      simp only []
      split
      · next hc => exact smartPost_stop hI ho count (n + 1) i (Or.inr hc.1)
      · exact thru (some p.ts)

theorem smartRemove_spec {jb : JB} (hI : Inv jb) {o : Int} (ho : jb.origin = some o) (count : Int) :
    SmartPost count jb.capacity 0 jb o (smartRemove jb count) :=
  smartLoop_spec count jb.capacity 0 hI ho none (by omega)

end Aiortc.Lemmas.Jitter
