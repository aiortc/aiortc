import Aiortc.Lemmas.C10.JitterSmart
import Aiortc.Lemmas.C10.JitterReady
/-!
# The specification `AddPost` of `add`: early return, or an intermediate state `jb2` after reset / overflow
handling, the state `jb3` after the packet was placed, and the outcome of `_remove_frame` on `jb3`.
-/
namespace Aiortc.Lemmas.Jitter
open Aiortc Aiortc.Gen Aiortc.Model.Jitter

/-- `f` with ghost `used` is a frame sitting at the origin `o` of `jb`. -/
structure FrameAt (jb : JB) (o : Int) (f : Frame) (used : List Packet) : Prop where
  ne : used ≠ []
  lt : used.length < jb.capacity
  data : f.data = joinData used
  run : ∀ (k : Nat) p, used[k]? = some p → Held jb (pos jb (o + (k : Int))) p ∧ p.ts = f.ts
  next : ∃ q, Held jb (pos jb (o + (used.length : Int))) q ∧ q.ts ≠ f.ts

theorem FrameAt.at {jb : JB} {o : Int} {f : Frame} {used : List Packet} (hF : FrameAt jb o f used) (hI : Inv jb)
    (ho : jb.origin = some o) {k : Nat} {q : Packet} (hk : used[k]? = some q) :
    Held jb (pos jb (o + (k : Int))) q ∧ q.ts = f.ts ∧ dist o q = k := by
  have hk' := (List.getElem?_eq_some_iff.1 hk).1
  have := hF.lt
  exact ⟨(hF.run k q hk).1, (hF.run k q hk).2,
    dist_of_held hI ho (Int.natCast_nonneg k) (by omega) (hF.run k q hk).1⟩

theorem FrameAt.mem_of_held {jb : JB} {o : Int} {f : Frame} {used : List Packet} (hF : FrameAt jb o f used)
    (hI : Inv jb) (ho : jb.origin = some o) {s : Nat} {q : Packet} (h : Held jb s q)
    (hd : dist o q < used.length) : q ∈ used := by
  obtain ⟨k, hk⟩ := Int.eq_ofNat_of_zero_le (dist_range o q).1
  have hu := List.getElem?_eq_getElem (l := used) (i := k) (by omega)
  rw [held_unique hI ho h (hF.at hI ho hu).1 (by rw [(hF.at hI ho hu).2.2]; exact hk)]
  exact List.mem_of_getElem? hu

/-- The packets held contiguously from the origin `o`: window positions 0, 1, … up to the first empty slot
(`Props.C10.windowRun` unfolds to it). -/
def heldRun (jb : JB) (o : Int) : List Packet := somePrefix (winList jb o 0 jb.capacity)

theorem heldRun_length_le (jb : JB) (o : Int) : (heldRun jb o).length ≤ jb.capacity := by
  have := somePrefix_length_le (winList jb o 0 jb.capacity); rwa [winList_length] at this

theorem heldRun_get {jb : JB} {o : Int} {k : Nat} {p : Packet} (h : (heldRun jb o)[k]? = some p) :
    Held jb (pos jb (o + (k : Int))) p := by
  have hk : k < jb.capacity := Nat.lt_of_lt_of_le (List.getElem?_eq_some_iff.1 h).1 (heldRun_length_le jb o)
  have := somePrefix_get _ k p h
  rw [winList_get jb o _ k hk] at this
  exact (held_iff_join jb _ p).2 (Option.some.inj this)

theorem frameAt_heldRun {jb : JB} {o : Int} (h : 1 ≤ changes (heldRun jb o)) :
    FrameAt jb o (firstFrame (heldRun jb o)) (firstRun (heldRun jb o)) := by
  obtain ⟨hne, hts, q, R, hW, hq⟩ := firstRun_split h
  have hlen := heldRun_length_le jb o
  rw [hW, List.length_append, List.length_cons] at hlen
  have hget : ∀ (k : Nat) p, (firstRun (heldRun jb o) ++ q :: R)[k]? = some p → Held jb (pos jb (o + (k : Int))) p :=
    fun k p hk => heldRun_get (by rw [hW]; exact hk)
  refine ⟨hne, by omega, rfl, fun k p hk => ⟨hget k p ?_, hts p (List.mem_of_getElem? hk)⟩, q, hget _ q ?_, hq⟩
  · rw [List.getElem?_append_left (List.getElem?_eq_some_iff.1 hk).1]; exact hk
  · rw [List.getElem?_append_right (Nat.le_refl _), Nat.sub_self]; rfl

/-- `_remove_frame` on `jb3` (origin `o`) returns nothing. -/
structure NotReady (jb3 : JB) (o : Int) (jbOut : JB) (frame : Option Frame) (used : List Packet) : Prop where
  frame : frame = none
  used : used = []
  unchanged : jbOut = jb3
  few : (changes (heldRun jb3 o) : Int) < max jb3.prefetch 1

/-- `_remove_frame` on `jb3` (origin `o`) returns the first frame of the held run. -/
structure Released (jb3 : JB) (o : Int) (jbOut : JB) (frame : Option Frame) (used : List Packet) : Prop where
  enough : max jb3.prefetch 1 ≤ (changes (heldRun jb3 o) : Int)
  shift : Shift jb3 jbOut o used.length
  frame : frame = some (firstFrame (heldRun jb3 o))
  used : used = firstRun (heldRun jb3 o)

theorem Released.frameAt {jb3 : JB} {o : Int} {jbOut : JB} {frame : Option Frame} {used : List Packet}
    (h : Released jb3 o jbOut frame used) : FrameAt jb3 o (firstFrame (heldRun jb3 o)) used :=
  h.used ▸ frameAt_heldRun (by have := h.enough; omega)

def RFPost (jb3 : JB) (o : Int) (jbOut : JB) (frame : Option Frame) (used : List Packet) : Prop :=
  NotReady jb3 o jbOut frame used ∨ Released jb3 o jbOut frame used

theorem removeFrame_spec {jb : JB} (hI : Inv jb) {o : Int} (ho : jb.origin = some o) (x : Int) :
    ∃ out, removeFrame jb x = .ok out ∧ RFPost jb o out.jb out.frame out.used := by
  have hc : jb.capacity ≠ 0 := Nat.ne_of_gt hI.cap_pos
  have hs : _ = if max jb.prefetch 1 ≤ (changes (heldRun jb o) : Int) then _ else _ :=
    scan_init_eq jb.prefetch (winList jb o 0 jb.capacity)
  simp only [removeFrame, hc, if_false, ho, rfLoop_eq_scan hI.cap_pos hI.len]
  cases hsc : scan jb.prefetch (winList jb o 0 jb.capacity) 0 RF.init with
  | none =>
    rw [hsc] at hs
    refine ⟨_, rfl, Or.inl ⟨rfl, rfl, rfl, Int.not_le.1 fun hr => ?_⟩⟩
    rw [if_pos hr] at hs; cases hs
  | some st =>
    rw [hsc] at hs
    by_cases hr : max jb.prefetch 1 ≤ (changes (heldRun jb o) : Int)
    · rw [if_pos hr] at hs
      obtain ⟨hf, hu, hrm⟩ : st.frame = some (firstFrame (heldRun jb o)) ∧ st.used = firstRun (heldRun jb o) ∧
          st.remove = (firstRun (heldRun jb o)).length := by
        simpa [rfOut, Prod.ext_iff, heldRun] using hs
      -- the first run is followed by another held packet, so it is shorter than the ring
      have hlt := (frameAt_heldRun (jb := jb) (o := o) (by omega)).lt
      obtain ⟨jb', e, hS⟩ := remove_spec hI ho st.remove (by rw [hrm]; omega)
      simp only [e]
      exact ⟨_, rfl, Or.inr ⟨hr, by rw [hu, ← hrm]; exact hS, hf, hu⟩⟩
    · rw [if_neg hr] at hs; cases hs

/-- `p` arrives at least `n` positions behind the origin (serial arithmetic, as `add` computes it). -/
def Late (jb : JB) (p : Packet) (n : Int) : Prop :=
  ∃ o, jb.origin = some o ∧ uint16_add o (-p.seq) < uint16_add p.seq (-o) ∧ n ≤ uint16_add o (-p.seq)

/-- `misorder < delta` of `add` for origin `o`. -/
def LateC (o : Int) (p : Packet) : Prop := uint16_add o (-p.seq) < dist o p

theorem lateC_seqFrom {s0 : Int} {ps : List Packet} (hseq : SeqFrom s0 ps) {b i : Nat} {x : Packet}
    (hx : ps[i]? = some x) (h1 : (i : Int) < b + 32768) (h2 : (b : Int) < i + 32768) :
    LateC ((s0 + (b : Int)) % 65536) x ↔ i < b := by
  unfold LateC dist uint16_add; rw [hseq i x hx]; omega

/-- The state `jb2` (origin `o2`, flag `pli`) in which `add jb p` places the packet, by the branch taken: the
buffer was restarted at the arriving packet (`why`: first packet; or, with `pli` for video, reset after a ≥100-late
arrival or an overflow that emptied the buffer), left alone, or advanced by `k` slots (overflow). -/
inductive Branch (jb : JB) (p : Packet) (jb2 : JB) (o2 : Int) (pli : Bool) : Prop where
  | restart (h2 : o2 = p.seq) (hE : ∀ s q, ¬ Held jb2 s q)
      (why : (jb.origin = none ∧ pli = false) ∨ ∃ o, jb.origin = some o ∧ pli = jb.isVideo ∧
        ((LateC o p ∧ (MAX_MISORDER : Int) ≤ uint16_add o (-p.seq)) ∨ (¬ LateC o p ∧ (jb.capacity : Int) ≤ dist o p)))
  | fits (o : Int) (ho : jb.origin = some o) (hl : ¬ LateC o p) (hd : dist o p < jb.capacity) (h2 : o2 = o)
      (hH : ∀ s q, Held jb2 s q ↔ Held jb s q) (hpl : pli = false)
  | advanced (o : Int) (k : Nat) (ho : jb.origin = some o) (hl : ¬ LateC o p) (hd : (jb.capacity : Int) ≤ dist o p)
      (hk : k < jb.capacity) (h2 : o2 = (o + (k : Int)) % 65536)
      (hH : ∀ s q, Held jb2 s q ↔ (Held jb s q ∧ (k : Int) ≤ dist o q)) (hpl : pli = jb.isVideo)

structure Placed (jb2 : JB) (p : Packet) (jb3 : JB) : Prop where
  same : Same jb2 jb3
  orig : jb3.origin = jb2.origin
  inv : Inv jb3
  held : ∀ s q, Held jb3 s q ↔ (if s = pos jb2 p.seq then q = p else Held jb2 s q)

theorem Placed.sub {jb2 jb3 : JB} {p : Packet} (hP : Placed jb2 p jb3) {s : Nat} {q : Packet} (h : Held jb3 s q) :
    q = p ∨ Held jb2 s q := by
  have := (hP.held s q).1 h
  split at this
  · exact Or.inl this
  · exact Or.inr this

/-- The early return of `add`. -/
structure Dropped (jb : JB) (p : Packet) (out : AddOut) (o : Int) : Prop where
  orig : jb.origin = some o
  late : LateC o p
  lt : uint16_add o (-p.seq) < (MAX_MISORDER : Int)
  unchanged : out.jb = jb
  pli : out.pli = false
  frame : out.frame = none
  used : out.used = []

structure Stored (jb : JB) (p : Packet) (out : AddOut) (jb2 : JB) (o2 : Int) (jb3 : JB) : Prop where
  same : Same jb jb2
  inv : Inv jb2
  orig : jb2.origin = some o2
  near : dist o2 p < jb.capacity
  branch : Branch jb p jb2 o2 out.pli
  placed : Placed jb2 p jb3
  rf : RFPost jb3 o2 out.jb out.frame out.used

theorem Stored.orig3 {jb : JB} {p : Packet} {out : AddOut} {jb2 : JB} {o2 : Int} {jb3 : JB}
    (h : Stored jb p out jb2 o2 jb3) : jb3.origin = some o2 := h.placed.orig.trans h.orig

theorem Stored.same3 {jb : JB} {p : Packet} {out : AddOut} {jb2 : JB} {o2 : Int} {jb3 : JB}
    (h : Stored jb p out jb2 o2 jb3) : Same jb jb3 := h.same.trans h.placed.same

def AddPost (jb : JB) (p : Packet) (out : AddOut) : Prop :=
  (∃ o, Dropped jb p out o) ∨ ∃ jb2 o2 jb3, Stored jb p out jb2 o2 jb3

theorem inv_of_empty {jb : JB} (hc : 0 < jb.capacity) (hd : (jb.capacity : Int) ∣ 65536)
    (hl : jb.packets.length = jb.capacity) (o : Int) (ho : jb.origin = some o) (hO : R16 o)
    (hE : ∀ s p, ¬ Held jb s p) : Inv jb :=
  ⟨hc, hd, hl, fun _ => hE, fun o1 h1 => by rw [ho] at h1; injection h1 with h1; rw [← h1]; exact hO,
   fun o1 h1 s p h => absurd h (hE s p)⟩

theorem addPlace_spec {jb2 : JB} {o2 : Int} (hI : Inv jb2) (ho : jb2.origin = some o2) (p : Packet)
    (hp : R16 p.seq) (hnear : dist o2 p < jb2.capacity) (pli : Bool) :
    ∃ out jb3, addPlace jb2 p pli = .ok out ∧ out.pli = pli ∧ Placed jb2 p jb3 ∧
      RFPost jb3 o2 out.jb out.frame out.used := by
  have hk : pos jb2 p.seq < jb2.packets.length := by rw [hI.len]; exact pos_lt jb2 hI.cap_pos _
  let jb3 : JB := { jb2 with packets := jb2.packets.set (pos jb2 p.seq) (some p) }
  have hH : ∀ s q, Held jb3 s q ↔ (if s = pos jb2 p.seq then q = p else Held jb2 s q) := by
    intro s q
    have := held_set jb2 (pos jb2 p.seq) (some p) jb2.origin s q hk
    rw [show jb3 = { jb2 with packets := jb2.packets.set (pos jb2 p.seq) (some p), origin := jb2.origin } from rfl, this]
    by_cases h : s = pos jb2 p.seq
    · simp only [h, if_true]; constructor
      · intro e; injection e with e; exact e.symm
      · intro e; rw [e]
    · simp only [h, if_false]
  have hI3 : Inv jb3 := by
    refine ⟨hI.cap_pos, hI.cap_dvd, by simp [jb3, hI.len], ?_, hI.orig, ?_⟩
    · intro h; rw [show jb3.origin = jb2.origin from rfl, ho] at h; cases h
    · intro o1 h1 s q hq
      have h1' : jb2.origin = some o1 := h1
      rw [ho] at h1'; injection h1' with h1'; subst h1'
      rw [hH] at hq
      by_cases h : s = pos jb2 p.seq
      · simp only [h, if_true] at hq; subst hq
        exact ⟨hp, hnear, h.symm⟩
      · simp only [h, if_false] at hq
        exact hI.slots o2 ho s q hq
  obtain ⟨r, er, hr⟩ := removeFrame_spec hI3 (o := o2) ho p.seq
  refine ⟨⟨r.jb, pli, r.frame, r.used⟩, jb3, ?_, rfl, ⟨⟨rfl, rfl, rfl⟩, rfl, hI3, hH⟩, hr⟩
  simp only [addPlace, slotOf_ok jb2 hI.cap_pos, setSlot_ok jb2 _ _ hk]
  rw [show ({ jb2 with packets := jb2.packets.set (pos jb2 p.seq) (some p) } : JB) = jb3 from rfl, er]

end Aiortc.Lemmas.Jitter
