import Aiortc.Lemmas.C10.JitterRemove
/-!
# `_remove_frame`: the loop reads the window `origin, origin+1, …` of the ring; its logic is the pure list
function `scan` over that window (`rfLoop_eq_scan`); JitterReady gives `scan` in closed form.
-/
namespace Aiortc.Lemmas.Jitter
open Aiortc Aiortc.Gen Aiortc.Model.Jitter

def winAt (jb : JB) (o : Int) (i : Nat) : Option Packet := jb.packets[pos jb (o + (i : Int))]?.join

/-- The loop of `_remove_frame` as a function of the window contents. -/
def scan (prefetch : Int) : List (Option Packet) → Nat → RF → Option RF
  | [], _, _ => none
  | none :: _, _, _ => none
  | some p :: rest, count, st =>
    match rfBody prefetch st count p with
    | .cont st1 => scan prefetch rest (count + 1) st1
    | .brk => none
    | .ret st1 => some st1

def winList (jb : JB) (o : Int) (count n : Nat) : List (Option Packet) :=
  (List.range' count n).map (winAt jb o)

theorem rfLoop_eq_scan {jb : JB} (hc : 0 < jb.capacity) (hl : jb.packets.length = jb.capacity) (o : Int) (n : Nat) :
    ∀ (count : Nat) (st : RF),
    rfLoop jb o n count st = .ok (scan jb.prefetch (winList jb o count n) count st) := by
  induction n with
  | zero => intro count st; rfl
  | succ n ih =>
    intro count st
    have hk : pos jb (o + (count : Int)) < jb.packets.length := by rw [hl]; exact pos_lt jb hc _
    simp only [rfLoop, rfStep, slotOf_ok jb hc, getSlot_ok jb _ hk, winList, List.range'_succ, List.map_cons, winAt]
    cases hw : jb.packets[pos jb (o + (count : Int))]?.join with
    | none => rfl
    | some p =>
      simp only [scan]
      cases hb : rfBody jb.prefetch st count p with
      | cont st1 => simp only []; exact ih (count + 1) st1
      | brk => rfl
      | ret st1 => rfl

theorem winList_length (jb : JB) (o : Int) (count n : Nat) : (winList jb o count n).length = n := by
  simp [winList]

theorem winList_get (jb : JB) (o : Int) (n i : Nat) (hi : i < n) :
    (winList jb o 0 n)[i]? = some (winAt jb o i) := by
  simp [winList, hi]

end Aiortc.Lemmas.Jitter
