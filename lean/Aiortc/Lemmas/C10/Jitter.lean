import Aiortc.Model.Jitter
import Aiortc.Lemmas.Serial
/-!
# Jitter buffer — the ring invariant `Inv` and the arithmetic of slots and distances

`Held jb s p`: slot `s` holds `p`; `dist o p = (p.seq - o) % 2^16` is the forward distance of `p` from the origin; `pos jb x`
the slot of sequence number `x`.  Under `Inv` a held packet is determined by its distance (`dist_of_held`, `held_at_dist`)
and the three slot primitives succeed.  The operations are specified in JitterRemove … JitterAddSpec.
-/
namespace Aiortc.Lemmas.Jitter
open Aiortc Aiortc.Gen Aiortc.Model.Jitter

def R16 (a : Int) : Prop := 0 ≤ a ∧ a < 65536

def Held (jb : JB) (s : Nat) (p : Packet) : Prop := jb.packets[s]? = some (some p)

def dist (o : Int) (p : Packet) : Int := (p.seq - o) % 65536

def pos (jb : JB) (x : Int) : Nat := (x % (jb.capacity : Int)).toNat

def Same (a b : JB) : Prop :=
  a.capacity = b.capacity ∧ a.prefetch = b.prefetch ∧ a.isVideo = b.isVideo

theorem Same.refl (a : JB) : Same a a := ⟨rfl, rfl, rfl⟩
theorem Same.trans {a b c : JB} (h1 : Same a b) (h2 : Same b c) : Same a c :=
  ⟨h1.1.trans h2.1, h1.2.1.trans h2.2.1, h1.2.2.trans h2.2.2⟩

/-- `cap_dvd`: the capacity divides 2^16, so the slot `seq % capacity` does not jump at the wrap (`pos_wrap`); `empty`: before
the first packet nothing is held; `slots`: a held packet is within `capacity` of the origin in forward distance and sits in
the slot of its own sequence number. -/
structure Inv (jb : JB) : Prop where
  cap_pos : 0 < jb.capacity
  cap_dvd : (jb.capacity : Int) ∣ 65536
  len : jb.packets.length = jb.capacity
  empty : jb.origin = none → ∀ s p, ¬ Held jb s p
  orig : ∀ o, jb.origin = some o → R16 o
  slots : ∀ o, jb.origin = some o → ∀ s p, Held jb s p →
    R16 p.seq ∧ dist o p < jb.capacity ∧ pos jb p.seq = s

theorem Inv.cap_le {jb : JB} (hI : Inv jb) : (jb.capacity : Int) ≤ 65536 := Int.le_of_dvd (by decide) hI.cap_dvd

theorem slot_inj {a b c o : Int} (ha : 0 ≤ a) (hac : a < c) (hb : 0 ≤ b) (hbc : b < c)
    (e : (o + a) % c = (o + b) % c) : a = b := Serial.idx_inj o (by omega) e

theorem pos_lt (jb : JB) (h : 0 < jb.capacity) (x : Int) : pos jb x < jb.capacity := Serial.emod_toNat_lt x h

theorem pos_eq_iff (jb : JB) (h : 0 < jb.capacity) (x y : Int) :
    pos jb x = pos jb y ↔ x % (jb.capacity : Int) = y % (jb.capacity : Int) := by
  unfold pos
  have h1 := Int.emod_nonneg x (b := (jb.capacity : Int)) (by omega)
  have h2 := Int.emod_nonneg y (b := (jb.capacity : Int)) (by omega)
  omega

/-- The slot of `(o + d) mod 2^16` is the slot of `o + d`: this is where `capacity ∣ 2^16` is needed. -/
theorem pos_wrap (jb : JB) (hd : (jb.capacity : Int) ∣ 65536) (x : Int) :
    pos jb (x % 65536) = pos jb x := by
  unfold pos; rw [Int.emod_emod_of_dvd x hd]

theorem seq_eq_of_dist (o : Int) {p : Packet} (hp : R16 p.seq) :
    p.seq = (o + dist o p) % 65536 := by
  unfold dist R16 at *; omega

theorem dist_range (o : Int) (p : Packet) : 0 ≤ dist o p ∧ dist o p < 65536 := Serial.emod_range (by decide) _

theorem dist_self (p : Packet) : dist p.seq p = 0 := by unfold dist; simp

theorem uint16_sub_eq_dist (o : Int) (p : Packet) : uint16_add p.seq (-o) = dist o p := by
  unfold uint16_add dist; congr 1

theorem pos_same {a b : JB} (h : Same a b) (x : Int) : pos b x = pos a x := by
  unfold pos; rw [h.1]

def SeqFrom (s0 : Int) (ps : List Packet) : Prop :=
  ∀ (i : Nat) q, ps[i]? = some q → q.seq = (s0 + (i : Int)) % 65536

theorem dist_seqFrom {s0 : Int} {ps : List Packet} (hseq : SeqFrom s0 ps) {b i : Nat} {x : Packet}
    (hx : ps[i]? = some x) (h1 : b ≤ i) (h2 : i < b + 65536) : dist ((s0 + (b : Int)) % 65536) x = (i : Int) - b := by
  unfold dist; rw [hseq i x hx]; omega

theorem pos_of_dist (jb : JB) (hd : (jb.capacity : Int) ∣ 65536) {o : Int} {p : Packet}
    (hp : R16 p.seq) : pos jb p.seq = pos jb (o + dist o p) := by
  rw [seq_eq_of_dist o hp, pos_wrap jb hd]

theorem dist_of_held {jb : JB} (hI : Inv jb) {o : Int} (ho : jb.origin = some o) {i : Int}
    (hi0 : 0 ≤ i) (hi : i < jb.capacity) {p : Packet} (h : Held jb (pos jb (o + i)) p) :
    dist o p = i := by
  obtain ⟨hp, hdist, hpos⟩ := hI.slots o ho _ _ h
  rw [pos_of_dist jb hI.cap_dvd hp, pos_eq_iff jb hI.cap_pos] at hpos
  exact slot_inj (dist_range o p).1 hdist hi0 hi hpos

theorem seq_of_held {jb : JB} (hI : Inv jb) {o : Int} (ho : jb.origin = some o) {i : Nat} (hi : i < jb.capacity)
    {p : Packet} (h : Held jb (pos jb (o + (i : Int))) p) : p.seq = (o + (i : Int)) % 65536 := by
  rw [← dist_of_held hI ho (Int.natCast_nonneg i) (by omega) h]
  exact seq_eq_of_dist o (hI.slots o ho _ _ h).1

theorem held_at_dist {jb : JB} (hI : Inv jb) {o : Int} (ho : jb.origin = some o) {s : Nat} {p : Packet}
    (h : Held jb s p) : Held jb (pos jb (o + dist o p)) p := by
  obtain ⟨hp, hdist, hpos⟩ := hI.slots o ho _ _ h
  rw [← pos_of_dist jb hI.cap_dvd hp, hpos]; exact h

theorem held_unique {jb : JB} (hI : Inv jb) {o : Int} (ho : jb.origin = some o) {s t : Nat} {p q : Packet}
    (hp : Held jb s p) (hq : Held jb t q) (e : dist o p = dist o q) : p = q := by
  have h1 := held_at_dist hI ho hp
  have h2 := held_at_dist hI ho hq
  rw [e] at h1
  unfold Held at h1 h2
  rw [h1] at h2
  injection h2 with h2; injection h2

theorem same_seq {jb : JB} (hI : Inv jb) {o : Int} (ho : jb.origin = some o) {s : Nat}
    {q p : Packet} (hq : Held jb s q) (hp : R16 p.seq) (hnear : dist o p < jb.capacity)
    (hs : pos jb p.seq = s) : p.seq = q.seq := by
  rw [← hs, pos_of_dist jb hI.cap_dvd hp] at hq
  have := dist_of_held hI ho (dist_range o p).1 hnear hq
  rw [seq_eq_of_dist o hp, seq_eq_of_dist o (hI.slots o ho _ _ hq).1, this]

theorem slotOf_ok (jb : JB) (h : 0 < jb.capacity) (x : Int) : slotOf jb x = .ok (pos jb x) := by
  unfold slotOf pos; simp [Nat.ne_of_gt h]

theorem setSlot_ok (jb : JB) (k : Nat) (v : Option Packet) (h : k < jb.packets.length) :
    setSlot jb k v = .ok { jb with packets := jb.packets.set k v } := by
  unfold setSlot; simp [h]

theorem getSlot_ok (jb : JB) (k : Nat) (h : k < jb.packets.length) :
    getSlot jb k = .ok (jb.packets[k]?.join) := by
  unfold getSlot
  have : jb.packets[k]? = some jb.packets[k] := List.getElem?_eq_getElem h
  rw [this]; rfl

theorem held_iff_join (jb : JB) (k : Nat) (p : Packet) : Held jb k p ↔ jb.packets[k]?.join = some p := by
  unfold Held
  cases h : jb.packets[k]? with
  | none => simp
  | some v => cases v <;> simp

theorem held_set (jb : JB) (k : Nat) (v : Option Packet) (o' : Option Int) (s : Nat) (p : Packet)
    (hk : k < jb.packets.length) :
    Held { jb with packets := jb.packets.set k v, origin := o' } s p ↔
      (if s = k then v = some p else Held jb s p) := by
  unfold Held
  simp only [List.getElem?_set, hk, if_true]
  by_cases h : s = k
  · subst h; simp
  · have : ¬ k = s := fun e => h e.symm
    simp [h, this]

end Aiortc.Lemmas.Jitter
