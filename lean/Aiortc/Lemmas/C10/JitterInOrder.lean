import Aiortc.Lemmas.C10.JitterStream
import Aiortc.Lemmas.C10.JitterAddSpec
/-!
# In-order arrival of a sender stream: the buffer holds exactly the packets `b … k-1` of the stream
(`Holds`); what its window then contains, and how storing packet `k` or shifting the origin changes it.
-/
namespace Aiortc.Lemmas.Jitter
open Aiortc Aiortc.Gen Aiortc.Model.Jitter

def seg (ps : List Packet) (b k : Nat) : List Packet := (ps.drop b).take (k - b)

theorem seg_get (ps : List Packet) (b k i : Nat) (hi : i < k - b) : (seg ps b k)[i]? = ps[b + i]? := by
  unfold seg
  rw [List.getElem?_take_of_lt hi, List.getElem?_drop]

theorem seg_length (ps : List Packet) (b k : Nat) (hk : k ≤ ps.length) : (seg ps b k).length = k - b := by
  unfold seg; simp; omega

theorem seg_succ (ps : List Packet) (b k : Nat) (hbk : b ≤ k) (p : Packet) (hk : ps[k]? = some p) :
    seg ps b (k + 1) = seg ps b k ++ [p] := by
  unfold seg
  have h1 : k + 1 - b = (k - b) + 1 := by omega
  have h2 : (List.drop b ps)[k - b]? = some p := by
    rw [List.getElem?_drop]
    have : b + (k - b) = k := by omega
    rw [this, hk]
  rw [h1, List.take_add_one, h2]; rfl

theorem seg_drop (ps : List Packet) (b k n : Nat) : (seg ps b k).drop n = seg ps (b + n) k := by
  unfold seg; rw [List.drop_take, List.drop_drop]; congr 1; omega

structure Holds (ps : List Packet) (s0 : Int) (jb : JB) (b k : Nat) : Prop where
  inv : Inv jb
  bk : b ≤ k
  kn : k ≤ ps.length
  orig : jb.origin = some ((s0 + (b : Int)) % 65536)
  held : ∀ s q, Held jb s q ↔ ∃ i, b ≤ i ∧ i < k ∧ ps[i]? = some q ∧ s = pos jb q.seq
  room : k - b ≤ jb.capacity

theorem winAt_eq {ps : List Packet} {s0 : Int} (hseq : SeqFrom s0 ps) {jb : JB} {b k : Nat}
    (hH : Holds ps s0 jb b k) (i : Nat) (hi : i < jb.capacity) :
    winAt jb ((s0 + (b : Int)) % 65536) i = if i < k - b then ps[b + i]? else none := by
  have hI := hH.inv
  have hcap := hI.cap_le
  have hroom := hH.room
  have hkn := hH.kn
  unfold winAt
  split
  · next hlt =>
    have hbi : b + i < ps.length := by omega
    have hq : ps[b + i]? = some ps[b + i] := List.getElem?_eq_getElem hbi
    have hheld := held_at_dist hI hH.orig ((hH.held _ _).2 ⟨b + i, by omega, by omega, hq, rfl⟩)
    rw [dist_seqFrom hseq hq (by omega) (by omega), show ((b + i : Nat) : Int) - b = i by omega] at hheld
    rw [(held_iff_join jb _ _).1 hheld, hq]
  · next hlt =>
    cases hw : jb.packets[pos jb ((s0 + (b : Int)) % 65536 + (i : Int))]?.join with
    | none => rfl
    | some q =>
      -- a packet in window position `i` is stream packet `b + i`, which is not held
      have hheld := (held_iff_join jb _ _).2 hw
      have hd := dist_of_held hI hH.orig (Int.natCast_nonneg i) (by omega) hheld
      obtain ⟨j, hj1, hj2, hj3, _⟩ := (hH.held _ _).1 hheld
      rw [dist_seqFrom hseq hj3 hj1 (by omega)] at hd
      omega

theorem window_eq {ps : List Packet} {s0 : Int} (hseq : SeqFrom s0 ps) {jb : JB} {b k : Nat}
    (hH : Holds ps s0 jb b k) :
    somePrefix (winList jb ((s0 + (b : Int)) % 65536) 0 jb.capacity) = seg ps b k := by
  have hlen := seg_length ps b k hH.kn
  have hroom := hH.room
  symm
  have key := somePrefix_eq (seg ps b k) (winList jb ((s0 + (b : Int)) % 65536) 0 jb.capacity) ?_ ?_
  · exact key.symm
  · intro i hi
    rw [hlen] at hi
    rw [winList_get jb _ _ i (by omega), winAt_eq hseq hH i (by omega), if_pos hi, seg_get ps b k i hi]
  · rw [hlen]
    by_cases hfull : k - b = jb.capacity
    · right; rw [winList_length]; exact hfull.symm
    · left
      rw [winList_get jb _ _ (k - b) (by omega), winAt_eq hseq hH (k - b) (by omega)]
      simp

theorem pos_seqFrom_inj {ps : List Packet} {s0 : Int} (hseq : SeqFrom s0 ps) {jb : JB} (hI : Inv jb) {b i i' : Nat}
    {q q' : Packet} (hq : ps[i]? = some q) (hq' : ps[i']? = some q') (h1 : b ≤ i) (h2 : i < b + jb.capacity)
    (h1' : b ≤ i') (h2' : i' < b + jb.capacity) (e : pos jb q.seq = pos jb q'.seq) : i = i' := by
  rw [hseq i q hq, hseq i' q' hq', pos_wrap jb hI.cap_dvd, pos_wrap jb hI.cap_dvd, pos_eq_iff jb hI.cap_pos,
    show s0 + (i : Int) = s0 + b + ((i - b : Nat) : Int) by omega,
    show s0 + (i' : Int) = s0 + b + ((i' - b : Nat) : Int) by omega] at e
  have := slot_inj (Int.natCast_nonneg _) (by omega) (Int.natCast_nonneg _) (by omega) e
  omega

theorem holds_placed {ps : List Packet} {s0 : Int} (hseq : SeqFrom s0 ps) {jb jb3 : JB} {b k : Nat} {p : Packet}
    (hk : ps[k]? = some p) (hI : Inv jb) (hbk : b ≤ k) (ho : jb.origin = some ((s0 + (b : Int)) % 65536))
    (hheld : ∀ s q, Held jb s q ↔ ∃ i, b ≤ i ∧ i < k ∧ ps[i]? = some q ∧ s = pos jb q.seq)
    (hroom : k - b < jb.capacity) (hP : Placed jb p jb3) : Holds ps s0 jb3 b (k + 1) := by
  obtain ⟨hS, ho3, hI3, hH3⟩ := hP
  have hkn : k < ps.length := (List.getElem?_eq_some_iff.1 hk).1
  refine ⟨hI3, by omega, hkn, by rw [ho3, ho], fun s q => ?_, by rw [← hS.1]; omega⟩
  simp only [hH3, pos_same hS]
  -- an earlier packet `i < k` does not sit in the slot of packet `k`
  have hne : ∀ i q, b ≤ i → i < k → ps[i]? = some q → pos jb q.seq ≠ pos jb p.seq := fun i q h1 h2 hq e =>
    absurd (pos_seqFrom_inj hseq hI hq hk h1 (by omega) hbk (by omega) e) (by omega)
  constructor
  · intro h
    split at h
    · next hs => subst h; exact ⟨k, hbk, by omega, hk, hs⟩
    · obtain ⟨i, hi1, hi2, hi3, hi4⟩ := (hheld s q).1 h
      exact ⟨i, hi1, by omega, hi3, hi4⟩
  · rintro ⟨i, hi1, hi2, hi3, rfl⟩
    rcases Nat.lt_or_ge i k with hlt | hge
    · rw [if_neg (hne i q hi1 hlt hi3)]
      exact (hheld _ q).2 ⟨i, hi1, hlt, hi3, rfl⟩
    · obtain rfl : i = k := by omega
      obtain rfl : p = q := Option.some.inj (hk.symm.trans hi3)
      rw [if_pos rfl]

theorem Holds.shift {ps : List Packet} {s0 : Int} (hseq : SeqFrom s0 ps) {jb jb' : JB} {b k n : Nat}
    (hH : Holds ps s0 jb b k) (hn : b + n ≤ k) (hSh : Shift jb jb' ((s0 + (b : Int)) % 65536) n) :
    Holds ps s0 jb' (b + n) k := by
  have hcap := hH.inv.cap_le
  have hroom := hH.room
  refine ⟨hSh.inv, by omega, hH.kn, ?_, fun s x => ?_, by rw [← hSh.same.1]; omega⟩
  · rw [hSh.orig]; congr 1; push_cast; omega
  · rw [hSh.held, hH.held]
    have hpos : ∀ y, pos jb' y = pos jb y := pos_same hSh.same
    constructor
    · rintro ⟨⟨i, hi1, hi2, hi3, hi4⟩, hd⟩
      rw [dist_seqFrom hseq hi3 hi1 (by omega)] at hd
      exact ⟨i, by omega, hi2, hi3, by rw [hpos]; exact hi4⟩
    · rintro ⟨i, hi1, hi2, hi3, hi4⟩
      refine ⟨⟨i, by omega, hi2, hi3, by rw [← hpos]; exact hi4⟩, ?_⟩
      rw [dist_seqFrom hseq hi3 (by omega) (by omega)]; omega

end Aiortc.Lemmas.Jitter
