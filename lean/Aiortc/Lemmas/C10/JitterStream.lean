import Aiortc.Model.Jitter
/-!
# Pure list facts about a sender's packet stream: maximal same-timestamp runs, timestamp changes,
and the specification `expected` of what an in-order arrival must release.
-/
namespace Aiortc.Lemmas.Jitter
open Aiortc Aiortc.Gen Aiortc.Model.Jitter

def somePrefix : List (Option Packet) → List Packet
  | some p :: r => p :: somePrefix r
  | _ => []

/-- Number of timestamp changes along `l`, the packet before `l` having timestamp `t`. -/
def chg : Int → List Packet → Nat
  | _, [] => 0
  | t, p :: r => (if p.ts ≠ t then 1 else 0) + chg p.ts r

/-- Number of frame boundaries (timestamp changes between neighbours) in a run of packets. -/
def changes : List Packet → Nat
  | [] => 0
  | p :: r => chg p.ts r

def sameRun (t : Int) : List Packet → List Packet
  | [] => []
  | p :: r => if p.ts = t then p :: sameRun t r else []

/-- The first frame of a stream: its maximal leading run of equal timestamps. -/
def firstRun : List Packet → List Packet
  | [] => []
  | p :: r => p :: sameRun p.ts r

def firstFrame (l : List Packet) : Frame :=
  ⟨joinData (firstRun l), match l with | p :: _ => p.ts | [] => 0⟩

theorem sameRun_append_of {l R : List Packet} {t : Int} (hl : ∀ p ∈ l, p.ts = t)
    (hR : ∀ q, R.head? = some q → q.ts ≠ t) : sameRun t (l ++ R) = l := by
  induction l with
  | nil =>
    cases R with
    | nil => rfl
    | cons q R => simp only [List.nil_append, sameRun, hR q rfl, if_false]
  | cons u us ih =>
    simp only [List.cons_append, sameRun, hl u List.mem_cons_self, if_true]
    rw [ih fun p hp => hl p (List.mem_cons_of_mem _ hp)]

theorem firstRun_append_of {l R : List Packet} {t : Int} (hne : l ≠ []) (hl : ∀ p ∈ l, p.ts = t)
    (hR : ∀ q, R.head? = some q → q.ts ≠ t) : firstRun (l ++ R) = l := by
  obtain ⟨u, us, rfl⟩ := List.exists_cons_of_ne_nil hne
  have hu := hl u List.mem_cons_self
  rw [List.cons_append, firstRun, sameRun_append_of (fun p hp => (hl p (List.mem_cons_of_mem _ hp)).trans hu.symm)
    fun q hq => hu ▸ hR q hq]

theorem firstRun_append (u : Packet) (us : List Packet) (q : Packet) (R : List Packet)
    (hrun : ∀ p ∈ us, p.ts = u.ts) (hq : q.ts ≠ u.ts) : firstRun (u :: us ++ q :: R) = u :: us :=
  firstRun_append_of (t := u.ts) nofun (fun p hp => (List.mem_cons.1 hp).elim (fun e => e ▸ rfl) (hrun p))
    fun _ h => Option.some.inj h ▸ hq

theorem chg_take_le (l : List Packet) : ∀ (t : Int) (m : Nat), chg t (l.take m) ≤ chg t l := by
  induction l with
  | nil => intro t m; simp [chg]
  | cons p r ih =>
    intro t m
    cases m with
    | zero => simp [chg]
    | succ m =>
      simp only [List.take_succ_cons, chg]
      have := ih p.ts m
      omega

theorem changes_take_le (l : List Packet) (m : Nat) : changes (l.take m) ≤ changes l := by
  cases l with
  | nil => simp [changes]
  | cons p r =>
    cases m with
    | zero => simp [changes]
    | succ m => simp only [List.take_succ_cons, changes]; exact chg_take_le r p.ts m

theorem chg_split (r : List Packet) : ∀ (t : Int), 1 ≤ chg t r →
    ∃ us q R, r = us ++ q :: R ∧ (∀ x ∈ us, x.ts = t) ∧ q.ts ≠ t := by
  induction r with
  | nil => intro t h; simp [chg] at h
  | cons a r' ih =>
    intro t h
    by_cases ha : a.ts ≠ t
    · exact ⟨[], a, r', rfl, by simp, ha⟩
    · have hat : a.ts = t := by simpa using ha
      simp only [chg, hat, ne_eq, not_true_eq_false, if_false, Nat.zero_add] at h
      obtain ⟨us, q, R, e, h1, h2⟩ := ih t h
      refine ⟨a :: us, q, R, by rw [e]; rfl, ?_, h2⟩
      intro x hx; rcases List.mem_cons.1 hx with h' | h'
      · rw [h']; exact hat
      · exact h1 x h'

theorem somePrefix_get : ∀ (l : List (Option Packet)) (k : Nat) (p : Packet), (somePrefix l)[k]? = some p → l[k]? = some (some p)
  | some _ :: _, 0, _, h => congrArg some (h : some _ = some _)
  | some _ :: r, k + 1, p, h => somePrefix_get r k p h
  | none :: _, _, _, h => nomatch (h : none = some _)
  | [], _, _, h => nomatch (h : none = some _)

theorem somePrefix_length_le : ∀ (l : List (Option Packet)), (somePrefix l).length ≤ l.length
  | some _ :: r => Nat.succ_le_succ (somePrefix_length_le r)
  | none :: _ => Nat.zero_le _
  | [] => Nat.le_refl _

theorem firstRun_split {l : List Packet} (h : 1 ≤ changes l) :
    firstRun l ≠ [] ∧ (∀ p ∈ firstRun l, p.ts = (firstFrame l).ts) ∧
      ∃ q R, l = firstRun l ++ q :: R ∧ q.ts ≠ (firstFrame l).ts := by
  cases l with
  | nil => simp [changes] at h
  | cons u r =>
    obtain ⟨us, q, R, rfl, hus, hq⟩ := chg_split r u.ts h
    rw [← List.cons_append, firstRun_append u us q R hus hq]
    exact ⟨nofun, fun p hp => (List.mem_cons.1 hp).elim (fun e => e ▸ rfl) (hus p), q, R, rfl, hq⟩

theorem firstRun_take {l : List Packet} {m : Nat} (h : 1 ≤ changes (l.take m)) :
    firstRun (l.take m) = firstRun l ∧ firstFrame (l.take m) = firstFrame l := by
  cases ht : l.take m with
  | nil => rw [ht] at h; cases h
  | cons u r =>
    rw [ht] at h
    obtain ⟨us, q, R, rfl, hus, hq⟩ := chg_split r u.ts h
    have hl : l = u :: us ++ q :: (R ++ l.drop m) := by
      conv => lhs; rw [← List.take_append_drop m l, ht]
      simp
    rw [hl, ← List.cons_append]
    unfold firstFrame
    rw [firstRun_append u us q R hus hq, firstRun_append u us q _ hus hq]
    exact ⟨rfl, rfl⟩

theorem chg_append_one (l : List Packet) : ∀ (t : Int) (p : Packet), chg t (l ++ [p]) ≤ chg t l + 1 := by
  induction l with
  | nil => intro t p; simp [chg]; split <;> omega
  | cons a r ih => intro t p; simp only [List.cons_append, chg]; have := ih a.ts p; omega

theorem changes_append_one (l : List Packet) (p : Packet) : changes (l ++ [p]) ≤ changes l + 1 := by
  cases l with
  | nil => simp [changes, chg]
  | cons a r => simp only [List.cons_append, changes]; exact chg_append_one r a.ts p

theorem chg_append (t : Int) (run : List Packet) (q : Packet) (R : List Packet)
    (hrun : ∀ p ∈ run, p.ts = t) (hq : q.ts ≠ t) : chg t (run ++ q :: R) = 1 + chg q.ts R := by
  induction run with
  | nil => simp [chg, hq]
  | cons u us ih =>
    have hu : u.ts = t := hrun u List.mem_cons_self
    simp only [List.cons_append, chg, hu]
    rw [ih (fun p hp => hrun p (List.mem_cons_of_mem _ hp))]
    simp

theorem somePrefix_eq (L : List Packet) : ∀ (l : List (Option Packet)),
    (∀ i, i < L.length → l[i]? = some (L[i]?)) →
    (l[L.length]? = some none ∨ l.length = L.length) → somePrefix l = L := by
  induction L with
  | nil =>
    intro l _ h
    cases l with
    | nil => rfl
    | cons x r =>
      rcases h with h | h
      · simp at h; subst h; rfl
      · simp at h
  | cons a L ih =>
    intro l h1 h2
    cases l with
    | nil => have := h1 0 (by simp); simp at this
    | cons x r =>
      have h0 := h1 0 (by simp)
      simp at h0; subst h0
      simp only [somePrefix]
      congr 1
      apply ih
      · intro i hi
        have := h1 (i + 1) (by simp; omega)
        simpa using this
      · rcases h2 with h | h
        · left; simpa using h
        · right; simpa using h

theorem changes_drop_firstRun (l : List Packet) (h : 1 ≤ changes l) :
    changes l = 1 + changes (l.drop (firstRun l).length) := by
  cases l with
  | nil => simp [changes] at h
  | cons u r =>
    obtain ⟨us, q, R, rfl, hus, hq⟩ := chg_split r u.ts h
    rw [← List.cons_append, firstRun_append u us q R hus hq, List.drop_left]
    exact chg_append u.ts us q R hus hq

theorem firstRun_length_pos (p : Packet) (r : List Packet) : 0 < (firstRun (p :: r)).length := by
  simp [firstRun]

theorem changes_nil : changes [] = 0 := rfl

set_option linter.unusedVariables false  -- `expected` uses the `h` of its `if h :` only under `decreasing_by`, where the linter does not look

/-- What an in-order arrival of stream `l` must release: its frames (maximal runs of equal timestamps) one
after the other, as long as at least `max(prefetch, 1)` frame boundaries remain — i.e. every frame except the
trailing `max(prefetch, 1)`. -/
def expected (P : Int) (l : List Packet) : List Frame :=
  if h : max P 1 ≤ (changes l : Int) then
    firstFrame l :: expected P (l.drop (firstRun l).length)
  else []
termination_by l.length
decreasing_by
  cases l with
  | nil => simp [changes] at h; omega
  | cons p r =>
    have := firstRun_length_pos p r
    simp only [List.length_drop, List.length_cons]
    omega

end Aiortc.Lemmas.Jitter
