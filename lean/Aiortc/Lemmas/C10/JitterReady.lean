import Aiortc.Lemmas.C10.JitterFrame
import Aiortc.Lemmas.C10.JitterStream
/-!
# The loop of `_remove_frame` in closed form: it returns a frame exactly when the run of packets held contiguously
from the origin contains at least `max(prefetch, 1)` timestamp changes, and the frame is then the first run of
equal timestamps of that run (`scan_init_eq`).
-/
namespace Aiortc.Lemmas.Jitter
open Aiortc Aiortc.Gen Aiortc.Model.Jitter

/-- What `_remove_frame` reads off the loop's locals. -/
def rfOut (st : RF) : Option Frame × List Packet × Nat := (st.frame, st.used, st.remove)

/-- Closed form of the loop of `_remove_frame` while a frame with timestamp `t` is being read: it returns iff the
held run has a timestamp change and enough of them, and then the first frame is the packets so far and the rest of
the same-timestamp run. -/
theorem scan_eq (P : Int) (l : List (Option Packet)) : ∀ (c : Nat) (st : RF) (t : Int), st.ts = some t →
    (scan P l c st).map rfOut =
      if chg t (somePrefix l) = 0 ∨ st.frames + (chg t (somePrefix l) : Int) < P then none
      else some (match st.frame with
        | some f => (some f, st.used, st.remove)
        | none => (some ⟨joinData (st.pkts ++ sameRun t (somePrefix l)), t⟩, st.pkts ++ sameRun t (somePrefix l),
            c + (sameRun t (somePrefix l)).length)) := by
  induction l with
  | nil => intro c st t _; simp [scan, somePrefix, chg]
  | cons x rest ih =>
    intro c st t ht
    cases x with
    | none => simp [scan, somePrefix, chg]
    | some p =>
      by_cases hne : p.ts = t
      · -- one more packet of the frame being read
        simp only [scan, rfBody, ht, somePrefix, chg, sameRun, hne, ne_eq, not_true_eq_false, if_false, if_true,
          Nat.zero_add]
        rw [ih (c + 1) _ t rfl]
        simp only [List.append_assoc, List.singleton_append, List.length_cons]
        cases st.frame <;> simp only [Nat.add_assoc, Nat.add_comm 1]
      · -- a timestamp change: the first frame, if not yet fixed, is `st.pkts`
        simp only [scan, rfBody, ht, somePrefix, chg, sameRun, hne, ne_eq, not_false_eq_true, if_false, if_true,
          List.append_nil, List.length_nil, Nat.add_zero]
        cases hf : st.frame <;> simp only [] <;>
        (by_cases hP : st.frames + 1 ≥ P
         · rw [if_pos hP, if_neg (by push_cast; omega)]; simp only [Option.map, rfOut, hf]
         · rw [if_neg hP]; simp only []
           rw [ih (c + 1) _ p.ts rfl]
           simp only [hf]
           congr 1
           apply propext
           push_cast
           constructor
           · intro h; right; omega
           · intro h; rcases h with h | h
             · omega
             · by_cases h0 : chg p.ts (somePrefix rest) = 0
               · left; exact h0
               · right; omega)

theorem scan_init_eq (P : Int) (l : List (Option Packet)) :
    (scan P l 0 RF.init).map rfOut =
      if max P 1 ≤ (changes (somePrefix l) : Int) then
        some (some (firstFrame (somePrefix l)), firstRun (somePrefix l), (firstRun (somePrefix l)).length)
      else none := by
  have h0 : ¬ max P 1 ≤ ((0 : Nat) : Int) := by omega
  match l with
  | [] => exact (if_neg h0).symm
  | none :: _ => exact (if_neg h0).symm
  | some p :: rest =>
    show _ = if max P 1 ≤ (chg p.ts (somePrefix rest) : Int) then
      some (some (⟨joinData (p :: sameRun p.ts (somePrefix rest)), p.ts⟩ : Frame), p :: sameRun p.ts (somePrefix rest),
        (sameRun p.ts (somePrefix rest)).length + 1) else none
    simp only [scan, rfBody, RF.init]
    rw [scan_eq P rest 1 _ p.ts rfl]
    simp only [Int.zero_add]
    by_cases h : max P 1 ≤ (chg p.ts (somePrefix rest) : Int)
    · rw [if_pos h, if_neg (by omega)]; simp only [List.nil_append, List.singleton_append, Nat.add_comm 1]
    · rw [if_neg h, if_pos (by omega)]

end Aiortc.Lemmas.Jitter
