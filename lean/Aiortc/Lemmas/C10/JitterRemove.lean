import Aiortc.Lemmas.C10.Jitter
/-!
# `remove`: what it means to shift the window (`Shift`), and that `remove` does it

`Shift jb jb' o r`: the origin moved forward by `r` and exactly the held packets at distance `< r` from the old
origin were dropped.  Shifts compose (`Shift.trans`), so a loop of single steps is a shift by the number of steps.
-/
namespace Aiortc.Lemmas.Jitter
open Aiortc Aiortc.Gen Aiortc.Model.Jitter

structure Shift (jb jb' : JB) (o : Int) (r : Nat) : Prop where
  same : Same jb jb'
  orig : jb'.origin = some ((o + (r : Int)) % 65536)
  inv : Inv jb'
  held : ∀ s p, Held jb' s p ↔ (Held jb s p ∧ (r : Int) ≤ dist o p)

theorem dist_shift (o : Int) (p : Packet) {r : Int} (h0 : 0 ≤ r) (h : r ≤ dist o p) :
    dist ((o + r) % 65536) p = dist o p - r := by
  have := dist_range o p
  unfold dist at *; omega

theorem Shift.refl {jb : JB} (hI : Inv jb) {o : Int} (ho : jb.origin = some o) : Shift jb jb o 0 := by
  have hO := hI.orig o ho
  refine ⟨Same.refl jb, ?_, hI, fun s p => ⟨fun h => ⟨h, (dist_range o p).1⟩, fun h => h.1⟩⟩
  rw [ho]; unfold R16 at hO; congr 1; simp only [Int.natCast_zero]; omega

theorem Shift.trans {a b c : JB} {o : Int} {r r' : Nat} (h1 : Shift a b o r)
    (h2 : Shift b c ((o + (r : Int)) % 65536) r') : Shift a c o (r + r') := by
  refine ⟨h1.same.trans h2.same, ?_, h2.inv, fun s p => ?_⟩
  · rw [h2.orig]; congr 1; push_cast; omega
  · rw [h2.held, h1.held]
    constructor
    · rintro ⟨⟨h, hr⟩, hr'⟩
      rw [dist_shift o p (Int.natCast_nonneg r) hr] at hr'
      exact ⟨h, by push_cast; omega⟩
    · rintro ⟨h, hr⟩
      push_cast at hr
      refine ⟨⟨h, by omega⟩, ?_⟩
      rw [dist_shift o p (Int.natCast_nonneg r) (by omega)]; omega

theorem Shift.empty {jb jb' : JB} {o : Int} (hI : Inv jb) (ho : jb.origin = some o)
    (h : Shift jb jb' o jb.capacity) (s : Nat) (p : Packet) : ¬ Held jb' s p := by
  intro hp
  obtain ⟨h1, h2⟩ := (h.held s p).1 hp
  have := (hI.slots o ho s p h1).2.1
  omega

/-- The state after clearing the origin slot and advancing the origin: one step of the loops of `remove` and
`smart_remove`. -/
def adv1 (jb : JB) (o : Int) : JB :=
  { jb with packets := jb.packets.set (pos jb o) none, origin := some (uint16_add o 1) }

theorem shift_adv1 {jb : JB} (hI : Inv jb) {o : Int} (ho : jb.origin = some o) : Shift jb (adv1 jb o) o 1 := by
  have hk : pos jb o < jb.packets.length := by rw [hI.len]; exact pos_lt jb hI.cap_pos o
  have hH : ∀ s p, Held (adv1 jb o) s p ↔ (Held jb s p ∧ ((1 : Nat) : Int) ≤ dist o p) := by
    intro s p
    rw [adv1, held_set jb (pos jb o) none _ s p hk]
    have hdr := dist_range o p
    split
    · next hs =>
      -- the cleared slot held, if anything, the packet at distance 0
      refine ⟨nofun, fun ⟨h1, h2⟩ => ?_⟩
      rw [hs, ← Int.add_zero o] at h1
      have := dist_of_held hI ho (Int.le_refl 0) (by have := hI.cap_pos; omega) h1
      omega
    · next hs =>
      refine ⟨fun h => ⟨h, ?_⟩, fun h => h.1⟩
      have := held_at_dist hI ho h
      have hpos := (hI.slots o ho s p h).2.2
      rcases Int.lt_or_le 0 (dist o p) with h0 | h0
      · exact h0
      · rw [show dist o p = 0 by omega, Int.add_zero] at this
        exact absurd (hpos.symm.trans (hI.slots o ho _ p this).2.2) hs
  have hO := hI.orig o ho
  refine ⟨⟨rfl, rfl, rfl⟩, rfl, ⟨hI.cap_pos, hI.cap_dvd, by simp [adv1, hI.len], nofun, ?_, ?_⟩, hH⟩
  · intro o1 h1; obtain rfl : uint16_add o 1 = o1 := by simpa [adv1] using h1
    unfold R16 uint16_add; omega
  · intro o1 h1 s p hp
    obtain rfl : uint16_add o 1 = o1 := by simpa [adv1] using h1
    obtain ⟨hp0, hr⟩ := (hH s p).1 hp
    obtain ⟨hp1, hd, hpos⟩ := hI.slots o ho s p hp0
    refine ⟨hp1, ?_, hpos⟩
    have := dist_shift o p (r := 1) (by omega) hr
    show dist ((o + 1) % 65536) p < (jb.capacity : Int)
    omega

theorem removeOne_eq {jb : JB} (hc : 0 < jb.capacity) (hl : jb.packets.length = jb.capacity) {o : Int}
    (ho : jb.origin = some o) : removeOne jb = .ok (adv1 jb o) := by
  have hk : pos jb o < jb.packets.length := by rw [hl]; exact pos_lt jb hc o
  unfold removeOne adv1; rw [ho]; simp only [slotOf_ok jb hc, setSlot_ok jb _ _ hk]

theorem removeLoop_spec (r : Nat) : ∀ {jb : JB}, Inv jb → ∀ {o : Int}, jb.origin = some o →
    ∃ jb', removeLoop r jb = .ok jb' ∧ Shift jb jb' o r := by
  induction r with
  | zero => intro jb hI o ho; exact ⟨jb, rfl, Shift.refl hI ho⟩
  | succ n ih =>
    intro jb hI o ho
    have h1 := shift_adv1 hI ho
    obtain ⟨jb2, e2, h2⟩ := ih h1.inv h1.orig
    exact ⟨jb2, by simp only [removeLoop, removeOne_eq hI.cap_pos hI.len ho]; exact e2, Nat.add_comm 1 n ▸ h1.trans h2⟩

theorem remove_spec {jb : JB} (hI : Inv jb) {o : Int} (ho : jb.origin = some o) (r : Nat)
    (hr : r ≤ jb.capacity) : ∃ jb', remove jb r = .ok jb' ∧ Shift jb jb' o r := by
  unfold remove; simp only [hr, if_true]; exact removeLoop_spec r hI ho

end Aiortc.Lemmas.Jitter
