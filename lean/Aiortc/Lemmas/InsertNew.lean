import Aiortc.Lemmas.Util.List
/-! `set.add` / `dict` key insertion on an insertion-ordered, duplicate-free list: append unless present. -/
namespace Aiortc
variable {α : Type} [DecidableEq α] {x y : α} {s : List α}

theorem mem_insertNew : y ∈ (if x ∈ s then s else s ++ [x]) ↔ y = x ∨ y ∈ s := by
  split
  · rename_i hx
    exact ⟨Or.inr, fun h => h.elim (fun e => e ▸ hx) id⟩
  · rw [List.mem_append, List.mem_singleton, or_comm]

theorem nodup_insertNew (h : s.Nodup) : (if x ∈ s then s else s ++ [x]).Nodup := by
  split
  · exact h
  · exact List.nodup_snoc h ‹_›

end Aiortc
