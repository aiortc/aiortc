import Aiortc.Model.Sctp.Outbound
/-!
# The insertion-ordered dict of the SCTP model (`dictGet` / `dictSet` / `dictDel` of `Model/Sctp/Outbound.lean`, keys `Nat`)

The same structure as `dget`/`dset` of `Lemmas/Dict.lean`, with the dict as FIRST argument; not an instance of it: on a list with
a repeated key `dictSet` rewrites every entry, `dset` the first.  `dictGet_dictSet` is the rewrite rule to use (`dictGet_map_set`,
`dictGet_append_new` are its two halves); `nodup_keys_*` keep the keys duplicate-free; `mapSet_*` describe the `List.map` branch of
`dictSet` for proofs that have unfolded it.
-/
namespace Aiortc.Sctp

theorem dictGet_nil {β} (k : Nat) : dictGet ([] : List (Nat × β)) k = none := rfl

theorem dictGet_cons {β} (e : Nat × β) (d : List (Nat × β)) (k : Nat) :
    dictGet (e :: d) k = if e.1 = k then some e.2 else dictGet d k := by
  unfold dictGet
  by_cases h : e.1 = k <;> simp [h]

theorem dictGet_map_set {β} (d : List (Nat × β)) (k k' : Nat) (v : β) :
    dictGet (d.map (fun e => if e.1 == k then (k, v) else e)) k' =
      if k' = k then (if d.any (·.1 == k) then some v else none) else dictGet d k' := by
  induction d with
  | nil => simp [dictGet_nil]
  | cons e d ih =>
    rw [List.map_cons, dictGet_cons, dictGet_cons, ih, List.any_cons]
    by_cases he : e.1 = k <;> by_cases hk : k' = k
    · simp [he, hk]
    · have : ¬ k = k' := by omega
      simp [he, hk, this]
    · subst hk
      have : (e.1 == k') = false := by simpa using he
      simp only [↓reduceIte, this, Bool.false_or, Bool.false_eq_true, he]
    · simp [he, hk]

theorem dictGet_append_new {β} (d : List (Nat × β)) (k k' : Nat) (v : β) (h : d.any (·.1 == k) = false) :
    dictGet (d ++ [(k, v)]) k' = if k' = k then some v else dictGet d k' := by
  induction d with
  | nil =>
    rw [List.nil_append, dictGet_cons, dictGet_nil]
    by_cases hk : k' = k
    · simp [hk]
    · have : ¬ k = k' := by omega
      simp [hk, this]
  | cons e d ih =>
    simp only [List.any_cons, Bool.or_eq_false_iff] at h
    rw [List.cons_append, dictGet_cons, dictGet_cons, ih h.2]
    by_cases hk : k' = k
    · subst hk
      have : ¬ e.1 = k' := by simpa using h.1
      simp [this]
    · simp [hk]

theorem dictGet_dictSet {β} (d : List (Nat × β)) (k k' : Nat) (v : β) :
    dictGet (dictSet d k v) k' = if k' = k then some v else dictGet d k' := by
  unfold dictSet
  split
  · rename_i h
    rw [dictGet_map_set, h]; simp
  · rename_i h
    exact dictGet_append_new d k k' v (Bool.not_eq_true _ ▸ h)

theorem dictGet_dictSet_self {β} (d : List (Nat × β)) (k : Nat) (v : β) :
    dictGet (dictSet d k v) k = some v := by
  rw [dictGet_dictSet, if_pos rfl]

theorem dictGet_dictSet_other {β} (d : List (Nat × β)) (k k' : Nat) (v : β) (h : k' ≠ k) :
    dictGet (dictSet d k v) k' = dictGet d k' := by
  rw [dictGet_dictSet, if_neg h]

theorem dictGet_map_val {β γ} (f : β → γ) (d : List (Nat × β)) (k : Nat) :
    dictGet (d.map fun p => (p.1, f p.2)) k = (dictGet d k).map f := by
  induction d with
  | nil => rfl
  | cons e d ih =>
    rw [List.map_cons, dictGet_cons, dictGet_cons, ih]
    split <;> simp

theorem dictGet_append_other {β} (d : List (Nat × β)) (k k' : Nat) (v : β) (h : k' ≠ k) :
    dictGet (d ++ [(k, v)]) k' = dictGet d k' := by
  induction d with
  | nil =>
    rw [List.nil_append, dictGet_cons, dictGet_nil]
    have : ¬ k = k' := fun h' => h h'.symm
    simp [this]
  | cons e d ih => rw [List.cons_append, dictGet_cons, dictGet_cons, ih]

theorem dictGet_mem {β} (d : List (Nat × β)) (k : Nat) (v : β) (h : dictGet d k = some v) : (k, v) ∈ d := by
  induction d with
  | nil => simp [dictGet_nil] at h
  | cons e d ih =>
    rw [dictGet_cons] at h
    split at h
    · rename_i he
      simp only [Option.some.injEq] at h
      have : e = (k, v) := by cases e; simp_all
      simp [this]
    · exact List.mem_cons_of_mem _ (ih h)

theorem mem_dictSet {β} (d : List (Nat × β)) (k : Nat) (v : β) (p : Nat × β) (h : p ∈ dictSet d k v) :
    p ∈ d ∨ p = (k, v) := by
  unfold dictSet at h
  split at h
  · obtain ⟨e, he, hp⟩ := List.mem_map.1 h
    split at hp
    · exact Or.inr hp.symm
    · exact Or.inl (hp ▸ he)
  · rcases List.mem_append.1 h with h | h
    · exact Or.inl h
    · exact Or.inr (by simpa using h)

theorem dictSet_append_absent {β} (d : List (Nat × β)) (k : Nat) (v w : β)
    (h : dictGet d k = none) : dictSet (d ++ [(k, w)]) k v = dictSet d k v := by
  have hnone : d.find? (·.1 == k) = none := by
    unfold dictGet at h
    cases hf : d.find? (·.1 == k) with
    | none => rfl
    | some x => rw [hf] at h; simp at h
  have hall : ∀ x ∈ d, (x.1 == k) = false := by
    intro x hx
    have := List.find?_eq_none.1 hnone x hx
    simpa using this
  have hany : d.any (·.1 == k) = false := by
    rw [List.any_eq_false]; intro x hx; simpa using hall x hx
  unfold dictSet
  simp only [List.any_append, hany, List.any_cons, beq_self_eq_true, List.any_nil, Bool.or_false, Bool.false_or,
    if_true, Bool.false_eq_true, if_false, List.map_append, List.map_cons, List.map_nil]
  congr 1
  rw [List.map_congr_left (g := id)]
  · simp
  · intro x hx; simp [hall x hx]

theorem dictDel_cons_nodup {β} {sid : Nat} {v : β} {rest : List (Nat × β)}
    (hn : (((sid, v) :: rest).map (·.1)).Nodup) : dictDel ((sid, v) :: rest) sid = rest := by
  simp only [List.map_cons, List.nodup_cons] at hn
  unfold dictDel
  rw [List.filter_cons]
  simp only [bne_self_eq_false, Bool.false_eq_true, if_false]
  rw [List.filter_eq_self]
  intro p hp
  simp only [bne_iff_ne, ne_eq]
  intro heq
  exact hn.1 (List.mem_map.mpr ⟨p, hp, heq⟩)

theorem dictGet_cons_eq {β} (e : Nat × β) (es : List (Nat × β)) {k : Nat} (h : e.1 = k) :
    dictGet (e :: es) k = some e.2 := by
  rw [dictGet_cons, if_pos h]

theorem dictGet_cons_ne {β} (e : Nat × β) (es : List (Nat × β)) {k : Nat} (h : ¬ e.1 = k) :
    dictGet (e :: es) k = dictGet es k := by
  rw [dictGet_cons, if_neg h]

theorem dictGet_none_iff {β} (d : List (Nat × β)) (k : Nat) : dictGet d k = none ↔ k ∉ d.map (·.1) := by
  induction d with
  | nil => simp [dictGet_nil]
  | cons e es ih =>
    by_cases h : e.1 = k
    · rw [dictGet_cons_eq e es h]; simp [h]
    · rw [dictGet_cons_ne e es h, ih]
      have : ¬ k = e.1 := fun h' => h h'.symm
      simp [this]

theorem nodup_keys_snoc {β} {d : List (Nat × β)} {k : Nat} (h : (d.map (·.1)).Nodup) (hk : dictGet d k = none)
    (v : β) : ((d ++ [(k, v)]).map (·.1)).Nodup := by
  rw [List.map_append, List.nodup_append]
  refine ⟨h, by simp, ?_⟩
  intro a ha b hb
  simp at hb; subst hb
  intro heq; subst heq
  exact (dictGet_none_iff _ _).1 hk ha

theorem dictAny_iff {β} (d : List (Nat × β)) (k : Nat) : d.any (·.1 == k) = true ↔ k ∈ d.map (·.1) := by
  simp only [List.any_eq_true, List.mem_map, beq_iff_eq]

theorem mapSet_cons_eq {β} (e : Nat × β) (es : List (Nat × β)) {k : Nat} (v : β) (h : e.1 = k) :
    (e :: es).map (fun e => if e.1 == k then (k, v) else e) =
      (k, v) :: es.map (fun e => if e.1 == k then (k, v) else e) := by
  have : (e.1 == k) = true := by simp [h]
  rw [List.map_cons, this]; rfl

theorem mapSet_cons_ne {β} (e : Nat × β) (es : List (Nat × β)) {k : Nat} (v : β) (h : ¬ e.1 = k) :
    (e :: es).map (fun e => if e.1 == k then (k, v) else e) =
      e :: es.map (fun e => if e.1 == k then (k, v) else e) := by
  have : (e.1 == k) = false := by simp [h]
  rw [List.map_cons, this]; rfl

theorem mapSet_absent {β} (d : List (Nat × β)) (k : Nat) (v : β) (h : k ∉ d.map (·.1)) :
    d.map (fun e => if e.1 == k then (k, v) else e) = d := by
  induction d with
  | nil => rfl
  | cons e es ih =>
    simp only [List.map_cons, List.mem_cons, not_or] at h
    have : ¬ e.1 = k := fun h' => h.1 h'.symm
    rw [mapSet_cons_ne e es v this, ih h.2]

theorem mapSet_keys {β} (d : List (Nat × β)) (k : Nat) (v : β) :
    (d.map (fun e => if e.1 == k then (k, v) else e)).map (·.1) = d.map (·.1) := by
  induction d with
  | nil => rfl
  | cons e es ih =>
    by_cases h : e.1 = k
    · rw [mapSet_cons_eq e es v h, List.map_cons, List.map_cons, ih, h]
    · rw [mapSet_cons_ne e es v h, List.map_cons, List.map_cons, ih]

theorem nodup_keys_dictSet {β} {d : List (Nat × β)} (h : (d.map (·.1)).Nodup) (k : Nat) (v : β) :
    ((dictSet d k v).map (·.1)).Nodup := by
  unfold dictSet
  split
  · rw [mapSet_keys]; exact h
  · rename_i hany
    exact nodup_keys_snoc h ((dictGet_none_iff _ _).2 fun hk => hany ((dictAny_iff _ _).2 hk)) v

end Aiortc.Sctp
