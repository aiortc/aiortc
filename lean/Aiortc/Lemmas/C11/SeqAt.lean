import Aiortc.Lemmas.C11.Sender
import Aiortc.Lemmas.C10.Jitter
/-!
# Serial arithmetic on the sequence numbers of a stream, as arithmetic on the indices

`seqAt s0 j` is the sequence number of the unwrapped stream index `j`.  The lemmas here turn the comparisons the
NACK generator and the jitter buffer make on 16-bit numbers into comparisons of indices.
-/
namespace Aiortc.Lemmas.Video
open Aiortc Aiortc.Gen Aiortc.Lemmas.Jitter

/-- A residue modulo 2^16 as a natural number (keeps `toNat` out of the arithmetic). -/
theorem emod_eq_nat (a : Int) : ∃ k : Nat, a % 65536 = (k : Int) :=
  Int.eq_ofNat_of_zero_le (Int.emod_nonneg a (by decide))

theorem seqAt_r16 (s0 : Int) (j : Nat) : R16 (seqAt s0 j) := Serial.emod_range (by decide) _

theorem seqAt_sub (s0 : Int) (i j : Nat) : (seqAt s0 i - seqAt s0 j) % 65536 = ((i : Int) - j) % 65536 :=
  Serial.idx_sub _ s0 i j

theorem seqAt_succ (s0 : Int) (j : Nat) : uint16_add (seqAt s0 j) 1 = seqAt s0 (j + 1) := by
  unfold uint16_add seqAt; omega

theorem seqAt_inj (s0 : Int) {i j : Nat} (h1 : i < j + 65536) (h2 : j < i + 65536)
    (e : seqAt s0 i = seqAt s0 j) : i = j := Int.ofNat_inj.1 (Serial.inj16 s0 (by omega) e)

theorem seqAt_gt_iff (s0 : Int) {i j : Nat} (h1 : (i : Int) < j + 32768) (h2 : (j : Int) ≤ i + 32768) :
    uint16_gt (seqAt s0 i) (seqAt s0 j) = true ↔ j < i := by
  rw [show uint16_gt (seqAt s0 i) (seqAt s0 j) = _ from Serial.gt16 s0 (i := i) (j := j) (by omega)]
  simp only [decide_eq_true_eq, Int.ofNat_lt]

end Aiortc.Lemmas.Video
