import Aiortc.Model.Video.Receiver
/-!
# The receive path: what reaches the jitter buffer and what reaches the decoder queue
-/
namespace Aiortc.Lemmas.Video
open Aiortc Aiortc.Gen Aiortc.Rtp Aiortc.Model.Video
open Aiortc.Model.Jitter (JB Packet Frame AddOut)

/-- `packet._data` as the receive path computes it. -/
def dataOf (c : Codec) (p : RtpPacket) : Outcome Bytes :=
  if p.payload.isEmpty then .ok [] else depayloadFor c p.payload

def jbPacket (p : RtpPacket) (data : Bytes) : Packet := ⟨(p.sequenceNumber : Int), (p.timestamp : Int), data⟩

/-- A NACK in the feedback of a call is the one built from the updated generator: the PLI part holds none. -/
theorem nack_mem_fb {cfg : RecvCfg} {ssrc : Nat} {missed b : Bool} {lost : List Int} {s : Nat} {l : List Int}
    (h : Fb.nack s l ∈
      (if missed = true then (match cfg.rtcpSsrc with | some _ => [Fb.nack ssrc lost] | none => []) else []) ++
      (if b = true then (match cfg.rtcpSsrc with | some _ => [Fb.pli ssrc] | none => []) else [])) :
    s = ssrc ∧ l = lost := by
  revert h; cases cfg.rtcpSsrc <;> cases missed <;> cases b <;> simp

/-- rtcrtpreceiver.py lines 516-543: the NACK generator is updated first and a NACK, if any, lists its `missing`; then either the
call stops before the jitter buffer (payload rejected) or it hands the buffer exactly one packet, forwards
`pli_flag`, and queues exactly the frame the buffer returned. -/
theorem feed_spec (cfg : RecvCfg) (r : Receiver) (p : RtpPacket) (pt : Nat) (c : Codec) (o : RecvOut)
    (e : feedStage cfg r p pt c = .ok o) :
    (∃ missed, r.nack.add (p.sequenceNumber : Int) = .ok (o.r.nack, missed)) ∧
    (∀ s l, Fb.nack s l ∈ o.fb → s = p.ssrc ∧ l = sortInts o.r.nack.missing) ∧
    ((dataOf c p = .valueError ∧ o.fed = none ∧ o.r.jb = r.jb ∧ o.item = none ∧ o.pli = false) ∨
    (∃ data out, dataOf c p = .ok data ∧ o.fed = some (jbPacket p data) ∧
      Aiortc.Model.Jitter.add r.jb (jbPacket p data) = .ok out ∧ o.r.jb = out.jb ∧ o.pli = out.pli ∧
      (∀ q, o.item = some q → ∃ f, out.frame = some f ∧ q.data = f.data ∧ q.pt = pt ∧ o.used = out.used) ∧
      (cfg.decoder = true → ∀ f, out.frame = some f → ∃ q, o.item = some q))) := by
  unfold feedStage at e
  split at e
  · next ng missed hn =>
    simp only [] at e
    split at e
    · next hd =>
      obtain rfl := Outcome.ok.inj e
      exact ⟨⟨missed, hn⟩, fun s l h => nack_mem_fb (b := false) (List.mem_append_left _ h), Or.inl ⟨hd, rfl, rfl, rfl, rfl⟩⟩
    · cases e
    · cases e
    · next data hd =>
      split at e
      · next out ha =>
        -- every remaining exit returns the updated generator and the feedback `fb1 ++ fb2`
        suffices h : (o.r.nack = ng ∧ o.r.jb = out.jb) ∧ o.fed = some (jbPacket p data) ∧ o.pli = out.pli ∧
            o.fb = (if missed = true then (match cfg.rtcpSsrc with
                | some _ => [Fb.nack p.ssrc (sortInts ng.missing)] | none => []) else []) ++
              (if out.pli = true then (match cfg.rtcpSsrc with | some _ => [Fb.pli p.ssrc] | none => []) else []) ∧
            (∀ q, o.item = some q → ∃ f, out.frame = some f ∧ q.data = f.data ∧ q.pt = pt ∧ o.used = out.used) ∧
            (cfg.decoder = true → ∀ f, out.frame = some f → ∃ q, o.item = some q) by
          obtain ⟨⟨hng, hjb⟩, h2, h3, h4, h5, h6⟩ := h
          exact ⟨⟨missed, hng ▸ hn⟩, fun s l hm => hng ▸ nack_mem_fb (h4 ▸ hm),
            Or.inr ⟨data, out, hd, h2, ha, hjb, h3, h5, h6⟩⟩
        split at e
        · next f hf =>
          split at e
          · next hdec =>
            split at e
            · obtain rfl := Outcome.ok.inj e
              exact ⟨⟨rfl, rfl⟩, rfl, rfl, rfl, fun q hq => by obtain rfl := Option.some.inj hq; exact ⟨f, hf, rfl, rfl, rfl⟩,
                fun _ f' h => ⟨_, rfl⟩⟩
            · cases e
            · cases e
            · cases e
          · next hdec =>
            obtain rfl := Outcome.ok.inj e
            exact ⟨⟨rfl, rfl⟩, rfl, rfl, rfl, nofun, fun h => absurd h hdec⟩
        · next hf =>
          obtain rfl := Outcome.ok.inj e
          exact ⟨⟨rfl, rfl⟩, rfl, rfl, rfl, nofun, fun _ f h => by rw [hf] at h; cases h⟩
      · cases e
      · cases e
      · cases e
  · cases e
  · cases e
  · cases e

end Aiortc.Lemmas.Video
