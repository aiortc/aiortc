import Aiortc.Lemmas.C10.JitterAddSpec
import Aiortc.Lemmas.C11.SeqAt
/-!
# The jitter buffer fed with copies of a sender's packets: the unwrapped-origin invariant

`stream` is the sender's packet sequence as the jitter buffer sees it (sequence number, timestamp,
depayloaded data); index `j` carries sequence number `seqAt s0 j`.  `GInv jb oi`: the origin is the sequence
number of stream index `oi` and every held packet is the stream packet at an index in `[oi, oi + 65536)`.
`gstep` (in StreamStep.lean) describes one `add` of a copy of `stream[j]` arriving within 32 768 positions of `oi`.
-/
namespace Aiortc.Lemmas.Video
open Aiortc Aiortc.Gen Aiortc.Model.Jitter Aiortc.Lemmas.Jitter

structure StreamOK (s0 : Int) (stream : List Packet) : Prop where
  s0r : R16 s0
  seqs : ∀ j p, stream[j]? = some p → p.seq = seqAt s0 j

structure GInv (s0 : Int) (stream : List Packet) (jb : JB) (oi : Nat) : Prop where
  inv : Inv jb
  cap : jb.capacity ≤ 32768
  orig : ∀ o, jb.origin = some o → o = seqAt s0 oi
  -- one turn of the sequence space is all that is claimed: within it `dist` from the origin tells the indices apart
  held : ∀ s q, Held jb s q → ∃ j, stream[j]? = some q ∧ oi ≤ j ∧ j < oi + 65536

def Near (oi j : Nat) : Prop := (j : Int) < oi + 32768 ∧ (oi : Int) < j + 32768

/-- The frame released with the origin at stream index `a`: the first run of equal timestamps of the stream from `a`,
which a packet of another timestamp follows. -/
structure RunAt (stream : List Packet) (a : Nat) (f : Frame) (used : List Packet) : Prop where
  frame : f = firstFrame (stream.drop a)
  used : used = firstRun (stream.drop a)
  change : 1 ≤ changes (stream.drop a)

theorem RunAt.split {stream : List Packet} {a : Nat} {f : Frame} {used : List Packet} (h : RunAt stream a f used) :
    used ≠ [] ∧ (∀ q ∈ used, q.ts = f.ts) ∧ ∃ q' R, stream.drop a = used ++ q' :: R ∧ q'.ts ≠ f.ts := by
  obtain ⟨rfl, rfl, hc⟩ := h
  exact firstRun_split hc

theorem RunAt.data {stream : List Packet} {a : Nat} {f : Frame} {used : List Packet} (h : RunAt stream a f used) :
    f.data = joinData used := by
  obtain ⟨rfl, rfl, _⟩ := h; rfl

theorem RunAt.lt {stream : List Packet} {a : Nat} {f : Frame} {used : List Packet} (h : RunAt stream a f used) :
    a + used.length < stream.length := by
  obtain ⟨_, _, q', R, e, _⟩ := h.split
  have := congrArg List.length e
  rw [List.length_drop, List.length_append, List.length_cons] at this
  omega

/-- Serial distance from `a` up to `b` (first argument is the START: `Lemmas.RtpDispatch.fwd p seq` counts from its SECOND argument
up to its first, and `Lemmas.Jitter.dist o p` is `fwd o p.seq` as an `Int`). -/
def fwd (a b : Int) : Nat := ((b - a) % 65536).toNat

/-- The unwrapped origin index after the call, computed from the observable origins. -/
def oiNext (jb : JB) (oi j : Nat) (p : Packet) (out : AddOut) : Nat :=
  match jb.origin, out.jb.origin with
  | some o, some o' =>
    if uint16_add o (-p.seq) < uint16_add p.seq (-o) ∧ (MAX_MISORDER : Int) ≤ uint16_add o (-p.seq) then j + fwd p.seq o'
    else oi + fwd o o'
  | none, some o' => j + fwd p.seq o'
  | _, none => oi

theorem dist_stream {s0 : Int} {stream : List Packet} (hS : StreamOK s0 stream) {oi j : Nat} {q : Packet}
    (hq : stream[j]? = some q) (h1 : oi ≤ j) (h2 : j < oi + 65536) : dist (seqAt s0 oi) q = (j : Int) - oi :=
  dist_seqFrom hS.seqs hq h1 h2

theorem GInv.idx {s0 : Int} {stream : List Packet} (hS : StreamOK s0 stream) {jb : JB} {oi : Nat}
    (hG : GInv s0 stream jb oi) {o : Int} (ho : jb.origin = some o) {k : Nat} (hk : k < jb.capacity) {q : Packet}
    (h : Held jb (pos jb (o + (k : Int))) q) : stream[oi + k]? = some q := by
  have hd := dist_of_held hG.inv ho (Int.natCast_nonneg k) (by omega) h
  obtain ⟨jq, h1, h2, h3⟩ := hG.held _ q h
  have := dist_stream hS h1 h2 h3
  rw [← hG.orig o ho, hd] at this
  obtain rfl : jq = oi + k := by omega
  exact h1

theorem GInv.shift {s0 : Int} {stream : List Packet} (hS : StreamOK s0 stream) {jb jb' : JB} {oi n : Nat}
    (hG : GInv s0 stream jb oi) (hSh : Shift jb jb' (seqAt s0 oi) n) : GInv s0 stream jb' (oi + n) := by
  refine ⟨hSh.inv, by rw [← hSh.same.1]; exact hG.cap, fun o h => ?_, fun s q h => ?_⟩
  · rw [hSh.orig] at h; obtain rfl := Option.some.inj h
    unfold seqAt; push_cast; omega
  · obtain ⟨h1, h2⟩ := (hSh.held s q).1 h
    obtain ⟨jq, h3, h4, h5⟩ := hG.held s q h1
    rw [dist_stream hS h3 h4 h5] at h2
    exact ⟨jq, h3, by omega, by omega⟩

theorem heldRun_take {s0 : Int} {stream : List Packet} (hS : StreamOK s0 stream) {jb : JB} {oi : Nat}
    (hG : GInv s0 stream jb oi) {o : Int} (ho : jb.origin = some o) :
    heldRun jb o = (stream.drop oi).take (heldRun jb o).length := by
  apply List.ext_getElem?
  intro k
  rcases Nat.lt_or_ge k (heldRun jb o).length with hk | hk
  · have h := List.getElem?_eq_getElem hk
    rw [List.getElem?_take_of_lt hk, List.getElem?_drop, h]
    exact (hG.idx hS ho (Nat.lt_of_lt_of_le hk (heldRun_length_le jb o)) (heldRun_get h)).symm
  · rw [List.getElem?_eq_none hk, List.getElem?_eq_none (by rw [List.length_take]; omega)]

theorem runAt_of_released {s0 : Int} {stream : List Packet} (hS : StreamOK s0 stream) {jb : JB} {oi : Nat}
    (hG : GInv s0 stream jb oi) {o : Int} (ho : jb.origin = some o) {jbOut : JB} {frame : Option Frame}
    {used : List Packet} (hR : Released jb o jbOut frame used) {f : Frame} (hf : frame = some f) :
    RunAt stream oi f used := by
  have h1 : 1 ≤ changes ((stream.drop oi).take (heldRun jb o).length) := by
    rw [← heldRun_take hS hG ho]; have := hR.enough; omega
  obtain ⟨e1, e2⟩ := firstRun_take h1
  rw [← heldRun_take hS hG ho] at e1 e2
  exact ⟨Option.some.inj (hf.symm.trans (hR.frame.trans (congrArg some e2))), hR.used.trans e1,
    Nat.le_trans h1 (changes_take_le _ _)⟩

theorem fwd_seqAt (s0 : Int) {a b : Nat} (h1 : a ≤ b) (h2 : b < a + 65536) : fwd (seqAt s0 a) (seqAt s0 b) = b - a := by
  unfold fwd; rw [seqAt_sub]; omega

/-- `add` restarts the buffer at the arriving packet: there is no origin yet, or the packet is 100 or more
positions late.  This is the case distinction `oiNext` makes. -/
def Restart (jb : JB) (p : Packet) : Prop := jb.origin = none ∨ Late jb p (MAX_MISORDER : Int)

theorem branch_index {s0 : Int} {stream : List Packet} (hS : StreamOK s0 stream) {jb jb2 : JB} {oi j : Nat}
    {p : Packet} {o2 : Int} {pli : Bool} (hG : GInv s0 stream jb oi) (hj : stream[j]? = some p)
    (hn : jb.origin ≠ none → Near oi j) (hB : Branch jb p jb2 o2 pli) :
    ∃ oi2 : Nat, o2 = seqAt s0 oi2 ∧ oi2 ≤ j ∧ j < oi2 + 32768 ∧
      (∀ s q, Held jb2 s q → ∃ jq, stream[jq]? = some q ∧ oi2 ≤ jq ∧ jq < oi2 + 65536) ∧
      (pli = false → jb.isVideo = true → jb.origin ≠ none → oi2 = oi) ∧
      (Restart jb p → oi2 = j) ∧ (¬ Restart jb p → oi ≤ oi2) := by
  have hps := hS.seqs j p hj
  -- with an origin, a packet that is not late sits at or after the origin's index
  have hge : ∀ o, jb.origin = some o → ¬ LateC o p → o = seqAt s0 oi ∧ oi ≤ j ∧ j < oi + 32768 ∧ ¬ Restart jb p := by
    intro o ho hl
    have hnear := hn (by rw [ho]; nofun)
    obtain rfl := hG.orig o ho
    have := (not_congr (lateC_seqFrom hS.seqs hj hnear.1 hnear.2)).1 hl
    exact ⟨rfl, by omega, by unfold Near at hnear; omega,
      fun h => h.elim (fun h => by rw [ho] at h; cases h) fun h => hl ((late_iff_lateC ho p _).1 h).1⟩
  have hvid : pli = jb.isVideo → pli = false → jb.isVideo = true → False :=
    fun h1 h2 h3 => by rw [h2, h3] at h1; cases h1
  rcases hB with ⟨h2, hE, why⟩ | ⟨o, ho, hl, hd, h2, hH, hpl⟩ | ⟨o, k, ho, hl, hd, hk, h2, hH, hpl⟩
  · refine ⟨j, by rw [h2, hps], Nat.le_refl _, by omega, fun s q h => absurd h (hE s q), fun h1 h3 h => ?_, fun _ => rfl,
      fun hnr => ?_⟩
    · rcases why with ⟨ho, _⟩ | ⟨_, _, hpl, _⟩
      · exact absurd ho h
      · exact (hvid hpl h1 h3).elim
    · rcases why with ⟨ho, _⟩ | ⟨o, ho, _, ⟨hl, hm⟩ | ⟨hl, _⟩⟩
      · exact absurd (Or.inl ho) hnr
      · exact absurd (Or.inr ((late_iff_lateC ho p _).2 ⟨hl, hm⟩)) hnr
      · exact (hge o ho hl).2.1
  · obtain ⟨hoe, hle, hlt, hnr⟩ := hge o ho hl
    exact ⟨oi, by rw [h2, hoe], hle, hlt, fun s q h => hG.held s q ((hH s q).1 h), fun _ _ _ => rfl,
      fun h => absurd h hnr, fun _ => Nat.le_refl _⟩
  · obtain ⟨hoe, hle, hlt, hnr⟩ := hge o ho hl
    have hdp : dist o p = (j : Int) - oi := by rw [hoe]; exact dist_stream hS hj hle (by omega)
    refine ⟨oi + k, by rw [h2, hoe]; unfold seqAt; push_cast; omega, by omega, by omega, fun s q h => ?_,
      fun h1 h3 _ => (hvid hpl h1 h3).elim, fun h => absurd h hnr, fun _ => by omega⟩
    obtain ⟨h1, h3⟩ := (hH s q).1 h
    obtain ⟨jq, hq1, hq2, hq3⟩ := hG.held s q h1
    have := dist_stream hS hq1 hq2 hq3
    rw [← hoe] at this
    exact ⟨jq, hq1, by omega, by omega⟩

end Aiortc.Lemmas.Video
