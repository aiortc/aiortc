import Aiortc.Model.Video.Nack
import Aiortc.Lemmas.C11.SeqAt
import Aiortc.Lemmas.InsertNew
import Aiortc.Props.C17
/-!
# `NackGenerator`: the `while` loop, `truncate` and `sorted(missing)`; the loop over unwrapped stream indices
-/
namespace Aiortc.Lemmas.Video
open Aiortc Aiortc.Gen Aiortc.Model.Video Aiortc.Lemmas.Jitter

/-- `truncate` with `max_seq` at index `hi` keeps an index `j ≤ hi` iff it is one of the last 128. -/
theorem seqAt_kept_iff (s0 : Int) {hi j : Nat} (h1 : j ≤ hi) (h2 : hi < j + 32896) :
    uint16_gt (uint16_add (seqAt s0 hi) (-128)) (seqAt s0 j) = false ↔ hi ≤ j + 128 := by
  have e : (uint16_add (seqAt s0 hi) (-128) - seqAt s0 j) % 65536 = ((hi : Int) - j - 128) % 65536 := by
    rw [← Int.emod_sub_emod (↑hi - ↑j), ← seqAt_sub s0, Int.emod_sub_emod, uint16_add, Int.emod_sub_emod]
    congr 1; omega
  rw [← Bool.not_eq_true, Props.C17.uint16_gt_iff _ _ (by unfold Props.C17.R16 uint16_add; omega) (seqAt_r16 ..), e]; omega

theorem setAdd_mem (l : List Int) (x y : Int) : y ∈ setAdd l x ↔ y ∈ l ∨ y = x := by
  unfold setAdd; rw [mem_insertNew]; exact or_comm

theorem setAdd_nodup (l : List Int) (x : Int) (h : l.Nodup) : (setAdd l x).Nodup := nodup_insertNew h

theorem setDiscard_mem (l : List Int) (x y : Int) : y ∈ setDiscard l x ↔ y ∈ l ∧ y ≠ x := by
  simp [setDiscard]

/-- The `while` loop started at index `j` with target index `j + d`, `d < 32768`: it adds the sequence numbers of
the indices `j, …, j + d - 1`. -/
theorem markLoop_spec (s0 : Int) : ∀ (d j fuel : Nat) (m : List Int) (b : Bool), d < fuel → d < 32768 → m.Nodup →
    ∃ m', markLoop (seqAt s0 (j + d)) fuel (seqAt s0 j) m b = .ok (m', b || decide (0 < d)) ∧ m'.Nodup ∧
      ∀ x, x ∈ m' ↔ x ∈ m ∨ ∃ t, j ≤ t ∧ t < j + d ∧ x = seqAt s0 t := by
  intro d
  induction d with
  | zero =>
    intro j fuel m b hf _ hm
    obtain ⟨f, rfl⟩ : ∃ f, fuel = f + 1 := ⟨fuel - 1, by omega⟩
    have hg : ¬ uint16_gt (seqAt s0 (j + 0)) (seqAt s0 j) = true :=
      fun h => absurd ((seqAt_gt_iff s0 (by omega) (by omega)).1 h) (by omega)
    refine ⟨m, by simp only [markLoop, hg]; simp, hm, fun x => ⟨Or.inl, fun h => h.elim id ?_⟩⟩
    rintro ⟨t, h1, h2, _⟩; omega
  | succ d ih =>
    intro j fuel m b hf hd hm
    obtain ⟨f, rfl⟩ : ∃ f, fuel = f + 1 := ⟨fuel - 1, by omega⟩
    have hg : uint16_gt (seqAt s0 (j + (d + 1))) (seqAt s0 j) = true :=
      (seqAt_gt_iff s0 (by omega) (by omega)).2 (by omega)
    obtain ⟨m', e, hnd, hmem⟩ := ih (j + 1) f _ true (by omega) (by omega) (setAdd_nodup m (seqAt s0 j) hm)
    rw [show j + 1 + d = j + (d + 1) by omega] at e
    refine ⟨m', by simp only [markLoop, hg, if_true, seqAt_succ, e]; simp, hnd, fun x => ?_⟩
    rw [hmem, setAdd_mem]
    constructor
    · rintro ((h | h) | ⟨t, h1, h2, h3⟩)
      · exact Or.inl h
      · exact Or.inr ⟨j, Nat.le_refl _, by omega, h⟩
      · exact Or.inr ⟨t, by omega, by omega, h3⟩
    · rintro (h | ⟨t, h1, h2, h3⟩)
      · exact Or.inl (Or.inl h)
      · rcases Nat.eq_or_lt_of_le h1 with rfl | h1
        · exact Or.inl (Or.inr h3)
        · exact Or.inr ⟨t, h1, by omega, h3⟩

theorem truncate_mem (m : Int) (l : List Int) (x : Int) :
    x ∈ (NackGen.truncate ⟨some m, l⟩).missing ↔ x ∈ l ∧ uint16_gt (uint16_add m (-128)) x = false := by
  have : (RTP_HISTORY_SIZE : Int) = 128 := by decide
  simp only [NackGen.truncate, this, List.mem_filter, Bool.not_eq_true']

theorem truncate_max (m : Int) (l : List Int) : (NackGen.truncate ⟨some m, l⟩).maxSeq = some m := rfl

theorem truncate_nodup (m : Int) (l : List Int) (h : l.Nodup) : (NackGen.truncate ⟨some m, l⟩).missing.Nodup :=
  h.sublist List.filter_sublist

theorem insertSorted_perm (x : Int) : ∀ l : List Int, (insertSorted x l).Perm (x :: l)
  | [] => .refl _
  | y :: ys => by
    simp only [insertSorted]; split
    · exact .refl _
    · exact ((insertSorted_perm x ys).cons y).trans (.swap x y ys)

theorem sortInts_perm : ∀ l : List Int, (sortInts l).Perm l
  | [] => .refl _
  | y :: ys => (insertSorted_perm y _).trans ((sortInts_perm ys).cons y)

end Aiortc.Lemmas.Video
