import Aiortc.Lemmas.Util.List
import Aiortc.Model.Video.Sender
/-!
# Sender: the history invariant

`SInv s q0 sent`: `sent` is the (ghost) list of all first transmissions so far, in order; their sequence
numbers are consecutive from `q0` modulo 2^16; the history dict holds, under key `k`, exactly the packet of
the last 128 whose sequence number is `k` modulo 128.
-/
namespace Aiortc.Lemmas.Video
open Aiortc Aiortc.Gen Aiortc.Rtp Aiortc.Model.Video

def seqAt (q0 : Int) (j : Nat) : Int := (q0 + (j : Int)) % 65536

theorem find_filter_ne (h : History) (k k' : Nat) (hk : k' ≠ k) :
    (h.filter (fun e => e.1 ≠ k)).find? (fun e => e.1 = k') = h.find? (fun e => e.1 = k') := by
  rw [List.find?_filter]
  congr 1
  funext a
  by_cases ha : a.1 = k'
  · have : a.1 ≠ k := by rw [ha]; exact hk
    simp [ha, hk]
  · simp [ha]

theorem histGet_set (h : History) (k k' : Nat) (p : RtpPacket) :
    histGet (histSet h k p) k' = if k' = k then some p else histGet h k' := by
  unfold histGet histSet
  by_cases hk : k' = k
  · subst hk; simp
  · have hk' : ¬ k = k' := fun e => hk e.symm
    rw [List.find?_cons]
    simp only [hk, hk', decide_false, if_false]
    rw [find_filter_ne h k k' hk]

theorem slotOfSeq_eq (x : Int) : slotOfSeq x = (x % 128).toNat := by
  unfold slotOfSeq; rw [show RTP_HISTORY_SIZE = 128 by decide]; rfl

structure SInv (s : Sender) (q0 : Int) (sent : List RtpPacket) : Prop where
  q0r : 0 ≤ q0 ∧ q0 < 65536
  seq : s.seq = seqAt q0 sent.length
  seqs : ∀ j p, sent[j]? = some p → (p.sequenceNumber : Int) = seqAt q0 j
  hist : ∀ k p, histGet s.history k = some p ↔
    ∃ j, j < sent.length ∧ sent.length ≤ j + 128 ∧ sent[j]? = some p ∧ slotOfSeq (seqAt q0 j) = k

theorem sinv_init (q0 rtx : Int) (h : 0 ≤ q0 ∧ q0 < 65536) : SInv ⟨q0, rtx, []⟩ q0 [] := by
  refine ⟨h, by unfold seqAt; simp; omega, fun j p hj => by simp at hj, fun k p => ?_⟩
  simp [histGet]

theorem slotOfSeq_seqAt (q0 : Int) (j : Nat) : (slotOfSeq (seqAt q0 j) : Int) = (q0 + (j : Int)) % 128 := by
  rw [slotOfSeq_eq, Int.toNat_of_nonneg (Int.emod_nonneg _ (by decide))]; unfold seqAt
  exact Int.emod_emod_of_dvd _ (by decide)

theorem slot_seqAt_eq_iff (q0 : Int) {j j' : Nat} (h1 : j ≤ j') (h2 : j' ≤ j + 128) :
    slotOfSeq (seqAt q0 j) = slotOfSeq (seqAt q0 j') ↔ j' = j ∨ j' = j + 128 := by
  rw [← Int.natCast_inj, slotOfSeq_seqAt, slotOfSeq_seqAt]; omega

/-- The new packet displaces exactly the packet sent 128 places earlier, the only one of the last 129 with the
same key. -/
theorem sinv_step {s : Sender} {q0 : Int} {sent : List RtpPacket} (hI : SInv s q0 sent) (p : RtpPacket)
    (hp : (p.sequenceNumber : Int) = s.seq) :
    SInv { s with history := histSet s.history (slotOfSeq (p.sequenceNumber : Int)) p, seq := uint16_add s.seq 1 } q0
      (sent ++ [p]) := by
  rw [hI.seq] at hp
  refine ⟨hI.q0r, ?_, ?_, ?_⟩
  · simp only [List.length_append, List.length_singleton]
    rw [hI.seq]; unfold seqAt uint16_add; omega
  · intro j p' hj
    rcases (List.getElem?_concat_eq_some ..).1 hj with h | ⟨rfl, rfl⟩
    · exact hI.seqs j p' h
    · exact hp
  · intro k p'
    rw [histGet_set, hp]
    simp only [List.length_append, List.length_singleton, List.getElem?_concat_eq_some]
    constructor
    · intro h
      split at h
      · next hk => exact ⟨sent.length, by omega, by omega, Or.inr ⟨rfl, Option.some.inj h⟩, hk.symm⟩
      · next hk =>
        obtain ⟨j, hj1, hj2, hj3, hj4⟩ := (hI.hist k p').1 h
        have := (not_congr (slot_seqAt_eq_iff q0 (Nat.le_of_lt hj1) hj2)).1 fun e => hk (hj4.symm.trans e)
        exact ⟨j, by omega, by omega, Or.inl hj3, hj4⟩
    · rintro ⟨j, hj1, hj2, hj3 | ⟨rfl, rfl⟩, hj4⟩
      · have hlt : j < sent.length := (List.getElem?_eq_some_iff.1 hj3).1
        have hk : k ≠ slotOfSeq (seqAt q0 sent.length) :=
          hj4 ▸ (not_congr (slot_seqAt_eq_iff q0 (Nat.le_of_lt hlt) (by omega))).2 (by omega)
        rw [if_neg hk]
        exact (hI.hist k p').2 ⟨j, hlt, by omega, hj3, hj4⟩
      · rw [if_pos hj4.symm]

/-- The whole `for i, payload in enumerate(payloads)` loop. -/
theorem sendLoop_spec (cfg : SenderCfg) (ts : Int) (n : Nat) (pls : List Bytes) :
    ∀ (i : Nat) (s : Sender) (q0 : Int) (sent : List RtpPacket), SInv s q0 sent →
      SInv (sendLoop cfg ts n i pls s).1 q0 (sent ++ (sendLoop cfg ts n i pls s).2) ∧
      (sendLoop cfg ts n i pls s).1.rtxSeq = s.rtxSeq ∧
      (sendLoop cfg ts n i pls s).2.length = pls.length ∧
      ∀ k pl, pls[k]? = some pl →
        (sendLoop cfg ts n i pls s).2[k]? = some (mkPacket cfg (seqAt q0 (sent.length + k)) ts pl (i + k) n) := by
  induction pls with
  | nil => intro i s q0 sent hI; simp [sendLoop]; exact hI
  | cons pl rest ih =>
    intro i s q0 sent hI
    have hstep := sinv_step hI (mkPacket cfg s.seq ts pl i n) (by simp only [mkPacket]; have := hI.seq; unfold seqAt at this; omega)
    obtain ⟨h1, h2, h3, h4⟩ := ih (i + 1) _ q0 _ hstep
    simp only [sendLoop]
    refine ⟨by rw [List.append_assoc] at h1; exact h1, h2, by simp [h3], ?_⟩
    intro k pl' hk
    cases k with
    | zero =>
      simp at hk; subst hk
      simp [hI.seq]
    | succ k =>
      simp at hk
      have := h4 k pl' hk
      simp only [List.length_append, List.length_singleton] at this
      simp only [List.getElem?_cons_succ]
      rw [this]
      have e1 : sent.length + 1 + k = sent.length + (k + 1) := by omega
      have e2 : i + 1 + k = i + (k + 1) := by omega
      rw [e1, e2]

theorem retransmit_keeps (cfg : SenderCfg) (s : Sender) (sn : Int) :
    (retransmit cfg s sn).1.history = s.history ∧ (retransmit cfg s sn).1.seq = s.seq := by
  unfold retransmit
  split
  · split
    · split <;> exact ⟨rfl, rfl⟩
    · exact ⟨rfl, rfl⟩
  · exact ⟨rfl, rfl⟩

theorem retransmit_sinv {s : Sender} {q0 : Int} {sent : List RtpPacket} (hI : SInv s q0 sent) (cfg : SenderCfg)
    (sn : Int) : SInv (retransmit cfg s sn).1 q0 sent := by
  have h := retransmit_keeps cfg s sn
  exact ⟨hI.q0r, by rw [h.2]; exact hI.seq, hI.seqs, by rw [h.1]; exact hI.hist⟩

theorem handleNack_sinv (cfg : SenderCfg) (lost : List Int) : ∀ {s : Sender} {q0 : Int} {sent : List RtpPacket},
    SInv s q0 sent → SInv (handleNack cfg s lost).1 q0 sent := by
  induction lost with
  | nil => intro s q0 sent hI; exact hI
  | cons x xs ih => intro s q0 sent hI; simp only [handleNack]; exact ih (retransmit_sinv hI cfg x)

def InHistory (q0 : Int) (sent : List RtpPacket) (sn : Int) : Prop :=
  ∃ j, j < sent.length ∧ sent.length ≤ j + 128 ∧ seqAt q0 j = sn

/-- What `history.get(sn % 128)` finds, and whether its sequence number is `sn`. -/
theorem lookup_spec {s : Sender} {q0 : Int} {sent : List RtpPacket} (hI : SInv s q0 sent) (sn : Int) :
    (∃ p, histGet s.history (slotOfSeq sn) = some p ∧ (p.sequenceNumber : Int) = sn) ↔ InHistory q0 sent sn := by
  constructor
  · rintro ⟨p, hp, hs⟩
    obtain ⟨j, h1, h2, h3, h4⟩ := (hI.hist _ p).1 hp
    exact ⟨j, h1, h2, by rw [← hI.seqs j p h3]; exact hs⟩
  · rintro ⟨j, h1, h2, h3⟩
    obtain ⟨p, hp⟩ : ∃ p, sent[j]? = some p := ⟨sent[j], List.getElem?_eq_getElem h1⟩
    exact ⟨p, (hI.hist _ p).2 ⟨j, h1, h2, hp, by rw [h3]⟩, by rw [hI.seqs j p hp]; exact h3⟩

theorem hist_of_sent {s : Sender} {q0 : Int} {sent : List RtpPacket} (hI : SInv s q0 sent) {j : Nat} {p : RtpPacket}
    (hj : sent[j]? = some p) (hlast : sent.length ≤ j + 128) :
    histGet s.history (slotOfSeq (p.sequenceNumber : Int)) = some p :=
  (hI.hist _ p).2 ⟨j, (List.getElem?_eq_some_iff.1 hj).1, hlast, hj, by rw [hI.seqs j p hj]⟩

theorem retransmit_hit (cfg : SenderCfg) {s : Sender} {p : RtpPacket}
    (hp : histGet s.history (slotOfSeq (p.sequenceNumber : Int)) = some p) :
    retransmit cfg s (p.sequenceNumber : Int) = match cfg.rtxPt with
      | some rpt => ({ s with rtxSeq := uint16_add s.rtxSeq 1 }, [wrapRtx p rpt s.rtxSeq.toNat cfg.rtxSsrc])
      | none => (s, [p]) := by
  unfold retransmit; rw [hp]; exact if_pos rfl

end Aiortc.Lemmas.Video
