import Aiortc.Lemmas.C11.Nack
/-!
# `NackGenerator`: the two invariants

* `NSpec` — with unwrapped stream indices (`seqAt s0 j` is the sequence number of index `j`), for arrivals
  within 32 768 positions of the highest index seen: `missing` is EXACTLY the set of indices after the first
  arrival, in the window `[hi-128, hi)`, that have not been received.
* `NInv` — unconditional: `missing` is duplicate-free and every member is 1 … 128 behind `max_seq`.
-/
namespace Aiortc.Lemmas.Video
open Aiortc Aiortc.Gen Aiortc.Model.Video Aiortc.Lemmas.Jitter

structure NSpec (g : NackGen) (s0 : Int) (first hi : Nat) (recv : Nat → Prop) : Prop where
  s0r : R16 s0
  max : g.maxSeq = some (seqAt s0 hi)
  nodup : g.missing.Nodup
  mem : ∀ x, x ∈ g.missing ↔ ∃ j, first < j ∧ j < hi ∧ hi ≤ j + 128 ∧ ¬ recv j ∧ x = seqAt s0 j
  recvLe : ∀ j, recv j → j ≤ hi
  recvHi : recv hi
  firstLe : first ≤ hi

theorem nspec_first (s0 : Int) (hs : R16 s0) (i : Nat) :
    NackGen.init.add (seqAt s0 i) = .ok (⟨some (seqAt s0 i), []⟩, false) ∧
    NSpec ⟨some (seqAt s0 i), []⟩ s0 i i (fun j => j = i) := by
  refine ⟨rfl, ⟨hs, rfl, by simp, ?_, fun j h => by omega, rfl, Nat.le_refl _⟩⟩
  intro x; simp; intro j h1 h2; omega

theorem nspec_step {g : NackGen} {s0 : Int} {first hi : Nat} {recv : Nat → Prop} (h : NSpec g s0 first hi recv)
    (i : Nat) (hnear : (i : Int) < hi + 32768 ∧ (hi : Int) ≤ i + 32768) :
    ∃ g' b, g.add (seqAt s0 i) = .ok (g', b) ∧ NSpec g' s0 first (max hi i) (fun j => recv j ∨ j = i) ∧
      (b = true ↔ hi + 1 < i) := by
  have hgt := seqAt_gt_iff s0 hnear.1 hnear.2
  have hfirst := h.firstLe
  by_cases hlt : hi < i
  · -- the maximum moves to `i`; the loop lists the indices `hi + 1, …, i - 1`
    obtain ⟨m', hloop, hnd, hmem⟩ := markLoop_spec s0 (i - hi - 1) (hi + 1) markFuel g.missing false
      (by unfold markFuel; omega) (by omega) h.nodup
    rw [show hi + 1 + (i - hi - 1) = i by omega, ← seqAt_succ] at hloop
    rw [Nat.max_eq_right (Nat.le_of_lt hlt)]
    refine ⟨_, _, by simp only [NackGen.add, h.max, hgt.2 hlt, if_true, hloop]; rfl,
      ⟨h.s0r, truncate_max _ _, truncate_nodup _ _ hnd, fun x => ?_, ?_, Or.inr rfl, by omega⟩, by simp; omega⟩
    · rw [truncate_mem, hmem, h.mem]
      constructor
      · rintro ⟨⟨j, h1, h2, h3, h4, rfl⟩ | ⟨t, ht1, ht2, rfl⟩, hx⟩
        · rw [seqAt_kept_iff s0 (by omega) (by omega)] at hx
          exact ⟨j, h1, by omega, hx, fun hr => hr.elim h4 (by omega), rfl⟩
        · rw [seqAt_kept_iff s0 (by omega) (by omega)] at hx
          exact ⟨t, by omega, by omega, hx, fun hr => hr.elim (fun hr => by have := h.recvLe t hr; omega) (by omega), rfl⟩
      · rintro ⟨j, h1, h2, h3, h4, rfl⟩
        refine ⟨?_, (seqAt_kept_iff s0 (by omega) (by omega)).2 h3⟩
        rcases Nat.lt_trichotomy j hi with hj | rfl | hj
        · exact Or.inl ⟨j, h1, hj, by omega, fun hr => h4 (Or.inl hr), rfl⟩
        · exact absurd (Or.inl h.recvHi) h4
        · exact Or.inr ⟨j, by omega, by omega, rfl⟩
    · intro j hj
      rcases hj with hj | hj
      · have := h.recvLe j hj; omega
      · omega
  · -- an old or duplicate packet: discard
    have hg : uint16_gt (seqAt s0 i) (seqAt s0 hi) = false := by rw [← Bool.not_eq_true, hgt]; exact hlt
    rw [Nat.max_eq_left (by omega)]
    refine ⟨_, false, by simp only [NackGen.add, h.max, hg]; rfl, ?_, by simp; omega⟩
    refine ⟨h.s0r, truncate_max _ _, truncate_nodup _ _ (h.nodup.sublist List.filter_sublist), fun x => ?_,
      fun j hj => hj.elim (h.recvLe j) (by omega), Or.inl h.recvHi, hfirst⟩
    rw [truncate_mem, setDiscard_mem, h.mem]
    constructor
    · rintro ⟨⟨⟨j, h1, h2, h3, h4, rfl⟩, hne⟩, _⟩
      exact ⟨j, h1, h2, h3, fun hr => hr.elim h4 fun hr => hne (hr ▸ rfl), rfl⟩
    · rintro ⟨j, h1, h2, h3, h4, rfl⟩
      refine ⟨⟨⟨j, h1, h2, h3, fun hr => h4 (Or.inl hr), rfl⟩, fun e => ?_⟩, (seqAt_kept_iff s0 (by omega) (by omega)).2 h3⟩
      exact h4 (Or.inr (seqAt_inj s0 (by omega) (by omega) e))

theorem nspec_window {g : NackGen} {s0 : Int} {first hi : Nat} {recv : Nat → Prop} (h : NSpec g s0 first hi recv) :
    ∀ x ∈ g.missing, 1 ≤ (seqAt s0 hi - x) % 65536 ∧ (seqAt s0 hi - x) % 65536 ≤ 128 := by
  intro x hx
  obtain ⟨j, h1, h2, h3, h4, rfl⟩ := (h.mem x).1 hx
  unfold seqAt; omega

/-! Every `NInv` state is an `NSpec` state of a suitable stream (`nspec_of_ninv`),
and every 16-bit sequence number is the number of an index within 32 768 positions of its `max_seq`, so what `add`
does under `NInv` is read off `nspec_step`. -/

structure NInv (g : NackGen) : Prop where
  nodup : g.missing.Nodup
  noneEmpty : g.maxSeq = none → g.missing = []
  win : ∀ m, g.maxSeq = some m → R16 m ∧ ∀ x ∈ g.missing, R16 x ∧ 1 ≤ (m - x) % 65536 ∧ (m - x) % 65536 ≤ 128

theorem ninv_init : NInv NackGen.init := ⟨by simp [NackGen.init], fun _ => rfl, fun m h => by simp [NackGen.init] at h⟩

theorem ninv_of_nspec {g : NackGen} {s0 : Int} {first hi : Nat} {recv : Nat → Prop} (h : NSpec g s0 first hi recv) :
    NInv g := by
  refine ⟨h.nodup, fun e => by simp [h.max] at e, fun m hm => ?_⟩
  obtain rfl : seqAt s0 hi = m := by simpa [h.max] using hm
  refine ⟨seqAt_r16 .., fun x hx => ⟨?_, nspec_window h x hx⟩⟩
  obtain ⟨j, _, _, _, _, rfl⟩ := (h.mem x).1 hx
  exact seqAt_r16 ..

/-- `max_seq = m` is put at index 32768 of the stream that starts half-way round from `m`; an index counts as
received when its number is not listed. -/
theorem nspec_of_ninv {g : NackGen} (hI : NInv g) {m : Int} (hm : g.maxSeq = some m) :
    NSpec g ((m + 32768) % 65536) 0 32768
      (fun j => j = 32768 ∨ (j < 32768 ∧ seqAt ((m + 32768) % 65536) j ∉ g.missing)) := by
  obtain ⟨hmr, hwin⟩ := hI.win m hm
  have hmax : m = seqAt ((m + 32768) % 65536) 32768 := by unfold seqAt R16 at *; omega
  refine ⟨by unfold R16; omega, by rw [hm, ← hmax], hI.nodup, fun x => ⟨fun hx => ?_, ?_⟩, fun j hj => by omega,
    Or.inl rfl, Nat.zero_le _⟩
  · obtain ⟨hxr, h1, h2⟩ := hwin x hx
    obtain ⟨k, hk⟩ := emod_eq_nat (m - x)
    have e : x = seqAt ((m + 32768) % 65536) (32768 - k) := by unfold seqAt R16 at *; omega
    rw [hk] at h1 h2
    exact ⟨_, by omega, by omega, by omega, fun hr => hr.elim (by omega) fun hr => hr.2 (e ▸ hx), e⟩
  · rintro ⟨j, _, h2, _, h4, rfl⟩
    exact Decidable.by_contra fun hx => h4 (Or.inr ⟨h2, hx⟩)

theorem ninv_add {g : NackGen} (hI : NInv g) (sn : Int) (hsn : R16 sn) :
    ∃ g' b, g.add sn = .ok (g', b) ∧ NInv g' ∧ g'.maxSeq ≠ none ∧ sn ∉ g'.missing := by
  cases hm : g.maxSeq with
  | none =>
    refine ⟨{ g with maxSeq := some sn }, false, by simp [NackGen.add, hm], ⟨hI.nodup, nofun, ?_⟩, nofun,
      by rw [hI.noneEmpty hm]; simp⟩
    intro m h; obtain rfl : sn = m := by simpa using h
    exact ⟨hsn, by rw [hI.noneEmpty hm]; simp⟩
  | some m =>
    have hS := nspec_of_ninv hI hm
    have hmr := (hI.win m hm).1
    -- `sn` as the number of an index within 32 768 positions of 32768
    obtain ⟨i, hik⟩ := emod_eq_nat (sn - m + 32768)
    have hi : sn = seqAt ((m + 32768) % 65536) i := by unfold seqAt R16 at *; omega
    obtain ⟨g', b, e, hS', _⟩ := nspec_step hS i (by omega)
    refine ⟨g', b, hi ▸ e, ninv_of_nspec hS', by simp [hS'.max], fun hx => ?_⟩
    obtain ⟨j, _, h2, h3, h4, e'⟩ := (hS'.mem sn).1 hx
    exact h4 (Or.inr (seqAt_inj _ (by omega) (by omega) (hi.symm.trans e')).symm)

theorem ninv_length {g : NackGen} (hI : NInv g) : g.missing.length ≤ 128 := by
  cases hm : g.maxSeq with
  | none => rw [hI.noneEmpty hm]; simp
  | some m =>
    -- `missing` is a duplicate-free sublist of the 128 numbers before `m`
    have hsub : g.missing ⊆ (List.range 128).map (fun (k : Nat) => (m - ((k : Int) + 1)) % 65536) := by
      intro x hx
      obtain ⟨hmr, hw⟩ := hI.win m hm
      obtain ⟨hxr, h1, h2⟩ := hw x hx
      obtain ⟨d, hd⟩ := emod_eq_nat (m - x)
      rw [List.mem_map]
      refine ⟨d - 1, by rw [List.mem_range]; omega, ?_⟩
      unfold R16 at *; omega
    simpa using hI.nodup.length_le_of_subset hsub

end Aiortc.Lemmas.Video
