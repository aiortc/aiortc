import Aiortc.Lemmas.C11.Stream
/-!
# A run of equal timestamps that ends at a timestamp change is (a tail of) ONE sender frame

`frames` are the sender's frames as lists of jitter-buffer packets: non-empty, one timestamp per frame,
adjacent frames with different timestamps.  The sender's stream is `frames.flatten`.
-/
namespace Aiortc.Lemmas.Video
open Aiortc Aiortc.Model.Jitter Aiortc.Lemmas.Jitter

structure FramesOK (frames : List (List Packet)) : Prop where
  nonempty : ∀ fr ∈ frames, fr ≠ []
  onets : ∀ fr ∈ frames, ∀ a ∈ fr, ∀ b ∈ fr, a.ts = b.ts
  adj : ∀ k fr1 fr2, frames[k]? = some fr1 → frames[k + 1]? = some fr2 → ∀ a ∈ fr1, ∀ b ∈ fr2, a.ts ≠ b.ts

theorem FramesOK.tail {fr : List Packet} {rest : List (List Packet)} (h : FramesOK (fr :: rest)) : FramesOK rest :=
  ⟨fun f hf => h.nonempty f (List.mem_cons_of_mem _ hf), fun f hf => h.onets f (List.mem_cons_of_mem _ hf),
   fun k f1 f2 h1 h2 => h.adj (k + 1) f1 f2 (by simpa using h1) (by simpa using h2)⟩

def FrameStartIdx (stream : List Packet) (a : Nat) : Prop :=
  a = 0 ∨ ∃ q0 q1, stream[a - 1]? = some q0 ∧ stream[a]? = some q1 ∧ q0.ts ≠ q1.ts

theorem firstRun_drop_flatten : ∀ (frames : List (List Packet)), FramesOK frames → ∀ a, a < frames.flatten.length →
    ∃ (k : Nat) (fr : List Packet) (i : Nat), frames[k]? = some fr ∧ firstRun (frames.flatten.drop a) = fr.drop i ∧
      (FrameStartIdx frames.flatten a → i = 0) := by
  intro frames
  induction frames with
  | nil => intro _ a h; simp at h
  | cons fr rest ih =>
    intro hF a ha
    rw [List.flatten_cons] at ha ⊢
    rcases Nat.lt_or_ge a fr.length with hlt | hge
    · refine ⟨0, fr, a, rfl, ?_, ?_⟩
      · rw [List.drop_append_of_le_length (Nat.le_of_lt hlt)]
        obtain ⟨u, hu⟩ : ∃ u, u ∈ fr := ⟨fr[0], List.getElem_mem _⟩
        refine firstRun_append_of (t := u.ts) (by simp; omega)
          (fun p hp => hF.onets fr List.mem_cons_self p (List.mem_of_mem_drop hp) u hu) ?_
        intro q hq
        cases rest with
        | nil => simp at hq
        | cons fr2 rest' =>
          obtain ⟨b, l2, rfl⟩ := List.exists_cons_of_ne_nil (hF.nonempty fr2 (by simp))
          obtain rfl : b = q := by simpa using hq
          exact fun e => hF.adj 0 _ _ rfl rfl u hu b List.mem_cons_self e.symm
      · rintro (h | ⟨q0, q1, h0, h1, hne⟩)
        · exact h
        · refine Decidable.by_contra fun ha0 => hne ?_
          rw [List.getElem?_append_left (by omega)] at h0 h1
          exact hF.onets fr List.mem_cons_self q0 (List.mem_of_getElem? h0) q1 (List.mem_of_getElem? h1)
    · have hfr : 0 < fr.length := List.length_pos_iff.2 (hF.nonempty fr List.mem_cons_self)
      obtain ⟨k, fr', i, h1, h2, h3⟩ := ih hF.tail (a - fr.length) (by rw [List.length_append] at ha; omega)
      refine ⟨k + 1, fr', i, by simpa using h1, by rw [List.drop_append, List.drop_eq_nil_of_le hge, List.nil_append]; exact h2, fun hs => h3 ?_⟩
      rcases Nat.eq_or_lt_of_le hge with heq | hgt
      · exact Or.inl (by omega)
      · rcases hs with h | ⟨q0, q1, h0, h1', hne⟩
        · omega
        · rw [List.getElem?_append_right (by omega)] at h0 h1'
          exact Or.inr ⟨q0, q1, by rw [← h0]; congr 1; omega, h1', hne⟩

/-- After a release the origin sits on the first packet of the next frame. -/
theorem RunAt.frameStart {stream : List Packet} {a : Nat} {f : Frame} {used : List Packet} (h : RunAt stream a f used) :
    FrameStartIdx stream (a + used.length) := by
  obtain ⟨hne, hts, q', R, e, hqts⟩ := h.split
  have hlen : 0 < used.length := List.length_pos_iff.2 hne
  have hget : ∀ k, stream[a + k]? = (used ++ q' :: R)[k]? := fun k => by rw [← e, List.getElem?_drop]
  have hlast : used[used.length - 1]? = some (used[used.length - 1]'(by omega)) := List.getElem?_eq_getElem (by omega)
  refine Or.inr ⟨used[used.length - 1]'(by omega), q', ?_, ?_, ?_⟩
  · rw [show a + used.length - 1 = a + (used.length - 1) by omega, hget, List.getElem?_append_left (by omega), hlast]
  · rw [hget, List.getElem?_append_right (Nat.le_refl _), Nat.sub_self]; rfl
  · rw [hts _ (List.mem_of_getElem? hlast)]; exact fun h => hqts h.symm

theorem run_is_frame {frames : List (List Packet)} (hF : FramesOK frames) {a : Nat} {f : Frame} {used : List Packet}
    (hR : RunAt frames.flatten a f used) :
    ∃ (k : Nat) (fr pre : List Packet), frames[k]? = some fr ∧ fr = pre ++ used ∧
      (FrameStartIdx frames.flatten a → pre = []) := by
  obtain ⟨k, fr, i, h1, h2, h3⟩ := firstRun_drop_flatten frames hF a (by have := hR.lt; omega)
  exact ⟨k, fr, fr.take i, h1, by rw [hR.used, h2, List.take_append_drop], fun hs => by rw [h3 hs]; rfl⟩

end Aiortc.Lemmas.Video
