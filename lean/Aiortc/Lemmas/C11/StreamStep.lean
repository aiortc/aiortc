import Aiortc.Lemmas.C11.Stream
/-! # One `add` of a copy of `stream[j]`: `gstep` -/
namespace Aiortc.Lemmas.Video
open Aiortc Aiortc.Gen Aiortc.Model.Jitter Aiortc.Lemmas.Jitter

theorem oiNext_eq {s0 : Int} {stream : List Packet} (hS : StreamOK s0 stream) {jb : JB} {oi j : Nat} {p : Packet}
    (hG : GInv s0 stream jb oi) (hj : stream[j]? = some p) {out : AddOut} {oi' : Nat}
    (ho' : out.jb.origin = some (seqAt s0 oi')) (h1 : Restart jb p → j ≤ oi' ∧ oi' < j + 65536)
    (h2 : ¬ Restart jb p → oi ≤ oi' ∧ oi' < oi + 65536) : oiNext jb oi j p out = oi' := by
  unfold oiNext; rw [ho']
  cases ho : jb.origin with
  | none =>
    obtain ⟨h3, h4⟩ := h1 (Or.inl ho)
    simp only []; rw [hS.seqs j p hj, fwd_seqAt s0 h3 h4]; omega
  | some o =>
    simp only []
    split
    · next hl =>
      obtain ⟨h3, h4⟩ := h1 (Or.inr ⟨o, ho, hl⟩)
      rw [hS.seqs j p hj, fwd_seqAt s0 h3 h4]; omega
    · next hl =>
      obtain ⟨h3, h4⟩ := h2 fun h => h.elim (fun h => by rw [ho] at h; cases h)
        fun ⟨o', ho', hl'⟩ => hl (Option.some.inj (ho.symm.trans ho') ▸ hl')
      rw [hG.orig o ho, fwd_seqAt s0 h3 h4]; omega

/-- What one `add` of a copy of `stream[j]` does to a buffer whose origin is at index `oi`: the branch analysis
puts the origin at index `oi2`, a released frame is the run of the stream from `oi2`, and the origin ends behind it. -/
structure GStep (s0 : Int) (stream : List Packet) (jb : JB) (oi j : Nat) (p : Packet) (out : AddOut) (oi2 : Nat) :
    Prop where
  ginv : GInv s0 stream out.jb (oi2 + out.used.length)
  same : Same jb out.jb
  next : oiNext jb oi j p out = oi2 + out.used.length
  noFrame : out.frame = none → out.used = []
  run : ∀ f, out.frame = some f → RunAt stream oi2 f out.used
  first : jb.origin = none → oi2 = j
  calm : out.pli = false → jb.isVideo = true → jb.origin ≠ none → oi2 = oi
  mono : ¬ Late jb p 100 → jb.origin ≠ none → oi ≤ oi2
  orig : out.jb.origin ≠ none
  bound : oi2 + out.used.length = oi ∨ oi2 + out.used.length < stream.length

theorem gstep {s0 : Int} {stream : List Packet} (hS : StreamOK s0 stream) {jb : JB} {oi j : Nat} {p : Packet}
    (hG : GInv s0 stream jb oi) (hj : stream[j]? = some p) (hn : jb.origin ≠ none → Near oi j) :
    ∃ out, add jb p = .ok out ∧ ∃ oi2 : Nat, GStep s0 stream jb oi j p out oi2 := by
  have hp : R16 p.seq := by rw [hS.seqs j p hj]; unfold R16 seqAt; omega
  obtain ⟨out, e, hA⟩ := add_spec hG.inv p hp
  refine ⟨out, e, ?_⟩
  rcases hA with ⟨o, hD⟩ | ⟨jb2, o2, jb3, hSt⟩
  · have ho := hD.orig
    have hnr : ¬ Restart jb p := fun h => h.elim (fun h => by rw [ho] at h; cases h)
      fun h => by have := ((late_iff_lateC ho p _).1 h).2; have := hD.lt; omega
    refine ⟨oi, by rw [hD.unchanged, hD.used]; exact hG, by rw [hD.unchanged]; exact Same.refl jb, ?_, fun _ => hD.used,
      (fun f h => by simp [hD.frame] at h), (fun h => by simp [ho] at h), fun _ _ _ => rfl, fun _ _ => Nat.le_refl _,
      by rw [hD.unchanged, ho]; nofun, Or.inl (by rw [hD.used]; rfl)⟩
    rw [hD.used]
    show oiNext jb oi j p out = oi
    exact oiNext_eq hS hG hj (by rw [hD.unchanged, ho, hG.orig o ho]) (fun h => absurd h hnr) fun _ => ⟨Nat.le_refl _, by omega⟩
  · obtain ⟨oi2, hoe, hle, hlt, hheld, hpli, hre, hnre⟩ := branch_index hS hG hj hn hSt.branch
    have hnone : jb.origin = none → oi2 = j := fun h => hre (Or.inl h)
    have hnl : ¬ Late jb p 100 → jb.origin ≠ none → oi ≤ oi2 := fun h1 h2 =>
      hnre fun h => h.elim h2 (by rw [show (MAX_MISORDER : Int) = 100 by decide]; exact h1)
    have ho3 : jb3.origin = some (seqAt s0 oi2) := by rw [hSt.orig3, hoe]
    have hG3 : GInv s0 stream jb3 oi2 :=
      ⟨hSt.placed.inv, by rw [← hSt.same3.1]; exact hG.cap, fun o h => Option.some.inj (h.symm.trans ho3),
        fun s q h => (hSt.placed.sub h).elim (fun e => e ▸ ⟨j, hj, hle, by omega⟩) (hheld s q)⟩
    have hnext : ∀ len : Nat, len < 32768 → out.jb.origin = some (seqAt s0 (oi2 + len)) →
        oiNext jb oi j p out = oi2 + len := by
      intro len hlen ho'
      refine oiNext_eq hS hG hj ho' (fun h => by have := hre h; omega) fun h => ?_
      have := hn fun ho => h (Or.inl ho)
      have := hnre h
      unfold Near at *; omega
    rcases hSt.rf with hN | hR
    · have hjl : j < stream.length := (List.getElem?_eq_some_iff.1 hj).1
      refine ⟨oi2, by rw [hN.unchanged, hN.used]; exact hG3, by rw [hN.unchanged]; exact hSt.same3, ?_, fun _ => hN.used,
        (fun f h => by simp [hN.frame] at h), hnone, hpli, hnl, by rw [hN.unchanged, ho3]; nofun,
        Or.inr (by rw [hN.used]; simp; omega)⟩
      rw [hN.used]
      exact hnext 0 (by omega) (by rw [hN.unchanged, ho3]; rfl)
    · have hF := hR.frameAt
      obtain ⟨q', hq', hqts⟩ := hF.next
      have hcap3 := hG3.cap
      have hlen := hF.lt
      have hG' := hG3.shift hS (hoe ▸ hR.shift)
      have hq'' := hG3.idx hS ho3 hlen (hoe ▸ hq')
      refine ⟨oi2, hG', hSt.same3.trans hR.shift.same, hnext _ (by omega) (hG'.orig _ hR.shift.orig ▸ hR.shift.orig),
        (fun h => by simp [hR.frame] at h), fun f hf => runAt_of_released hS hG3 hSt.orig3 hR hf, hnone, hpli, hnl,
        by rw [hR.shift.orig]; nofun, Or.inr (List.getElem?_eq_some_iff.1 hq'').1⟩

end Aiortc.Lemmas.Video
