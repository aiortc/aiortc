import Aiortc.Model.Sctp.Recv
import Aiortc.Lemmas.Serial
/-!
# TSN / SSN index arithmetic (the SCTP instances of `Lemmas/Serial.lean`)

The sender's `i`-th DATA chunk carries TSN `(t0 + i) mod 2^32`.  Three notations for it, equal by `rfl` (`T_eq`):
`tsnOf t0 i` with a signed index (the receiver's `_last_received_tsn` starts at index `-1`; `C01/SctpMark`, `SctpPlan`),
`tsnN t0 k` with a natural index (the end-to-end statements of C01), `T b k` (the sender and drain analysis of C02, and `Walk`).
The `tsnOf` lemmas carry the window hypothesis on the DIFFERENCE of the indices and hold inside any sliding window; the `T`
lemmas (`gt_T`, `gte_T`, `T_inj`) carry absolute bounds `i, j < 2^31` — inside a sliding window go through `tsnOf`, as
`absorb_idx` does.  Inside a window of fewer than 2^31 indices the serial comparisons of `aiortc.utils` coincide with the
plain order of the indices, whatever the origin; `serialKey b x` recovers the index of `x` from `b`.  Also here: the wire
range `R32`.
-/
namespace Aiortc.Sctp
open Aiortc.Gen

/-- TSN of the chunk with (signed) index `i` when the initial TSN is `t0`. -/
def tsnOf (t0 : Int) (i : Int) : Int := (t0 + i) % 4294967296

theorem tsnOf_range (t0 i : Int) : 0 ≤ tsnOf t0 i ∧ tsnOf t0 i < 4294967296 := Serial.emod_range (by decide) _

theorem tsnOf_zero (t0 : Int) (h : 0 ≤ t0 ∧ t0 < 4294967296) : tsnOf t0 0 = t0 := by
  unfold tsnOf; omega

theorem tsn_minus_one_eq (t0 : Int) : tsn_minus_one t0 = tsnOf t0 (-1) := by
  unfold tsn_minus_one tsnOf; omega

theorem tsn_plus_one_tsnOf (t0 i : Int) : tsn_plus_one (tsnOf t0 i) = tsnOf t0 (i + 1) := by
  unfold tsn_plus_one tsnOf; omega

theorem tsnOf_add_mod (t0 : Int) (i n : Int) : (tsnOf t0 i + n) % 4294967296 = tsnOf t0 (i + n) := by
  unfold tsnOf; omega

theorem tsnOf_inj (t0 a b : Int) (hw : -4294967296 < a - b ∧ a - b < 4294967296)
    (h : tsnOf t0 a = tsnOf t0 b) : a = b := Serial.inj32 t0 hw h

theorem uint32_gt_tsnOf (t0 a b : Int) (hw : -2147483648 < a - b ∧ a - b < 2147483648) :
    uint32_gt (tsnOf t0 a) (tsnOf t0 b) = decide (b < a) := Serial.gt32 t0 ⟨Int.le_of_lt hw.1, hw.2⟩

theorem uint32_gte_tsnOf (t0 a b : Int) (hw : -2147483648 < a - b ∧ a - b < 2147483648) :
    uint32_gte (tsnOf t0 a) (tsnOf t0 b) = decide (b ≤ a) := Serial.gte32 t0 hw

theorem serialKey_tsnOf (t0 c k : Int) (h : 0 ≤ k - c ∧ k - c < 4294967296) :
    serialKey (tsnOf t0 c) (tsnOf t0 k) = k - c := by
  unfold serialKey tsnOf; omega

def R32 (a : Int) : Prop := 0 ≤ a ∧ a < 4294967296

theorem R32.mod (x : Int) : R32 (x % 4294967296) := Serial.emod_range (by decide) _

theorem R32.plus_one (a : Int) : R32 (tsn_plus_one a) := R32.mod _

theorem R32.emod_self {a : Int} (ha : R32 a) : a % 4294967296 = a := Serial.emod_self ha

theorem R32.add_zero {a : Int} (ha : R32 a) : (a + ((0 : Nat) : Int)) % 4294967296 = a := by
  rw [Int.natCast_zero, Int.add_zero]; exact ha.emod_self

/-! ## sort keys: `serialKey b x` is the index of `x` counted from `b` -/

theorem serialKey_self (b : Int) : serialKey b b = 0 := by unfold serialKey; rw [Int.sub_self]; rfl

theorem serialKey_range (b x : Int) : 0 ≤ serialKey b x ∧ serialKey b x < 4294967296 := Serial.emod_range (by decide) _

theorem serialKey_succ (b x : Int) : serialKey b (tsn_plus_one x) = (serialKey b x + 1) % 4294967296 :=
  Serial.key_succ _ b x

theorem serialKey_inv (b : Int) {x : Int} (hx : R32 x) : (b + serialKey b x) % 4294967296 = x := Serial.key_inv b hx

theorem serialKey_inj {b x y : Int} (hx : R32 x) (hy : R32 y) (h : serialKey b x = serialKey b y) : x = y :=
  Serial.key_inj hx hy h

theorem serialKey_pos {b x : Int} (hb : R32 b) (hx : R32 x) (hne : x ≠ b) : 0 < serialKey b x := by
  have h0 := (serialKey_range b x).1
  have : serialKey b x ≠ 0 := fun h => hne (serialKey_inj hx hb (h.trans (serialKey_self b).symm))
  omega

/-! ## TSNs by natural index

`tsnN` (receiver analysis) and `T` (sender and drain analysis) are the same `k`-th TSN after a base; the lemma set is stated
for `T`. -/

def tsnN (t0 : Int) (k : Nat) : Int := tsnOf t0 (k : Int)

def T (b : Int) (k : Nat) : Int := (b + (k : Int)) % 4294967296

theorem T_eq (b : Int) (k : Nat) : T b k = tsnN b k := rfl

theorem T_r32 (b : Int) (k : Nat) : R32 (T b k) := R32.mod _

theorem T_zero {b : Int} (hb : R32 b) : T b 0 = b := hb.add_zero

theorem T_add (b : Int) (k m : Nat) : (T b k + (m : Int)) % 4294967296 = T b (k + m) := by
  unfold T; rw [Int.emod_add_emod, Int.add_assoc, Int.natCast_add]

theorem T_succ (b : Int) (k : Nat) : tsn_plus_one (T b k) = T b (k + 1) := T_add b k 1

theorem T_pred (b : Int) (k : Nat) : tsn_minus_one (T b (k + 1)) = T b k := by
  unfold tsn_minus_one T; rw [Int.emod_sub_emod, Int.natCast_add]; congr 1; omega

theorem T_mod (b : Int) (k : Nat) : T b k % 4294967296 = T b k := Int.emod_emod_of_dvd _ (Int.dvd_refl _)

theorem T_sub (b : Int) {r j : Nat} (h1 : r ≤ j) (h2 : j < r + 4294967296) :
    ((T b j - T b r) % 4294967296).toNat = j - r := by
  obtain ⟨d, rfl⟩ := Nat.exists_eq_add_of_le h1
  rw [← T_add, Int.emod_sub_emod, show T b r + (d : Int) - T b r = d by omega,
    Int.emod_eq_of_lt (by omega) (by omega), Int.toNat_natCast, Nat.add_sub_cancel_left]

theorem T_inj {b : Int} {i j : Nat} (hi : i < 4294967296) (hj : j < 4294967296) (h : T b i = T b j) : i = j :=
  Int.ofNat_inj.1 (Serial.inj32 b (by omega) h)

theorem T_inj_half {b : Int} {i j : Nat} (hi : i < 2147483648) (hj : j < 2147483648) (h : T b i = T b j) : i = j :=
  T_inj (Nat.lt_trans hi (by decide)) (Nat.lt_trans hj (by decide)) h

theorem gt_T (b : Int) (i j : Nat) (hi : i < 2147483648) (hj : j < 2147483648) :
    uint32_gt (T b i) (T b j) = decide (j < i) :=
  (Serial.gt32 b (i := i) (j := j) (by omega)).trans (by simp only [Int.ofNat_lt])

theorem gte_T (b : Int) (i j : Nat) (hi : i < 2147483648) (hj : j < 2147483648) :
    uint32_gte (T b i) (T b j) = decide (j ≤ i) :=
  (Serial.gte32 b (i := i) (j := j) (by omega)).trans (by simp only [Int.ofNat_le])

theorem gte_T_of {b : Int} {i j : Nat} (hi : i < 2147483648) (h : j ≤ i) : uint32_gte (T b i) (T b j) = true := by
  rw [gte_T b i j hi (Nat.lt_of_le_of_lt h hi)]; exact decide_eq_true h

theorem not_gt_T_of {b : Int} {i j : Nat} (hj : j < 2147483648) (h : i ≤ j) : uint32_gt (T b i) (T b j) = false := by
  rw [gt_T b i j (Nat.lt_of_le_of_lt h hj) hj]; exact decide_eq_false (Nat.not_lt.mpr h)

/-- Stream sequence number of the `m`-th ordered message of a stream. -/
def ssnOf (m : Nat) : Int := ((m : Int)) % 65536

theorem uint16_add_ssnOf (m : Nat) : uint16_add (ssnOf m) 1 = ssnOf (m + 1) := by
  unfold uint16_add ssnOf; omega

theorem uint16_gt_ssnOf (a b : Nat) (hw : (a : Int) - b < 32768 ∧ (b : Int) - a < 32768) :
    uint16_gt (ssnOf a) (ssnOf b) = decide (b < a) := by
  have := Serial.gt16 0 (i := a) (j := b) (by omega)
  rw [Int.zero_add, Int.zero_add] at this
  exact this.trans (by simp only [Int.ofNat_lt])

theorem ssnOf_inj (a b : Nat) (hw : (a : Int) - b < 65536 ∧ (b : Int) - a < 65536)
    (h : ssnOf a = ssnOf b) : a = b := by
  have := Serial.inj16 0 (i := a) (j := b) (by omega)
  rw [Int.zero_add, Int.zero_add] at this
  exact Int.ofNat_inj.1 (this h)

end Aiortc.Sctp
