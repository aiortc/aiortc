import Aiortc.Model.Sctp.Inbound
import Aiortc.Lemmas.Util.List
/-!
# `InboundStream.pop_messages`: termination and soundness

Every message yielded is the concatenation of a contiguous run of the reassembly queue whose TSNs are
consecutive, which starts with a B (FIRST_FRAG) chunk and ends at its first E (LAST_FRAG) chunk; the
run leaves the queue, the rest is unchanged (`PopStep`).  The loop never hangs (`popMessages_ok`).
-/
namespace Aiortc.Sctp
open Aiortc.Gen

/-- Adjacent chunks have consecutive TSNs and none but the last carries the E flag. -/
def Linked : List RChunk → Prop
  | [] => True
  | [_] => True
  | c :: d :: rest => flagE c.flags = false ∧ d.tsn = tsn_plus_one c.tsn ∧ Linked (d :: rest)

theorem linked_iff : ∀ {l : List RChunk},
    Linked l ↔ List.Adjacent (fun c d => flagE c.flags = false ∧ d.tsn = tsn_plus_one c.tsn) l
  | [] => Iff.rfl
  | [_] => Iff.rfl
  | _ :: d :: r => and_assoc.symm.trans (and_congr_right fun _ => linked_iff (l := d :: r))

theorem Linked.snoc {l : List RChunk} {x c : RChunk} (h : Linked l) (hl : l.getLast? = some x)
    (hx : flagE x.flags = false) (hc : c.tsn = tsn_plus_one x.tsn) : Linked (l ++ [c]) :=
  linked_iff.2 (List.adjacent_append.2 ⟨linked_iff.1 h, trivial, fun x' y hx' hy => by
    cases hl.symm.trans hx'; cases hy; exact ⟨hx, hc⟩⟩)

/-- One `yield` of `pop_messages`; stream and PPID of the message are those of the E chunk. -/
structure PopStep (reasm : List RChunk) (seq : Int) (m : Msg) (reasm' : List RChunk) (seq' : Int) : Prop where
  ex : ∃ (pre run post : List RChunk) (hd lst : RChunk),
    reasm = pre ++ run ++ post ∧ reasm' = pre ++ post ∧ run.head? = some hd ∧ run.getLast? = some lst
    ∧ flagB hd.flags = true ∧ Linked run ∧ flagE lst.flags = true
    ∧ (flagU hd.flags = false → uint16_gt hd.ssn seq = false)
    ∧ m = { sid := lst.sid, ppid := lst.ppid, data := run.flatMap (·.data) }
    ∧ seq' = if (!flagU hd.flags && decide (lst.ssn = seq)) = true then uint16_add seq 1 else seq

inductive PopSteps : List RChunk → Int → List Msg → List RChunk → Int → Prop
  | nil (r : List RChunk) (s : Int) : PopSteps r s [] r s
  | cons {r s m r1 s1 ms r2 s2} : PopStep r s m r1 s1 → PopSteps r1 s1 ms r2 s2 → PopSteps r s (m :: ms) r2 s2

structure LoopInv (st : PopSt) : Prop where
  pos_le : st.pos ≤ st.reasm.length
  run : ∀ sp, st.start = some sp → sp < st.pos ∧
    ∃ hd x, st.reasm[sp]? = some hd ∧ flagB hd.flags = true ∧ st.ordered = !flagU hd.flags
      ∧ (st.ordered = true → uint16_gt hd.ssn st.seq = false)
      ∧ Linked ((st.reasm.take st.pos).drop sp)
      ∧ ((st.reasm.take st.pos).drop sp).getLast? = some x
      ∧ flagE x.flags = false ∧ st.expected = tsn_plus_one x.tsn

/-- The delivery branch of `popTail`. -/
theorem deliver_step (st : PopSt) (chunk hd : RChunk) (sp : Nat) (o : Bool)
    (hpos : st.reasm[st.pos]? = some chunk) (hsp : sp ≤ st.pos)
    (hhd : st.reasm[sp]? = some hd) (hB : flagB hd.flags = true) (ho : o = !flagU hd.flags)
    (hss : o = true → uint16_gt hd.ssn st.seq = false)
    (hlink : Linked ((st.reasm.take (st.pos + 1)).drop sp)) (hE : flagE chunk.flags = true) :
    PopStep st.reasm st.seq
      { sid := chunk.sid, ppid := chunk.ppid, data := ((st.reasm.take (st.pos + 1)).drop sp).flatMap (·.data) }
      (st.reasm.take sp ++ st.reasm.drop (st.pos + 1))
      (if (o && decide (chunk.ssn = st.seq)) = true then uint16_add st.seq 1 else st.seq) := by
  have hlen := (List.getElem?_eq_some_iff.1 hpos).1
  refine ⟨st.reasm.take sp, (st.reasm.take (st.pos + 1)).drop sp, st.reasm.drop (st.pos + 1), hd, chunk,
    List.split_at_run _ _ _ hsp, rfl, ?_, ?_, hB, hlink, hE, ?_, rfl, ?_⟩
  · rw [List.head?_drop, List.getElem?_take]
    simp only [show sp < st.pos + 1 by omega, if_true]; exact hhd
  · rw [List.take_succ_drop _ _ _ _ hpos hsp]; simp
  · intro hu; apply hss; rw [ho, hu]; rfl
  · rw [ho]

/-- What one loop iteration does: the invariant is kept, the measure `2·|reasm| - pos` decreases (a delivery of `r` chunks lowers
`2·|reasm|` by `2r` and moves `pos` back by less than `r`; hence the fuel `2·len + 2` of the model), and either nothing is yielded
and the queue is unchanged or one `PopStep` happened. -/
def IterOk (st st1 : PopSt) : Prop :=
  LoopInv st1 ∧ 2 * st1.reasm.length + st.pos + 1 ≤ 2 * st.reasm.length + st1.pos ∧
    ((st1.out = st.out ∧ st1.reasm = st.reasm ∧ st1.seq = st.seq) ∨
     (∃ m, st1.out = st.out ++ [m] ∧ PopStep st.reasm st.seq m st1.reasm st1.seq))

/-- An iteration that only moves on (`continue`), dropping the run in progress if there is one. -/
theorem IterOk.skip (st : PopSt) (o : Bool) (s : Option Nat) (hs : s = none) (hlt : st.pos < st.reasm.length) :
    IterOk st { st with ordered := o, start := s, pos := st.pos + 1 } :=
  ⟨⟨hlt, fun sp hsp => by cases hs.symm.trans hsp⟩, by simp only []; omega, Or.inl ⟨rfl, rfl, rfl⟩⟩

/-- The second half of the loop body: the chunk at `pos` continues (or, when `sp = pos`, starts) the run that
begins at `sp` with the B chunk `hd`. -/
theorem popTail_step (st : PopSt) (chunk hd : RChunk) (sp : Nat)
    (hpos : st.reasm[st.pos]? = some chunk) (hsp : sp ≤ st.pos) (hstart : st.start = some sp)
    (hhd : st.reasm[sp]? = some hd) (hB : flagB hd.flags = true) (ho : st.ordered = !flagU hd.flags)
    (hss : st.ordered = true → uint16_gt hd.ssn st.seq = false)
    (hlink : Linked ((st.reasm.take (st.pos + 1)).drop sp)) (hexp : st.expected = chunk.tsn) :
    IterOk st (popTail st chunk sp) := by
  have hlen := (List.getElem?_eq_some_iff.1 hpos).1
  unfold popTail
  by_cases hE : flagE chunk.flags = true
  · rw [if_pos hE]
    refine ⟨⟨?_, fun sp' hsp' => by cases hsp'⟩, ?_,
      Or.inr ⟨_, rfl, deliver_step st chunk hd sp st.ordered hpos hsp hhd hB ho hss hlink hE⟩⟩
    · simp only [List.length_append, List.length_take, List.length_drop]; omega
    · simp only [List.length_append, List.length_take, List.length_drop]; omega
  · rw [if_neg hE]
    refine ⟨⟨hlen, ?_⟩, by simp only []; omega, Or.inl ⟨rfl, rfl, rfl⟩⟩
    intro sp' hsp'
    cases hstart.symm.trans hsp'
    refine ⟨Nat.lt_succ_of_le hsp, hd, chunk, hhd, hB, ho, hss, hlink, ?_, by simpa using hE, by simp only [hexp]⟩
    simp only []; rw [List.take_succ_drop _ _ _ _ hpos hsp]; simp

theorem popIter_step (st st1 : PopSt) (hinv : LoopInv st) (h : popIter st = some st1) : IterOk st st1 := by
  unfold popIter at h
  split at h
  · cases h
  · rename_i chunk hchunk
    have hlen := (List.getElem?_eq_some_iff.1 hchunk).1
    split at h
    · -- no run in progress
      rename_i hstart
      dsimp only at h
      split at h
      · split at h
        · cases h
        · cases h; exact IterOk.skip st _ _ hstart hlen
      · rename_i hB
        split at h
        · cases h
        · rename_i hss
          cases h
          exact popTail_step { st with ordered := !flagU chunk.flags, expected := chunk.tsn, start := some st.pos }
            chunk chunk st.pos hchunk (Nat.le_refl _) rfl hchunk (by simpa using hB) rfl
            (fun ho => by
              have ho' : (!flagU chunk.flags) = true := ho
              simpa [ho'] using hss)
            (by rw [List.take_succ_drop _ _ _ _ hchunk (Nat.le_refl _)]; simp [Linked]) rfl
    · rename_i sp hstart
      obtain ⟨hsplt, hd, x, hhd, hB, hord, hss, hlink, hlast, hxE, hexp⟩ := hinv.run sp hstart
      split at h
      · split at h
        · cases h
        · cases h; exact IterOk.skip st _ _ rfl hlen
      · rename_i htsn
        have htsn' : chunk.tsn = st.expected := by simpa using htsn
        cases h
        refine popTail_step st chunk hd sp hchunk (Nat.le_of_lt hsplt) hstart hhd hB hord hss ?_ htsn'.symm
        rw [List.take_succ_drop _ _ _ _ hchunk (Nat.le_of_lt hsplt)]
        exact hlink.snoc hlast hxE (by rw [htsn', hexp])

theorem popRun_sound : ∀ (fuel : Nat) (st st' : PopSt), LoopInv st → popRun fuel st = some st' →
    ∃ ms, st'.out = st.out ++ ms ∧ PopSteps st.reasm st.seq ms st'.reasm st'.seq := by
  intro fuel
  induction fuel with
  | zero => intro st st' _ h; simp [popRun] at h
  | succ f ih =>
    intro st st' hinv h
    unfold popRun at h
    split at h
    · cases h; exact ⟨[], by simp, PopSteps.nil _ _⟩
    · rename_i st1 hit
      obtain ⟨hinv1, _, hcase⟩ := popIter_step st st1 hinv hit
      obtain ⟨ms, hout, hsteps⟩ := ih st1 st' hinv1 h
      rcases hcase with ⟨ho, hr, hs⟩ | ⟨m, ho, hstep⟩
      · exact ⟨ms, by rw [hout, ho], by rw [← hr, ← hs]; exact hsteps⟩
      · exact ⟨m :: ms, by rw [hout, ho]; simp, PopSteps.cons hstep hsteps⟩

theorem popRun_total : ∀ (fuel : Nat) (st : PopSt), LoopInv st →
    2 * st.reasm.length + 1 ≤ fuel + st.pos → ∃ st', popRun fuel st = some st' := by
  intro fuel
  induction fuel with
  | zero => intro st hinv h; have := hinv.pos_le; omega
  | succ f ih =>
    intro st hinv h
    unfold popRun
    split
    · exact ⟨st, rfl⟩
    · rename_i st1 hit
      obtain ⟨hinv1, hdec, _⟩ := popIter_step st st1 hinv hit
      exact ih st1 hinv1 (by omega)

theorem popMessages_ok (s : InStream) :
    ∃ out s', s.popMessages = .ok (out, s') ∧ PopSteps s.reasm s.seq out s'.reasm s'.seq := by
  have hinv : LoopInv { reasm := s.reasm, seq := s.seq, pos := 0, start := none, expected := 0,
                        ordered := true, out := [] } :=
    ⟨by simp, by intro sp h; simp at h⟩
  obtain ⟨st', hrun⟩ := popRun_total (2 * s.reasm.length + 2) _ hinv (by simp)
  obtain ⟨ms, hout, hsteps⟩ := popRun_sound _ _ st' hinv hrun
  refine ⟨st'.out, { reasm := st'.reasm, seq := st'.seq }, ?_, ?_⟩
  · unfold InStream.popMessages; simp only []; rw [hrun]
  · simp only [List.nil_append] at hout; rw [hout]; exact hsteps

end Aiortc.Sctp
