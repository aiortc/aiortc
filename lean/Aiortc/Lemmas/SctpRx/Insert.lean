import Aiortc.Lemmas.SctpRx.Sorted
/-!
# `InboundStream.add_chunk`, whatever the TSNs

`insertLoop_some` / `addChunk_cases`: the new chunk goes to ONE place of the queue (before the first queued chunk serially
above it), or the queue stays as it is; the only failure is a queued chunk with the same TSN (`insertLoop_none`).  From there:
* nothing but the new chunk enters the queue (`addChunk_mem`);
* when the TSN is not queued yet: no `AssertionError`, duplicate-freeness is kept (`addChunk_spec`).
-/
namespace Aiortc.Sctp
open Aiortc.Gen

theorem insertLoop_some {c : RChunk} {l r : List RChunk} (h : insertLoop c l = some r) :
    ∃ pre post, l = pre ++ post ∧ (∀ x ∈ pre, x.tsn ≠ c.tsn ∧ uint32_gt x.tsn c.tsn = false)
      ∧ ((∃ y ys, post = y :: ys ∧ y.tsn ≠ c.tsn ∧ uint32_gt y.tsn c.tsn = true ∧ r = pre ++ c :: post)
         ∨ (post = [] ∧ r = l)) := by
  induction l generalizing r with
  | nil => cases h; exact ⟨[], [], rfl, by simp, Or.inr ⟨rfl, rfl⟩⟩
  | cons x xs ih =>
    simp only [insertLoop] at h
    split at h
    · cases h
    · rename_i hne
      split at h
      · rename_i hgt
        cases h
        exact ⟨[], x :: xs, rfl, by simp, Or.inl ⟨x, xs, rfl, hne, hgt, rfl⟩⟩
      · rename_i hgt
        cases h' : insertLoop c xs with
        | none => simp [h'] at h
        | some r' =>
          simp only [h', Option.map_some, Option.some.injEq] at h; subst h
          obtain ⟨pre, post, rfl, hpre, hcase⟩ := ih h'
          refine ⟨x :: pre, post, rfl, ?_, ?_⟩
          · intro y hy
            rcases List.mem_cons.mp hy with rfl | hy
            · exact ⟨hne, by simpa using hgt⟩
            · exact hpre y hy
          · rcases hcase with ⟨y, ys, e1, e2, e3, e4⟩ | ⟨e1, e2⟩
            · exact Or.inl ⟨y, ys, e1, e2, e3, by rw [e4]; rfl⟩
            · exact Or.inr ⟨e1, by rw [e2]⟩

theorem insertLoop_none {c : RChunk} {l : List RChunk} (h : insertLoop c l = none) : ∃ x ∈ l, x.tsn = c.tsn := by
  induction l with
  | nil => cases h
  | cons x xs ih =>
    simp only [insertLoop] at h
    split at h
    · exact ⟨x, List.mem_cons_self, ‹_›⟩
    · split at h
      · cases h
      · obtain ⟨y, hy, e⟩ := ih (by simpa using h)
        exact ⟨y, List.mem_cons_of_mem _ hy, e⟩

theorem insertLoop_mem {c : RChunk} {l r : List RChunk} (h : insertLoop c l = some r) :
    ∀ x ∈ r, x = c ∨ x ∈ l := by
  obtain ⟨pre, post, rfl, _, ⟨_, _, _, _, _, rfl⟩ | ⟨_, rfl⟩⟩ := insertLoop_some h
  · exact fun x hx => (List.mem_append_cons_iff x c pre post).1 hx
  · exact fun x hx => Or.inr hx

/-- where `add_chunk` puts `c` into the queue `pre ++ post`: at the end, serially above the last queued chunk; or before
`post`, whose head is the first queued chunk serially above `c` -/
def InsertAt (c : RChunk) (pre post : List RChunk) : Prop :=
  (post = [] ∧ ∀ l, pre.getLast? = some l → uint32_gt c.tsn l.tsn = true)
  ∨ ((∀ x ∈ pre, uint32_gt x.tsn c.tsn = false) ∧ ∃ y ys, post = y :: ys ∧ uint32_gt y.tsn c.tsn = true)

/-- `add_chunk`: it raises only on a queued chunk with `c`'s TSN; otherwise the queue gains `c` at one place, or — no queued
chunk is serially above `c` and `c` is not above the last one — stays as it is -/
theorem addChunk_cases (s : InStream) (c : RChunk) :
    (s.addChunk c = .crash "AssertionError" ∧ ∃ x ∈ s.reasm, x.tsn = c.tsn) ∨
    ∃ s', s.addChunk c = .ok s' ∧ s'.seq = s.seq
      ∧ ∃ pre post, s.reasm = pre ++ post
        ∧ ((s'.reasm = pre ++ c :: post ∧ InsertAt c pre post)
           ∨ (s'.reasm = s.reasm ∧ (∀ x ∈ s.reasm, uint32_gt x.tsn c.tsn = false)
              ∧ ∃ l, s.reasm.getLast? = some l ∧ uint32_gt c.tsn l.tsn = false)) := by
  unfold InStream.addChunk
  split
  · rename_i hn
    exact Or.inr ⟨_, rfl, rfl, [], [], by simpa using hn, Or.inl ⟨rfl, Or.inl ⟨rfl, nofun⟩⟩⟩
  · rename_i l hl
    split
    · rename_i hgt
      exact Or.inr ⟨_, rfl, rfl, s.reasm, [], by simp, Or.inl ⟨rfl, Or.inl ⟨rfl, fun l' hl' => by
        cases hl.symm.trans hl'; exact hgt⟩⟩⟩
    · rename_i hgt
      split
      · rename_i hr
        exact Or.inl ⟨rfl, insertLoop_none hr⟩
      · rename_i r hr
        obtain ⟨pre, post, e, hpre, hcase⟩ := insertLoop_some hr
        refine Or.inr ⟨_, rfl, rfl, pre, post, e, ?_⟩
        rcases hcase with ⟨y, ys, e1, _, e3, e4⟩ | ⟨e1, e2⟩
        · exact Or.inl ⟨e4, Or.inr ⟨fun x hx => (hpre x hx).2, y, ys, e1, e3⟩⟩
        · refine Or.inr ⟨e2, fun x hx => ?_, l, hl, by simpa using hgt⟩
          rw [e, e1, List.append_nil] at hx
          exact (hpre x hx).2

theorem addChunk_ok {s s' : InStream} {c : RChunk} (h : s.addChunk c = .ok s') :
    s'.seq = s.seq ∧ ∃ pre post, s.reasm = pre ++ post ∧ (s'.reasm = pre ++ c :: post ∨ s'.reasm = s.reasm) := by
  rcases addChunk_cases s c with ⟨e, _⟩ | ⟨s1, e, hseq, pre, post, hsplit, hcase⟩ <;> rw [e] at h <;> cases h
  exact ⟨hseq, pre, post, hsplit, hcase.imp And.left And.left⟩

theorem addChunk_mem {s s' : InStream} {c : RChunk} (h : s.addChunk c = .ok s') :
    (∀ x ∈ s'.reasm, x = c ∨ x ∈ s.reasm) ∧ s'.seq = s.seq := by
  obtain ⟨hseq, pre, post, e, e' | e'⟩ := addChunk_ok h <;> rw [e', e] <;> refine ⟨fun x hx => ?_, hseq⟩
  · exact (List.mem_append_cons_iff x c pre post).1 hx
  · exact Or.inr hx

theorem addChunk_spec (s : InStream) (c : RChunk) (h : ∀ r ∈ s.reasm, r.tsn ≠ c.tsn) :
    ∃ s1, s.addChunk c = .ok s1 ∧ s1.seq = s.seq ∧ (∀ x, x ∈ s1.reasm → x = c ∨ x ∈ s.reasm)
      ∧ (s.reasm.Nodup → c ∉ s.reasm → s1.reasm.Nodup) := by
  rcases addChunk_cases s c with ⟨_, x, hx, e⟩ | ⟨s1, h1, hseq, pre, post, e, e'⟩
  · exact absurd e (h x hx)
  · refine ⟨s1, h1, hseq, (addChunk_mem h1).1, fun hnd hc => ?_⟩
    rcases e' with ⟨e', _⟩ | ⟨e', _⟩ <;> rw [e']
    · rw [e] at hnd hc; exact List.nodup_insert_mid hnd hc
    · exact hnd

end Aiortc.Sctp
