import Aiortc.Lemmas.SctpRx.Sorted
import Aiortc.Lemmas.SctpRx.Tsn
/-!
# Where the consolidation walk stops

On a duplicate-free list `L` of 32-bit values without the base, `sortByKey b L` is sorted by distance from `b`
(`sortByKey_sorted_of_nodup`) and `consolidate b (sortByKey b L)` is `b + n` where `b+1 … b+n` are in `L` and `b+n+1` is not
(`consolidate_sort_spec`).  `absorb_idx` is the same for TSNs given by indices from an origin, inside a sliding window of
2^31: this is the form in which `_mark_received` and `_receive_forward_tsn_chunk` are analysed.
-/
namespace Aiortc.Sctp
open Aiortc.Gen

theorem sortByKey_sorted_of_nodup (b : Int) (l : List Int) (h32 : ∀ x ∈ l, R32 x) (hnd : l.Nodup) :
    KeySorted b (sortByKey b l) :=
  sortByKey_sorted b l (hnd.imp_of_mem fun hx hy hne h => hne (serialKey_inj (h32 _ hx) (h32 _ hy) h))

/-- The walk from `a` through a list sorted by distance from `b`, all of it ahead of `a`: it goes exactly through the
gap-free run `a+1 … a+n` of `S`. The keys bound `n`, so `a + n` does not wrap past `b`. -/
theorem consolidate_walk (b : Int) : ∀ (S : List Int) (a : Int), R32 a → KeySorted b S →
    (∀ x ∈ S, R32 x ∧ serialKey b a < serialKey b x) →
    ∃ n : Nat, n ≤ S.length ∧ serialKey b a + n < 4294967296
      ∧ consolidate a S = (a + (n : Int)) % 4294967296
      ∧ (∀ i : Nat, 1 ≤ i → i ≤ n → (a + (i : Int)) % 4294967296 ∈ S)
      ∧ (a + ((n + 1 : Nat) : Int)) % 4294967296 ∉ S := by
  intro S
  induction S with
  | nil =>
    intro a ha _ _
    have := serialKey_range b a
    exact ⟨0, Nat.le_refl _, by omega, by unfold R32 at ha; simp only [consolidate]; omega,
      fun i h1 h2 => by omega, by simp⟩
  | cons t ts ih =>
    intro a ha hs hx
    obtain ⟨hlt, hts⟩ := List.pairwise_cons.mp hs
    have ht := hx t (by simp)
    have hka := serialKey_range b a
    have hkt := serialKey_range b t
    unfold consolidate
    split
    · rename_i heq
      have hkey : serialKey b t = serialKey b a + 1 := by
        have := serialKey_succ b a; rw [← heq] at this; omega
      obtain ⟨n, h1, h2, h3, h4, h5⟩ := ih t ht.1 hts (fun x hxm => ⟨(hx x (by simp [hxm])).1, hlt x hxm⟩)
      have hstep : ∀ j : Nat, (t + (j : Int)) % 4294967296 = (a + ((j + 1 : Nat) : Int)) % 4294967296 := by
        intro j; rw [heq]; unfold tsn_plus_one; rw [Int.emod_add_emod]; congr 1; omega
      refine ⟨n + 1, by simp only [List.length_cons]; omega, by omega, by rw [h3, hstep], ?_, ?_⟩
      · intro i hi1 hi2
        rcases Nat.eq_or_lt_of_le hi1 with e | e
        · subst e; exact List.mem_cons.mpr (Or.inl (heq ▸ rfl))
        · have := h4 (i - 1) (by omega) (by omega)
          rw [hstep, show i - 1 + 1 = i by omega] at this
          exact List.mem_cons_of_mem _ this
      · intro hmem
        rcases List.mem_cons.mp hmem with e | e
        · rw [heq] at e; unfold tsn_plus_one at e; unfold R32 at ha; omega
        · exact h5 (by rwa [hstep])
    · rename_i hne
      refine ⟨0, Nat.zero_le _, by omega, by unfold R32 at ha; omega, fun i h1 h2 => by omega, ?_⟩
      intro hmem
      have e : (a + ((0 + 1 : Nat) : Int)) % 4294967296 = tsn_plus_one a := rfl
      rw [e] at hmem
      rcases List.mem_cons.mp hmem with e | e
      · exact hne e.symm
      · have := hlt _ e
        rw [serialKey_succ] at this
        omega

theorem consolidate_sort_spec {b : Int} {L : List Int} (hb : R32 b) (hL : ∀ x ∈ L, R32 x ∧ x ≠ b) (hnd : L.Nodup) :
    ∃ n : Nat, n ≤ L.length ∧ n < 4294967296
      ∧ consolidate b (sortByKey b L) = (b + (n : Int)) % 4294967296
      ∧ (∀ i : Nat, 1 ≤ i → i ≤ n → (b + (i : Int)) % 4294967296 ∈ L)
      ∧ (b + ((n + 1 : Nat) : Int)) % 4294967296 ∉ L := by
  have hmem := fun x => mem_sortByKey b x L
  obtain ⟨n, h1, h2, h3, h4, h5⟩ := consolidate_walk b (sortByKey b L) b hb
    (sortByKey_sorted_of_nodup b L (fun x hx => (hL x hx).1) hnd)
    (fun x hx => ⟨(hL x ((hmem x).mp hx)).1,
      serialKey_self b ▸ serialKey_pos hb (hL x ((hmem x).mp hx)).1 (hL x ((hmem x).mp hx)).2⟩)
  rw [serialKey_self] at h2
  exact ⟨n, length_sortByKey b L ▸ h1, by omega, h3, fun i hi1 hi2 => (hmem _).mp (h4 i hi1 hi2),
    fun h => h5 ((hmem _).mpr h)⟩

/-! ## TSNs given by indices from an origin -/

/-- What `Rx.absorb` from the TSN with index `c` does to a list `L` of TSNs with indices in `(c, hi]`: the cumulative index
moves to `r`, everything up to `r` was in `L`, `r + 1` was not, what is above `r` stays (`mis` is `mis_eq` read through the
hypothesis on `L`). -/
structure AbsorbIdx (b0 : Int) (L : List Int) (c hi r : Nat) (rx : Rx) : Prop where
  ge : c ≤ r
  le : r ≤ hi
  last : rx.last = T b0 r
  mis_eq : rx.mis = L.filter fun x => uint32_gt x (T b0 r)
  mis : ∀ x ∈ rx.mis, ∃ j, r < j ∧ j ≤ hi ∧ x = T b0 j
  below : ∀ j, c < j → j ≤ r → T b0 j ∈ L
  next : T b0 (r + 1) ∉ L

theorem absorb_idx (b0 : Int) {L : List Int} {c hi : Nat} (dups : List Int) (hc : c ≤ hi) (hhi : hi < c + 2147483648)
    (hL : ∀ x ∈ L, ∃ j, c < j ∧ j ≤ hi ∧ x = T b0 j) (hnd : L.Nodup) :
    ∃ r, AbsorbIdx b0 L c hi r (Rx.absorb (T b0 c) L dups) := by
  -- inside a sliding window the absolute bounds of the `T` lemmas do not apply: `T b k` is `tsnOf b k`
  have hinj : ∀ i j : Nat, (i : Int) - j < 4294967296 → (j : Int) - i < 4294967296 → T b0 i = T b0 j → i = j :=
    fun i j h1 h2 e => Int.ofNat_inj.1 (tsnOf_inj b0 i j (by omega) e)
  have hL' : ∀ x ∈ L, R32 x ∧ x ≠ T b0 c := fun x hx => by
    obtain ⟨j, j1, j2, rfl⟩ := hL x hx
    exact ⟨T_r32 b0 j, fun e => by have := hinj j c (by omega) (by omega) e; omega⟩
  obtain ⟨n, _, hn32, h3, h4, h5⟩ := consolidate_sort_spec (T_r32 b0 c) hL' hnd
  simp only [T_add] at h3 h4 h5
  -- the walk ends on an element of `L` (or does not move), so it stays below `hi`
  have hn : c + n ≤ hi := by
    rcases Nat.eq_zero_or_pos n with e | e
    · omega
    · obtain ⟨j, j1, j2, j3⟩ := hL _ (h4 n e (Nat.le_refl _))
      have := hinj (c + n) j (by omega) (by omega) j3
      omega
  have hlast : (Rx.absorb (T b0 c) L dups).last = T b0 (c + n) := h3
  have hmis : (Rx.absorb (T b0 c) L dups).mis = L.filter fun x => uint32_gt x (T b0 (c + n)) := by
    rw [← hlast]; rfl
  refine ⟨c + n, by omega, hn, hlast, hmis, fun x hx => ?_, fun j j1 j2 => ?_, h5⟩
  · rw [hmis, List.mem_filter] at hx
    obtain ⟨j, j1, j2, rfl⟩ := hL x hx.1
    have hgt : uint32_gt (tsnOf b0 j) (tsnOf b0 ((c + n : Nat) : Int)) = true := hx.2
    rw [uint32_gt_tsnOf b0 _ _ (by omega), decide_eq_true_eq] at hgt
    exact ⟨j, by omega, j2, rfl⟩
  · have := h4 (j - c) (by omega) (by omega)
    rwa [show c + (j - c) = j by omega] at this

end Aiortc.Sctp
