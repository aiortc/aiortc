import Aiortc.Model.Sctp.Forward
import Aiortc.Lemmas.Util.List
/-!
# The sorted misordered set, and `Rx.absorb`: what `_mark_received` and `_receive_forward_tsn_chunk` share

What `sortByKey` contains and when it is sorted by distance from the base (`KeySorted`); what the walk `consolidate` returns.
`Rx.absorb b L dups`: walk from the base `b` through the serially sorted `L`, keep what is still ahead of where the walk
stopped.  `_mark_received` on a new TSN and `fwdRx` are instances by `rfl` (`markReceived_eq`, `fwdRx_eq`); every analysis of the
receiver's TSN bookkeeping starts from these two.
-/
namespace Aiortc.Sctp
open Aiortc.Gen

theorem mem_insertByKey (b t x : Int) (l : List Int) : x ∈ insertByKey b t l ↔ x = t ∨ x ∈ l := by
  induction l with
  | nil => simp [insertByKey]
  | cons y ys ih =>
    unfold insertByKey
    split
    · simp
    · rw [List.mem_cons, ih, List.mem_cons, or_left_comm]

theorem mem_sortByKey (b x : Int) (l : List Int) : x ∈ sortByKey b l ↔ x ∈ l := by
  induction l with
  | nil => simp [sortByKey]
  | cons y ys ih =>
    have : sortByKey b (y :: ys) = insertByKey b y (sortByKey b ys) := rfl
    rw [this, mem_insertByKey, ih, List.mem_cons]

/-- strictly increasing distance from `b`: the order of `_sack_misordered_sorted` -/
def KeySorted (b : Int) (l : List Int) : Prop := l.Pairwise (fun x y => serialKey b x < serialKey b y)

theorem insertByKey_sorted (b t : Int) (l : List Int) (hs : KeySorted b l)
    (hne : ∀ x ∈ l, serialKey b x ≠ serialKey b t) : KeySorted b (insertByKey b t l) := by
  induction l with
  | nil => simp [insertByKey, KeySorted]
  | cons y ys ih =>
    unfold insertByKey
    have hs' : KeySorted b ys := (List.pairwise_cons.mp hs).2
    have hy := (List.pairwise_cons.mp hs).1
    split
    · rename_i hlt
      refine List.pairwise_cons.mpr ⟨?_, hs⟩
      intro x hx
      simp only [List.mem_cons] at hx
      rcases hx with rfl | hx
      · exact hlt
      · exact Int.lt_trans hlt (hy x hx)
    · rename_i hlt
      refine List.pairwise_cons.mpr ⟨?_, ih hs' (fun x hx => hne x (by simp [hx]))⟩
      intro x hx
      rw [mem_insertByKey] at hx
      rcases hx with rfl | hx
      · have := hne y (by simp); omega
      · exact hy x hx

theorem sortByKey_sorted (b : Int) (l : List Int) (hd : l.Pairwise (fun x y => serialKey b x ≠ serialKey b y)) :
    KeySorted b (sortByKey b l) := by
  induction l with
  | nil => simp [sortByKey, KeySorted]
  | cons y ys ih =>
    have : sortByKey b (y :: ys) = insertByKey b y (sortByKey b ys) := rfl
    rw [this]
    have h1 := (List.pairwise_cons.mp hd).1
    refine insertByKey_sorted b y _ (ih (List.pairwise_cons.mp hd).2) ?_
    intro x hx
    rw [mem_sortByKey] at hx
    exact fun h => h1 x hx h.symm

theorem length_insertByKey (b t : Int) (l : List Int) : (insertByKey b t l).length = l.length + 1 := by
  induction l with
  | nil => rfl
  | cons y ys ih => unfold insertByKey; split <;> simp [ih]

theorem length_sortByKey (b : Int) (l : List Int) : (sortByKey b l).length = l.length := by
  induction l with
  | nil => rfl
  | cons y ys ih => exact (length_insertByKey b y _).trans (congrArg (· + 1) ih)

theorem consolidate_mem : ∀ (S : List Int) (a : Int), consolidate a S = a ∨ consolidate a S ∈ S := by
  intro S
  induction S with
  | nil => intro a; left; rfl
  | cons u us ih =>
    intro a
    unfold consolidate
    split
    · rcases ih u with h | h
      · right; rw [h]; simp
      · right; simp [h]
    · left; rfl

/-- The receiver state after the cumulative TSN has been moved to `b` and `L` is what is known beyond it: `last` is where the walk
`b+1, b+2, …` through `L` stops, `mis`/`dups` keep what is serially above the new `last`.  `_mark_received(tsn)` is
`absorb r.last (r.mis ++ [tsn]) r.dups`, a FORWARD TSN is `absorb cum (mis above cum) dups`. -/
def Rx.absorb (b : Int) (L dups : List Int) : Rx :=
  let last := consolidate b (sortByKey b L)
  { last := last, mis := L.filter fun x => uint32_gt x last, dups := dups.filter fun x => uint32_gt x last }

theorem absorb_last (b : Int) (L dups : List Int) : (Rx.absorb b L dups).last = consolidate b (sortByKey b L) := rfl

theorem absorb_last_mem (b : Int) (L dups : List Int) : (Rx.absorb b L dups).last = b ∨ (Rx.absorb b L dups).last ∈ L :=
  (consolidate_mem (sortByKey b L) b).imp_right fun h => (mem_sortByKey _ _ _).1 h

theorem mem_absorb_mis {b : Int} {L dups : List Int} {x : Int} :
    x ∈ (Rx.absorb b L dups).mis ↔ x ∈ L ∧ uint32_gt x (Rx.absorb b L dups).last = true := List.mem_filter

theorem mem_absorb_dups {b : Int} {L dups : List Int} {x : Int} :
    x ∈ (Rx.absorb b L dups).dups ↔ x ∈ dups ∧ uint32_gt x (Rx.absorb b L dups).last = true := List.mem_filter

theorem markReceived_eq (r : Rx) (tsn : Int) :
    markReceived r tsn =
      if uint32_gte r.last tsn || r.mis.contains tsn then (true, { r with dups := r.dups ++ [tsn] })
      else (false, Rx.absorb r.last (r.mis ++ [tsn]) r.dups) := rfl

theorem fwdRx_eq (rx : Rx) (cum : Int) :
    fwdRx rx cum = Rx.absorb cum (rx.mis.filter fun x => uint32_gt x cum) rx.dups := rfl

theorem absorb_keeps (P : Int → Prop) {b : Int} {L dups : List Int} (hb : P b) (hL : ∀ x ∈ L, P x)
    (hd : ∀ x ∈ dups, P x) :
    P (Rx.absorb b L dups).last ∧ (∀ x ∈ (Rx.absorb b L dups).mis, P x) ∧ (∀ x ∈ (Rx.absorb b L dups).dups, P x) :=
  ⟨(absorb_last_mem b L dups).elim (fun e => e.symm ▸ hb) (hL _), fun x hx => hL x (mem_absorb_mis.1 hx).1,
    fun x hx => hd x (mem_absorb_dups.1 hx).1⟩

def Rx.All (P : Int → Prop) (r : Rx) : Prop := P r.last ∧ (∀ x ∈ r.mis, P x) ∧ (∀ x ∈ r.dups, P x)

theorem markReceived_all {P : Int → Prop} {r : Rx} {tsn : Int} (hr : r.All P) (ht : P tsn) :
    (markReceived r tsn).2.All P := by
  rw [markReceived_eq]
  split
  · exact ⟨hr.1, hr.2.1, List.forall_mem_snoc hr.2.2 ht⟩
  · exact absorb_keeps P hr.1 (List.forall_mem_snoc hr.2.1 ht) hr.2.2

end Aiortc.Sctp
