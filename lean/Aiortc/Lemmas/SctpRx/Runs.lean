import Aiortc.Lemmas.Util.List
import Aiortc.Model.Sctp.Inbound
/-!
# Runs of a reassembly queue and what `prune_chunks` does to them

`runsOf l` cuts a reassembly queue into the maximal runs of fragments that `prune_chunks` treats as
belonging together (`joins`: the previous fragment is not an E fragment, the next one is not a B
fragment and carries the next TSN; `Chained` is `Linked` of `Pop.lean` plus "no B inside").  `pruneGo_eq` shows that the fuelled loop model of
`prune_chunks` keeps exactly the runs that are not `runDead`, in order, and frees exactly the bytes of
the dead ones.
-/
namespace Aiortc.Sctp
open Aiortc.Gen

/-- `d` continues the run whose last fragment so far is `c` (the test of the inner `while`). -/
def joins (c d : RChunk) : Bool :=
  !flagE c.flags && !flagB d.flags && decide (d.tsn = tsn_plus_one c.tsn)

def Chained : RChunk → List RChunk → Prop
  | _, [] => True
  | p, c :: cs => joins p c = true ∧ Chained c cs

theorem takeRun_append (prev : RChunk) (l : List RChunk) :
    (takeRun prev l).1 ++ (takeRun prev l).2 = l := by
  induction l generalizing prev with
  | nil => simp [takeRun]
  | cons c cs ih =>
    unfold takeRun
    split
    · simp only [List.cons_append, ih c]
    · simp

theorem takeRun_chained (prev : RChunk) (l : List RChunk) : Chained prev (takeRun prev l).1 := by
  induction l generalizing prev with
  | nil => simp [takeRun, Chained]
  | cons c cs ih =>
    unfold takeRun
    split
    · rename_i h
      refine ⟨?_, ih c⟩
      simpa [joins] using h
    · simp [Chained]

def runLast (prev : RChunk) (run : List RChunk) : RChunk := (prev :: run).getLast?.getD prev

theorem runLast_nil (p : RChunk) : runLast p [] = p := rfl
theorem runLast_cons (p c : RChunk) (cs : List RChunk) : runLast p (c :: cs) = runLast c cs := by
  simp [runLast, List.getLast?_cons_cons]
  cases h : (c :: cs).getLast? with
  | none => simp at h
  | some x => rfl

theorem takeRun_maximal (prev : RChunk) (l : List RChunk) :
    ∀ d ∈ (takeRun prev l).2.head?, joins (runLast prev (takeRun prev l).1) d = false := by
  induction l generalizing prev with
  | nil => simp [takeRun]
  | cons c cs ih =>
    unfold takeRun
    split
    · simp only [runLast_cons]; exact ih c
    · rename_i h
      intro d hd
      simp only [List.head?_cons, Option.mem_def, Option.some.injEq] at hd
      subst hd
      simp only [runLast_nil]
      simpa [joins] using h

def runsOf : List RChunk → List (List RChunk)
  | [] => []
  | c :: cs => (c :: (takeRun c cs).1) :: runsOf (takeRun c cs).2
termination_by l => l.length
decreasing_by
  have := takeRun_length c cs
  simp only [List.length_cons]; omega

theorem runsOf_flatten (l : List RChunk) : (runsOf l).flatten = l := by
  induction l using runsOf.induct with
  | case1 => simp [runsOf]
  | case2 c cs ih => rw [runsOf, List.flatten_cons, ih]; simp [takeRun_append]

theorem runsOf_ne_nil (l : List RChunk) : ∀ g ∈ runsOf l, g ≠ [] := by
  induction l using runsOf.induct with
  | case1 => simp [runsOf]
  | case2 c cs ih =>
    rw [runsOf]
    intro g hg
    rcases List.mem_cons.1 hg with rfl | hg
    · simp
    · exact ih g hg

theorem runsOf_chained (l : List RChunk) : ∀ g ∈ runsOf l, ∃ c r, g = c :: r ∧ Chained c r := by
  induction l using runsOf.induct with
  | case1 => simp [runsOf]
  | case2 c cs ih =>
    rw [runsOf]
    intro g hg
    rcases List.mem_cons.1 hg with rfl | hg
    · exact ⟨c, _, rfl, takeRun_chained c cs⟩
    · exact ih g hg

/-- `prune_chunks`' verdict on one run (first fragment `first`, last fragment `last`): the run lacks its
beginning and the fragment just before it was skipped, or it lacks its end and the fragment just
after it was skipped. -/
def runDead (tsn : Int) : List RChunk → Bool
  | [] => false
  | first :: run =>
    let last := runLast first run
    (!flagB first.flags && uint32_gte tsn (tsn_minus_one first.tsn))
      || (!flagE last.flags && uint32_gte tsn (tsn_plus_one last.tsn))

def bytesOf (g : List RChunk) : Nat := (g.map (·.data.length)).sum

theorem bytesOf_append (a b : List RChunk) : bytesOf (a ++ b) = bytesOf a + bytesOf b := by
  simp [bytesOf]

theorem pruneGo_eq (tsn : Int) (fuel : Nat) (l : List RChunk) (h : l.length < fuel) :
    pruneGo tsn fuel l =
      (((runsOf l).filter (fun g => !runDead tsn g)).flatten,
       (((runsOf l).filter (runDead tsn)).map bytesOf).sum) := by
  induction fuel generalizing l with
  | zero => omega
  | succ fuel ih =>
    cases l with
    | nil => simp [pruneGo, runsOf]
    | cons first cs =>
      have hl := takeRun_length first cs
      have hrest : (takeRun first cs).2.length < fuel := by simp at h; omega
      rw [runsOf]
      simp only [pruneGo, ih _ hrest, List.filter_cons, runDead, runLast]
      split <;> rename_i hd
      · simp [hd, bytesOf, Nat.add_comm]
      · simp [hd]

theorem pruneChunks_eq (s : InStream) (tsn : Int) :
    s.pruneChunks tsn =
      ({ s with reasm := ((runsOf s.reasm).filter (fun g => !runDead tsn g)).flatten },
       (((runsOf s.reasm).filter (runDead tsn)).map bytesOf).sum) := by
  simp only [InStream.pruneChunks, pruneGo_eq tsn _ s.reasm (Nat.lt_succ_self _)]

theorem pruneChunks_sublist (s : InStream) (tsn : Int) : (s.pruneChunks tsn).1.reasm.Sublist s.reasm := by
  rw [pruneChunks_eq]
  simp only
  conv => rhs; rw [← runsOf_flatten s.reasm]
  exact List.sublist_flatten List.filter_sublist

theorem filter_bytes_split (p : List RChunk → Bool) (L : List (List RChunk)) :
    bytesOf (L.filter (fun g => !p g)).flatten + ((L.filter p).map bytesOf).sum = bytesOf L.flatten := by
  induction L with
  | nil => simp [bytesOf]
  | cons g L ih =>
    simp only [List.filter_cons, List.flatten_cons, bytesOf_append]
    cases hp : p g
    · simp only [Bool.not_false, ↓reduceIte, List.flatten_cons, bytesOf_append, Bool.false_eq_true]
      omega
    · simp only [Bool.not_true, Bool.false_eq_true, ↓reduceIte, List.map_cons, List.sum_cons]
      omega

theorem pruneChunks_bytes (s : InStream) (tsn : Int) :
    bytesOf (s.pruneChunks tsn).1.reasm + (s.pruneChunks tsn).2 = bytesOf s.reasm := by
  rw [pruneChunks_eq]
  conv => rhs; rw [← runsOf_flatten s.reasm]
  exact filter_bytes_split (runDead tsn) (runsOf s.reasm)

theorem filter_all_flatten {α} (p : List α → Bool) (L : List (List α)) (h : ∀ g ∈ L, p g = true) :
    (L.filter p).flatten = L.flatten := by
  rw [List.filter_eq_self.2 h]

theorem filter_none_sum (p : List RChunk → Bool) (L : List (List RChunk)) (h : ∀ g ∈ L, p g = false) :
    ((L.filter p).map bytesOf).sum = 0 := by
  have : L.filter p = [] := by
    rw [List.filter_eq_nil_iff]; intro g hg; simp [h g hg]
  simp [this]

/-! ## runs are maximal; after pruning no run at the head waits for a skipped fragment -/

def AdjOk : List (List RChunk) → Prop
  | g1 :: g2 :: r => (∀ a ∈ g1.getLast?, ∀ b ∈ g2.head?, joins a b = false) ∧ AdjOk (g2 :: r)
  | _ => True

theorem runsOf_head (l : List RChunk) : ∀ g ∈ (runsOf l).head?, g.head? = l.head? := by
  cases l with
  | nil => simp [runsOf]
  | cons c cs => rw [runsOf]; simp

theorem runsOf_adjOk (l : List RChunk) : AdjOk (runsOf l) := by
  induction l using runsOf.induct with
  | case1 => simp [runsOf, AdjOk]
  | case2 c cs ih =>
    have hmax := takeRun_maximal c cs
    have hhead := runsOf_head (takeRun c cs).2
    rw [runsOf]
    cases hr : runsOf (takeRun c cs).2 with
    | nil => simp [AdjOk]
    | cons g2 r =>
      rw [hr] at ih hhead
      refine ⟨?_, ih⟩
      intro a ha b hb
      have hb' : b ∈ (takeRun c cs).2.head? := by
        have := hhead g2 (by simp)
        rw [← this]; exact hb
      have ha' : a = runLast c (takeRun c cs).1 := by
        simp only [runLast]
        simp only [Option.mem_def] at ha
        rw [ha]; rfl
      rw [ha']
      exact hmax b hb'

/-- After `prune_chunks(cum)` the head of the reassembly queue, if it is not a B fragment, is waiting for a
fragment the FORWARD TSN did not skip: the stream is not wedged behind an abandoned message. -/
theorem prune_head_not_wedged (s : InStream) (cum : Int) :
    ∀ h ∈ (s.pruneChunks cum).1.reasm.head?,
      flagB h.flags = true ∨ uint32_gte cum (tsn_minus_one h.tsn) = false := by
  rw [pruneChunks_eq]
  simp only
  intro h hh
  rw [List.head?_flatten_of_ne_nil] at hh
  · cases hk : (runsOf s.reasm).filter (fun g => !runDead cum g) with
    | nil => simp [hk] at hh
    | cons g gs =>
      have hg : g ∈ (runsOf s.reasm).filter (fun g => !runDead cum g) := by rw [hk]; simp
      have hdead : runDead cum g = false := by simpa using (List.mem_filter.1 hg).2
      simp only [hk, List.head?_cons, Option.bind_some, Option.mem_def] at hh
      cases g with
      | nil => simp at hh
      | cons first run =>
        simp only [List.head?_cons, Option.some.injEq] at hh
        subst hh
        simp only [runDead, Bool.or_eq_false_iff, Bool.and_eq_false_iff, Bool.not_eq_false'] at hdead
        exact hdead.1
  · intro g hg
    exact runsOf_ne_nil s.reasm g (List.mem_filter.1 hg).1

end Aiortc.Sctp
