import Aiortc.Model.Bytes
/-! Postconditions on `Outcome` and `Option` (and, first, what `Outcome.bind` and `do` give on `.ok`, for the models that
do use them). The models write `match o with | .ok a => … | .valueError => … | …` out instead of `bind`; each predicate here
comes with an eliminator `.on` whose motive Lean infers, so that a proof about a caller enters such a match with
what is known of the callee's result: `refine (callee_spec …).on ?_ fun a ha => ?_` — in every eliminator the
failure branch comes first and the value branch last. The scrutinee has to occur in the goal as it is written in the
callee's lemma: unfold a definition that hides the match first, and `dsimp only` between two `.on` when the next
scrutinee mentions a variable bound by the pattern of the match just entered. -/
namespace Aiortc

theorem Outcome.ok_bind {α β} (a : α) (f : α → Outcome β) : (Outcome.ok a).bind f = f a := rfl

theorem Outcome.ok_bind_do {α β} (a : α) (f : α → Outcome β) : (Outcome.ok a >>= f) = f a := rfl
theorem Outcome.pure_eq_ok {α} (a : α) : (pure a : Outcome α) = .ok a := rfl

theorem Outcome.bind_eq_ok {α β} {x : Outcome α} {f : α → Outcome β} {b : β} :
    x.bind f = .ok b ↔ ∃ a, x = .ok a ∧ f a = .ok b := by
  cases x <;> simp [Outcome.bind]

theorem Outcome.bind_do_eq_ok {α β} {x : Outcome α} {f : α → Outcome β} {b : β} :
    (x >>= f) = .ok b ↔ ∃ a, x = .ok a ∧ f a = .ok b :=
  Outcome.bind_eq_ok

namespace Rtp
open Outcome

/-- Returns normally or raises ValueError: no `struct.error`/`IndexError`/…, no non-termination. -/
def Safe {α} (o : Outcome α) : Prop := o = valueError ∨ ∃ a, o = ok a

end Rtp
open Rtp

def Outcome.SafeWith {α} (o : Outcome α) (Q : α → Prop) : Prop := o = .valueError ∨ ∃ a, o = .ok a ∧ Q a

namespace Outcome.SafeWith
variable {α β : Type} {P Q : α → Prop} {o : Outcome α} {a : α}

theorem ok (h : Q a) : (Outcome.ok a).SafeWith Q := .inr ⟨a, rfl, h⟩
theorem ve : (.valueError : Outcome α).SafeWith Q := .inl rfl

@[elab_as_elim] theorem on {motive : Outcome α → Prop} (h : o.SafeWith Q) (ve : motive .valueError)
    (ok : ∀ a, Q a → motive (.ok a)) : motive o := by
  rcases h with rfl | ⟨a, rfl, hq⟩
  · exact ve
  · exact ok a hq

theorem ite {c : Prop} [Decidable c] {a b : Outcome α} (ha : c → a.SafeWith Q) (hb : ¬c → b.SafeWith Q) :
    (if c then a else b).SafeWith Q := by
  split
  · exact ha ‹_›
  · exact hb ‹_›

theorem bind {R : β → Prop} {f : α → Outcome β} (hx : o.SafeWith P) (hf : ∀ a, P a → (f a).SafeWith R) :
    (o.bind f).SafeWith R :=
  hx.on .ve hf

theorem safe (h : o.SafeWith Q) : Safe o := h.on (.inl rfl) fun a _ => .inr ⟨a, rfl⟩

theorem post (h : o.SafeWith Q) (e : o = .ok a) : Q a := by
  subst e
  rcases h with h | ⟨_, h, q⟩
  · cases h
  · cases h; exact q

end Outcome.SafeWith

namespace Rtp
open Outcome

theorem Safe.with {α} {o : Outcome α} (h : Safe o) : o.SafeWith fun _ => True :=
  h.imp_right fun ⟨a, e⟩ => ⟨a, e, trivial⟩

theorem safe_ok {α} (a : α) : Safe (ok a) := Or.inr ⟨a, rfl⟩
theorem safe_ve {α} : Safe (valueError : Outcome α) := Or.inl rfl

@[elab_as_elim] theorem Safe.on {α} {motive : Outcome α → Prop} {o : Outcome α} (h : Safe o)
    (ve : motive .valueError) (ok : ∀ a, motive (.ok a)) : motive o :=
  h.with.on ve fun a _ => ok a

theorem Safe.bind {α β} {x : Outcome α} {f : α → Outcome β} (hx : Safe x) (hf : ∀ a, Safe (f a)) :
    Safe (x.bind f) :=
  (hx.with.bind fun a _ => (hf a).with).safe

theorem safe_ite_of {α} {c : Prop} [Decidable c] {a b : Outcome α} (ha : c → Safe a) (hb : ¬c → Safe b) :
    Safe (if c then a else b) :=
  (SafeWith.ite (fun h => (ha h).with) fun h => (hb h).with).safe

theorem safe_ite {α} {c : Prop} [Decidable c] {a b : Outcome α} (ha : Safe a) (hb : Safe b) :
    Safe (if c then a else b) :=
  safe_ite_of (fun _ => ha) fun _ => hb

theorem Safe.ne_crash {α} {o : Outcome α} (h : Safe o) (k : String) : o ≠ .crash k := h.on nofun nofun
theorem Safe.ne_hang {α} {o : Outcome α} (h : Safe o) : o ≠ .hang := h.on nofun nofun

end Rtp

def Outcome.Returns {α} (o : Outcome α) (Q : α → Prop) : Prop := ∃ a, o = .ok a ∧ Q a

namespace Outcome.Returns
variable {α β γ : Type} {o : Outcome α} {Q R : α → Prop} {a : α}

theorem ok (h : Q a) : (Outcome.ok a).Returns Q := ⟨a, rfl, h⟩

@[elab_as_elim] theorem on {motive : Outcome α → Prop} (h : o.Returns Q) (ok : ∀ a, Q a → motive (.ok a)) :
    motive o := by
  obtain ⟨a, rfl, hq⟩ := h; exact ok a hq

theorem mono (h : o.Returns Q) (hqr : ∀ a, Q a → R a) : o.Returns R := h.on fun _ hq => .ok (hqr _ hq)

theorem post (h : o.Returns Q) (e : o = .ok a) : Q a := by
  obtain ⟨_, e', q⟩ := h
  cases e'.symm.trans e; exact q

/-! the same with the components of a tuple value quantified one by one, as the statements about handlers have it -/

theorem exists2 {o : Outcome (α × β)} {Q : α × β → Prop} (h : o.Returns Q) : ∃ a b, o = .ok (a, b) ∧ Q (a, b) :=
  let ⟨⟨a, b⟩, e, q⟩ := h; ⟨a, b, e, q⟩

theorem exists3 {o : Outcome (α × β × γ)} {Q : α × β × γ → Prop} (h : o.Returns Q) :
    ∃ a b c, o = .ok (a, b, c) ∧ Q (a, b, c) :=
  let ⟨⟨a, b, c⟩, e, q⟩ := h; ⟨a, b, c, e, q⟩

end Outcome.Returns
end Aiortc

/-- For the `struct` readers. A name of its own because the eliminator does not find its scrutinee through a hypothesis
of the form `∀ a, o = some a → Q a`. -/
def Option.Gives {α} (o : Option α) (Q : α → Prop) : Prop := ∀ a, o = some a → Q a

namespace Option.Gives
variable {α : Type} {Q : α → Prop} {o : Option α} {a : α}

theorem none : (.none : Option α).Gives Q := nofun
theorem some (h : Q a) : (Option.some a).Gives Q := fun _ e => by cases e; exact h

@[elab_as_elim] theorem on {motive : Option α → Prop} (h : o.Gives Q) (none : motive .none)
    (some : ∀ a, Q a → motive (.some a)) : motive o := by
  cases o with
  | none => exact none
  | some a => exact some a (h a rfl)

end Option.Gives
