import Aiortc.Model.RateCounter
/-!
# Ring-buffer invariant of `RateCounter` (helper lemmas for Props/C15)

`agg p H` is the (count, byte sum) of the samples `(t, v) ∈ H` with `p t`.
`Core rc o H`: the counter has origin `o`, bucket `(origin_index + k) % W` holds exactly the samples of
`H` with time `o + k`, the total is the aggregate of the samples at or after `o`, and no sample lies at
or beyond `o + W`.  `Fresh rc`: the state after the constructor / `reset()`.
-/
namespace Aiortc.Model.Rate

theorem Bucket.ext' {a b : Bucket} (h1 : a.count = b.count) (h2 : a.value = b.value) : a = b := by
  cases a; cases b; simp_all

theorem Bucket.add_zero (b : Bucket) : b.add Bucket.zero = b :=
  Bucket.ext' (Int.add_zero _) (Int.add_zero _)

theorem Bucket.zero_add (b : Bucket) : Bucket.zero.add b = b :=
  Bucket.ext' (Int.zero_add _) (Int.zero_add _)

abbrev Sample := Int × Int

def agg (p : Int → Bool) : List Sample → Bucket
  | [] => Bucket.zero
  | s :: H => if p s.1 then Bucket.add (agg p H) ⟨1, s.2⟩ else agg p H

theorem agg_congr {p q : Int → Bool} {H : List Sample} (h : ∀ s ∈ H, p s.1 = q s.1) :
    agg p H = agg q H := by
  induction H with
  | nil => rfl
  | cons s H ih =>
    obtain ⟨h1, h2⟩ := List.forall_mem_cons.1 h
    simp only [agg]
    rw [h1, ih h2]

theorem agg_none {p : Int → Bool} {H : List Sample} (h : ∀ s ∈ H, p s.1 = false) :
    agg p H = Bucket.zero := by
  induction H with
  | nil => rfl
  | cons s H ih =>
    obtain ⟨h1, h2⟩ := List.forall_mem_cons.1 h
    simp only [agg]
    rw [h1, ih h2, if_neg Bool.false_ne_true]

theorem agg_count_nonneg (p : Int → Bool) (H : List Sample) : 0 ≤ (agg p H).count := by
  induction H with
  | nil => simp [agg, Bucket.zero]
  | cons s H ih =>
    simp only [agg]
    split
    · simp only [Bucket.add]; omega
    · exact ih

theorem agg_count_zero {p : Int → Bool} {H : List Sample} (h : (agg p H).count ≤ 0) :
    ∀ s ∈ H, p s.1 = false := by
  induction H with
  | nil => intro s hs; cases hs
  | cons s H ih =>
    simp only [agg] at h
    by_cases hp : p s.1 = true
    · rw [if_pos hp] at h
      simp only [Bucket.add] at h
      have := agg_count_nonneg p H
      omega
    · rw [if_neg hp] at h
      intro s' hs'
      rcases List.mem_cons.mp hs' with rfl | hs'
      · simpa using hp
      · exact ih h s' hs'

theorem agg_split (o : Int) (H : List Sample) :
    (agg (fun t => decide (o ≤ t)) H).sub (agg (fun t => decide (t = o)) H)
      = agg (fun t => decide (o + 1 ≤ t)) H := by
  induction H with
  | nil => rfl
  | cons s H ih =>
    have hc := congrArg Bucket.count ih
    have hv := congrArg Bucket.value ih
    simp only [Bucket.sub] at hc hv
    simp only [agg, decide_eq_true_eq]
    rcases Int.lt_trichotomy s.1 o with h | h | h
    · rw [if_neg (by omega), if_neg (by omega), if_neg (by omega)]; exact ih
    · rw [if_pos (by omega), if_pos (by omega), if_neg (by omega)]
      apply Bucket.ext' <;> simp only [Bucket.sub, Bucket.add] <;> omega
    · rw [if_pos (by omega), if_neg (by omega), if_pos (by omega)]
      apply Bucket.ext' <;> simp only [Bucket.sub, Bucket.add] <;> omega

theorem ring_idx (a k W : Nat) (_ha : a < W) (hk : k < W) :
    (a + k) % W = if a + k < W then a + k else a + k - W := by
  split
  · exact Nat.mod_eq_of_lt ‹_›
  · rw [Nat.mod_eq_sub_mod (by omega)]; exact Nat.mod_eq_of_lt (by omega)

theorem ring_inj {a j k W : Nat} (ha : a < W) (hj : j < W) (hk : k < W)
    (h : (a + j) % W = (a + k) % W) : j = k := by
  rw [ring_idx a j W ha hj, ring_idx a k W ha hk] at h
  split at h <;> split at h <;> omega

structure Core (rc : RateCounter) (o : Int) (H : List Sample) : Prop where
  origin : rc.originMs = some o
  wpos : 0 < rc.window
  size : rc.buckets.size = rc.window
  idx : rc.originIndex < rc.window
  bound : ∀ s ∈ H, s.1 < o + rc.window
  ring : ∀ k, k < rc.window →
    rc.buckets[(rc.originIndex + k) % rc.window]? = some (agg (fun t => decide (t = o + k)) H)
  total : rc.total = agg (fun t => decide (o ≤ t)) H

structure Fresh (rc : RateCounter) : Prop where
  origin : rc.originMs = none
  wpos : 0 < rc.window
  size : rc.buckets.size = rc.window
  idx : rc.originIndex < rc.window
  ring : ∀ k, k < rc.window → rc.buckets[k]? = some Bucket.zero
  total : rc.total = Bucket.zero

theorem fresh_new (W : Nat) (scale : Int) (hW : 0 < W) : Fresh (RateCounter.new W scale) := by
  refine ⟨rfl, hW, by simp [RateCounter.new], hW, ?_, rfl⟩
  intro k hk
  have hk' : k < W := hk
  simp [RateCounter.new, hk']

/-- `reset()` leaves what the constructor built: `rc.reset` unfolds to `RateCounter.new rc.window rc.scale` -/
theorem fresh_reset (rc : RateCounter) (hW : 0 < rc.window) : Fresh rc.reset :=
  fresh_new rc.window rc.scale hW

theorem eraseStep_core {rc : RateCounter} {o : Int} {H : List Sample} (c : Core rc o H) :
    ∃ rc', rc.eraseStep = .ok rc' ∧ Core rc' (o + 1) H ∧ rc'.window = rc.window ∧ rc'.scale = rc.scale := by
  have hW := c.wpos
  have h0 : rc.buckets[rc.originIndex]? = some (agg (fun t => decide (t = o)) H) := by
    have := c.ring 0 hW
    rw [Nat.add_zero, Nat.mod_eq_of_lt c.idx] at this
    simpa using this
  refine ⟨{ rc with total := rc.total.sub (agg (fun t => decide (t = o)) H),
                    buckets := rc.buckets.setIfInBounds rc.originIndex Bucket.zero,
                    originIndex := (rc.originIndex + 1) % rc.window,
                    originMs := some (o + 1) }, ?_, ?_, rfl, rfl⟩
  · unfold RateCounter.eraseStep
    rw [c.origin]
    simp only [h0]
    rw [if_neg (by omega)]
  · refine ⟨rfl, hW, ?_, Nat.mod_lt _ hW, ?_, ?_, ?_⟩
    · simp [c.size]
    · intro s hs; have := c.bound s hs; simp only; omega
    · intro k hk
      have hk : k < rc.window := hk
      have ht : o + 1 + (k : Int) = o + ((k + 1 : Nat) : Int) := by push_cast; omega
      simp only
      rw [Nat.mod_add_mod, Array.getElem?_setIfInBounds, Nat.add_assoc, Nat.add_comm 1 k, ht]
      by_cases hk1 : k + 1 < rc.window
      · -- a slot further on: untouched
        have hne : ¬ rc.originIndex = (rc.originIndex + (k + 1)) % rc.window := fun h =>
          absurd (ring_inj c.idx hW hk1 (by rw [Nat.add_zero, Nat.mod_eq_of_lt c.idx]; exact h)) (by omega)
        rw [if_neg hne, c.ring (k + 1) hk1]
      · -- the slot just cleared now stands for time `o + W`, which no sample has reached
        have hk' : k + 1 = rc.window := by omega
        have heq : rc.originIndex = (rc.originIndex + (k + 1)) % rc.window := by
          rw [hk', Nat.add_mod_right, Nat.mod_eq_of_lt c.idx]
        rw [if_pos heq, if_pos (by rw [c.size]; exact c.idx), agg_none]
        intro s hs
        have := c.bound s hs
        rw [decide_eq_false_iff_not]
        omega
    · simp only
      rw [c.total]
      exact agg_split o H

theorem eraseN_core (n : Nat) : ∀ {rc : RateCounter} {o : Int} {H : List Sample}, Core rc o H →
    ∃ rc', rc.eraseN n = .ok rc' ∧ Core rc' (o + n) H ∧ rc'.window = rc.window ∧ rc'.scale = rc.scale := by
  induction n with
  | zero => intro rc o H c; exact ⟨rc, rfl, by simpa using c, rfl, rfl⟩
  | succ n ih =>
    intro rc o H c
    obtain ⟨rc1, h1, c1, w1, s1⟩ := eraseStep_core c
    obtain ⟨rc2, h2, c2, w2, s2⟩ := ih c1
    refine ⟨rc2, ?_, ?_, by omega, by rw [s2, s1]⟩
    · simp only [RateCounter.eraseN, h1]; exact h2
    · have : o + 1 + (n : Int) = o + ((n + 1 : Nat) : Int) := by push_cast; omega
      rw [← this]; exact c2

theorem eraseOld_core {rc : RateCounter} {o : Int} {H : List Sample} (c : Core rc o H) (now : Int) :
    ∃ rc', rc.eraseOld now = .ok rc' ∧ Core rc' (max o (now - rc.window + 1)) H ∧
      rc'.window = rc.window ∧ rc'.scale = rc.scale := by
  obtain ⟨rc', h, c', w, s⟩ := eraseN_core ((now - rc.window + 1) - o).toNat c
  refine ⟨rc', ?_, ?_, w, s⟩
  · unfold RateCounter.eraseOld; rw [c.origin]; exact h
  · have : o + (((now - rc.window + 1) - o).toNat : Int) = max o (now - rc.window + 1) := by omega
    rw [← this]; exact c'

/-- the bucket update at the end of `add`, on a counter whose window contains `now` -/
theorem put_core {rc : RateCounter} {o : Int} {H : List Sample} (c : Core rc o H) (v now : Int)
    (h1 : o ≤ now) (h2 : now < o + rc.window) :
    ∃ b, rc.buckets[((((rc.originIndex : Int) + now - o) % (rc.window : Int))).toNat]? = some b ∧
      Core { rc with buckets := rc.buckets.setIfInBounds
                        ((((rc.originIndex : Int) + now - o) % (rc.window : Int))).toNat ⟨b.count + 1, b.value + v⟩,
                     total := ⟨rc.total.count + 1, rc.total.value + v⟩ } o ((now, v) :: H) := by
  have hW := c.wpos
  have hk0 : ((now - o).toNat : Int) = now - o := Int.toNat_of_nonneg (by omega)
  have hk0lt : (now - o).toNat < rc.window := by omega
  have hidx : ((((rc.originIndex : Int) + now - o) % (rc.window : Int))).toNat
      = (rc.originIndex + (now - o).toNat) % rc.window := by
    rw [show (rc.originIndex : Int) + now - o = ((rc.originIndex + (now - o).toNat : Nat) : Int) by omega,
      ← Int.natCast_emod, Int.toNat_natCast]
  rw [hidx]
  refine ⟨_, c.ring _ hk0lt, ?_⟩
  refine ⟨c.origin, hW, ?_, c.idx, ?_, ?_, ?_⟩
  · simp [c.size]
  · exact List.forall_mem_cons.2 ⟨h2, c.bound⟩
  · intro k hk
    have hk : k < rc.window := hk
    simp only
    rw [Array.getElem?_setIfInBounds]
    by_cases hkk : k = (now - o).toNat
    · subst hkk
      rw [if_pos rfl, if_pos (by rw [c.size]; exact Nat.mod_lt _ hW)]
      congr 1
      simp only [agg, decide_eq_true_eq]
      rw [if_pos (by omega)]
      rfl
    · have hne : ¬ (rc.originIndex + (now - o).toNat) % rc.window = (rc.originIndex + k) % rc.window :=
        fun h => hkk (ring_inj c.idx hk0lt hk h).symm
      rw [if_neg hne, c.ring k hk]
      congr 1
      simp only [agg, decide_eq_true_eq]
      rw [if_neg (by omega)]
  · simp only [agg, decide_eq_true_eq]
    rw [if_pos (by omega), ← c.total]
    rfl

theorem add_core {rc : RateCounter} {o : Int} {H : List Sample} (c : Core rc o H) (v now : Int)
    (h1 : o ≤ now) :
    ∃ rc', rc.add v now = .ok rc' ∧ Core rc' (max o (now - rc.window + 1)) ((now, v) :: H) ∧
      rc'.window = rc.window ∧ rc'.scale = rc.scale := by
  obtain ⟨rc1, he, c1, w1, s1⟩ := eraseOld_core c now
  have hW := c.wpos
  obtain ⟨b, hb, c2⟩ := put_core c1 v now (by omega) (by rw [w1]; omega)
  refine ⟨_, ?_, c2, w1, s1⟩
  unfold RateCounter.add
  rw [c.origin]
  simp only [he, c1.origin]
  rw [if_neg (by rw [w1]; omega)]
  simp only [hb]

theorem add_fresh {rc : RateCounter} (f : Fresh rc) (v now : Int) :
    ∃ rc', rc.add v now = .ok rc' ∧ Core rc' now [(now, v)] ∧
      rc'.window = rc.window ∧ rc'.scale = rc.scale := by
  have hW := f.wpos
  have c0 : Core { rc with originMs := some now } now [] := by
    refine ⟨rfl, hW, f.size, f.idx, (by intro s hs; cases hs), ?_, (by simp [agg, f.total])⟩
    intro k _
    simp only [agg]
    exact f.ring _ (Nat.mod_lt _ hW)
  obtain ⟨b, hb, c2⟩ := put_core c0 v now (Int.le_refl _) (by simp only; omega)
  refine ⟨_, ?_, c2, rfl, rfl⟩
  unfold RateCounter.add
  rw [f.origin]
  simp only
  rw [if_neg (by omega)]
  simp only at hb
  simp only [hb]

theorem rate_core {rc : RateCounter} {o : Int} {H : List Sample} (c : Core rc o H) (now : Int) :
    ∃ rc', Core rc' (max o (now - rc.window + 1)) H ∧ rc'.window = rc.window ∧ rc'.scale = rc.scale ∧
      rc.rate now = .ok (rc',
        if rc'.total.count > 0 ∧ now - (max o (now - rc.window + 1)) + 1 > 1
        then some (roundDivHalfEven (rc.scale * rc'.total.value) (now - (max o (now - rc.window + 1)) + 1))
        else none) := by
  obtain ⟨rc1, he, c1, w1, s1⟩ := eraseOld_core c now
  refine ⟨rc1, c1, w1, s1, ?_⟩
  unfold RateCounter.rate
  rw [c.origin]
  simp only [he, c1.origin, s1]
  split <;> rfl

theorem rate_fresh {rc : RateCounter} (f : Fresh rc) (now : Int) : rc.rate now = .ok (rc, none) := by
  unfold RateCounter.rate; rw [f.origin]

theorem agg_append (p : Int → Bool) (H D : List Sample) :
    agg p (H ++ D) = Bucket.add (agg p H) (agg p D) := by
  induction H with
  | nil => exact (Bucket.zero_add _).symm
  | cons s H ih =>
    simp only [List.cons_append, agg]
    split
    · rw [ih]; apply Bucket.ext' <;> simp only [Bucket.add] <;> omega
    · exact ih

theorem agg_value_nonneg (p : Int → Bool) (H : List Sample) (h : ∀ s ∈ H, 0 ≤ s.2) :
    0 ≤ (agg p H).value := by
  induction H with
  | nil => simp [agg, Bucket.zero]
  | cons s H ih =>
    obtain ⟨h1, h2⟩ := List.forall_mem_cons.1 h
    have h2 := ih h2
    simp only [agg]
    split
    · simp only [Bucket.add]; omega
    · exact h2

theorem roundDivHalfEven_nonneg (a b : Int) (ha : 0 ≤ a) (hb : 0 < b) : 0 ≤ roundDivHalfEven a b := by
  have : 0 ≤ a / b := Int.ediv_nonneg ha (by omega)
  unfold roundDivHalfEven
  simp only []
  repeat' split
  all_goals omega

end Aiortc.Model.Rate
