import Aiortc.Lemmas.C10.JitterAddSpec
import Aiortc.Lemmas.C10.JitterReady
import Aiortc.Lemmas.C10.JitterInOrderStep
/-!
# C10 — the jitter buffer releases only whole, correctly ordered frames and stays bounded

All theorems are about `Aiortc.Model.Jitter` (the line-by-line model of `src/aiortc/jitterbuffer.py`,
tied to the real class by the differential run of `harness/props/C10.py`) and hold for **all**
capacities `2^k` (`k ≤ 16`), all prefetch values (any integer), audio and video mode, and **all** arrival
lists over 16-bit sequence numbers — permutation, duplication, loss, jumps and wrap-around are just lists.

`Inv` (Lemmas/C10/Jitter.lean) is the ring invariant; `mk_inv` establishes it, `jb_total` preserves it.
-/
namespace Aiortc.Props.C10
open Aiortc Aiortc.Gen Aiortc.Model.Jitter Aiortc.Lemmas.Jitter

set_option linter.unusedVariables false  -- `complete_in_order` keeps its hypothesis `R16 s0`, which the proof does not need

/-- The literal 100 of the property text is the code's `MAX_MISORDER`. -/
theorem max_misorder_const : MAX_MISORDER = 100 := by decide

/-- The capacities the property quantifies over: powers of two up to 2^16. -/
def Pow2Cap (c : Nat) : Prop := ∃ k, k ≤ 16 ∧ c = 2 ^ k

/-- The receiver's own buffers (audio: 16/4, video: 128/0) are within the quantifier. -/
theorem receiver_params_const :
    RECEIVER_JITTER_PARAMS = [(16, 4, false), (128, 0, true)] := by decide

theorem receiver_params_pow2 : ∀ x ∈ RECEIVER_JITTER_PARAMS, Pow2Cap x.1 := by
  intro x hx
  rw [receiver_params_const] at hx
  simp only [List.mem_cons, List.mem_nil_iff, or_false] at hx
  rcases hx with rfl | rfl
  · exact ⟨4, by omega, rfl⟩
  · exact ⟨7, by omega, rfl⟩

/-- The constructor accepts exactly the capacities with `c & (c - 1) == 0`. -/
theorem mk_ok_iff_pow2 (c : Nat) (pre : Int) (v : Bool) :
    (∃ jb, mk c pre v = .ok jb) ↔ c &&& (c - 1) = 0 := by
  unfold mk
  by_cases h : c &&& (c - 1) = 0
  · simp [h]
  · simp [h]

/-- A fresh buffer of an admissible capacity satisfies the invariant. -/
theorem mk_inv (c : Nat) (pre : Int) (v : Bool) (hc : Pow2Cap c) :
    ∃ jb, mk c pre v = .ok jb ∧ Inv jb ∧ jb.capacity = c ∧ jb.prefetch = pre ∧ jb.isVideo = v ∧
      jb.origin = none := by
  obtain ⟨k, hk, rfl⟩ := hc
  have hE : ∀ (s : Nat) (p : Packet), ¬ (List.replicate (2 ^ k) (none : Option Packet))[s]? = some (some p) := by
    intro s p h
    rw [List.getElem?_replicate] at h
    split at h <;> simp at h
  have hand : 2 ^ k &&& (2 ^ k - 1) = 0 := by rw [Nat.and_two_pow_sub_one_eq_mod, Nat.mod_self]
  refine ⟨{ capacity := 2 ^ k, prefetch := pre, isVideo := v, origin := none, packets := List.replicate (2 ^ k) none },
    by unfold mk; rw [if_pos hand],
    ⟨Nat.pow_pos (by decide), Int.natCast_dvd_natCast.2 (Nat.pow_dvd_pow 2 hk), by simp, fun _ => hE, ?_, ?_⟩,
    rfl, rfl, rfl, rfl⟩
  · intro o h; cases h
  · intro o h; cases h

/-- **Clause 1 (one call).** Under the invariant `add` returns normally (neither `assert` fails, no index
is out of range, no division by zero), preserves the invariant and the static fields, the ring keeps
exactly `capacity` slots, hence never more than `capacity` packets are held. -/
theorem jb_total {jb : JB} (hI : Inv jb) (p : Packet) (hp : R16 p.seq) :
    ∃ out, add jb p = .ok out ∧ Inv out.jb ∧ Same jb out.jb ∧ out.jb.packets.length = jb.capacity ∧
      (out.jb.packets.filter Option.isSome).length ≤ jb.capacity := by
  obtain ⟨out, e, hA⟩ := add_spec hI p hp
  have key := hA.inv_same hI
  have hl : out.jb.packets.length = jb.capacity := by rw [key.1.len, key.2.1]
  refine ⟨out, e, key.1, key.2, hl, ?_⟩
  rw [← hl]; exact List.length_filter_le _ _

/-- **Clause 1 (whole history).** From any state satisfying the invariant, any list of arrivals with 16-bit
sequence numbers is processed without an exception, and the invariant holds at the end. -/
theorem run_total (ps : List Packet) : ∀ {jb : JB}, Inv jb → (∀ p ∈ ps, R16 p.seq) →
    ∃ jb' obs, run jb ps = .ok (jb', obs) ∧ Inv jb' ∧ Same jb jb' ∧ obs.length = ps.length := by
  induction ps with
  | nil => intro jb hI _; exact ⟨jb, [], rfl, hI, Same.refl jb, rfl⟩
  | cons p ps ih =>
    intro jb hI hps
    obtain ⟨out, e, hI', hS, _, _⟩ := jb_total hI p (hps p (List.mem_cons_self))
    obtain ⟨jb', obs, e', hI'', hS', hl⟩ := ih hI' (fun q hq => hps q (List.mem_cons_of_mem _ hq))
    refine ⟨jb', (out.pli, out.frame) :: obs, ?_, hI'', hS.trans hS', by simp [hl]⟩
    simp only [run, e, e']

/-- **Clause 1, from construction**: capacities 2^k, any prefetch, audio and video, any arrival list. -/
theorem buffer_never_raises (c : Nat) (pre : Int) (v : Bool) (hc : Pow2Cap c) (ps : List Packet)
    (hps : ∀ p ∈ ps, R16 p.seq) :
    ∃ jb0 jb' obs, mk c pre v = .ok jb0 ∧ run jb0 ps = .ok (jb', obs) ∧ Inv jb' ∧ jb'.capacity = c ∧
      jb'.packets.length = c := by
  obtain ⟨jb0, e0, hI0, hc0, _⟩ := mk_inv c pre v hc
  obtain ⟨jb', obs, e, hI, hS, _⟩ := run_total ps hI0 hps
  exact ⟨jb0, jb', obs, e0, e, hI, by rw [← hS.1, hc0], by rw [hI.len, ← hS.1, hc0]⟩

/-- **Clause 2.** Slot `(origin + i) % capacity` holds, if anything, the packet whose sequence number is
`(origin + i) % 2^16` (in every state reachable by `mk`/`add`, by `mk_inv` and `jb_total`). -/
theorem slot_inv {jb : JB} (hI : Inv jb) {o : Int} (ho : jb.origin = some o) (i : Nat) (hi : i < jb.capacity)
    (p : Packet) (h : jb.packets[((o + (i : Int)) % (jb.capacity : Int)).toNat]? = some (some p)) :
    p.seq = (o + (i : Int)) % 65536 :=
  seq_of_held hI ho hi h

/-- Distinct window positions are distinct slots, so the window `0 … capacity-1` enumerates the ring. -/
theorem slot_inv_injective {jb : JB} (hI : Inv jb) (o : Int) (i j : Nat) (hi : i < jb.capacity)
    (hj : j < jb.capacity)
    (h : ((o + (i : Int)) % (jb.capacity : Int)).toNat = ((o + (j : Int)) % (jb.capacity : Int)).toNat) :
    i = j := by
  have := (pos_eq_iff jb hI.cap_pos (o + i) (o + j)).1 h
  have := slot_inj (Int.natCast_nonneg i) (by omega) (Int.natCast_nonneg j) (by omega) this
  omega

/-- What it means for `used` (ghost output of the model) to be the run of packets behind frame `f`
released by `add jb p`, which left the buffer in state `jb'`. -/
def FrameIntegrity (jb : JB) (p : Packet) (jb' : JB) (f : Frame) (used : List Packet) : Prop :=
  ∃ o2 : Int, R16 o2 ∧
    used ≠ [] ∧ used.length < jb.capacity ∧
    -- in-order concatenation of the payloads
    f.data = joinData used ∧
    -- one common timestamp; every packet was received (now or earlier, and was still held)
    (∀ q ∈ used, q.ts = f.ts ∧ (q = p ∨ ∃ s, Held jb s q)) ∧
    -- consecutive sequence numbers o2, o2+1, …
    (∀ (k : Nat) q, used[k]? = some q → q.seq = (o2 + (k : Int)) % 65536) ∧
    -- the origin moves just past the run, where a held packet of a different timestamp sits
    jb'.origin = some ((o2 + (used.length : Int)) % 65536) ∧
    (∃ s q, Held jb' s q ∧ q.seq = (o2 + (used.length : Int)) % 65536 ∧ q.ts ≠ f.ts) ∧
    -- the packets of the frame are no longer held afterwards
    (∀ q ∈ used, ∀ s, ¬ Held jb' s q)

/-- **Clause 3.** Every frame returned by `add` is the in-order concatenation of the payloads of a run of
received, still-held packets with consecutive sequence numbers and one common timestamp, delimited by a
held packet of a different timestamp. -/
theorem frame_integrity {jb : JB} (hI : Inv jb) (p : Packet) (hp : R16 p.seq) {out : AddOut}
    (e : add jb p = .ok out) {f : Frame} (hf : out.frame = some f) :
    FrameIntegrity jb p out.jb f out.used := by
  obtain ⟨jb2, o2, jb3, hSt, hR, hF⟩ := (add_post hI hp e).of_frame hf
  have ho3 := hSt.orig3
  have hI3 := hSt.placed.inv
  have hlt := hF.lt
  obtain ⟨qn, hqn, hqts⟩ := hF.next
  have hdn := dist_of_held hI3 ho3 (Int.natCast_nonneg _) (by omega) hqn
  refine ⟨o2, hSt.inv.orig o2 hSt.orig, hF.ne, by rwa [← hSt.same3.1] at hlt, hF.data,
    fun u hu => ?_, fun k u hk => seq_of_held hI3 ho3 (by have := (List.getElem?_eq_some_iff.1 hk).1; omega) (hF.run k u hk).1,
    hR.shift.orig, ⟨_, qn, (hR.shift.held _ qn).2 ⟨hqn, by omega⟩, seq_of_held hI3 ho3 hlt hqn, hqts⟩, fun u hu s hs => ?_⟩
  · obtain ⟨k, hk⟩ := List.getElem?_of_mem hu
    obtain ⟨hh, hts, _⟩ := hF.at hI3 ho3 hk
    exact ⟨hts, (hSt.placed.sub hh).imp id fun h => ⟨_, hSt.branch.sub _ u h⟩⟩
  · -- a packet of the frame lies before the new origin
    obtain ⟨k, hk⟩ := List.getElem?_of_mem hu
    have := (hF.at hI3 ho3 hk).2.2
    have := ((hR.shift.held s u).1 hs).2
    have := (List.getElem?_eq_some_iff.1 hk).1
    omega

/-- The very first `add` (origin still `None`) cannot release a frame. -/
theorem first_add_no_frame {jb : JB} (hI : Inv jb) (p : Packet) (hp : R16 p.seq) {out : AddOut}
    (e : add jb p = .ok out) (ho : jb.origin = none) : out.frame = none ∧ out.used = [] := by
  have hA := add_post hI hp e
  cases hfr : out.frame with
  | none => exact ⟨rfl, hA.used_nil hfr⟩
  | some f =>
    -- the buffer then holds `p` alone, but a frame needs a second packet behind it
    exfalso
    obtain ⟨jb2, o2, jb3, hSt, _, hF⟩ := hA.of_frame hfr
    have ho3 := hSt.orig3
    have onlyp : ∀ {s u}, Held jb3 s u → u = p := fun h =>
      (hSt.placed.sub h).elim id fun h => absurd (hSt.branch.sub _ _ h) (hI.empty ho _ _)
    obtain ⟨u, us, hu⟩ := List.exists_cons_of_ne_nil hF.ne
    obtain ⟨h0, _, d0⟩ := hF.at hSt.placed.inv ho3 (k := 0) (q := u) (by rw [hu]; rfl)
    obtain ⟨qn, hqn, _⟩ := hF.next
    have dq := dist_of_held hSt.placed.inv ho3 (Int.natCast_nonneg _) (by have := hF.lt; omega) hqn
    rw [onlyp h0] at d0
    rw [onlyp hqn, hu] at dq
    simp at dq d0; omega

/-- How far the origin moved in one call, as a 16-bit forward distance (0 while there was no origin). -/
def originAdvance (jb jb' : JB) : Int :=
  match jb.origin, jb'.origin with
  | some o, some o' => uint16_add o' (-o)
  | _, _ => 0

theorem originAdvance_nonneg (jb jb' : JB) : 0 ≤ originAdvance jb jb' := by
  unfold originAdvance
  split
  · unfold uint16_add; omega
  · exact Int.le_refl 0

/-- One call: unless the packet is ≥ 100 positions late (the reset branch), the origin moves forward by
at least the length of the released frame — the frame lies entirely at or after the old origin. -/
theorem step_advance {jb : JB} (hI : Inv jb) (p : Packet) (hp : R16 p.seq) {out : AddOut}
    (e : add jb p = .ok out) (hnl : ¬ Late jb p 100) :
    (out.used.length : Int) ≤ originAdvance jb out.jb := by
  cases ho : jb.origin with
  | none =>
    rw [(first_add_no_frame hI p hp e ho).2]
    exact originAdvance_nonneg _ _
  | some o =>
    have hO := hI.orig o ho
    rcases add_post hI hp e with ⟨_, hD⟩ | ⟨jb2, o2, jb3, hSt⟩
    · rw [hD.used, hD.unchanged]; exact originAdvance_nonneg _ _
    · rcases hSt.rf with hN | hR
      · rw [hN.used]; exact originAdvance_nonneg _ _
      · obtain ⟨a, ha0, ho2, had, h32, hac⟩ := hSt.branch.adv hI hp (by rw [max_misorder_const]; exact hnl) ho
        have hcap := hI.cap_le
        have hlen : out.used.length < jb.capacity := by
          have := hR.frameAt.lt; rwa [← hSt.same3.1] at this
        unfold originAdvance
        rw [ho, hR.shift.orig]
        simp only []
        unfold uint16_add R16 at *
        omega

/-- Ghost: the unwrapped ranges `(start, length)` of the frames released along an arrival list, where the
unwrapped origin `ext` is advanced by `originAdvance` in every call. -/
def ghostRun : JB → Int → List Packet → List (Int × Nat)
  | _, _, [] => []
  | jb, ext, p :: ps =>
    match add jb p with
    | .ok out =>
      (match out.frame with
        | some _ => [(ext + originAdvance jb out.jb - (out.used.length : Int), out.used.length)]
        | none => []) ++ ghostRun out.jb (ext + originAdvance jb out.jb) ps
    | _ => []

/-- No arrival of the list comes 100 or more positions behind the origin of the moment. -/
def NoLateRun : JB → List Packet → Prop
  | _, [] => True
  | jb, p :: ps =>
    ¬ Late jb p 100 ∧
    match add jb p with
    | .ok out => NoLateRun out.jb ps
    | _ => True

theorem NoLateRun.tail {jb : JB} {p : Packet} {ps : List Packet} {out : AddOut} (h : NoLateRun jb (p :: ps))
    (e : add jb p = .ok out) : NoLateRun out.jb ps := by
  have := h.2; simp only [e] at this; exact this

/-- **Clause 4.** As long as no packet arrives 100 or more positions late, the unwrapped ranges of the
released frames are non-empty, start at or after the initial origin, and every frame ends before every
later frame starts: no position (packet) is in two frames and frames come out in increasing order. -/
theorem no_reuse_in_order (ps : List Packet) : ∀ {jb : JB} (ext : Int), Inv jb → (∀ p ∈ ps, R16 p.seq) →
    NoLateRun jb ps →
    (ghostRun jb ext ps).Pairwise (fun a b => a.1 + (a.2 : Int) ≤ b.1) ∧
    ∀ r ∈ ghostRun jb ext ps, ext ≤ r.1 ∧ 1 ≤ r.2 := by
  induction ps with
  | nil => intro jb ext _ _ _; simp [ghostRun]
  | cons p ps ih =>
    intro jb ext hI hps hnl
    have hp := hps p List.mem_cons_self
    obtain ⟨out, e, hI', _⟩ := jb_total hI p hp
    have hnl' := hnl.tail e
    have hadv := step_advance hI p hp e hnl.1
    have hnn := originAdvance_nonneg jb out.jb
    obtain ⟨ih1, ih2⟩ := ih (ext + originAdvance jb out.jb) hI' (fun q hq => hps q (List.mem_cons_of_mem _ hq)) hnl'
    simp only [ghostRun, e]
    cases hf : out.frame with
    | none =>
      simp only [List.nil_append]
      exact ⟨ih1, fun r hr => ⟨by have := (ih2 r hr).1; omega, (ih2 r hr).2⟩⟩
    | some f =>
      have hne : 1 ≤ out.used.length := by
        obtain ⟨_, _, hne, _⟩ := frame_integrity hI p hp e hf
        exact List.length_pos_iff.2 hne
      simp only [List.singleton_append]
      refine ⟨List.pairwise_cons.2 ⟨?_, ih1⟩, ?_⟩
      · intro b hb; have := (ih2 b hb).1; simp only []; omega
      · intro r hr
        rcases List.mem_cons.1 hr with h | h
        · rw [h]; exact ⟨by simp only []; omega, hne⟩
        · exact ⟨by have := (ih2 r h).1; omega, (ih2 r h).2⟩

/-- **Clause 5.** In video mode, if a call makes a held sequence number disappear from the buffer without
it being part of the returned frame, the call returns `pli_flag = True`. -/
theorem pli_on_discard {jb : JB} (hI : Inv jb) (p : Packet) (hp : R16 p.seq) (hv : jb.isVideo = true)
    {out : AddOut} (e : add jb p = .ok out) {s : Nat} {q : Packet} (hq : Held jb s q)
    (hgone : ∀ s' q', Held out.jb s' q' → q'.seq ≠ q.seq)
    (hnot : ∀ u ∈ out.used, u.seq ≠ q.seq) : out.pli = true := by
  cases hpl : out.pli with
  | true => rfl
  | false =>
    exfalso
    rcases add_post hI hp e with ⟨_, hD⟩ | ⟨jb2, o2, jb3, hSt⟩
    · rw [hD.unchanged] at hgone; exact hgone s q hq rfl
    · have hq2 := hSt.branch.keep hI hv hpl s q hq
      have hP := hSt.placed
      have ho3 := hSt.orig3
      -- slot `s` of jb3 holds a packet with q's sequence number (q itself or the duplicate p)
      obtain ⟨q3, hq3, hseq3⟩ : ∃ q3, Held jb3 s q3 ∧ q3.seq = q.seq := by
        by_cases hs : s = pos jb2 p.seq
        · exact ⟨p, (hP.held s p).2 (by simp [hs]),
            same_seq hSt.inv hSt.orig hq2 hp (by rw [← hSt.same.1]; exact hSt.near) hs.symm⟩
        · exact ⟨q, (hP.held s q).2 (by simp [hs]; exact hq2), rfl⟩
      rcases hSt.rf with hN | hR
      · rw [hN.unchanged] at hgone; exact hgone s q3 hq3 hseq3
      · -- it is still held after the shift, or it is one of the packets of the frame
        by_cases hd : (out.used.length : Int) ≤ dist o2 q3
        · exact hgone s q3 ((hR.shift.held s q3).2 ⟨hq3, hd⟩) hseq3
        · exact hnot q3 (hR.frameAt.mem_of_held hP.inv ho3 hq3 (by omega)) hseq3

/-! ## Clause 6 — completeness

Proved: `release_iff_ready` / `release_if_ready` (a frame is returned exactly when a complete frame plus the
prefetch window is held contiguously at the origin) and `complete_in_order`.
Refuted: the literal clause for reordered arrival (`complete_full_false`): `add` returns at most one frame per
call, so the frames completed at once by a late packet stay behind. -/

/-- The packets held contiguously from the origin `o`: window positions 0, 1, … up to the first empty slot. -/
def windowRun (jb : JB) (o : Int) : List Packet := somePrefix (winList jb o 0 jb.capacity)

/-- A complete frame and the prefetch window are held at the origin: the contiguous run contains at least
`max(prefetch, 1)` timestamp changes. -/
def Ready (jb : JB) : Prop :=
  ∃ o, jb.origin = some o ∧ max jb.prefetch 1 ≤ (changes (windowRun jb o) : Int)

/-- `_remove_frame` returns a frame exactly when the buffer is `Ready`. -/
theorem release_iff_ready {jb : JB} (hI : Inv jb) {o : Int} (ho : jb.origin = some o) (x : Int) :
    ∃ r, removeFrame jb x = .ok r ∧ (r.frame ≠ none ↔ Ready jb) := by
  obtain ⟨r, e, hR⟩ := removeFrame_spec hI ho x
  refine ⟨r, e, ?_⟩
  have hready : Ready jb ↔ max jb.prefetch 1 ≤ (changes (windowRun jb o) : Int) :=
    ⟨fun ⟨o', ho', h⟩ => Option.some.inj (ho.symm.trans ho') ▸ h, fun h => ⟨o, ho, h⟩⟩
  rw [hready]
  show _ ↔ max jb.prefetch 1 ≤ (changes (heldRun jb o) : Int)
  rcases hR with hN | hR
  · rw [hN.frame]; exact ⟨fun h => absurd rfl h, fun h => by have := hN.few; omega⟩
  · rw [hR.frame]; exact ⟨fun _ => hR.enough, fun _ => nofun⟩

/-- **Clause 6, per call.** A call of `add` that gets as far as `_remove_frame` (i.e. the packet is not a
late one that is silently dropped) and returns no frame leaves a buffer that is not `Ready`: whenever a
complete frame plus the prefetch window is held at the origin, a frame is released. -/
theorem release_if_ready {jb : JB} (hI : Inv jb) (p : Packet) (hp : R16 p.seq) {out : AddOut}
    (e : add jb p = .ok out) (hne : ¬ (Late jb p 0 ∧ ¬ Late jb p 100)) (hf : out.frame = none) :
    ¬ Ready out.jb := by
  rcases add_post hI hp e with ⟨o, hD⟩ | ⟨jb2, o2, jb3, hSt⟩
  · rw [late_iff_lateC hD.orig, late_iff_lateC hD.orig] at hne
    have hmm : (MAX_MISORDER : Int) = 100 := by decide
    have := hD.lt
    exact absurd ⟨⟨hD.late, by unfold uint16_add; omega⟩, fun h => by omega⟩ hne
  · rcases hSt.rf with hN | hR
    · rintro ⟨o', ho', h⟩
      have hs := hN.few
      rw [hN.unchanged] at ho' h
      rw [hSt.orig3] at ho'; injection ho' with ho'; subst ho'
      have h : max jb3.prefetch 1 ≤ (changes (heldRun jb3 o2) : Int) := h
      omega
    · rw [hf] at hR; cases hR.frame

/-- Observations of a whole run from a fresh buffer (`none` if anything raised). -/
def obsOf (c : Nat) (pre : Int) (v : Bool) (ps : List Packet) : Option (List Obs) :=
  match mk c pre v with
  | .ok jb => match run jb ps with
    | .ok (_, obs) => some obs
    | _ => none
  | _ => none

/-- The frames returned along a run, in order. -/
def releasedFrames (obs : List Obs) : List Frame := obs.filterMap (·.2)

/-- `stream` is a sender's packet sequence: consecutive sequence numbers from `s0`. Its frames are the
maximal runs of equal timestamps, `changes stream + 1` of them. -/
def InOrderStream (s0 : Int) (stream : List Packet) : Prop :=
  ∀ i, i < stream.length → (stream[i]?.map (·.seq)) = some ((s0 + (i : Int)) % 65536)

/-- The arrival list that delivers stream packet `idx[j]` at step `j`. -/
def arrivalsOf (stream : List Packet) (idx : List Nat) : List Packet := idx.filterMap (fun i => stream[i]?)

/-- Clause 6 read literally (with the most lenient reading of "trailing prefetch window": `prefetch + 1`
frames): complete arrival, every packet displaced by less than the capacity. -/
def Clause6Literal : Prop :=
  ∀ (c pre : Nat) (v : Bool) (s0 : Int) (stream : List Packet) (idx : List Nat),
    Pow2Cap c → R16 s0 → InOrderStream s0 stream →
    (∀ i, i < stream.length → i ∈ idx) →
    (∀ j, j < idx.length → idx[j]?.getD 0 < stream.length ∧
      ((idx[j]?.getD 0 : Nat) : Int) - j < c ∧ (j : Int) - (idx[j]?.getD 0 : Nat) < c) →
    ∀ obs, obsOf c pre v (arrivalsOf stream idx) = some obs →
      (changes stream : Int) + 1 - (pre + 1) ≤ (releasedFrames obs).length

/-- **Clause 6 at full strength is false for the code as it is** (known finding
`C10-backlog-one-frame-per-add`): capacity 16, prefetch 0, six one-packet frames arriving as 0,2,3,4,5,1 —
every packet displaced by at most 4 — release only frame 0; frames 1–4 stay in the buffer. -/
theorem complete_full_false : ¬ Clause6Literal := by
  intro h
  have := h 16 0 false 0
    [⟨0, 0, [0]⟩, ⟨1, 10, [1]⟩, ⟨2, 20, [2]⟩, ⟨3, 30, [3]⟩, ⟨4, 40, [4]⟩, ⟨5, 50, [5]⟩] [0, 2, 3, 4, 5, 1]
    ⟨4, by omega, rfl⟩ (by unfold R16; omega) (by unfold InOrderStream; decide) (by decide) (by decide)
    [(false, none), (false, none), (false, none), (false, none), (false, none), (false, some ⟨[0], 0⟩)]
    (by decide)
  revert this
  decide

theorem seqFrom_of_inOrderStream {s0 : Int} {ps : List Packet} (h : InOrderStream s0 ps) : SeqFrom s0 ps := by
  intro i q hq
  have hi : i < ps.length := (List.getElem?_eq_some_iff.1 hq).1
  have := h i hi
  rw [hq] at this
  simpa using this

/-- **Clause 6 for in-order arrival (the part of the literal clause that is true of the code).**
A sender stream `ps` (consecutive 16-bit sequence numbers from `s0`, frames = maximal runs of equal
timestamps) arrives in order at a fresh buffer of capacity `2^k ≤ 2^15`, any prefetch, audio or video. If a
frame together with its prefetch window always fits (`Fits`: every stretch of the stream with fewer than
`max(prefetch,1)` frame boundaries is shorter than the capacity), then no call raises, no call sets
`pli_flag`, and the frames that come out are exactly `expected prefetch ps`: the stream's frames in order,
each exactly once (payloads joined in order, the frame's timestamp), all of them except the trailing
`max(prefetch, 1)` (`expected_count`). -/
theorem complete_in_order (c : Nat) (pre : Int) (v : Bool) (hc : Pow2Cap c) (hc32 : c ≤ 32768)
    (s0 : Int) (hs0 : R16 s0) (ps : List Packet) (hseq : InOrderStream s0 ps) (hfit : Fits ps pre c) :
    ∃ obs, obsOf c pre v ps = some obs ∧ releasedFrames obs = expected pre ps ∧ ∀ o ∈ obs, o.1 = false := by
  obtain ⟨jb0, e0, hI0, hc0, hp0, _, ho0⟩ := mk_inv c pre v hc
  have hS : St ps s0 pre jb0 0 0 := by
    refine ⟨hI0, hp0, Nat.le_refl 0, Nat.zero_le _, fun _ => ho0, fun h => by omega, by have := hI0.cap_pos; omega, ?_⟩
    simp [seg, changes]; omega
  obtain ⟨jb', obs, e, hobs, hall⟩ :=
    inorder_run (seqFrom_of_inOrderStream hseq) c hc32 hfit ps.length 0 0 jb0 (by omega) hc0 hS
  rw [List.drop_zero] at e hobs
  refine ⟨obs, by simp only [obsOf, e0, e], hobs, hall⟩

/-- `expected` lists all `changes ps + 1` frames of the stream except the trailing `max(prefetch, 1)`. -/
theorem expected_count (pre : Int) (ps : List Packet) :
    ((expected pre ps).length : Int) = max 0 ((changes ps : Int) + 1 - max pre 1) := by
  induction ps using expected.induct pre with
  | case1 l hr ih =>
    have := changes_drop_firstRun l (by omega)
    rw [expected, dif_pos hr, List.length_cons]
    omega
  | case2 l hr => rw [expected, dif_neg hr]; simp; omega

/-- `complete_in_order` applies to the receiver's audio buffer (16, prefetch 4) and a stream of one-packet
frames crossing the 16-bit wrap: a stretch with fewer than 4 boundaries has at most 4 packets. -/
example : Fits [⟨65534, 0, [0]⟩, ⟨65535, 960, [1]⟩, ⟨0, 1920, [2]⟩, ⟨1, 2880, [3]⟩, ⟨2, 3840, [4]⟩,
    ⟨3, 4800, [5]⟩] 4 16 := by unfold Fits; decide
example : InOrderStream 65534 [⟨65534, 0, [0]⟩, ⟨65535, 960, [1]⟩, ⟨0, 1920, [2]⟩, ⟨1, 2880, [3]⟩,
    ⟨2, 3840, [4]⟩, ⟨3, 4800, [5]⟩] := by unfold InOrderStream; decide
/-- … and releases the first two of the six frames (prefetch 4). -/
example : (obsOf 16 4 false [⟨65534, 0, [0]⟩, ⟨65535, 960, [1]⟩, ⟨0, 1920, [2]⟩, ⟨1, 2880, [3]⟩,
    ⟨2, 3840, [4]⟩, ⟨3, 4800, [5]⟩]).map releasedFrames = some [⟨[0], 0⟩, ⟨[1], 960⟩] := by decide

example : Pow2Cap 4 := ⟨2, by omega, rfl⟩
example : Pow2Cap 128 := ⟨7, by omega, rfl⟩
example : R16 65535 := by unfold R16; omega

/-- A frame of two packets across the 16-bit wrap is released when the next frame's first packet comes. -/
example : obsOf 4 0 false [⟨65535, 10, [1]⟩, ⟨0, 10, [2]⟩, ⟨1, 20, [3]⟩] =
    some [(false, none), (false, none), (false, some ⟨[1, 2], 10⟩)] := by decide

/-- Video: a jump of `capacity` forces a discard and `pli_flag`. -/
example : obsOf 4 0 true [⟨0, 10, [1]⟩, ⟨1, 10, [2]⟩, ⟨5, 20, [3]⟩] =
    some [(false, none), (false, none), (true, none)] := by decide

/-- A packet exactly 100 behind the origin takes the reset branch (pli), 99 behind is dropped silently. -/
example : obsOf 8 0 true [⟨200, 1, []⟩, ⟨100, 2, []⟩] = some [(false, none), (true, none)] := by decide
example : obsOf 8 0 true [⟨200, 1, []⟩, ⟨101, 2, []⟩] = some [(false, none), (false, none)] := by decide

/-- Executable form of `NoLateRun`, to exhibit instances. -/
def lateB (jb : JB) (p : Packet) (n : Int) : Bool :=
  match jb.origin with
  | none => false
  | some o => decide (uint16_add o (-p.seq) < uint16_add p.seq (-o)) && decide (n ≤ uint16_add o (-p.seq))

theorem late_iff (jb : JB) (p : Packet) (n : Int) : Late jb p n ↔ lateB jb p n = true := by
  unfold Late lateB
  cases h : jb.origin with
  | none => simp
  | some o => simp

def noLateRunB : JB → List Packet → Bool
  | _, [] => true
  | jb, p :: ps =>
    !lateB jb p 100 &&
    match add jb p with
    | .ok out => noLateRunB out.jb ps
    | _ => true

theorem noLateRun_iff (ps : List Packet) : ∀ jb, NoLateRun jb ps ↔ noLateRunB jb ps = true := by
  induction ps with
  | nil => intro jb; simp [NoLateRun, noLateRunB]
  | cons p ps ih =>
    intro jb
    simp only [NoLateRun, noLateRunB, late_iff, Bool.and_eq_true, Bool.not_eq_true']
    cases h : add jb p with
    | ok out => simp only []; rw [ih]; simp
    | valueError => simp
    | crash k => simp
    | hang => simp

/-- A reordered arrival with a duplicate satisfies the hypothesis of clause 4 … -/
example : NoLateRun ⟨4, 0, false, none, [none, none, none, none]⟩
    [⟨65535, 10, [1]⟩, ⟨1, 20, [3]⟩, ⟨0, 10, [2]⟩, ⟨0, 10, [2]⟩, ⟨2, 30, [4]⟩] :=
  (noLateRun_iff _ _).2 (by decide)

/-- … and releases two frames whose unwrapped ranges are [65535, 65537) and [65537, 65538). -/
example : ghostRun ⟨4, 0, false, none, [none, none, none, none]⟩ 65535
    [⟨65535, 10, [1]⟩, ⟨1, 20, [3]⟩, ⟨0, 10, [2]⟩, ⟨0, 10, [2]⟩, ⟨2, 30, [4]⟩] =
    [(65535, 2), (65537, 1)] := by decide

end Aiortc.Props.C10
