import Aiortc.Lemmas.C02.DrainHonestRun
/-!
# C02 (f): the abstract sender/receiver pair drains after ANY fault history (reliable traffic)

`Props/C02.lean` proves, for the model's own sender (`Tx`) and receiver (`Rx`) joined by a FIFO channel (`Link`), that ONE
epoch of the fault-free continuation advances the cumulative ack, with the two-sided facts `Link.Coherent` as a hypothesis.
Here, for reliable traffic, the drain is complete and coherence is derived:

1. **`C02_drains_from_coherent`** — the epoch lemma iterated: from EVERY coherent state (arbitrary flags, miss counters,
   congestion window, fast-recovery state, holes at the receiver, arbitrary DATA chunks and SACKs still in flight — the
   SACKs with arbitrary gap blocks) the canonical continuation `Link.step` reaches, within the explicit number of steps
   `Link.drainBound2` (a polynomial in `|toRx|`, `|toTx|`, `|sentQ| + |outQ|`), a state with `sentQ = outQ = []`,
   `flight = 0`, network empty, T3 off, in which the receiver's cumulative TSN has advanced over every chunk that was
   outstanding or queued.
2. **`C02_coherence_preserved` / `C02_reachable_coherent`** — coherence is *derived*: it is an invariant of the
   two-sided system in which the network may deliver any datagram in flight (reordering), drop it or duplicate it, T3 may
   fire at any time, a `_transmit` task may run at any time and the application may send reliable messages at any time.
   `C02_ahead_derived` spells out what coherence says in the terms of `Props/C02.lean` (receiver ahead by a bounded
   amount, head chunk = the one after `lastSacked`, what is in flight, `SndInv`, `RxOk`); `C02_coherent_derived` gives
   `Link.Coherent` itself.
3. **`C02_drains_abstract`** — composed: for every fresh pair and EVERY finite sequence of such moves, the fault-free
   continuation drains within the bound, and the receiver's cumulative TSN is then the initial TSN − 1 + the number of
   chunks the application ever queued.

The measure: `a + nOut` is conserved (`a` = chunks cumulatively acked, `nOut = |sentQ| + |outQ|`); between two T3 expiries
`phi2 = 2·|toRx| + |toTx| + pending + 2·pot2` strictly decreases with every step (`C02_step_decreases`), where `pot2`
counts the chunks marked for retransmission or never sent plus `nOut` for every SACK that can still strike (`S2`).
A SACK strikes only if it newly gap-acks a chunk behind every chunk it strikes (`C02_strike_needs_new_gap_ack`, sender-local,
for arbitrary gap blocks).  The SACKs that were in flight when the continuation starts are arbitrary (`h` of them, each
may strike); every later SACK is generated by the model's receiver: it is sound, and complete below the highest TSN it
reports (`C02_honest_sack`, also for SACKs truncated at 296 blocks / 16-bit offsets), so a gap-acked chunk that the receiver
really has is never struck again and at most `2·nOut` further SACKs strike before the next T3 expiry.  Every epoch (T3
expiry, `_transmit`, until the network is empty again) cumulatively acks at least one more chunk (`C02_epoch_acks`).
-/
namespace Aiortc.Props.C02Drain
open Aiortc.Sctp Aiortc.Gen

/-- TSN comparisons are sound while fewer than 2³¹ chunks were ever queued -/
theorem half_range_const : (2147483648 : Nat) = 2 ^ 31 := by decide

/-! ## (2) coherence is an invariant of the adversarial two-sided system -/

/-- **every move preserves coherence**: `send` (reliable), `task`, `fireT3`, `deliverData i`, `deliverSack i`,
`dropData i`, `dropSack i`, `dupData i`, `dupSack i`, `tick`; `a + nOut` grows by exactly the chunks queued. -/
theorem C02_coherence_preserved {b : Int} {a r : Nat} {s : Link} (h : Coh b a r s) (f : Fault) (hrel : f.Reliable)
    (hb : a + s.tx.nOut + f.sent + 1 < 2147483648) :
    ∃ a' r', Coh b a' r' (s.fault f) ∧ a' + (s.fault f).tx.nOut = a + s.tx.nOut + f.sent :=
  (h.fault f hrel hb).imp fun _ h' => h'.imp fun _ h'' => ⟨h''.1, h''.2.2.2⟩

/-- **every reachable state is coherent**: fresh pair, any finite sequence of moves -/
theorem C02_reachable_coherent (s0 : Link) (h0 : s0.Fresh) (fs : List Fault) (hrel : ∀ f ∈ fs, f.Reliable)
    (hb : sentTotal fs + 1 < 2147483648) :
    ∃ a r, Coh s0.tx.lastSacked a r (fs.foldl Link.fault s0) ∧ a + (fs.foldl Link.fault s0).tx.nOut = sentTotal fs := by
  obtain ⟨hc, hn⟩ := h0.coh
  obtain ⟨a, r, h1, h2⟩ := hc.faults fs hrel (by omega)
  exact ⟨a, r, h1, by omega⟩

/-- the two-sided facts that `C02_drains_partial` takes as hypotheses: the receiver's cumulative TSN is the sender's
`lastSacked` or ahead of it by at most the number of transmitted chunks, and the first outstanding chunk is the one after
`lastSacked`; also: every SACK in flight carries a cumulative TSN the receiver has reached, every DATA chunk in flight a
transmitted TSN; and the one-sided invariants `SndInv`, `RxOk` -/
theorem C02_ahead_derived {b : Int} {a r : Nat} {s : Link} (h : Coh b a r s) :
    (∃ j, j ≤ s.tx.sentQ.length ∧ s.rx.last = (s.tx.lastSacked + (j : Int)) % 4294967296)
    ∧ (∀ c cs, s.tx.sentQ = c :: cs → c.tsn = tsn_plus_one s.tx.lastSacked)
    ∧ (∀ p ∈ s.toTx, uint32_gte s.rx.last p.1 = true)
    ∧ (∀ d ∈ s.toRx, uint32_gte ((s.tx.lastSacked + (s.tx.sentQ.length : Int)) % 4294967296) d.tsn = true)
    ∧ SndInv { tx := s.tx, pending := s.pending } ∧ RxOk s.rx := by
  have hb := h.core.seq.bound
  have hrhi := h.core.rhi
  have hrlo := h.core.rlo
  refine ⟨⟨r - a, by omega, h.core.rx_ahead⟩, ?_, ?_, ?_, h.snd, h.core.rxok⟩
  · intro c cs hq
    have := h.core.seq.sent
    rw [hq] at this
    rw [this.1, h.core.seq.ls, T_succ]
  · intro p hp
    obtain ⟨k, k1, k2⟩ := h.core.toTx p hp
    rw [h.core.rlast, k2]; exact gte_T_of (by omega) k1
  · intro d hd
    obtain ⟨k, k1, k2⟩ := h.core.toRx d hd
    rw [h.core.seq.ls, T_add, k2]; exact gte_T_of (by omega) k1

/-- the hypothesis `Link.Coherent` of `C02_drains_partial` (`Props/C02.lean`) holds in every coherent, hence in every
reachable state — including its bound on the size of the misordered set (pigeonhole: duplicate-free TSNs in
`(r, a + |sentQ|]`) -/
theorem C02_coherent_derived {b : Int} {a r : Nat} {s : Link} (h : Coh b a r s) : s.Coherent := by
  have hb := h.core.seq.bound
  have hrhi := h.core.rhi
  have hrlo := h.core.rlo
  have hlen : s.rx.mis.length ≤ a + s.tx.sentQ.length - r :=
    nodup_range_length b (a + s.tx.sentQ.length - r) r s.rx.mis h.core.rxok.nodup (by
      intro x hx; obtain ⟨j, j1, j2, j3⟩ := h.core.mis x hx; exact ⟨j, j1, by omega, j3⟩)
  refine ⟨h.snd, h.core.rxok, by rw [h.core.seq.ls]; exact T_r32 b a, ⟨r - a, by omega, h.core.rx_ahead⟩, ?_⟩
  · intro x hx
    rw [h.core.seq.lastTsn]
    simp only [List.mem_cons] at hx
    rcases hx with rfl | hx
    · rw [h.core.rlast]; exact not_gt_T_of (by omega) (by omega)
    · obtain ⟨j, j1, j2, j3⟩ := h.core.mis x hx
      rw [j3]; exact not_gt_T_of (by omega) (by omega)

/-! ## the bound on fast retransmissions between two epochs -/

/-- **a SACK strikes only if it newly gap-acks a later chunk**: whatever the gap blocks say, the outstanding part of the
sent queue is either left exactly as it was (no miss counter, mark or flag changes) or it decreases in the order
`LexLt` (some chunk is newly gap-acked and no chunk behind it loses its gap-ack), hence `psi` strictly decreases. -/
theorem C02_strike_needs_new_gap_ack (b : Int) (k : Nat) (gaps : List (Nat × Nat)) (l : List SChunk) (hs : Seq b k l)
    (hl : k + l.length < 2147483648) (tail : Nat) :
    sackList (T b k) gaps l = l ∨ psi (sackList (T b k) gaps l) tail < psi l tail := by
  rcases sackList_lex b k gaps l hs hl with h | h
  · exact Or.inl h
  · exact Or.inr (psi_lt_of_lex tail h)

/-- **an honest SACK is sound, and complete below everything it reports**: in a coherent state, the SACK the receiver
sends for its current state reports only TSNs it has, and every TSN it has at or before a TSN the SACK reports — whatever
the size of the misordered set (`_send_sack` truncates at 296 blocks and at offset 65535) -/
theorem C02_honest_sack {b : Int} {a r : Nat} {s : Link} (h : Coh b a r s) (j : Nat) (hj : j < 2147483648) :
    (Cov (s.rx.last, sackGapBlocks s.rx) (T b j) → RxHas s.rx (T b j))
    ∧ (RxHas s.rx (T b j) → Below (s.rx.last, sackGapBlocks s.rx) (T b j) → Cov (s.rx.last, sackGapBlocks s.rx) (T b j)) := by
  have hb := h.core.seq.bound
  exact sack_sound_below (h.core.rxAt (by omega)) j hj

/-- … and exact when at most 296 chunks are outstanding or queued -/
theorem C02_honest_sack_exact {b : Int} {a r : Nat} {s : Link} (h : Coh b a r s) (hs : s.tx.nOut ≤ 296) (j : Nat)
    (hj : j < 2147483648) : Cov (s.rx.last, sackGapBlocks s.rx) (T b j) ↔ RxHas s.rx (T b j) := by
  have hb := h.core.seq.bound
  have hrlo := h.core.rlo
  unfold Tx.nOut at hs
  exact sack_sound_complete (h.core.rxAt (by omega)) (by omega) j hj

/-- **every non-T3 step decreases the potential**, keeps coherence and the honest-SACK invariant (`h` = number of SACKs
in flight that date from the fault history), never un-acks anything and conserves `a + nOut` -/
theorem C02_step_decreases {b : Int} {a r h : Nat} {s : Link} (hc : Coh b a r s) (hh : Hon b h s) (hq : ¬ s.Quiet) :
    ∃ a' r' h', Coh b a' r' s.step ∧ Hon b h' s.step ∧ h' ≤ h ∧ s.step.phi2 h' + 1 ≤ s.phi2 h ∧ a ≤ a'
      ∧ a' + s.step.tx.nOut = a + s.tx.nOut := by
  obtain ⟨a1, r1, hc1, _, ht⟩ := step_progress hc hq
  obtain ⟨h1, hle, hh1, hphi⟩ := step_hon hc hh hq
  exact ⟨a1, r1, h1, hc1, hh1, hle, hphi, ht.le, ht.nOut⟩

/-- the potential is bounded: `phi2 ≤ 2|toRx| + |toTx| + 1 + 2 (nOut + nOut (h + 2 nOut))` -/
theorem C02_potential_bounded (s : Link) (h : Nat) :
    s.phi2 h ≤ 2 * s.toRx.length + s.toTx.length + 1 + 2 * (s.tx.nOut + s.tx.nOut * (h + 2 * s.tx.nOut)) :=
  phi2_le s h

/-- **the network empties**: from every coherent state, within `phi2` steps nothing is in flight and no task is pending;
coherence holds there, nothing was un-acked, and a SACK that was under way has advanced the cumulative ack -/
theorem C02_network_empties {b : Int} {a r h : Nat} {s : Link} (hc : Coh b a r s) (hh : Hon b h s) :
    ∃ j a' r', j ≤ s.phi2 h ∧ Coh b a' r' (Link.run j s) ∧ Hon b 0 (Link.run j s) ∧ (Link.run j s).Quiet ∧ a ≤ a'
      ∧ a' + (Link.run j s).tx.nOut = a + s.tx.nOut ∧ (Ahead b a r s → a < a') := by
  obtain ⟨j, a', r', hj, h1, h2, h3, ht⟩ := quiesce_hon hc hh
  exact ⟨j, a', r', hj, h1, h2, h3, ht.le, ht.nOut, ht.quiet h3⟩

/-- **every epoch makes progress**: quiet coherent state with something outstanding; T3 expiry and the queued
`_transmit` put the chunk after the cumulative ack into flight, so when the network is next empty `a` is larger -/
theorem C02_epoch_acks {b : Int} {a r : Nat} {s : Link} (h : Coh b a r s) (hq : s.Quiet) (h3 : s.tx.t3 = true)
    (hne : s.tx.sentQ ≠ []) :
    ∃ j a' r', j ≤ 2 + 2 * (s.tx.nOut + s.tx.nOut * (2 * s.tx.nOut)) ∧ Coh b a' r' (Link.run j s) ∧ (Link.run j s).Quiet
      ∧ a < a' ∧ a' + (Link.run j s).tx.nOut = a + s.tx.nOut := by
  obtain ⟨j, a', r', hj, hc, _, hq', hlt, hn⟩ := epoch_acks_hon h hq hne
  exact ⟨j, a', r', hj, hc, hq', hlt, hn⟩

/-! ## (1) full drain from every coherent state -/

/-- the bound `Link.drainBound2` of this file's theorems, spelled out (`n = |sentQ| + |outQ|`): cubic in `n`, bilinear in `n`
and `|toTx|`. (`Link.drainBound` of `DrainRun.lean` is another, exponential one: the bound of `Coh.drains`, which uses only
the sender-local `C02_strike_needs_new_gap_ack`.) -/
theorem drainBound_eq (s : Link) :
    s.drainBound2 = 2 * s.toRx.length + s.toTx.length + 1
      + 2 * (s.tx.nOut + s.tx.nOut * (s.toTx.length + 2 * s.tx.nOut))
      + (s.tx.nOut * (2 + 2 * (s.tx.nOut + s.tx.nOut * (2 * s.tx.nOut))) + 2) := rfl

theorem nOut_eq (t : Tx) : t.nOut = t.sentQ.length + t.outQ.length := rfl

/-- **`C02_drains_from_coherent`**: from every coherent state of the pair the canonical fault-free continuation
reaches, within `drainBound2` steps, a drained state (`sentQ = outQ = []`, `flight = 0`, no FORWARD TSN, network empty,
nothing pending, T3 off) in which the receiver's cumulative TSN and the sender's cumulative ack both equal the old
`lastSacked` plus the number of chunks that were outstanding or queued: every chunk has been delivered. -/
theorem C02_drains_from_coherent {b : Int} {a r : Nat} {s : Link} (h : Coh b a r s) :
    ∃ j, j ≤ s.drainBound2 ∧ (Link.run j s).Drained
      ∧ (Link.run j s).rx.last = (s.tx.lastSacked + (s.tx.nOut : Int)) % 4294967296
      ∧ (Link.run j s).tx.lastSacked = (Link.run j s).rx.last
      ∧ (Link.run j s).tx.localTsn = tsn_plus_one (Link.run j s).rx.last := by
  obtain ⟨j, hj, hd, h1, h2, h3⟩ := h.drains_hon
  refine ⟨j, hj, hd, ?_, by rw [h1, h2], by rw [h3, h1, T_succ]⟩
  rw [h1, h.core.seq.ls, T_add]

/-! ## (3) composed: any fault history, then the fault-free continuation -/

/-- **`C02_drains_abstract`**: fresh pair, ANY finite history of adversarial moves (reliable sends; fewer than 2³¹ chunks
ever queued), then the canonical fault-free continuation: within `drainBound2` (of the state the history left) steps
everything is drained and the receiver's cumulative TSN covers every chunk the application ever queued. -/
theorem C02_drains_abstract (s0 : Link) (h0 : s0.Fresh) (fs : List Fault) (hrel : ∀ f ∈ fs, f.Reliable)
    (hb : sentTotal fs + 1 < 2147483648) :
    let s := fs.foldl Link.fault s0
    ∃ j, j ≤ s.drainBound2 ∧ (Link.run j s).Drained
      ∧ (Link.run j s).rx.last = (s0.tx.lastSacked + (sentTotal fs : Int)) % 4294967296
      ∧ (Link.run j s).tx.lastSacked = (Link.run j s).rx.last
      ∧ (Link.run j s).tx.localTsn = tsn_plus_one (Link.run j s).rx.last := by
  intro s
  obtain ⟨a, r, hc, hn⟩ := C02_reachable_coherent s0 h0 fs hrel hb
  obtain ⟨j, hj, hd, h1, h2, h3⟩ := hc.drains_hon
  refine ⟨j, hj, hd, ?_, by rw [h1, h2], by rw [h3, h1, T_succ]⟩
  rw [h1, hn]; rfl

/-! ## non-vacuity -/

def demoMsg : SendArgs := { sid := 1, ppid := 53, data := [1, 2, 3], expiry := none, maxRtx := none, ordered := true }

/-- the pair right after INIT / INIT-ACK with initial TSN 100 -/
def demo0 : Link := { tx := (Ep.init false 1 100).tx, rx := { last := 99, mis := [], dups := [] } }

example : demo0.Fresh :=
  ⟨⟨rfl, rfl, rfl, rfl, by decide⟩, rfl, by unfold R32; decide, by decide, rfl, rfl, rfl, rfl, rfl⟩

/-- three messages; the first DATA chunk is lost, the other two arrive in reverse order, a SACK is duplicated, the later
SACK overtakes the earlier one, T3 fires, the application sends again -/
def demoFaults : List Fault :=
  [.send demoMsg, .send demoMsg, .send demoMsg, .dropData 0, .deliverData 1, .dupSack 0, .deliverData 0,
   .deliverSack 1, .fireT3, .send demoMsg, .tick 5]

def demo1 : Link := demoFaults.foldl Link.fault demo0

example : (∀ f ∈ demoFaults, f.Reliable) ∧ sentTotal demoFaults = 4 := by
  refine ⟨?_, by decide⟩
  intro f hf
  simp only [demoFaults, List.mem_cons, List.not_mem_nil, or_false] at hf
  rcases hf with rfl | rfl | rfl | rfl | rfl | rfl | rfl | rfl | rfl | rfl | rfl <;>
    first | exact ⟨rfl, rfl⟩ | trivial

/-- the history leaves holes at the receiver, four chunks outstanding, DATA and reordered SACKs in flight -/
example : demo1.tx.sentQ.map (·.tsn) = [100, 101, 102, 103] ∧ demo1.rx = { last := 99, mis := [102, 101], dups := [] }
    ∧ demo1.toRx.map (·.tsn) = [100, 101, 102, 103] ∧ demo1.toTx = [(99, [(3, 3)]), (99, [(2, 3)])]
    ∧ demo1.pending = true ∧ demo1.tx.t3 = true := by decide +kernel

example : demo1.drainBound2 = 397 := by decide +kernel

/-- the hypotheses of `C02_step_decreases` at the start of the continuation: all SACKs in flight count as old -/
example (b : Int) : Hon b demo1.toTx.length demo1 := Hon.start b demo1

/-- … and the continuation drains it (here after 11 steps), the receiver's cumulative TSN being 99 + 4 -/
example : (Link.run 11 demo1).tx.sentQ = [] ∧ (Link.run 11 demo1).tx.outQ = [] ∧ (Link.run 11 demo1).tx.flight = 0
    ∧ (Link.run 11 demo1).toRx = [] ∧ (Link.run 11 demo1).toTx = [] ∧ (Link.run 11 demo1).tx.t3 = false
    ∧ (Link.run 11 demo1).rx.last = 103 ∧ (Link.run 11 demo1).tx.lastSacked = 103 := by decide +kernel

set_option maxRecDepth 4000 in
/-- a SACK that strikes: chunks 100 … 103 outstanding, the SACK gap-acks 102 → 100 and 101 get a miss, `psi` drops -/
example : demo1.tx.sentQ.map (·.tsn) = [T 99 1, T 99 2, T 99 3, T 99 4]
    ∧ sackList (T 99 0) [(3, 3)] demo1.tx.sentQ ≠ demo1.tx.sentQ
    ∧ psi (sackList (T 99 0) [(3, 3)] demo1.tx.sentQ) 0 < psi demo1.tx.sentQ 0
    ∧ (sackList (T 99 0) [(3, 3)] demo1.tx.sentQ).map (·.misses) = [1, 1, 0, 0] := by decide +kernel

/-- a quiet state with something outstanding (hypotheses of `C02_epoch_acks`): everything in flight was lost -/
def demo2 : Link := [Fault.send demoMsg, .dropData 0].foldl Link.fault demo0
example : demo2.Quiet ∧ demo2.tx.t3 = true ∧ demo2.tx.sentQ ≠ [] :=
  ⟨⟨by decide +kernel, by decide +kernel, by decide +kernel⟩, by decide +kernel, by decide +kernel⟩

end Aiortc.Props.C02Drain
