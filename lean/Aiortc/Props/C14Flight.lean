import Aiortc.Props.C14
import Aiortc.Model.Jsep.Inherit
import Aiortc.Model.Jsep.Segments
/-!
# C14 — per-section defects of a description, and calls in flight

1. **Which descriptions are defective** (Model/Jsep/Inherit.lean, the part of `SessionDescription.parse`
   that feeds `__validate_description`): the value in force for an m-section is its own line, else the
   session-level one; no section inherits from another section.  A description in which ANY ONE section
   lacks ICE credentials / a DTLS role / rtcp-mux is rejected with `ValueError` and no effect, wherever the
   section stands and whatever the other sections carry; session-level credentials cover every section
   that does not override them.
2. **Calls in flight** (Model/Jsep/Segments.lean): a call is a sequence of atomic segments between
   `await`s.  `step` is `start` followed at once by `resume` (so every theorem of `Props/C14.lean` is about the
   segment semantics as well); for ANY number of calls in flight under ANY schedule `closed` is absorbing:
   once `close()` has run its first segment nothing modelled changes any more, and a call overtaken by
   `close()` ends with `InvalidStateError` in exactly the public state the JSEP machine gives for
   "`close`, then the call".
-/
namespace Aiortc.Props.C14Flight
open Aiortc.Model.Jsep
open Aiortc.Model.Jsep.Spec (next mediaOk wellFormed acceptable setDesc Verdict)
open Aiortc.Props.C14

/-! ## 1. Session level / media level, one section at a time -/

theorem resolveAll_eq_map (sess : Level) (ms : List RawMedia) :
    resolveAll sess ms = ms.map (resolveMedia sess) := by
  induction ms with
  | nil => rfl
  | cons m ms ih => simp [resolveAll, ih]

/-- **No leak between sections**: section `i` of what the parser hands to the validator is determined
by the session part and by section `i` of the text alone. -/
theorem resolve_section_local (r : RawDesc) (i : Nat) :
    r.resolve.media[i]? = (r.media[i]?).map (resolveMedia r.sess) := by
  simp [RawDesc.resolve, resolveAll_eq_map]

/-- Two descriptions that agree on the session part and on section `i` agree on the resolved section
`i`, whatever their other sections say. -/
theorem resolve_section_independent (r r' : RawDesc) (i : Nat) (hs : r.sess = r'.sess)
    (hi : r.media[i]? = r'.media[i]?) : r.resolve.media[i]? = r'.resolve.media[i]? := by
  rw [resolve_section_local, resolve_section_local, hs, hi]

/-- Session-level ICE credentials cover every section that does not override them with an empty value. -/
theorem session_level_covers (r : RawDesc) (hu : r.sess.ufrag = some true) (hp : r.sess.pwd = some true)
    (hm : ∀ m ∈ r.media, m.own.ufrag ≠ some false ∧ m.own.pwd ≠ some false) :
    ∀ m ∈ r.resolve.media, m.ufrag = true ∧ m.pwd = true := by
  intro m hmem
  simp only [RawDesc.resolve, resolveAll_eq_map, List.mem_map] at hmem
  obtain ⟨rm, hrm, rfl⟩ := hmem
  have := hm rm hrm
  simp only [resolveMedia, inForce, hu, hp]
  grind

/-- A session-level `a=setup` covers every section without its own. -/
theorem session_setup_covers (r : RawDesc) (ro : Role) (hs : r.sess.setup = some ro)
    (hm : ∀ m ∈ r.media, m.own.setup = none) : ∀ m ∈ r.resolve.media, m.role = ro := by
  intro m hmem
  simp only [RawDesc.resolve, resolveAll_eq_map, List.mem_map] at hmem
  obtain ⟨rm, hrm, rfl⟩ := hmem
  simp [resolveMedia, roleInForce, hm rm hrm, hs]

/-- A media-level line covers its own section only: a section without own credentials under a session
part without credentials lacks them, whatever the sections before it carry. -/
theorem media_level_does_not_cover_others (sess : Level) (m : RawMedia)
    (hs : sess.ufrag = none ∨ sess.pwd = none) (ho : m.own.ufrag = none ∧ m.own.pwd = none) :
    m.lacksCredentials sess = true := by
  rcases hs with hs | hs <;> simp [RawMedia.lacksCredentials, inForce, hs, ho.1, ho.2]

/-- What the validator objects to in a resolved section, in terms of the text. -/
theorem mediaOk_resolve (sess : Level) (t : DType) (m : RawMedia) :
    mediaOk t (resolveMedia sess m) =
      (!m.lacksCredentials sess && !m.lacksRole sess t && !m.lacksMux) := by
  simp only [mediaOk, resolveMedia, RawMedia.lacksCredentials, RawMedia.lacksRole, RawMedia.lacksMux]
  grind

/-- The first half of `acceptable`, read off the text section by section. -/
theorem wellFormed_resolve (r : RawDesc) : wellFormed r.resolve =
    r.media.all fun m => !m.lacksCredentials r.sess && !m.lacksRole r.sess r.type && !m.lacksMux := by
  simp only [wellFormed, RawDesc.resolve, resolveAll_eq_map, List.all_map, Function.comp_def, mediaOk_resolve]

theorem one_defective_section_unacceptable (r : RawDesc) (o : Option Desc) (m : RawMedia) (hm : m ∈ r.media)
    (hbad : m.lacksCredentials r.sess = true ∨ m.lacksRole r.sess r.type = true ∨ m.lacksMux = true) :
    acceptable r.resolve o = false := by
  have h2 : wellFormed r.resolve = false := by
    rw [wellFormed_resolve, List.all_eq_false]
    exact ⟨m, hm, by rcases hbad with h | h | h <;> simp [h]⟩
  simp [acceptable, h2]

/-- **Per-section `defective_no_effect`**: an offer or answer that is legal in the current state and in
which SOME m-section — first, last or in between, alone or together with others — lacks ICE credentials
(at its own level and at session level), a DTLS role (a definite one in an answer) or rtcp-mux raises
`ValueError`, and the connection (signalling state, closed latch, all four descriptions, event count)
is exactly what it was. -/
theorem defective_section_no_effect {pc : Pc} (hinv : Inv pc) (r : RawDesc) (isLocal : Bool) (s' : Sig)
    (ht : r.type = .offer ∨ r.type = .answer) (hleg : next pc.sig isLocal r.type = some s')
    (m : RawMedia) (hm : m ∈ r.media)
    (hbad : m.lacksCredentials r.sess = true ∨ m.lacksRole r.sess r.type = true ∨ m.lacksMux = true) :
    step pc (if isLocal then .setLocal r.resolve else .setRemote r.resolve) = (.valueError, pc) :=
  defective_no_effect hinv r.resolve isLocal s' ht hleg (one_defective_section_unacceptable r _ m hm hbad)

/-- The other direction: if no section lacks anything the description is well-formed (the first half of `acceptable`,
which `legal_applied` asks for). -/
theorem no_defective_section_wellFormed (r : RawDesc)
    (hok : ∀ m ∈ r.media, m.lacksCredentials r.sess = false ∧ m.lacksRole r.sess r.type = false ∧ m.lacksMux = false) :
    wellFormed r.resolve = true := by
  rw [wellFormed_resolve, List.all_eq_true]
  intro m hm
  obtain ⟨h1, h2, h3⟩ := hok m hm
  simp [h1, h2, h3]

/-! ## 2. Calls in flight -/

/-- The two segments of applying a local description, run back to back on an open connection, are `applyLocal`. -/
theorem startApplyLocal_resume (pc : Pc) (hc : pc.isClosed = false) (d : Desc) :
    (match startApplyLocal pc d with
      | (.done r, pc1) => (r, pc1)
      | (.suspended k, pc1) => resume pc1 k) = applyLocal pc d := by
  unfold startApplyLocal applyLocal
  cases hv : validate pc d true with
  | some e => rfl
  | none => cases ht : d.type <;> simp [resume, Pc.setSig, hc, ht]

/-- A call awaited on its own (first segment, then at once the second) is the `step` of `Props/C14.lean`: all
its theorems are theorems about the segment semantics. -/
theorem seqStep_eq_step (pc : Pc) (c : Call) : seqStep pc c = step pc c := by
  cases c with
  | createOffer km => rfl
  | createAnswer => rfl
  | close => rfl
  | setLocal d =>
    simp only [seqStep, start, step, setLocal]
    by_cases hi : (d.type == .invalid) = true
    · simp [hi]
    · by_cases hc : pc.isClosed = true
      · simp [hi, hc]
      · simp only [hi, hc, if_false, Bool.false_eq_true]
        exact startApplyLocal_resume pc (by simpa using hc) d
  | setLocalImplicit km =>
    simp only [seqStep, start, step, setLocalImplicit]
    by_cases hc : pc.isClosed = true
    · simp [hc]
    · simp only [hc, if_false, Bool.false_eq_true]
      cases hcr : (if (pc.sig == Sig.haveRemoteOffer) = true then createAnswer pc else createOffer pc km) with
      | created d => exact startApplyLocal_resume pc (by simpa using hc) d
      | ok => rfl
      | invalidState => rfl
      | valueError => rfl
      | crash k => rfl
  | setRemote d =>
    simp only [seqStep, start, step, setRemote]
    by_cases hi : (d.type == .invalid) = true
    · simp [hi]
    · simp only [hi, if_false, Bool.false_eq_true]
      cases hv : validate pc d false with
      | some e => rfl
      | none => rfl

/-- What a first segment can do: nothing, close the connection, or move the signalling state (never to `closed`) and
suspend; the descriptions are stored by the second segment. -/
inductive StartTrans (pc : Pc) : Started × Pc → Prop
  | same (s) : StartTrans pc (s, pc)
  | close : pc.isClosed = false → StartTrans pc (.done .ok, { pc.setSig .closed with isClosed := true })
  | sig (k s) : pc.isClosed = false → s ≠ .closed → StartTrans pc (.suspended k, pc.setSig s)

theorem startApplyLocal_trans (pc : Pc) (hc : pc.isClosed = false) (d : Desc) : StartTrans pc (startApplyLocal pc d) := by
  unfold startApplyLocal
  cases validate pc d true with
  | some e => exact .same _
  | none =>
    cases d.type
    case offer => exact .sig _ _ hc (by simp)
    case answer => exact .sig _ _ hc (by simp)
    all_goals exact .same _

theorem start_trans (pc : Pc) (c : Call) : StartTrans pc (start pc c) := by
  cases c with
  | createOffer km => exact .same _
  | createAnswer => exact .same _
  | close =>
    simp only [start, close]
    split
    · exact .same _
    · rename_i hc; exact .close (by simpa using hc)
  | setLocal d =>
    simp only [start]
    split
    · exact .same _
    · split
      · exact .same _
      · rename_i hc; exact startApplyLocal_trans pc (by simpa using hc) d
  | setLocalImplicit km =>
    simp only [start]
    split
    · exact .same _
    · rename_i hc
      split
      · exact startApplyLocal_trans pc (by simpa using hc) _
      · exact .same _
  | setRemote d =>
    simp only [start]
    split
    · exact .same _
    · cases validate pc d false <;> exact .same _

theorem start_closed (pc : Pc) (h : pc.isClosed = true) (c : Call) : (start pc c).2 = pc := by
  have t := start_trans pc c
  generalize start pc c = x at t ⊢
  cases t with
  | same => rfl
  | _ => simp_all

/-- The second segment of any call, run on a closed connection, raises InvalidStateError and changes
nothing: this is the `__assertNotClosed()` after the `await`. -/
theorem resume_closed (pc : Pc) (h : pc.isClosed = true) (k : Pending) : resume pc k = (.invalidState, pc) := by
  cases k <;> simp [resume, h]

/-! What the first and the second segment of every call preserve, every schedule of calls in flight preserves. -/

section preserves
variable {P : Pc → Prop} (hs : ∀ pc c, P pc → P (start pc c).2) (hr : ∀ pc k, P pc → P (resume pc k).2)
include hs hr

theorem advance_preserves {pc : Pc} (h : P pc) (f : Flight) : P (f.advance pc).2 := by
  cases f with
  | fresh c =>
    have := hs pc c h
    simp only [Flight.advance]
    split <;> simp_all
  | waiting k => exact hr pc k h
  | finished r => exact h

theorem advanceAt_preserves {pc : Pc} (h : P pc) (fl : List Flight) (i : Nat) : P (advanceAt pc fl i).2 := by
  induction fl generalizing i with
  | nil => exact h
  | cons f fs ih =>
    cases i with
    | zero => exact advance_preserves hs hr h f
    | succ i => exact ih i

theorem runMany_preserves {pc : Pc} (h : P pc) (fl : List Flight) (sched : List Nat) : P (runMany pc fl sched).2 := by
  induction sched generalizing pc fl with
  | nil => exact h
  | cons i sched ih => exact ih (advanceAt_preserves hs hr h fl i) _

end preserves

/-- **`closed` is absorbing under every interleaving**: with any number of calls in flight (issued
before or after the close, suspended at their `await` or not yet started) and any schedule of their
segments, a closed connection — signalling state, latch, all four descriptions, event count — never
changes again. -/
theorem closed_absorbing_interleaved (pc : Pc) (h : pc.isClosed = true) (fl : List Flight) (sched : List Nat) :
    (runMany pc fl sched).2 = pc :=
  runMany_preserves (P := (· = pc)) (fun _ c e => e ▸ start_closed pc h c)
    (fun _ k e => e ▸ congrArg Prod.snd (resume_closed pc h k)) rfl fl sched

/-- The closed latch and `signalingState == "closed"` coincide, also between the segments of calls in
flight (the other clauses of `Inv` hold only when no `setLocalDescription` is suspended). -/
def SegInv (pc : Pc) : Prop := pc.isClosed = true ↔ pc.sig = .closed

theorem seginv_start {pc : Pc} (h : SegInv pc) (c : Call) : SegInv (start pc c).2 := by
  have t := start_trans pc c
  generalize start pc c = x at t ⊢
  cases t with
  | same => exact h
  | _ => simp_all [SegInv, Pc.setSig]

theorem seginv_resume {pc : Pc} (h : SegInv pc) (k : Pending) : SegInv (resume pc k).2 := by
  cases k with
  | localStore d =>
    simp only [resume]
    split
    · exact h
    · split <;> exact h
  | remoteApply d =>
    simp only [resume]
    split
    · exact h
    · rename_i hc
      cases ht : d.type <;> simp_all [SegInv, Pc.setSig]

theorem seginv_runMany {pc : Pc} (h : SegInv pc) (fl : List Flight) (sched : List Nat) :
    SegInv (runMany pc fl sched).2 :=
  runMany_preserves (P := SegInv) (fun _ c h' => seginv_start h' c) (fun _ k h' => seginv_resume h' k) h fl sched

/-- No first segment touches `localDescription` or `remoteDescription`. -/
theorem start_descriptions_kept (pc : Pc) (c : Call) :
    (start pc c).2.localDescription = pc.localDescription ∧
      (start pc c).2.remoteDescription = pc.remoteDescription := by
  have t := start_trans pc c
  generalize start pc c = x at t ⊢
  cases t <;> simp [Pc.setSig, Pc.localDescription, Pc.remoteDescription]

theorem start_close_closed (pc : Pc) : (start pc .close).2.isClosed = true := by
  simp only [start, close]; split <;> simp_all

/-- **Once `close()` has run, forever**: take any state reached with calls in flight, let `close()` run
its first segment; then `signalingState` is `closed`, the descriptions are those present at that
moment, and whatever the calls still in flight (and any calls issued later) do, under any schedule,
nothing of it changes any more. -/
theorem close_then_anything {pc : Pc} (h : SegInv pc) (fl : List Flight) (sched : List Nat) :
    let pc' := (start pc .close).2
    pc'.sig = .closed ∧ pc'.localDescription = pc.localDescription ∧ pc'.remoteDescription = pc.remoteDescription ∧
      (runMany pc' fl sched).2 = pc' := by
  have hcl := start_close_closed pc
  exact ⟨(seginv_start h .close).mp hcl, (start_descriptions_kept pc .close).1, (start_descriptions_kept pc .close).2,
    closed_absorbing_interleaved _ hcl fl sched⟩

/-- A call suspended at its `await` that is resumed on a closed connection ends with InvalidStateError. -/
theorem waiting_fails_after_close (pc : Pc) (h : pc.isClosed = true) (k : Pending) :
    ((Flight.waiting k).advance pc).1 = .finished .invalidState := by
  simp [Flight.advance, resume_closed pc h k]

/-- **A call overtaken by `close()` refines the JSEP machine as "close, then the call"**: on a
reachable state let a call of the alphabet run its first segment and suspend, let `close()` run, then
resume the call.  It raises InvalidStateError, `close()` returned normally, and the public state
`(signalingState, localDescription, remoteDescription)` is exactly the one the JSEP machine reaches
from the state before by `close` followed by the (then rejected) call. -/
theorem overtaken_by_close_refines_jsep {pc : Pc} (hinv : Inv pc) (c : Call) (hc : c.inAlphabet = true)
    (k : Pending) (pc1 : Pc) (hs : start pc c = (.suspended k, pc1)) :
    let pc2 := (start pc1 .close).2
    (start pc1 .close).1 = .done .ok ∧
      (resume pc2 k).1.verdict = some .invalidState ∧
      [some Verdict.ok, (resume pc2 k).1.verdict] = (Spec.run pc.obs [.close, c]).1.map some ∧
      (resume pc2 k).2.obs = (Spec.run pc.obs [.close, c]).2 := by
  have hseg1 : SegInv pc1 := by have := seginv_start hinv.closed_iff c; rw [hs] at this; exact this
  have hkeep := start_descriptions_kept pc c
  rw [hs] at hkeep
  have hcl := start_close_closed pc1
  have hct := close_then_anything hseg1 [] []
  simp only at hct
  obtain ⟨hsig, hloc, hrem, -⟩ := hct
  have hres := resume_closed _ hcl k
  have hobs : (start pc1 .close).2.obs = ⟨.closed, pc.localDescription, pc.remoteDescription⟩ := by
    simp [Pc.obs, hsig, hloc, hrem, hkeep.1, hkeep.2]
  -- the JSEP machine rejects the call after close with InvalidStateError
  have hrun : Spec.run pc.obs [.close, c] =
      ([.ok, .invalidState], ⟨.closed, pc.localDescription, pc.remoteDescription⟩) := by
    cases c with
    | createOffer km | createAnswer | close => simp [start] at hs
    | setLocalImplicit km => simp [Spec.run, Spec.step, Pc.obs]
    | setLocal d | setRemote d =>
      have hni : d.type ≠ .invalid := by
        intro h; simp [start, h] at hs
      rcases DType.offer_or_answer hc hni with h | h <;> simp [Spec.run, Spec.step, setDesc, Pc.obs, h, next]
  refine ⟨by simp [start, close]; split <;> rfl, by simp [hres, Res.verdict], ?_, ?_⟩
  · simp [hrun, hres, Res.verdict]
  · rw [hres, hrun]; exact hobs

/-! ## Non-vacuity and witnesses -/

def credLevel : Level := { ufrag := some true, pwd := some true, setup := some .auto }
def bareLevel : Level := {}
def rawSec (kind : Kind) (mid : String) (own : Level) : RawMedia := { kind, mid, own, mux := kind.isRtp }

/-- credentials in the first section only -/
def secondSectionBare : RawDesc :=
  { id := 7, type := .offer, sess := {},
    media := [rawSec .audio "0" credLevel, rawSec .video "1" { setup := some .auto }] }

example : (rawSec .video "1" { setup := some .auto }).lacksCredentials secondSectionBare.sess = true := by decide
example : step Pc.init (.setRemote secondSectionBare.resolve) = (.valueError, Pc.init) := by decide
example : next Pc.init.sig false secondSectionBare.type = some .haveRemoteOffer := by decide
/-- the same sections with the credentials at session level are fine, and the offer is applied -/
example : (step Pc.init (.setRemote { secondSectionBare with sess := credLevel }.resolve)).2.sig = .haveRemoteOffer := by decide
/-- an empty media-level value overrides a good session-level one -/
example : (resolveMedia credLevel (rawSec .audio "0" { ufrag := some false })).ufrag = false := by decide
/-- hypotheses of `session_level_covers` -/
example : ∀ m ∈ ({ secondSectionBare with sess := credLevel } : RawDesc).media,
    m.own.ufrag ≠ some false ∧ m.own.pwd ≠ some false := by decide

/-- `setRemoteDescription(offer)` suspended, `close()` runs, the call resumes: InvalidStateError, closed,
no remote description. -/
example : start Pc.init (.setRemote offerD) = (.suspended (.remoteApply offerD), Pc.init) := by decide
example : (race Pc.init (.setRemote offerD) .close [0, 1]).1 = [.finished .invalidState, .finished .ok] ∧
    (race Pc.init (.setRemote offerD) .close [0, 1]).2.obs = ⟨.closed, none, none⟩ := by decide
/-- the same call left alone completes (hypothesis `hs` of `overtaken_by_close_refines_jsep` is satisfiable
and the conclusion is not the only possible outcome) -/
example : (race Pc.init (.setRemote offerD) .close [0, 0, 1]).1 = [.finished .ok, .finished .ok] ∧
    (race Pc.init (.setRemote offerD) .close [0, 0, 1]).2.obs = ⟨.closed, none, some offerD⟩ := by decide
/-- `setLocalDescription(offer)` overtaken by close: its first segment had already moved the state -/
example : (race Pc.init (.setLocal offerD) .close [0, 1, 0]).1 = [.finished .invalidState, .finished .ok] ∧
    (race Pc.init (.setLocal offerD) .close [0, 1, 0]).2.events = 2 := by decide

end Aiortc.Props.C14Flight
