import Aiortc.Lemmas.C19.CloseLive
import Aiortc.Model.CloseSetIter
/-! # C19 — close() always completes, is idempotent and leaves nothing running

Theorems about `Model/Close.lean` (the shutdown protocol of `RTCPeerConnection.close()` with fixes/C19-*.patch applied),
for ALL configurations (any number of transceivers, transports, data channels, BUNDLE or not), ALL histories before the
call and ALL schedules after it (any enabled action may be next; `close()` may be called at any step, any number of
times; negotiation calls may be in flight).

`Action.kind` splits the actions into *inputs* (calls of the application, messages of the remote peer, configuration
changes by negotiation), *task* steps (a step of a task / thread / coroutine the connection started) and pure
observations.  `guaranteed` marks the task steps that need no help from the environment.

* `close_terminates`  every task step in a reachable closed state strictly lowers the measure `mu`
  (`close_run_bounded`: a run of n task steps needs `n ≤ mu`; `close_input_bound`: an input after `close()` adds at most 1).
* `no_stuck`          a reachable closed state in which no guaranteed step is enabled is final — in particular `stop()`
  never waits for the `started` event of a task that was never scheduled, nor for `exited` of a task nobody cancelled.
* `after_close`       in a final state signalling / ICE / connection state are `closed`, every data channel is closed, every
  task and decoder thread has finished, received tracks have their end marker, no listener is left, no close() is pending.
* `close_idempotent`  a further `close()` only adds a waiter, which returns without touching anything.
* transport sets mutated concurrently: `close_stops_all_transports_present_at_snapshot`, `cleanup_stops_what_it_discards`, `cleanup_disjoint_from_snapshot`,
  `final_transports`, `no_stuck_cleanups`, `tset_spec`; `live_set_iteration_can_crash` (the variant that walks the live sets).

What is NOT proved (partial by nature, see ASSUMPTIONS in harness/props/C19.py): that the Python code implements this
protocol (checked by trace acceptance on real connections), that cancellations are delivered and threads joined in finite
real time, the FIFO fact behind the `connClosed` guard. -/
namespace Aiortc.Props.C19
open Aiortc.Model.Close Aiortc.Lemmas.Close

inductive Reach : State → Prop
  | init : Reach State.init
  | step {s s' : State} {a : Action} : Reach s → s.step a = some s' → Reach s'

theorem inv_reachable {s : State} (h : Reach s) : Inv s := by
  induction h with
  | init => exact inv_init
  | step _ hs ih => exact inv_step ih hs

theorem closed_stable {s s' : State} {a : Action} (hc : s.closed = true) (h : s.step a = some s') : s'.closed = true := by
  cases a with
  | close l => exact (closeNext_closed (step_close.mp h)).trans hc
  | trx i a => obtain ⟨t, -, ⟨t', -, rfl⟩, -⟩ := step_trx h; exact hc
  | tpt k a => obtain ⟨t, -, ⟨t', -, rfl⟩, -⟩ := step_tpt h; exact tptLand_closed.trans hc
  | _ =>
    -- of the remaining actions only `closeCall` writes `closed`, and it writes `true`
    simp only [State.step] at h
    repeat' split at h
    all_goals cases h
    all_goals simp [hc]

/-- **`close()` always completes: termination.**  The measure `mu` is 4 per outstanding `stop()` call minus its progress,
plus one unit per step each task still has to take. -/
theorem close_terminates {s s' : State} {a : Action} (hr : Reach s) (hc : s.closed = true) (hk : a.kind = .task)
    (h : s.step a = some s') : mu s' < mu s :=
  step_mu (inv_reachable hr).conns hc hk h

theorem close_run_bounded {s s' : State} (acts : List Action) (hr : Reach s) (hc : s.closed = true)
    (hk : ∀ a ∈ acts, a.kind = .task) (h : s.run acts = some s') : acts.length + mu s' ≤ mu s := by
  induction acts generalizing s with
  | nil => simp [State.run] at h; subst h; simp
  | cons a rest ih =>
    simp only [State.run] at h
    split at h
    · rename_i s1 hs1
      have h1 := close_terminates hr hc (hk a (by simp)) hs1
      have h2 := ih (Reach.step hr hs1) (closed_stable hc hs1) (fun b hb => hk b (by simp [hb])) h
      simp only [List.length_cons]; omega
    · simp at h

/-- inputs (application calls, remote messages) arriving after `close()` add at most one step: the return of a further
`close()` call -/
theorem close_input_bound {s s' : State} {a : Action} (hc : s.closed = true) (hk : a.kind = .input)
    (h : s.step a = some s') : mu s' ≤ mu s + 1 := by
  cases a with
  | trx i a =>
    obtain ⟨t, ht, ⟨t', ht', rfl⟩, hmk, has⟩ := step_trx h
    cases a with
    | cancel w =>
      have hW := trxStep_W (show trxStep false t (.cancel w) = some t' from ht')
      have := sumBy_set trxW s.trxs i t t' ht
      simp only [mu, State.setTrx]; simp only at hW; omega
    | mkTrack => rw [hmk rfl] at hc; cases hc
    | assign k => rw [(has k rfl).1] at hc; cases hc
    | _ => cases hk
  | tpt k a => cases a <;> simp [Action.kind] at hk
  | closeCall b =>
    cases b
    · simp [State.step, hc] at h; subst h; simp only [mu]; omega
    · simp [Action.kind] at hk
  | negEnd =>
    simp only [State.step] at h
    split at h <;> simp at h; subst h; simp [mu]
  | chanNew =>
    simp only [State.step] at h
    split at h
    · split at h
      · injection h with h; subst h; simp [mu, sctpW, *]
      · simp at h
    · simp at h
  | chanEv j c =>
    simp only [State.step] at h
    split at h
    · split at h
      · split at h
        · injection h with h; subst h; simp [mu, sctpW, *]
        · simp at h
      · simp at h
    · simp at h
  | assignSctp k =>
    -- the guard contains `!s.closed`
    simp only [State.step] at h
    (repeat' split at h) <;> simp_all
  | negBegin | negSpawn | addTpt | addTrx k | addSctp k => simp [State.step, hc] at h
  | connFirst c | connExit c | sctpStart | close l | waiterReturn | emit | obsCancelConn c | obsAutoSpawn =>
    simp [Action.kind] at hk

theorem observe_no_change {s s' : State} {a : Action} (hk : a.kind = .observe) (h : s.step a = some s') : s' = s := by
  cases a with
  | emit | obsCancelConn c | obsAutoSpawn =>
    simp only [State.step] at h
    (repeat' split at h) <;> (try (simp at h; done)) <;> (injection h with h; exact h.symm)
  | closeCall b => cases b <;> simp [Action.kind] at hk
  | trx i a => cases a <;> simp [Action.kind] at hk
  | tpt k a => cases a <;> simp [Action.kind] at hk
  | negBegin | negSpawn | negEnd | addTpt | addTrx k | addSctp k | assignSctp k | chanNew | chanEv j c | connFirst c
    | connExit c | sctpStart | close l | waiterReturn => simp [Action.kind] at hk

/-- **`close()` always completes: no stuck state.**  A reachable closed state in which no guaranteed step is enabled is final: the close
coroutine is through, every task / thread has finished.  (Contrapositive: in every non-final reachable closed state some
step is enabled that needs no help from the environment — `stop()` never waits for something nobody will deliver.) -/
theorem no_stuck {s : State} (hr : Reach s) (hc : s.closed = true) (hq : Quiescent s) : Final s :=
  final_of_quiescent (inv_reachable hr) hc hq

/-- what the property promises about the state after `close()` -/
structure AfterClose (s : State) : Prop where
  signaling : s.sigClosed = true
  ice : s.iceClosed = true
  connection : s.connClosed = true
  channels : ∀ sc, s.sctp = some sc → sc.closed = true ∧ ∀ c ∈ sc.chans, c = Chan.closed
  connects : ∀ c ∈ s.conns, c.pc = .done
  tasks : ∀ (i : Nat) (t : Trx), s.trxs[i]? = some t → t.rtp.quiet = true ∧ t.srtcp.quiet = true ∧ t.rrtcp.quiet = true
  threads : ∀ (i : Nat) (t : Trx), s.trxs[i]? = some t → t.decoder ≠ .running
  tracks : ∀ (i : Nat) (t : Trx), s.trxs[i]? = some t → t.hasTrack = true → t.trackEnd = true
  transports : ∀ (k : Nat) (t : Tpt), s.tpts[k]? = some t → t.pump ≠ .live ∧ (t.monitor = .none ∨ t.monitor = .exited)
  listeners : s.listeners = false
  returned : s.closeDone = true ∧ s.waiters = 0 ∧ s.auto ≠ .queued

/-- **`close()` leaves nothing running.**  In a final state signalling, ICE and connection state are `closed`, every channel is closed, every task and
the decoder threads have finished, received tracks have their end marker, no listener is left (no further event can reach
the application), every `close()` call has returned. -/
theorem after_close {s : State} (hr : Reach s) (hf : Final s) : AfterClose s := by
  have hI := inv_reachable hr
  obtain ⟨hcl, -, hice, hconn, hlis⟩ := hI.dne hf.done
  refine ⟨hI.sig hcl, hice, hconn, fun sc hs => hf.sctp sc hs, hf.conns, ?_, ?_, ?_, ?_, hlis, hf.done, hf.waiters, hf.auto⟩
  · intro i t ht
    obtain ⟨h1, h2⟩ := hf.trxs i t ht
    simp only [Trx.sndQuiet, Bool.and_eq_true] at h2
    exact ⟨h2.1, h2.2, h1.1⟩
  · intro i t ht; exact (hf.trxs i t ht).1.2.1
  · intro i t ht; exact (hf.trxs i t ht).1.2.2
  · intro k t ht
    obtain ⟨h1, h2⟩ := hf.tpts k t ht
    refine ⟨h1, ?_⟩
    simpa [Tpt.monQuiet] using h2

/-- from any reachable closed state, once no guaranteed step is left the promises of the property hold -/
theorem close_complete {s : State} (hr : Reach s) (hc : s.closed = true) (hq : Quiescent s) : AfterClose s :=
  after_close hr (no_stuck hr hc hq)

/-- **`close()` is idempotent.**  Calling `close()` on a closed connection changes nothing but the number of pending callers … -/
theorem close_idempotent {s : State} (hc : s.closed = true) :
    s.step (.closeCall false) = some { s with waiters := s.waiters + 1 } := by
  simp [State.step, hc]

/-- … and once the first `close()` is through, the further call returns at once, leaving the state exactly as it was -/
theorem close_idempotent_returns {s : State} (hc : s.closed = true) (hd : s.closeDone = true) :
    (s.step (.closeCall false)).bind (·.step .waiterReturn) = some s := by
  cases s
  simp_all [State.step]

/-- a negotiation call cannot start anything on a closed connection: `negBegin` and `negSpawn` are not enabled, and no
`__connect` task is live -/
theorem closed_starts_nothing {s : State} (hr : Reach s) (hc : s.closed = true) :
    s.step .negBegin = none ∧ s.step .negSpawn = none ∧ s.liveConn = false :=
  ⟨by simp [State.step, hc], by simp [State.step, hc], liveConn_false (inv_reachable hr).conns hc⟩

/-! ## concurrent mutators of the transport sets

Negotiation calls are tasks of the same system: the BUNDLE clean-up of a `setRemoteDescription()` in flight (`nstep`: stop the
unused transport, then discard it from `tset`) and an application `RTCRtpTransceiver.stop()` (`cancel`) go on while `close()`
is suspended.  `close_terminates`, `no_stuck`, `after_close` above are stated over ALL schedules of this system, so they cover
these interleavings; `Final` includes that every clean-up has run to its end.  What follows says why it matters that
`close()` works on a snapshot (the transports reachable from the transceivers and SCTP at the latch). -/

/-- the model's `tset` is the set `__dtlsTransports` / `__iceTransports`: exactly the transports not yet discarded, each once -/
theorem tset_spec {s : State} (hr : Reach s) :
    s.tset.Nodup ∧ ∀ k, k ∈ s.tset ↔ ∃ t, s.tpts[k]? = some t ∧ t.inSet = true :=
  ⟨(inv_reachable hr).tsetNodup, (inv_reachable hr).tsetOk⟩

/-- every transport record, in the connection's set or not, is covered by the snapshot or was never started -/
theorem snapshot_covers {s s' : State} {b : Bool} {k : Nat} {t : Tpt}
    (hr : Reach s) (hc : s.closed = false) (h : s.step (.closeCall b) = some s') (ht : s.tpts[k]? = some t) :
    (s.refd k = true ∧ Instr.stopDtls k ∈ s'.prog ∧ Instr.stopIce k ∈ s'.prog)
    ∨ (s.refd k = false ∧ t.unstarted = true) := by
  have hI := inv_reachable hr
  have hprog : s'.prog = s.program := by
    simp only [State.step] at h
    split at h
    · simp at h
    · cases b <;> simp [hc] at h <;> subst h <;> rfl
  cases hrk : s.refd k with
  | true =>
    left
    rw [hprog]
    exact ⟨rfl, (mem_program_tpt hrk).1, (mem_program_tpt hrk).2⟩
  | false =>
    right
    refine ⟨rfl, ?_⟩
    cases hu : t.unstarted with
    | true => rfl
    | false => have := hI.refs hc k t ht hu; rw [hrk] at this; simp at this

/-- **the snapshot covers the set.**  Every transport that is in the connection's transport set when `close()` takes its
snapshot either carries an m-section - then both its `stop()` calls are in close()'s program, whatever a concurrent call
does to the set afterwards - or carries none and was never started (nothing to stop; if a `setRemoteDescription()` is
cleaning it up, that call stops it: `cleanup_stops_what_it_discards`, `final_transports`). -/
theorem close_stops_all_transports_present_at_snapshot {s s' : State} {b : Bool} {k : Nat} {t : Tpt}
    (hr : Reach s) (hc : s.closed = false) (h : s.step (.closeCall b) = some s') (_hk : k ∈ s.tset)
    (ht : s.tpts[k]? = some t) :
    (s.refd k = true ∧ Instr.stopDtls k ∈ s'.prog ∧ Instr.stopIce k ∈ s'.prog)
    ∨ (s.refd k = false ∧ t.unstarted = true) :=
  snapshot_covers hr hc h ht

/-- a transport leaves the set only at the end of a clean-up, and that clean-up has stopped it -/
theorem cleanup_stops_what_it_discards {s : State} {k : Nat} {t : Tpt} (hr : Reach s) (ht : s.tpts[k]? = some t)
    (hd : t.inSet = false) : t.ice = .closed ∧ t.connClosed = true ∧ t.unstarted = true ∧ k ∉ s.tset := by
  have hI := inv_reachable hr
  obtain ⟨n1, n2, n3, n4, n5, n6⟩ := hI.wfN k t ht
  have h4 := n4.mp hd
  refine ⟨n2 (by omega), n3 (by omega), n5 (by omega), ?_⟩
  intro hm
  obtain ⟨t', ht', hin⟩ := (hI.tsetOk k).mp hm
  rw [ht] at ht'; injection ht' with ht'; subst ht'
  rw [hd] at hin; simp at hin

/-- a transport under clean-up is never one of those `close()` stops (no m-section uses it), so the two never touch the same
transport; and no m-section can be moved onto it (`addTrx`, `assign` need a free transport) -/
theorem cleanup_disjoint_from_snapshot {s : State} {k : Nat} {t : Tpt} (hr : Reach s) (ht : s.tpts[k]? = some t)
    (hn : 1 ≤ t.nstop) : s.refd k = false ∧ s.free k = false := by
  refine ⟨(inv_reachable hr).unref k t ht hn, ?_⟩
  simp [State.free, ht]; omega

/-- **every transport is stopped by somebody.**  In a final state every transport is stopped (ICE closed, pump and monitor
finished) - by `close()` if it carried an m-section at the snapshot, by the negotiation call that discarded it otherwise -
unless no m-section uses it and no clean-up ever began on it. -/
theorem final_transports {s : State} {k : Nat} {t : Tpt} (hr : Reach s) (hf : Final s) (ht : s.tpts[k]? = some t) :
    (t.ice = .closed ∧ t.pump ≠ .live ∧ t.monQuiet = true) ∨ (s.refd k = false ∧ t.nstop = 0) := by
  have hI := inv_reachable hr
  have hcl := (hI.dne hf.done).1
  obtain ⟨hp, hm⟩ := hf.tpts k t ht
  cases hrk : s.refd k with
  | true =>
    left
    have := hI.coverI hcl k t ht hrk
    rw [hf.prog] at this
    simp at this
    exact ⟨this, hp, hm⟩
  | false =>
    rcases hf.cleanups k t ht with h0 | h4
    · exact Or.inr ⟨rfl, h0⟩
    · left
      exact ⟨(hI.wfN k t ht).2.1 (by omega), hp, hm⟩

/-- `Final` with the clean-ups: from any reachable closed state with no guaranteed step left (the steps of a clean-up in
progress are guaranteed ones) every clean-up has reached its end -/
theorem no_stuck_cleanups {s : State} (hr : Reach s) (hc : s.closed = true) (hq : Quiescent s) :
    ∀ (k : Nat) (t : Tpt), s.tpts[k]? = some t → t.nstop = 0 ∨ t.nstop = 4 :=
  (no_stuck hr hc hq).cleanups

/-! ### the variant that iterates over the live sets -/

/-- in the variant, the schedule "setRemoteDescription(answer) discards the bundled-away transport while close() is suspended
in `await iceTransport.stop()`" makes the set iterator raise: close() dies -/
theorem live_set_iteration_can_crash :
    ((LiveIter.init.run (bundleRaceSetup ++ bundleRaceCloseA ++ bundleRaceDiscard ++ bundleRaceCloseB)).map
      fun v => (v.crashed, v.s.closed, v.s.closeDone)) = some (true, true, false) := by rfl

/-- once it has crashed, no step of close() is enabled any more … -/
theorem crashed_close_is_dead (v : LiveIter) (hc : v.crashed = true) (l : CLabel) : v.step (.close l) = none := by
  simp [LiveIter.step, hc]

/-- … so a further close() waits for ever: it is accepted (`waiters + 1`) but its return needs `closeDone` -/
theorem crashed_second_close_blocks :
    ((LiveIter.init.run (bundleRaceSetup ++ bundleRaceCloseA ++ bundleRaceDiscard ++ bundleRaceCloseB
        ++ [.closeCall false])).map fun v => (v.s.waiters, v.s.closeDone, (v.step .waiterReturn).isSome))
      = some (1, false, false) := by rfl

/-- the real close() under the very same schedule completes: its program was laid out from the transceivers (transport 0
twice, transport 1 not at all), the discard does not concern it -/
theorem snapshot_survives_the_same_schedule :
    ((State.init.run (bundleRaceSetup ++ snapshotClose)).map
      fun s => (s.closeDone, s.tset, s.tpts.map (fun t => (t.ice, t.inSet, t.nstop)))) =
      some (true, [0], [(.closed, true, 0), (.closed, false, 4)]) := by rfl

/-! ## non-vacuity: concrete runs of the model (kept small: they are evaluated by the kernel) -/

/-- a data channel on one transport, connected; `close()`; the tasks take their steps in between -/
def demoSetup : List Action :=
  [.addTpt, .addSctp 0, .chanNew, .negBegin, .negSpawn, .negEnd, .connFirst 0,
   .tpt 0 .iceStart, .tpt 0 .monFirst, .tpt 0 (.iceDone true), .tpt 0 .dtlsStart, .tpt 0 .dtlsUp, .sctpStart, .connExit 0,
   .chanEv 0 .opened]

def demoClose : List Action :=
  [.close .enterSctp, .close .leaveSctp, .close (.enterDtls 0), .close (.cancelPump 0), .close (.leaveDtls 0),
   .close (.enterIce 0), .tpt 0 .pumpExit, .close (.connClosed 0), .tpt 0 .monExit, .close (.leaveIce 0),
   .close .leaveClose]

/-- the run is accepted, and ends with every promise of the property fulfilled -/
example : ((State.init.run (demoSetup ++ [.closeCall false] ++ demoClose)).map fun s =>
    (s.closeDone, s.sigClosed, s.iceClosed, s.connClosed, s.listeners, s.waiters,
     s.tpts.map (fun t => (t.pump, t.monitor)), s.sctp.map (·.chans)))
  = some (true, true, true, true, false, 0, [(.exited, .exited)], some [.closed]) := by rfl

/-- hypotheses of `close_run_bounded` are satisfiable: `demoClose` consists of task steps only -/
example : ∀ a ∈ demoClose, a.kind = .task := by decide

/-- the receiver handshake on one transceiver that was started: `stop()` waits for `started`, cancels, waits for `exited` -/
example : ((State.init.run
    [.addTpt, .addTrx 0, .trx 0 .mkTrack, .negBegin, .negSpawn, .negEnd, .connFirst 0, .trx 0 .rcvStart, .connExit 0,
     .closeCall false, .close (.enterRcv 0), .trx 0 (.first .rrtcp), .close (.cancelRrtcp 0), .trx 0 (.exit .rrtcp),
     .close (.leaveRcv 0)]).map fun s => s.trxs.map fun t => (t.rrtcp.pc, t.decoder, t.trackEnd))
  = some [(.exited, .exited, true)] := by rfl

/-- … and the cancel is NOT enabled before the task has had its first step -/
example : (State.init.run
    [.addTpt, .addTrx 0, .trx 0 .mkTrack, .negBegin, .negSpawn, .negEnd, .connFirst 0, .trx 0 .rcvStart, .connExit 0,
     .closeCall false, .close (.enterRcv 0), .close (.cancelRrtcp 0)]) = none := by decide

/-- the handshake matters: a `_run_*` task cancelled before its first step never sets its `exited` event (`dead`) — the model
knows this failure, the invariant excludes it because `stop()` waits for `started` first -/
example : (Run.first { pc := .queued, cancelReq := true }) = some { pc := .dead, cancelReq := true } := by decide

/-- a second close() while the first is still running waits (`waiters = 1`) -/
example : ((State.init.run [.addTpt, .addSctp 0, .closeCall false, .close .enterSctp, .closeCall false]).map
    fun s => (s.waiters, s.prog.length)) = some (1, 3) := by rfl

/-- on a closed connection a negotiation call in flight cannot spawn `__connect` any more -/
example : (State.init.run [.addTpt, .negBegin, .closeCall false, .negSpawn]) = none := by decide

end Aiortc.Props.C19
