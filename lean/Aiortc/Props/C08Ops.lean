import Aiortc.Model.Sctp.WireOps
import Aiortc.Lemmas.C08.WireOps
import Aiortc.Props.C08
/-!
# C08 — the round trip does not depend on the history of the objects involved

`Props/C08.lean` states the round trip for *values*.  The library's chunks are mutable *objects*: the same
object is serialised, overwritten and serialised again (a sweep over user-data lengths, a retransmission
after re-stamping), the list a parser returned is appended to by its owner and the same bytes arrive again.
`Model/Sctp/WireOps.lean` is the reference semantics of such histories (a pool of slots and the operations
`new / set / hostile / ser / bytes / parse / decparams / rcparse`); the `ops` correspondence of the harness
runs the same histories on live Python objects and compares every step.

The theorems below say what the reference semantics guarantees after an ARBITRARY history `hist`:
serialising observes the current field values only, parsing observes the bytes only, and the round trip of
`Props/C08.lean` holds for re-used objects and for objects whose siblings were modified by a hostile owner.
-/
namespace Aiortc.Props.C08Ops
open Aiortc Aiortc.Sctp.Wire Aiortc.Sctp.WireOps Aiortc.Lemmas.C08.WireOps

/-- **Serialising observes the current field values only.**  Whatever happened before (`hist`: the object
in slot `s` may have been built with other values, serialised, parsed into, modified …), once every field
of the live object has been overwritten with the fields of `c`, `serialize_packet` gives exactly what it
gives for a fresh `c`. -/
theorem ops_ser_current_value (pool : Pool) (hist : List Op) (s : Nat) (c : Chunk) (sp dp tag : Nat) :
    run (exec pool hist) [.set s (.chunk c), .ser s sp dp tag] =
      [.done, .bytes (serializePacket sp dp tag c)] := by
  simp [run, step, Pool.set_same]

/-- … the same for `bytes(obj)` of every kind of object (chunk, RE-CONFIG parameter, parameter list). -/
theorem ops_bytes_current_value (pool : Pool) (hist : List Op) (s : Nat) (v : Val) :
    run (exec pool hist) [.set s v, .bytes s] = [.done, .bytes v.bytes] := by
  simp [run, step, Pool.set_same]

/-- **Parsing observes the bytes only**: the observation of a parse step is the same in every pool, i.e.
after every history — in particular after the owner of an earlier result modified it. -/
theorem ops_parse_pure (pool pool' : Pool) (d : Bytes) (b b' t : Nat) :
    (step pool (.parse d b)).2 = .parsed (parsePacket d) ∧
    (step pool' (.parse d b')).2 = (step pool (.parse d b)).2 ∧
    (step pool' (.decparams d b')).2 = (step pool (.decparams d b)).2 ∧
    (step pool' (.rcparse t d b')).2 = (step pool (.rcparse t d b)).2 := by
  refine ⟨rfl, rfl, rfl, ?_⟩
  simp only [step]
  cases rcClassOf t <;> rfl

/-- Sequence form: parse, let the owner modify any slot in any way any number of times (and do anything
else: `mid` is arbitrary), parse the same bytes again — the last observation equals the first. -/
theorem ops_reparse_same (pool : Pool) (d : Bytes) (b b' : Nat) (mid : List Op) :
    (run pool ([.parse d b] ++ mid ++ [.parse d b'])).getLast? = (run pool [.parse d b]).head? := by
  rw [run_append]
  exact List.getLast?_concat

/-- **Round trip for re-used objects.**  After an arbitrary history, overwrite the live object in slot `s`
with in-range field values `c`, serialise it, parse the bytes (into slot `base`), serialise what was
parsed: the packet parses back to exactly `c` and re-serialises to identical bytes. -/
theorem ops_reuse_roundtrip (pool : Pool) (hist : List Op) (s base : Nat) (c : Chunk) (sp dp tag : Nat)
    (hsp : sp < 65536) (hdp : dp < 65536) (htag : tag < 4294967296) (hc : c.inRange = true) :
    ∃ bs, run (exec pool hist) [.set s (.chunk c), .ser s sp dp tag, .parse bs base, .ser base sp dp tag] =
      [.done, .bytes (.ok bs), .parsed (.ok (sp, dp, tag, [c])), .bytes (.ok bs)] := by
  obtain ⟨bs, hser, hparse⟩ := C08.packet_roundtrip sp dp tag c hsp hdp htag hc
  refine ⟨bs, ?_⟩
  simp [run, step, Pool.set_same, hser, hparse, Pool.storeChunks]

/-- After `parse_packet` succeeded, slot `base + i` holds the `i`-th parsed chunk, so serialising that slot
gives `serialize_packet` of exactly that chunk … -/
theorem ops_parsed_slot_reserialize (pool : Pool) (d : Bytes) (base i sp dp tag sp' dp' tag' : Nat)
    (cs : List Chunk) (hp : parsePacket d = .ok (sp, dp, tag, cs)) (hi : i < cs.length) :
    run pool [.parse d base, .ser (base + i) sp' dp' tag'] =
      [.parsed (.ok (sp, dp, tag, cs)), .bytes (serializePacket sp' dp' tag' cs[i])] := by
  simp [run, step, hp, storeChunks_get cs pool base i hi]

/-- … and after the owner modified it (`hostile`, any `k`), serialising gives the wire image of the MODIFIED
values, while parsing the same bytes again still gives the original ones. -/
theorem ops_hostile_then_ser (pool : Pool) (d : Bytes) (base base' i k sp dp tag sp' dp' tag' : Nat)
    (cs : List Chunk) (hp : parsePacket d = .ok (sp, dp, tag, cs)) (hi : i < cs.length) :
    run pool [.parse d base, .hostile (base + i) k, .ser (base + i) sp' dp' tag', .parse d base'] =
      [.parsed (.ok (sp, dp, tag, cs)), .done, .bytes (serializePacket sp' dp' tag' (hostileChunk k cs[i])),
       .parsed (.ok (sp, dp, tag, cs))] := by
  simp [run, step, hp, storeChunks_get cs pool base i hi, Pool.set_same, Val.hostile]

/-- The hostile owner keeps every field in wire range (so the step after it is a real serialisation, not a
`struct.error`): flags, 16- and 32-bit fields are reduced modulo their width. -/
theorem hostile_fields_in_range (k x : Nat) : h8 k x < 256 ∧ h16 k x < 65536 ∧ h32 k x < 4294967296 := by
  simp only [h8, h16, h32]; omega

/-- The hypotheses of `ops_reuse_roundtrip` / `ops_hostile_then_ser` are satisfiable, with a non-trivial history. -/
example : ∃ bs, run (exec Pool.empty [.new 0 (.chunk (.data 3 9 9 9 51 [1, 2, 3])), .ser 0 1 2 3, .hostile 0 5])
    [.set 0 (.chunk (.data 3 1 2 3 51 [0x61])), .ser 0 5000 5000 7, .parse bs 1, .ser 1 5000 5000 7] =
      [.done, .bytes (.ok bs), .parsed (.ok (5000, 5000, 7, [.data 3 1 2 3 51 [0x61]])), .bytes (.ok bs)] :=
  ops_reuse_roundtrip _ _ 0 1 _ 5000 5000 7 (by decide) (by decide) (by decide) (by decide)

example : hostileChunk 1 (.params .heartbeat 0 [(1, [0, 1])]) = .params .heartbeat 1 [(1, [0, 1]), (1, [1])] := by
  decide

end Aiortc.Props.C08Ops
