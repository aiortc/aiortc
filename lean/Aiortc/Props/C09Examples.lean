import Aiortc.Props.C09
/-! Non-vacuity of `media_roundtrip` (C09): a concrete audio section with codec, feedback, fmtp, ssrc, ssrc-group,
extmap, rtcp, candidate, ICE and DTLS data satisfies `WFMedia`, and its printed lines are the expected ones; a session
around it satisfies `WFSession`. -/
namespace Aiortc.Props.C09
open Aiortc Aiortc.Model.Sdp Aiortc.Lemmas.C09

def exCodec : Codec :=
  { mimeType := "audio/opus".toList, clockRate := 48000, channels := some 2, payloadType := 96,
    rtcpFeedback := [⟨"nack".toList, some "pli".toList⟩],
    parameters := [("minptime".toList, .int 10), ("useinbandfec".toList, .int 1)] }

def exMedia : Media :=
  { kind := "audio".toList, port := 9, profile := "UDP/TLS/RTP/SAVPF".toList, fmt := .ints [96],
    host := some "0.0.0.0".toList, direction := some "sendrecv".toList, msid := some "s t".toList,
    rtcpPort := some 9, rtcpHost := some "0.0.0.0".toList, rtcpMux := true,
    ssrc := [{ ssrc := 1234, cname := some "cn".toList }],
    ssrcGroup := [⟨"FID".toList, [1234, 5678]⟩],
    headerExtensions := [⟨1, "urn:ietf:params:rtp-hdrext:sdes:mid".toList⟩],
    muxId := some "0".toList, codecs := [exCodec],
    dtls := some { fingerprints := [⟨"sha-256".toList, "AA:BB".toList⟩], role := some "auto".toList },
    ice := { usernameFragment := some "uf".toList, password := some "pw".toList, iceLite := false },
    candidates := [exCand], candidatesComplete := true, iceOptions := some "trickle".toList }

instance (t : Str) : Decidable (Tok t) := by unfold Tok; infer_instance

theorem exMedia_wf : WFMedia exMedia := by
  unfold exMedia exCodec exCand
  lit_toList
  exact {
    header := ⟨by decide, by decide, by decide, Or.inl (by decide), by decide, by
      intro pt h; obtain rfl := List.mem_singleton.mp h; decide⟩
    body :=
      { host := by rintro _ ⟨⟩; exact ⟨by decide, by decide⟩
        direction := by rintro _ ⟨⟩; decide
        ext := by intro h e; obtain rfl := List.mem_singleton.mp e; decide
        mid := ⟨_, rfl⟩
        msid := by rintro _ ⟨⟩; decide
        rtcp_none := by intro e; cases e
        rtcp_host := by rintro _ ⟨⟩; exact ⟨by decide, by decide⟩
        ssrcGroup := by intro h e; obtain rfl := List.mem_singleton.mp e; decide
        ssrc := by intro h e; obtain rfl := List.mem_singleton.mp e; exact Or.inl (by decide)
        ssrc_nodup := by decide
        sctpmap_nodup := by decide
        cands := by
          intro c e; obtain rfl := List.mem_singleton.mp e
          exact ⟨by decide, by decide, by decide, by decide, by rintro _ ⟨⟩; decide, by rintro _ ⟨⟩; decide⟩
        dtls := by
          rintro _ ⟨⟩
          refine ⟨?_, ['a', 'u', 't', 'o'], ['a', 'c', 't', 'p', 'a', 's', 's'], rfl, by decide, by decide⟩
          intro f hf; obtain rfl := List.mem_singleton.mp hf; exact ⟨by decide, by decide⟩ }
    codecs := by
      intro c e
      obtain rfl := List.mem_singleton.mp e
      refine ⟨⟨['o', 'p', 'u', 's'],
          { mime := by decide, cname := by decide, name_slash := by decide, chan := by decide, fb := rfl, params := rfl }⟩,
        ?_, Or.inr ⟨⟨by decide, by decide, ?_⟩, by decide⟩⟩
      · intro f hf
        obtain rfl := List.mem_singleton.mp hf
        exact ⟨by decide, by rintro _ ⟨⟩; decide⟩
      · intro kv hkv
        simp only [List.mem_cons, List.not_mem_nil, or_false] at hkv
        rcases hkv with rfl | rfl <;> exact ⟨by decide, by decide, by decide⟩
    codecs_nodup := by decide }

example : mediaLines exMedia = .ok (
    ["m=audio 9 UDP/TLS/RTP/SAVPF 96", "c=IN IP4 0.0.0.0", "a=sendrecv",
     "a=extmap:1 urn:ietf:params:rtp-hdrext:sdes:mid", "a=mid:0", "a=msid:s t", "a=rtcp:9 IN IP4 0.0.0.0", "a=rtcp-mux",
     "a=ssrc-group:FID 1234 5678", "a=ssrc:1234 cname:cn", "a=rtpmap:96 opus/48000/2", "a=rtcp-fb:96 nack pli",
     "a=fmtp:96 minptime=10;useinbandfec=1",
     "a=candidate:f1 1 tcp 2130706431 192.168.1.2 9 typ srflx raddr 10.0.0.1 rport 0 tcptype active",
     "a=end-of-candidates", "a=ice-ufrag:uf", "a=ice-pwd:pw", "a=ice-options:trickle",
     "a=fingerprint:sha-256 AA:BB", "a=setup:actpass"].map String.toList) := by
  simp only [List.map_cons, List.map_nil]
  lit_toList
  decide +kernel

def exSession : Session :=
  { version := 0, origin := some "- 3900000000 3900000000 IN IP4 0.0.0.0".toList, host := some "0.0.0.0".toList,
    group := [⟨"BUNDLE".toList, ["0".toList]⟩], msidSemantic := [⟨"WMS".toList, ["*".toList]⟩], media := [exMedia] }

example : WFSession exSession where
  origin := ⟨_, rfl, by
    intro c hc
    rw [show "- 3900000000 3900000000 IN IP4 0.0.0.0".toList.getLast? = some '0' by lit_toList; decide] at hc
    cases hc; decide⟩
  name := by
    intro c hc
    rw [show exSession.name.getLast? = some '-' by decide] at hc
    cases hc; decide
  time := by
    intro c hc
    rw [show exSession.time.getLast? = some '0' by decide] at hc
    cases hc; decide
  host := by intro h e; cases e; exact ⟨by decide, by decide⟩
  group := by intro g hg; have := List.mem_singleton.mp hg; subst this; exact ⟨by decide, by decide⟩
  msidSemantic := by intro g hg; have := List.mem_singleton.mp hg; subst this; exact ⟨by decide, by decide⟩
  media := by intro m hm; have := List.mem_singleton.mp hm; subst this; exact exMedia_wf
  lite := by intro m hm; have := List.mem_singleton.mp hm; subst this; decide

end Aiortc.Props.C09
