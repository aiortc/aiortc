import Aiortc.Lemmas.C14.Jsep
import Aiortc.Gen.Jsep
/-!
# C14 — signalling follows the JSEP state machine; illegal calls have no side effects

All theorems are about `Aiortc.Model.Jsep.step` / `run` (Model/Jsep/Signaling.lean, the model of the
patched `RTCPeerConnection`) and hold for **every** call sequence of any length, with descriptions of
arbitrary content; `Spec` (Model/Jsep/Spec.lean) is the JSEP machine of the property text.
-/
namespace Aiortc.Props.C14
open Aiortc.Model.Jsep
open Aiortc.Model.Jsep.Spec (next mediaOk wellFormed matchesOffer acceptable setDesc)

set_option linter.unusedVariables false  -- `closed_absorbing` keeps its hypothesis on the alphabet, which the proof does not need

theorem inv_init : Inv Pc.init := by
  constructor <;> simp [Pc.init]

/-- The invariant is preserved by every call (also by pranswer / rollback descriptions). -/
theorem inv_step {pc : Pc} (h : Inv pc) (c : Call) : Inv (step pc c).2 := by
  have ho : pc.isClosed = false → pc.sig ≠ .closed := fun hc hs => by simp [h.closed_iff.mpr hs] at hc
  have t := step_trans pc c
  generalize step pc c = x at t ⊢
  cases t with
  | same => exact h
  | close => constructor <;> simp [Pc.setSig, Pc.localDescription, Pc.remoteDescription]
  | localOffer d hc => exact h.moved (ho hc) rfl (.inr (.inl rfl)) (fun _ => by simp [Pc.localDescription]) (by simp [Pc.setSig])
  | remoteOffer d hc => exact h.moved (ho hc) rfl (.inr (.inr rfl)) (by simp [Pc.setSig]) (fun _ => by simp [Pc.remoteDescription])
  | localAnswer d hc | remoteAnswer d hc => exact h.moved (ho hc) rfl (.inl rfl) (by simp [Pc.setSig]) (by simp [Pc.setSig])
  | localOther d => exact h.pendLocal d
  | remoteOther d => exact h.pendRemote d

/-- Every state reached from a fresh connection by any call sequence satisfies the invariant; in
particular `have-local-pranswer` / `have-remote-pranswer` are unreachable, the closed latch and
`signalingState = "closed"` coincide, and a pending offer is always there when the state says so. -/
theorem inv_run {pc : Pc} (h : Inv pc) (cs : List Call) : Inv (run pc cs).2 := by
  induction cs generalizing pc with
  | nil => exact h
  | cons c cs ih => exact ih (inv_step h c)

theorem inv_reachable (cs : List Call) : Inv (run Pc.init cs).2 := inv_run inv_init cs

/-- **No side effects**: whenever a call raises (InvalidStateError, ValueError or anything else), the
whole modelled state — signalling state, closed latch, all four description slots, the number of
`signalingstatechange` events — is exactly what it was before. -/
theorem failed_call_no_effect (pc : Pc) (c : Call) (hf : (step pc c).1.failed = true) :
    (step pc c).2 = pc :=
  (step_trans pc c).unchanged_of_failed hf

theorem applyLocal_eq {pc : Pc} (hinv : Inv pc) (d : Desc) (ht : d.type = .offer ∨ d.type = .answer) :
    ((applyLocal pc d).1.verdict, (applyLocal pc d).2.obs) =
      (some (setDesc pc.obs true d).1, (setDesc pc.obs true d).2) := by
  unfold applyLocal setDesc
  rw [validate_eq pc d true hinv ht]
  simp only [DType.ne_invalid ht, if_false, Pc.obs, if_true]
  cases hn : next pc.sig true d.type with
  | none => simp [Res.verdict]
  | some s' =>
    by_cases ha : acceptable d pc.remoteDescription = true
    · rcases next_eq hn with ⟨ht, rfl⟩ | ⟨ht, rfl⟩ <;>
        simp only [ha, ht, if_true] <;> simp [Res.verdict, Pc.setSig, Pc.localDescription, Pc.remoteDescription]
    · simp [ha, Res.verdict]

theorem setRemote_eq {pc : Pc} (hinv : Inv pc) (d : Desc) (ht : d.type = .offer ∨ d.type = .answer) :
    ((setRemote pc d).1.verdict, (setRemote pc d).2.obs) =
      (some (setDesc pc.obs false d).1, (setDesc pc.obs false d).2) := by
  unfold setRemote setDesc
  rw [validate_eq pc d false hinv ht]
  simp only [DType.ne_invalid ht, if_false, Pc.obs, beq_iff_eq]
  cases hn : next pc.sig false d.type with
  | none => simp [Res.verdict]
  | some s' =>
    have hcl := hinv.open_of_next hn
    by_cases ha : acceptable d pc.localDescription = true
    · rcases next_eq hn with ⟨ht, rfl⟩ | ⟨ht, rfl⟩ <;>
        simp only [Bool.false_eq_true, if_false, ha, ht, hcl, if_true] <;>
        simp [Res.verdict, Pc.setSig, Pc.localDescription, Pc.remoteDescription]
    · simp [ha, Res.verdict]

theorem mediaOk_offerMedia (km : Kind × String) : mediaOk .offer (offerMedia km) = true := by
  cases hk : km.1 <;> simp [mediaOk, offerMedia, Kind.isRtp, DType.answerLike, hk]

/-- What `createAnswer` builds is acceptable as an answer to the description it was built from. -/
theorem answerTo_acceptable (r : Desc) : acceptable (answerTo r) (some r) = true := by
  have h1 : ∀ m ∈ r.media, mediaOk .answer (answerMedia m) = true := fun m _ => by
    cases hk : m.kind <;> simp [mediaOk, answerMedia, Kind.isRtp, hk]
  simp [acceptable, wellFormed, matchesOffer, answerTo, mediaKeys, List.all_map, Function.comp_def]
  exact ⟨h1, by simp [answerMedia]⟩

theorem offerOf_acceptable (km : List (Kind × String)) (o : Option Desc) : acceptable (offerOf km) o = true := by
  simp [acceptable, wellFormed, offerOf, List.all_map, mediaOk_offerMedia, Function.comp_def]

theorem setLocalImplicit_eq {pc : Pc} (hinv : Inv pc) (km : List (Kind × String)) :
    ((setLocalImplicit pc km).1.verdict, (setLocalImplicit pc km).2.obs) =
      (some (Spec.step pc.obs (.setLocalImplicit km)).1, (Spec.step pc.obs (.setLocalImplicit km)).2) := by
  unfold setLocalImplicit
  by_cases hc : pc.isClosed = true
  · have hs := hinv.closed_iff.mp hc
    simp [hc, Spec.step, Pc.obs, hs, Res.verdict]
  · have hs : pc.sig ≠ .closed := fun h => hc (hinv.closed_iff.mpr h)
    simp only [hc, if_false, Bool.false_eq_true]
    by_cases hr : pc.sig = .haveRemoteOffer
    · have hp := hinv.remote_offer_present hr
      cases hrd : pc.remoteDescription with
      | none => exact absurd hrd hp
      | some r =>
        have hc' : pc.isClosed = false := by simpa using hc
        have hcr : createAnswer pc = .created (answerTo r) := by
          simp [createAnswer, hc', hr, hrd]
        have ha := applyLocal_eq hinv (answerTo r) (Or.inr rfl)
        have hacc := answerTo_acceptable r
        simp only [hr, beq_self_eq_true, if_true, hcr]
        rw [ha]
        simp [Spec.step, setDesc, Pc.obs, hr, hrd, next, hacc, show (answerTo r).type = DType.answer from rfl]
    · have hc' : pc.isClosed = false := by simpa using hc
      have hco : createOffer pc km = .created (offerOf km) := by simp [createOffer, hc']
      have ha := applyLocal_eq hinv (offerOf km) (Or.inl rfl)
      have hacc := offerOf_acceptable km pc.remoteDescription
      have h1 := hinv.no_local_pranswer
      have h2 := hinv.no_remote_pranswer
      simp only [beq_iff_eq, hr, if_false, hco]
      rw [ha]
      have hty : (offerOf km).type = DType.offer := rfl
      cases hsig : pc.sig <;>
        simp_all [Spec.step, setDesc, Pc.obs, next]

/-- **Refinement, one step.**  In every reachable state and for every call of the property's alphabet,
the modelled connection raises exactly what the JSEP machine prescribes (never anything but
InvalidStateError / ValueError) and its public state `(signalingState, localDescription,
remoteDescription)` moves exactly as the JSEP machine does. -/
theorem step_refines_jsep {pc : Pc} (hinv : Inv pc) (c : Call) (hc : c.inAlphabet = true) :
    (step pc c).1.verdict = some (Spec.step pc.obs c).1 ∧ (step pc c).2.obs = (Spec.step pc.obs c).2 := by
  cases c with
  | createOffer km =>
    by_cases hs : pc.sig = .closed
    · simp [step, Spec.step, createOffer, Pc.obs, Res.verdict, hs, hinv.closed_iff.mpr hs]
    · simp [step, Spec.step, createOffer, Pc.obs, Res.verdict, hs, hinv.open_of_ne hs]
  | createAnswer =>
    by_cases hr : pc.sig = .haveRemoteOffer
    · have hp := hinv.remote_offer_present hr
      cases hrd : pc.remoteDescription with
      | none => exact absurd hrd hp
      | some r => simp [step, Spec.step, createAnswer, Pc.obs, Res.verdict, hr, hrd, hinv.open_of_ne (by simp [hr])]
    · have := hinv.no_local_pranswer
      by_cases hs : pc.sig = .closed
      · simp [step, Spec.step, createAnswer, Pc.obs, Res.verdict, hs, hinv.closed_iff.mpr hs]
      · simp [step, Spec.step, createAnswer, Pc.obs, Res.verdict, hr, this, hinv.open_of_ne hs]
  | setLocal d =>
    by_cases hi : d.type = .invalid
    · simp [step, setLocal, Spec.step, setDesc, hi, Res.verdict]
    · have ht := DType.offer_or_answer hc hi
      by_cases hcl : pc.isClosed = true
      · have hs := hinv.closed_iff.mp hcl
        rcases ht with ht | ht <;>
          simp [step, setLocal, Spec.step, setDesc, hcl, hs, ht, next, Res.verdict, Pc.obs]
      · have := applyLocal_eq hinv d ht
        simp only [Prod.mk.injEq] at this
        simpa [step, setLocal, Spec.step, hi, hcl] using this
  | setLocalImplicit km =>
    have := setLocalImplicit_eq hinv km
    simp only [Prod.mk.injEq] at this
    simpa [step] using this
  | setRemote d =>
    by_cases hi : d.type = .invalid
    · simp [step, setRemote, Spec.step, setDesc, hi, Res.verdict]
    · have ht := DType.offer_or_answer hc hi
      have := setRemote_eq hinv d ht
      simp only [Prod.mk.injEq] at this
      simpa [step, Spec.step] using this
  | close =>
    by_cases hs : pc.sig = .closed
    · simp [step, Spec.step, close, Pc.obs, Res.verdict, hs, hinv.closed_iff.mpr hs]
    · simp [step, Spec.step, close, Pc.obs, Res.verdict, hinv.open_of_ne hs, Pc.setSig, Pc.localDescription,
        Pc.remoteDescription]

/-- **Refinement, all call sequences**: from any state that satisfies the invariant the results of the calls and the
final public state are those of the JSEP machine. -/
theorem run_refines_jsep {pc : Pc} (hinv : Inv pc) (cs : List Call) (hcs : ∀ c ∈ cs, c.inAlphabet = true) :
    (run pc cs).1.map Res.verdict = (Spec.run pc.obs cs).1.map some ∧
      (run pc cs).2.obs = (Spec.run pc.obs cs).2 := by
  induction cs generalizing pc with
  | nil => simp [run, Spec.run]
  | cons c cs ih =>
    have hc := step_refines_jsep hinv c (hcs c (by simp))
    have ih' := ih (inv_step hinv c) (fun c' h' => hcs c' (by simp [h']))
    simp only [run, Spec.run, List.map_cons]
    rw [← hc.2]
    exact ⟨by rw [hc.1, ih'.1], ih'.2⟩

/-- `refines_jsep` of DESIGN.md: the same from a fresh connection. -/
theorem refines_jsep (cs : List Call) (hcs : ∀ c ∈ cs, c.inAlphabet = true) :
    (run Pc.init cs).1.map Res.verdict = (Spec.run Pc.init.obs cs).1.map some ∧
      (run Pc.init cs).2.obs = (Spec.run Pc.init.obs cs).2 :=
  run_refines_jsep inv_init cs hcs

/-- No exception class other than InvalidStateError / ValueError on the property's alphabet. -/
theorem no_crash {pc : Pc} (hinv : Inv pc) (c : Call) (hc : c.inAlphabet = true) (k : String) :
    (step pc c).1 ≠ .crash k := by
  intro h
  have := (step_refines_jsep hinv c hc).1
  simp [h, Res.verdict] at this

/-! ## Illegal calls: InvalidStateError and nothing changes -/

/-- A description whose type is illegal in the current state (JSEP table has no entry: an answer
without a pending offer, an offer while the other side's offer is pending, anything after close)
raises InvalidStateError — whatever else is wrong with it — and leaves the connection untouched. -/
theorem illegal_no_effect {pc : Pc} (hinv : Inv pc) (d : Desc) (isLocal : Bool)
    (ht : d.type = .offer ∨ d.type = .answer) (hill : next pc.sig isLocal d.type = none) :
    step pc (if isLocal then .setLocal d else .setRemote d) = (.invalidState, pc) := by
  have hni := DType.ne_invalid ht
  cases isLocal with
  | true =>
    simp only [if_true, step, setLocal, beq_iff_eq, hni, if_false]
    split
    · rfl
    · simp [applyLocal, validate_eq pc d true hinv ht, hill]
  | false =>
    simp [step, setRemote, hni, validate_eq pc d false hinv ht, hill]

/-- `createAnswer` without a pending remote offer raises InvalidStateError (and never changes anything). -/
theorem createAnswer_illegal {pc : Pc} (hinv : Inv pc) (h : pc.sig ≠ .haveRemoteOffer) :
    step pc .createAnswer = (.invalidState, pc) := by
  have h2 := hinv.no_local_pranswer
  cases hcl : pc.isClosed <;> cases hs : pc.sig <;> simp_all [step, createAnswer]

/-- A description that is legal by state but lacks ICE credentials, rtcp-mux on an RTP section or a
(definite, for an answer) DTLS role, or an answer whose media sections differ from the pending
offer's, raises ValueError and leaves the connection untouched. -/
theorem defective_no_effect {pc : Pc} (hinv : Inv pc) (d : Desc) (isLocal : Bool) (s' : Sig)
    (ht : d.type = .offer ∨ d.type = .answer) (hleg : next pc.sig isLocal d.type = some s')
    (hbad : acceptable d (if isLocal then pc.remoteDescription else pc.localDescription) = false) :
    step pc (if isLocal then .setLocal d else .setRemote d) = (.valueError, pc) := by
  have hni := DType.ne_invalid ht
  cases isLocal with
  | true =>
    have hcl := hinv.open_of_next hleg
    simp only [if_true] at hbad
    simp [step, setLocal, hni, hcl, applyLocal, validate_eq pc d true hinv ht, hleg, hbad]
  | false =>
    simp only [Bool.false_eq_true, if_false] at hbad
    simp [step, setRemote, hni, validate_eq pc d false hinv ht, hleg, hbad]

/-- A type string that `RTCSessionDescription` rejects: ValueError, nothing changes. -/
theorem invalid_type_no_effect (pc : Pc) (d : Desc) (ht : d.type = .invalid) :
    step pc (.setLocal d) = (.valueError, pc) ∧ step pc (.setRemote d) = (.valueError, pc) := by
  simp [step, setLocal, setRemote, ht]

/-- A legal, acceptable description is applied: no exception, the JSEP successor state, the
description becomes `localDescription` resp. `remoteDescription`, the other one is kept, exactly one
`signalingstatechange` event. -/
theorem legal_applied {pc : Pc} (hinv : Inv pc) (d : Desc) (isLocal : Bool) (s' : Sig)
    (ht : d.type = .offer ∨ d.type = .answer) (hleg : next pc.sig isLocal d.type = some s')
    (hok : acceptable d (if isLocal then pc.remoteDescription else pc.localDescription) = true) :
    let r := step pc (if isLocal then .setLocal d else .setRemote d)
    r.1 = .ok ∧ r.2.sig = s' ∧ r.2.events = pc.events + 1 ∧
      (if isLocal then r.2.localDescription = some d ∧ r.2.remoteDescription = pc.remoteDescription
       else r.2.remoteDescription = some d ∧ r.2.localDescription = pc.localDescription) := by
  have hcl := hinv.open_of_next hleg
  have hv := validate_eq pc d isLocal hinv ht
  rw [hleg] at hv
  simp only [hok, if_true] at hv
  cases isLocal <;> rcases next_eq hleg with ⟨ht, rfl⟩ | ⟨ht, rfl⟩ <;>
    simp [step, setLocal, setRemote, applyLocal, hcl, hv, ht, Pc.setSig, Pc.localDescription, Pc.remoteDescription]

/-- `setLocalDescription()` without argument never fails on an open connection. -/
theorem implicit_never_fails {pc : Pc} (hinv : Inv pc) (h : pc.sig ≠ .closed) (km : List (Kind × String)) :
    (step pc (.setLocalImplicit km)).1.verdict = some .ok := by
  have := (step_refines_jsep hinv (.setLocalImplicit km) rfl).1
  rw [this]
  have hp := hinv.remote_offer_present
  simp only [Spec.step, Pc.obs, h, if_false]
  cases hs : pc.sig <;> cases hr : pc.remoteDescription <;> simp_all

/-- On a closed connection every call of the alphabet except `close` raises (InvalidStateError; ValueError
for a type string that is no type) and `close` returns; none of them changes anything. -/
theorem closed_rejects {pc : Pc} (hinv : Inv pc) (hcl : pc.sig = .closed) (c : Call) (hc : c.inAlphabet = true) :
    (step pc c).2 = pc ∧
      (step pc c).1 = (match c with
        | .close => .ok
        | .setLocal d => if d.type = .invalid then .valueError else .invalidState
        | .setRemote d => if d.type = .invalid then .valueError else .invalidState
        | _ => .invalidState) := by
  have hic := hinv.closed_iff.mpr hcl
  refine ⟨step_closed pc hic c, ?_⟩
  cases c with
  | createOffer km => simp [step, createOffer, hic]
  | createAnswer => simp [step, createAnswer, hic]
  | setLocalImplicit km => simp [step, setLocalImplicit, hic]
  | close => simp [step, close, hic]
  | setLocal d => by_cases hi : d.type = .invalid <;> simp [step, setLocal, hic, hi]
  | setRemote d =>
    by_cases hi : d.type = .invalid
    · simp [step, setRemote, hi]
    · have ht := DType.offer_or_answer hc hi
      have hn : next pc.sig false d.type = none := by rw [hcl]; rcases ht with h | h <;> simp [next]
      simp [step, setRemote, hi, validate_eq pc d false hinv ht, hn]

/-- **Closed is absorbing**: after `close`, no call sequence of the alphabet changes anything. -/
theorem closed_absorbing {pc : Pc} (hinv : Inv pc) (hcl : pc.sig = .closed) (cs : List Call)
    (hcs : ∀ c ∈ cs, c.inAlphabet = true) : (run pc cs).2 = pc :=
  run_closed pc (hinv.closed_iff.mpr hcl) cs

/-- `signalingState` stays `closed` under **every** call, also pranswer / rollback descriptions. -/
theorem closed_sig_absorbing {pc : Pc} (hinv : Inv pc) (hcl : pc.sig = .closed) (cs : List Call) :
    (run pc cs).2.sig = .closed := by
  rw [run_closed pc (hinv.closed_iff.mpr hcl) cs]; exact hcl

/-- `close` closes, from every state, and a second `close` is a no-op. -/
theorem close_closes (pc : Pc) : (step pc .close).1 = .ok ∧ (step pc .close).2.isClosed = true ∧
    (pc.isClosed = false → (step pc .close).2.sig = .closed) ∧ (pc.isClosed = true → (step pc .close).2 = pc) := by
  cases h : pc.isClosed <;> simp [step, close, h, Pc.setSig]

/-! ## Tie of the type validation to the regenerated graph of `RTCSessionDescription` -/

/-- The regenerated graph (Gen/Jsep.lean, obtained by calling the real constructor) is the expected one … -/
theorem session_description_types_const :
    Aiortc.Gen.SESSION_DESCRIPTION_TYPE_ACCEPTED =
      [("offer", true), ("pranswer", true), ("answer", true), ("rollback", true), ("", false), ("Offer", false),
       ("ANSWER", false), ("offer ", false), ("bogus", false), ("closed", false), ("stable", false)] := by decide

/-- … and the model's `DType.ofString` agrees with it: a type string is rejected by the real constructor
exactly when the model treats it as `invalid` (⇒ `ValueError`, no effect: `invalid_type_no_effect`). -/
theorem type_validation_matches_model :
    ∀ p ∈ Aiortc.Gen.SESSION_DESCRIPTION_TYPE_ACCEPTED, (DType.ofString p.1 != .invalid) = p.2 := by decide

/-! ## Witnesses: defect #14 on the unpatched tree, and what lies outside the alphabet -/

def dcMedia (role : Role) : Media := { kind := .application, mid := "0", ufrag := true, pwd := true, role, mux := false }
def offerD : Desc := { id := 1, type := .offer, media := [dcMedia .auto] }
def answerD : Desc := { id := 2, type := .answer, media := [dcMedia .definite] }
def answerNoSetup : Desc := { id := 3, type := .answer, media := [dcMedia .missing] }
def rollbackD : Desc := { id := 4, type := .rollback, media := [dcMedia .auto] }
def haveLocal : Pc := (step Pc.init (.setLocal offerD)).2

/-- Defect #14 (DESIGN.md §4): on the unpatched tree an answer without `a=setup` makes
`__validate_description` raise AttributeError; with fixes/C14-dtls-params-missing.patch it is a ValueError. -/
theorem orig_answer_without_setup_crashes :
    validateWith checkMediaOrig haveLocal answerNoSetup false = some (.crash "AttributeError") ∧
      validate haveLocal answerNoSetup false = some .valueError := by
  decide

/-- Outside the alphabet: a `rollback` (or `pranswer`) description on a closed connection is rejected
with InvalidStateError and changes nothing (the `__assertNotClosed()` that follows the application of
the media sections raises before the signalling state or a description slot is touched). -/
theorem ext_types_rejected_when_closed :
    let closedPc := (step Pc.init .close).2
    (step closedPc (.setRemote rollbackD)).1 = .invalidState ∧
      (step closedPc (.setRemote rollbackD)).2 = closedPc := by
  decide

/-! ## Non-vacuity: the hypotheses are satisfiable and the machine really moves -/

example : Inv haveLocal := inv_step inv_init _
example : haveLocal.sig = .haveLocalOffer ∧ haveLocal.localDescription = some offerD := by decide
/-- a complete offer/answer exchange seen from the offerer, then close, then a rejected call -/
example : (run Pc.init [.createOffer [(.application, "0")], .setLocal offerD, .setRemote answerD, .close, .createOffer []]).1
    = [.created (offerOf [(.application, "0")]), .ok, .ok, .ok, .invalidState] := by decide
example : (run Pc.init [.setLocal offerD, .setRemote answerD]).2.obs = ⟨.stable, some offerD, some answerD⟩ := by decide
/-- the answerer's side with an implicit answer -/
example : (run Pc.init [.setRemote offerD, .setLocalImplicit []]).2.obs = ⟨.stable, some (answerTo offerD), some offerD⟩ := by
  decide
/-- hypotheses of `illegal_no_effect` / `defective_no_effect` / `legal_applied` -/
example : next Pc.init.sig false answerD.type = none := by decide
example : next haveLocal.sig false answerNoSetup.type = some .stable ∧
    acceptable answerNoSetup haveLocal.localDescription = false := by decide
example : next haveLocal.sig false answerD.type = some .stable ∧
    acceptable answerD haveLocal.localDescription = true := by decide
/-- a mismatched answer (other mid) -/
example : acceptable { answerD with media := [{ dcMedia .definite with mid := "09" }] } haveLocal.localDescription = false := by
  decide
example : Call.inAlphabet (.setRemote answerD) = true ∧ Call.inAlphabet (.setRemote rollbackD) = false := by decide

end Aiortc.Props.C14
