import Aiortc.Model.Sctp.Wire
import Aiortc.Lemmas.C08.SctpWire
import Aiortc.Lemmas.C08.SctpBurst
import Aiortc.Lemmas.C05.SctpParsed
import Aiortc.Lemmas.C08.Checksum
/-!
# C08 — SCTP packets round-trip exactly and corrupted packets are rejected by checksum

Model: `Model/Sctp/Wire.lean` (codec, fixed behaviour = after `fixes/C08-*.patch`), `Model/Crc32c.lean`.

* Round trip: `packet_roundtrip`, `packet_reserialize`, per-family corollaries with the literal
  bounds of the property text, `decode_encode_params`, `reconfig_roundtrip`.
* Corrupted packets: `crc_burst_partial` (burst entirely outside or entirely inside the checksum field),
  `C08_full` / `C08_full_false` (a straddling burst is accepted — known finding C08-crc-straddle),
  `crc_burst_four_bytes` (numbering-independent corollary); `checksum_field_exact`, `built_checksum_exact`: the
  checksum field an accepted / built packet carries is the ONLY 4-byte value accepted in its place (not its
  byte-reversed form, not the big-endian pack of the CRC, not another algorithm's checksum, not zero).
* Upstream defects reproduced on the `fixed = false` model, and their absence after the fix.
* The fixed parsers are total (`parsePacket_total`, shared with C05).
-/
namespace Aiortc.Props.C08
open Aiortc Aiortc.Gen Aiortc.Crc32c Aiortc.Sctp.Wire

/-! ## constants of the regenerated source the statements below rely on -/

/-- The model CRC reproduces the CRC-32C check value ("123456789" ↦ 0xE3069283). -/
theorem crc32c_check_value : crc32c [0x31, 0x32, 0x33, 0x34, 0x35, 0x36, 0x37, 0x38, 0x39] = 0xE3069283 := by
  decide +kernel

theorem header_consts :
    SCTP_PACKET_MINIMUM_LENGTH = 16 ∧ SCTP_CHUNK_HEADER_LENGTH = 4 ∧ SCTP_COMMON_HEADER_LENGTH = 12 := by decide

theorem userdata_max_const : USERDATA_MAX_LENGTH = 1200 := by decide

/-- The model's class list is `CHUNK_CLASSES` (names, type ids, order) and the ids are pairwise distinct
bytes, so the dict `CHUNK_TYPES` maps each id to exactly its class. -/
theorem chunk_classes_table :
    chunkClasses.map (fun c => (c.name, c.ty)) = CHUNK_TYPES ∧ (chunkClasses.map Cls.ty).Nodup ∧
      ∀ c ∈ chunkClasses, c.ty < 256 := by decide +kernel

/-- The ids are the ones of RFC 4960 §3.2, RFC 3758 (FORWARD-TSN = 192) and RFC 6525 (RE-CONFIG = 130). -/
theorem chunk_type_ids_rfc :
    chunkClasses.map Cls.ty = [0, 1, 2, 3, 4, 5, 6, 7, 8, 9, 10, 11, 14, 130, 192] ∧
      RcCls.ty .resetOut = 13 ∧ RcCls.ty .resetResp = 16 ∧ RcCls.ty .addOut = 17 := by decide

theorem classOf_ty_all (c : Cls) : classOf c.ty = some c ∧ c ∈ chunkClasses :=
  ⟨classOf_ty c, c.mem_chunkClasses⟩

theorem padl_spec (n : Nat) : padl n < 4 ∧ (n + padl n) % 4 = 0 := ⟨padl_lt n, padl_mod n⟩

/-- `serialize_packet` succeeds exactly on field values in wire range (otherwise `struct.error`). -/
theorem serialize_wf (sp dp tag : Nat) (c : Chunk) :
    (serializePacket sp dp tag c = .ok (serializePacketRaw sp dp tag c) ↔
      (sp < 65536 ∧ dp < 65536 ∧ tag < 4294967296 ∧ c.inRange = true)) ∧
    (serializePacket sp dp tag c = .crash "struct.error" ↔
      ¬ (sp < 65536 ∧ dp < 65536 ∧ tag < 4294967296 ∧ c.inRange = true)) := by
  have hr : (headerInRange sp dp tag && c.inRange) = true ↔
      (sp < 65536 ∧ dp < 65536 ∧ tag < 4294967296 ∧ c.inRange = true) := by
    simp [headerInRange, and_assoc]
  rw [← hr, serializePacket]
  split <;> simp [*]

/-- **Round trip**: every packet the library can build — any chunk class, any flags, parameter lists with
values of any length (all four padding residues), gap / duplicate / stream lists, user data of any
length (up to the 16-bit length field) — parses back to exactly the same header fields and chunk. -/
theorem packet_roundtrip (sp dp tag : Nat) (c : Chunk)
    (hsp : sp < 65536) (hdp : dp < 65536) (htag : tag < 4294967296) (hc : c.inRange = true) :
    ∃ bytes, serializePacket sp dp tag c = .ok bytes ∧ parsePacket bytes = .ok (sp, dp, tag, [c]) := by
  refine ⟨serializePacketRaw sp dp tag c, ?_, ?_⟩
  · exact ((serialize_wf sp dp tag c).1).2 ⟨hsp, hdp, htag, hc⟩
  · exact parsePacketG_serialize true sp dp tag c hsp hdp htag hc

/-- … and whatever the parser returns for a built packet re-serialises to identical bytes. -/
theorem packet_reserialize (sp dp tag : Nat) (c : Chunk)
    (hsp : sp < 65536) (hdp : dp < 65536) (htag : tag < 4294967296) (hc : c.inRange = true)
    (bytes : Bytes) (hser : serializePacket sp dp tag c = .ok bytes)
    (sp' dp' tag' : Nat) (cs : List Chunk) (hparse : parsePacket bytes = .ok (sp', dp', tag', cs)) :
    ∃ c', cs = [c'] ∧ serializePacket sp' dp' tag' c' = .ok bytes := by
  obtain ⟨b, hb, hp⟩ := packet_roundtrip sp dp tag c hsp hdp htag hc
  rw [hser] at hb
  cases hb
  rw [hp] at hparse
  cases hparse
  exact ⟨c, rfl, hser⟩

/-- The same holds for the upstream (unfixed) parser: the fixes do not change behaviour on built packets. -/
theorem packet_roundtrip_orig (sp dp tag : Nat) (c : Chunk)
    (hsp : sp < 65536) (hdp : dp < 65536) (htag : tag < 4294967296) (hc : c.inRange = true) :
    parsePacketOrig (serializePacketRaw sp dp tag c) = .ok (sp, dp, tag, [c]) :=
  parsePacketG_serialize false sp dp tag c hsp hdp htag hc

/-- DATA with the literal bounds of the property: user data of every length `0..1200`
(`USERDATA_MAX_LENGTH`), all field values in wire range. -/
theorem data_roundtrip (sp dp tag flags tsn sid sseq proto : Nat) (ud : Bytes)
    (hsp : sp < 65536) (hdp : dp < 65536) (htag : tag < 4294967296) (hf : flags < 256)
    (h1 : tsn < 4294967296) (h2 : sid < 65536) (h3 : sseq < 65536) (h4 : proto < 4294967296)
    (hud : ud.length ≤ 1200) :
    parsePacket (serializePacketRaw sp dp tag (.data flags tsn sid sseq proto ud)) =
      .ok (sp, dp, tag, [.data flags tsn sid sseq proto ud]) := by
  apply parsePacketG_serialize true sp dp tag _ hsp hdp htag
  simp only [Chunk.inRange, Bool.and_eq_true, decide_eq_true_eq]
  omega

example : (Chunk.data 3 1 2 3 51 [0x61]).inRange = true := by decide
example : (Chunk.init .init 0 1 2 3 4 5 [(0xC000, []), (0x8008, [130, 192, 7])]).inRange = true := by decide

/-- SACK: any gap and duplicate lists that fit the 16-bit chunk length. -/
theorem sack_roundtrip (sp dp tag flags ctsn rwnd : Nat) (gaps : List (Nat × Nat)) (dups : List Nat)
    (hsp : sp < 65536) (hdp : dp < 65536) (htag : tag < 4294967296) (hf : flags < 256)
    (h1 : ctsn < 4294967296) (h2 : rwnd < 4294967296)
    (hg : ∀ g ∈ gaps, g.1 < 65536 ∧ g.2 < 65536) (hd : ∀ t ∈ dups, t < 4294967296)
    (hl : 16 + 4 * (gaps.length + dups.length) < 65536) :
    parsePacket (serializePacketRaw sp dp tag (.sack flags ctsn rwnd gaps dups)) =
      .ok (sp, dp, tag, [.sack flags ctsn rwnd gaps dups]) := by
  apply parsePacketG_serialize true sp dp tag _ hsp hdp htag
  simp only [Chunk.inRange, pairsInRange, u32sInRange, Bool.and_eq_true, decide_eq_true_eq, List.all_eq_true]
  exact ⟨⟨⟨⟨⟨hf, h1⟩, h2⟩, hl⟩, fun g hg' => ⟨(hg g hg').1, (hg g hg').2⟩⟩, hd⟩

/-- Parameter lists: values of any length (every residue mod 4), inter-parameter padding, no trailing
padding — `decode_params(encode_params(ps)) == ps`, for the fixed and the upstream decoder. -/
theorem decode_encode_params (ps : List Param)
    (h : ∀ p ∈ ps, p.1 < 65536 ∧ p.2.length + 4 < 65536) :
    decodeParams (encodeParams ps) = .ok ps ∧ decodeParamsOrig (encodeParams ps) = .ok ps := by
  have hr : paramsInRange ps = true := by
    simp only [paramsInRange, List.all_eq_true, Bool.and_eq_true, decide_eq_true_eq]
    exact h
  exact ⟨decodeParamsG_encode true ps hr, decodeParamsG_encode false ps hr⟩

example : decodeParams (encodeParams [(1, [9]), (2, [9, 9]), (3, [9, 9, 9]), (4, [9, 9, 9, 9]), (5, [])]) =
    .ok [(1, [9]), (2, [9, 9]), (3, [9, 9, 9]), (4, [9, 9, 9, 9]), (5, [])] := by decide

/-- Nothing in `decode_encode_params` / `packet_roundtrip` asks for DISTINCT entries — the lists range over all
lists, so repeated entries (equal to the last one, all equal, …) are covered.  Spelled out for the shape a
"pad every parameter except the last, found by value" encoder gets wrong: an entry `p` of any length, `n` times,
around an arbitrary middle part. -/
theorem params_roundtrip_repeated (p : Param) (n : Nat) (mid : List Param)
    (hp : p.1 < 65536 ∧ p.2.length + 4 < 65536) (hm : ∀ q ∈ mid, q.1 < 65536 ∧ q.2.length + 4 < 65536) :
    decodeParams (encodeParams (List.replicate n p ++ mid ++ [p])) = .ok (List.replicate n p ++ mid ++ [p]) := by
  refine (decode_encode_params _ ?_).1
  intro q hq
  simp only [List.mem_append, List.mem_replicate, List.mem_singleton] at hq
  rcases hq with (⟨_, rfl⟩ | h) | rfl
  · exact hp
  · exact hm q h
  · exact hp

example : decodeParams (encodeParams [(0x8008, [130, 192]), (0xC000, []), (0x8008, [130, 192])]) =
    .ok [(0x8008, [130, 192]), (0xC000, []), (0x8008, [130, 192])] := by decide
example : (encodeParams [(0x8008, [130, 192]), (0x8008, [130, 192])]).length = 14 := by decide
example : parsePacket (serializePacketRaw 5000 5000 0
      (.init .init 0 1 131072 65535 65535 5 [(0x8008, [130, 192]), (0xC000, []), (0x8008, [130, 192])])) =
    .ok (5000, 5000, 0, [.init .init 0 1 131072 65535 65535 5 [(0x8008, [130, 192]), (0xC000, []), (0x8008, [130, 192])]]) :=
  parsePacketG_serialize true _ _ _ _ (by decide) (by decide) (by decide) (by decide)
example : parsePacket (serializePacketRaw 5000 5000 7 (.sack 0 9 1 [(2, 3), (2, 3)] [7, 7, 7])) =
    .ok (5000, 5000, 7, [.sack 0 9 1 [(2, 3), (2, 3)] [7, 7, 7]]) :=
  parsePacketG_serialize true _ _ _ _ (by decide) (by decide) (by decide) (by decide)

/-- RE-CONFIG parameter classes: `cls.parse(bytes(p)) == p`, and the type table finds the class. -/
theorem reconfig_roundtrip (p : RcParam) (h : p.inRange = true) :
    p.serialize = .ok p.bytes ∧ RcParam.parse p.cls p.bytes = .ok p ∧
      RcParam.parseOrig p.cls p.bytes = .ok p ∧ rcClassOf p.cls.ty = some p.cls :=
  ⟨by simp [RcParam.serialize, h], RcParam.parseG_bytes true p h, RcParam.parseG_bytes false p h, by cases p <;> rfl⟩

example : (RcParam.resetOut 1 2 3 [4, 5]).inRange = true := by decide

/-- An accepted packet has a matching checksum. -/
theorem checksumOk_of_accepted (d : Bytes) (h : (parsePacket d).isOk = true) : checksumOk d = true := by
  cases hc : checksumOk d with
  | true => rfl
  | false =>
    rw [parsePacket, parsePacketG_of_checksum_false true d hc] at h
    simp [Outcome.isOk] at h

/-- What "a single burst of up to 32 bits was altered" means: `e` is the XOR difference between the
received and the sent packet; all its set bits (CRC-order position `8*i + k` = bit `k`, LSB = 0, of
byte `i`) lie in `[p, p + len)`, `len ≤ 32`, and at least one bit is set. -/
def IsBurst (e : Bytes) (p len : Nat) : Prop :=
  IsBytes e ∧ len ≤ 32 ∧ InWindow (bitsOf e) p len ∧ ∃ i : Nat, (bitsOf e)[i]? = some true

/-- Full-strength statement of the property's second sentence. -/
def C08_full : Prop :=
  ∀ (d e : Bytes) (p len : Nat), IsBytes d → (parsePacket d).isOk = true → e.length = d.length →
    IsBurst e p len → parsePacket (xorBytes d e) = .valueError

/-- **Burst theorem** (packets of ANY length): a burst of ≤ 32 bits that lies entirely outside or
entirely inside the checksum field (bit positions 64..95) makes `parse_packet` raise `ValueError`
— no chunk of the corrupted packet is constructed. Only `checksumOk d` is needed of `d`. -/
theorem crc_burst_partial (d e : Bytes) (p len : Nat) (hd : IsBytes d) (hacc : checksumOk d = true)
    (hl : e.length = d.length) (hb : IsBurst e p len)
    (hpos : p + len ≤ 64 ∨ 96 ≤ p ∨ (64 ≤ p ∧ p + len ≤ 96)) :
    parsePacket (xorBytes d e) = .valueError := by
  obtain ⟨he, hlen, hw, hne⟩ := hb
  apply parsePacketG_of_checksum_false
  rcases hpos with h | h | h
  · exact checksumOk_burst_outside d e he hl hacc p len hlen hw hne (Or.inl h)
  · exact checksumOk_burst_outside d e he hl hacc p len hlen hw hne (Or.inr h)
  · exact checksumOk_burst_inside d e hd he hl hacc p len hw hne h

/-- The same for accepted packets, in the shape of `C08_full` plus the position hypothesis. -/
theorem crc_burst_accepted (d e : Bytes) (p len : Nat) (hd : IsBytes d) (hacc : (parsePacket d).isOk = true)
    (hl : e.length = d.length) (hb : IsBurst e p len)
    (hpos : p + len ≤ 64 ∨ 96 ≤ p ∨ (64 ≤ p ∧ p + len ≤ 96)) :
    parsePacket (xorBytes d e) = .valueError :=
  crc_burst_partial d e p len hd (checksumOk_of_accepted d hacc) hl hb hpos

theorem inWindow_of_take_drop (E : List Bool) (p len : Nat)
    (h1 : ∀ b ∈ E.take p, b = false) (h2 : ∀ b ∈ E.drop (p + len), b = false) : InWindow E p len := by
  intro i hi
  refine ⟨Nat.le_of_not_lt fun h => ?_, Nat.lt_of_not_le fun h => ?_⟩
  · cases h1 true (List.mem_of_getElem? (i := i) (by rw [List.getElem?_take, if_pos h, hi]))
  · cases h2 true (List.mem_of_getElem? (i := i - (p + len)) (by rw [List.getElem?_drop, ← hi]; congr 1; omega))

/-- Witness: COOKIE-ACK packet `5000 → 5000`, tag 0; 18 altered bits within bits 34..65
(verification tag and the two lowest checksum bits). -/
def witnessD : Bytes := [19, 136, 19, 136, 0, 0, 0, 0, 128, 47, 246, 57, 11, 0, 0, 4]
def witnessE : Bytes := [0, 0, 0, 0, 188, 72, 210, 94, 3, 0, 0, 0, 0, 0, 0, 0]

theorem witness_is_built : serializePacket 5000 5000 0 (.plain .cookieAck 0 []) = .ok witnessD := by
  decide +kernel

theorem witness_burst : IsBurst witnessE 34 32 ∧ ¬ (34 + 32 ≤ 64 ∨ 96 ≤ 34 ∨ (64 ≤ 34 ∧ 34 + 32 ≤ 96)) := by
  refine ⟨⟨by decide, by decide, ?_, ⟨34, by decide +kernel⟩⟩, by decide⟩
  exact inWindow_of_take_drop _ _ _ (by decide +kernel) (by decide +kernel)

/-- The corrupted packet is accepted, with a different verification tag. -/
theorem witness_accepted :
    parsePacket (xorBytes witnessD witnessE) = .ok (5000, 5000, 3158889054, [.plain .cookieAck 0 []]) := by
  decide +kernel

/-- **Known finding C08-crc-straddle**: the unrestricted burst statement is false. -/
theorem C08_full_false : ¬ C08_full := by
  intro h
  have := h witnessD witnessE 34 32 (by decide) (by decide +kernel) (by decide) witness_burst.1
  rw [witness_accepted] at this
  cases this

/-- Numbering-independent corollary: any error confined to 4 consecutive bytes `i .. i+3` that are
all outside, or exactly, the checksum field is rejected. -/
theorem crc_burst_four_bytes (d e : Bytes) (i : Nat) (hd : IsBytes d) (he : IsBytes e)
    (hacc : checksumOk d = true) (hl : e.length = d.length)
    (hconf : ∀ j x, e[j]? = some x → x ≠ 0 → i ≤ j ∧ j < i + 4) (hne : ∃ x ∈ e, x ≠ 0)
    (hpos : i + 4 ≤ 8 ∨ 12 ≤ i ∨ i = 8) :
    parsePacket (xorBytes d e) = .valueError := by
  apply crc_burst_partial d e (8 * i) 32 hd hacc hl ?_ (by omega)
  refine ⟨he, Nat.le_refl _, ?_, ?_⟩
  · intro q hq
    obtain ⟨x, hx, hx0⟩ := byte_ne_zero_of_bit e q hq
    have := hconf (q / 8) x hx hx0
    omega
  · obtain ⟨x, hx, hx0⟩ := hne
    obtain ⟨j, hj⟩ := List.mem_iff_getElem?.mp hx
    obtain ⟨k, _, hb⟩ := bit_of_byte_ne_zero e he hj hx0
    exact ⟨8 * j + k, hb⟩

example : IsBurst [0, 0, 0, 0, 0, 0, 0, 0, 0, 0, 0, 0, 1, 0, 0, 0] 96 1 :=
  ⟨by decide, by decide, inWindow_of_take_drop _ _ _ (by decide +kernel) (by decide +kernel), ⟨96, by decide +kernel⟩⟩

/-! ### the checksum field is exact

Every replacement of the 4 checksum bytes is a burst of ≤ 32 bits inside bits 64..95, so `crc_burst_partial` already
rejects it; the statements below say the same in terms of the FIELD VALUE, which is what a "lenient" verification
(accept the CRC in either byte order, accept the Adler-32 of RFC 2960, accept zero as "not computed" …) gives up. -/

/-- An accepted packet with its checksum field replaced by ANY other 4 bytes is rejected. -/
theorem checksum_field_exact (d v : Bytes) (hd : IsBytes d) (hacc : checksumOk d = true)
    (hv : IsBytes v) (hl : v.length = 4) (hne : v ≠ checksumField d) :
    parsePacket (withChecksum d v) = .valueError :=
  parsePacketG_of_checksum_false true _
    (checksumOk_withChecksum d v (isBytes_checksumField d hd) hacc hv hl hne)

/-- … so among the packets that agree with an accepted one outside bytes 8..11 exactly one is accepted. -/
theorem checksum_field_unique (d v : Bytes) (hd : IsBytes d) (hacc : (parsePacket d).isOk = true)
    (hv : IsBytes v) (hl : v.length = 4) :
    (parsePacket (withChecksum d v)).isOk = true ↔ v = checksumField d := by
  refine ⟨fun h => Classical.byContradiction fun hne => ?_, fun h => ?_⟩
  · rw [checksum_field_exact d v hd (checksumOk_of_accepted d hacc) hv hl hne] at h
    cases h
  · rwa [h, withChecksum_self]

/-- The byte-reversed checksum (the CRC packed in the other byte order) is rejected unless it is a palindrome,
in which case the packet is unchanged. -/
theorem checksum_byte_reversed_rejected (d : Bytes) (hd : IsBytes d) (hacc : checksumOk d = true)
    (hne : (checksumField d).reverse ≠ checksumField d) :
    parsePacket (withChecksum d (checksumField d).reverse) = .valueError := by
  refine checksum_field_exact d _ hd hacc ?_ ?_ hne
  · exact fun b hb => isBytes_checksumField d hd b (List.mem_reverse.mp hb)
  · rw [List.length_reverse, length_checksumField d (length_of_checksumOk d hacc)]

/-- For every packet the library can build: with the header and chunk as built, the ONLY checksum bytes the parser
accepts are the little-endian pack of the CRC-32C of the packet with a zeroed field — in particular not the
big-endian pack `u32be crc` (unless the two coincide). -/
theorem built_checksum_exact (sp dp tag : Nat) (c : Chunk)
    (hsp : sp < 65536) (hdp : dp < 65536) (htag : tag < 4294967296) (hc : c.inRange = true)
    (v : Bytes) (hv : IsBytes v) (hl : v.length = 4) :
    let crc := crc32c (u16be sp ++ (u16be dp ++ (u32be tag ++ ([0, 0, 0, 0] ++ c.bytes))))
    (parsePacket (u16be sp ++ (u16be dp ++ (u32be tag ++ (v ++ c.bytes))))).isOk = true ↔ v = u32le crc := by
  intro crc
  refine ⟨fun h => ?_, fun h => ?_⟩
  · have hok := checksumOk_of_accepted _ h
    rw [← List.append_assoc, ← List.append_assoc, checksumOk_assembled _ v _ rfl hl, beq_iff_eq] at hok
    rw [← u32le_le32 v hv hl, hok]
    simp only [List.append_assoc, crc]
  · rw [h]
    show (parsePacket (serializePacketRaw sp dp tag c)).isOk = true
    rw [parsePacket, parsePacketG_serialize true sp dp tag c hsp hdp htag hc]
    rfl

example : checksumOk witnessD = true ∧ (checksumField witnessD).reverse ≠ checksumField witnessD ∧
    parsePacket (withChecksum witnessD (checksumField witnessD).reverse) = .valueError := by
  refine ⟨by decide +kernel, by decide, by decide +kernel⟩

/-! ## upstream defects (reproduced on the `fixed = false` model) and their fixes -/

/-- DESIGN §4 (C05, "`decode_params` looped forever on a zero length field"): a zero parameter length makes `decode_params` loop forever; fixed: `ValueError`. -/
theorem decodeParamsOrig_hang :
    decodeParamsOrig [0, 1, 0, 0] = .hang ∧ decodeParams [0, 1, 0, 0] = .valueError := by decide

/-- … reachable from the network: HEARTBEAT chunk with that parameter, valid CRC. -/
def hangPacket : Bytes := [19, 136, 19, 136, 0, 0, 0, 7, 203, 65, 25, 120, 4, 0, 0, 8, 0, 1, 0, 0]
theorem parsePacketOrig_hang :
    parsePacketOrig hangPacket = .hang ∧ parsePacket hangPacket = .valueError := by
  constructor <;> decide +kernel

/-- DESIGN §4 (same row, "chunk constructors … raised `struct.error` on short bodies"): a DATA chunk with a 1-byte body escapes `parse_packet` as `struct.error`;
fixed: `ValueError`. -/
def shortDataPacket : Bytes := [19, 136, 19, 136, 0, 0, 0, 7, 181, 84, 54, 132, 0, 3, 0, 5, 1, 0, 0, 0]
theorem parsePacketOrig_struct_error :
    parsePacketOrig shortDataPacket = .crash "struct.error" ∧ parsePacket shortDataPacket = .valueError := by
  constructor <;> decide +kernel

/-- RE-CONFIG parameter classes on short data: `struct.error` (upstream) vs `ValueError` (fixed). -/
theorem reconfig_short :
    RcParam.parseOrig .resetOut [0, 0, 0] = .crash "struct.error" ∧ RcParam.parse .resetOut [0, 0, 0] = .valueError ∧
    RcParam.parseOrig .addOut [0, 0, 0, 0, 0, 0, 0] = .crash "struct.error" ∧
    RcParam.parse .addOut [0, 0, 0, 0, 0, 0, 0] = .valueError ∧
    RcParam.parseOrig .resetResp [] = .crash "struct.error" ∧ RcParam.parse .resetResp [] = .valueError := by
  decide

/-! ## the fixed parsers are total (shared with C05) -/

/-- After the fixes `parse_packet` returns or raises `ValueError` on EVERY byte string: no `struct.error`,
no other exception, no non-termination. -/
theorem parsePacket_total (d : Bytes) : (∃ r, parsePacket d = .ok r) ∨ parsePacket d = .valueError :=
  (parsePacket_safe d).symm

theorem decodeParams_total (body : Bytes) : (∃ r, decodeParams body = .ok r) ∨ decodeParams body = .valueError :=
  (decodeParams_safe body).symm

theorem reconfig_parse_total (cls : RcCls) (data : Bytes) :
    (∃ r, RcParam.parse cls data = .ok r) ∨ RcParam.parse cls data = .valueError :=
  (rcParse_safe cls data).symm

end Aiortc.Props.C08
