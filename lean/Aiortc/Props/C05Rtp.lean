import Aiortc.Lemmas.C05.RtpTransport
import Aiortc.Lemmas.C12.Remb
import Aiortc.Props.C07
/-!
# C05 (RTP / RTCP / codec part) — no received datagram can crash, hang or wedge the media receive path

Model: `Model/RtpDispatch.lean` (`RTCDtlsTransport._recv_next`, `_handle_rtp_data`, `_handle_rtcp_data`,
`RtpRouter`, `RTCRtpReceiver._handle_rtp_packet / _handle_rtcp_packet`, `RTCRtpSender._handle_rtcp_packet`) on top of
the wire parsers of C07 / C12 / C16.  The model is aiortc with `fixes/C05b-empty-datagram.patch` and
`fixes/C05b-nack-generator-jump.patch` applied; `recvNextUnfixed` and `Nack.addUnfixed` model the code without them.

`Safe o` means "`o` is `ok _` or `valueError`": not `crash _` (struct.error, IndexError, TypeError, …), not `hang`.
-/
namespace Aiortc.Props.C05Rtp
open Aiortc Aiortc.Gen Aiortc.Rtp Aiortc.Model Aiortc.Model.RtpDispatch Aiortc.Lemmas.RtpDispatch

/-! ## 0. constants of the property text -/

theorem history_size_const : RTP_HISTORY_SIZE = 128 := by decide
theorem rtcp_type_consts : RTCP_SR = 200 ∧ RTCP_BYE = 203 ∧ RTCP_RTPFB = 205 ∧ RTCP_PSFB = 206
    ∧ RTCP_RTPFB_NACK = 1 ∧ RTCP_PSFB_PLI = 1 ∧ RTCP_PSFB_FIR = 4 ∧ RTCP_PSFB_APP = 15 := by decide

/-! ## 1. `parsers_total`: every wire parser of the media path returns a value or raises `ValueError` -/

/-- `RtpPacket.parse` (C07). -/
theorem rtp_parse_total (ids : ExtIds) (data : Bytes) : Safe (Rtp.parse ids data) :=
  Props.C07.rtp_parse_only_value_error ids data

/-- `RtcpPacket.parse` incl. the six packet classes (C07). -/
theorem rtcp_parse_total (data : Bytes) : Safe (parseCompound data) :=
  Props.C07.rtcp_parse_only_value_error data

/-- `unpack_remb_fci` (C07). -/
theorem remb_parse_total (data : Bytes) : Safe (unpackRemb data) :=
  Props.C07.remb_parse_only_value_error data

/-- The copy of `unpack_remb_fci` in the router model (C12). -/
theorem router_remb_parse_total (data : Bytes) :
    Router.unpackRembFci data = .valueError ∨ ∃ b l, Router.unpackRembFci data = .ok (b, l) :=
  Router.unpackRembFci_no_crash data

/-- `unpack_header_extensions` for every profile (one-byte, two-byte, unknown) and every value. -/
theorem header_extensions_unpack_total (profile : Nat) (value : Bytes) :
    Safe (unpackHeaderExtensions profile value) :=
  unpackHeaderExtensions_safe profile value

/-- `HeaderExtensionsMap.get` for every id map (also ids 0 / duplicates). -/
theorem header_extensions_get_total (ids : ExtIds) (profile : Nat) (value : Bytes) :
    Safe (extGet ids profile value) := extGet_safe ids profile value

/-- `H264PayloadDescriptor.parse`: no `IndexError`, no `struct.error`, the STAP-A loop ends. -/
theorem h264_parse_total (data : Bytes) : Safe (H264.parse data) := h264_parse_safe data
theorem h264_depayload_total (data : Bytes) : Safe (H264.depayload data) := h264_depayload_safe data

/-- The STAP-A loop never needs more than `len(data) + 1` rounds, from any position. -/
theorem stap_a_fuel_suffices (data : Bytes) (pos : Nat) :
    H264.stapOffsets data (data.length + 1) pos ≠ .hang :=
  (stapOffsets_safe data (data.length + 1) pos (by omega) (by omega)).ne_hang

/-- `VpxPayloadDescriptor.parse` / `vp8_depayload`. -/
theorem vp8_parse_total (data : Bytes) : Safe (Vp8.parse data) := vp8_parse_safe data
theorem vp8_depayload_total (data : Bytes) : Safe (Vp8.depayload data) := vp8_depayload_safe data

/-- `codecs.depayload` for every codec. -/
theorem depayload_total (k : CodecKind) (payload : Bytes) : Safe (depayloadFor k payload) :=
  depayloadFor_safe k payload

/-- **parsers_total** (media path): for EVERY byte string and EVERY extension-id map. -/
theorem parsers_total (ids : ExtIds) (profile : Nat) (data : Bytes) :
    Safe (Rtp.parse ids data) ∧ Safe (parseCompound data) ∧ Safe (unpackRemb data)
    ∧ Safe (unpackHeaderExtensions profile data) ∧ Safe (extGet ids profile data)
    ∧ Safe (H264.parse data) ∧ Safe (H264.depayload data) ∧ Safe (Vp8.parse data) ∧ Safe (Vp8.depayload data) :=
  ⟨rtp_parse_total ids data, rtcp_parse_total data, remb_parse_total data,
   header_extensions_unpack_total profile data, header_extensions_get_total ids profile data,
   h264_parse_total data, h264_depayload_total data, vp8_parse_total data, vp8_depayload_total data⟩

/-! ## 2. `dispatch_safe`: the handlers around the parsers -/

/-- Demultiplexing of `_recv_next`, with the literal byte ranges: DTLS 20..63, SRTP/SRTCP 128..191,
RTCP iff the second byte is 192..208. -/
theorem demux_spec (first : Nat) (rest : Bytes) :
    demux true (first :: rest) =
      if 19 < first ∧ first < 64 then .dtls
      else if 127 < first ∧ first < 192 then
        (match rest with
         | second :: _ => if 192 ≤ second ∧ second ≤ 208 then Demux.rtcp else .rtp
         | [] => .rtp)
      else .ignored := by
  unfold demux isRtcp
  cases rest <;> simp

theorem demux_empty (b : Bool) : demux b [] = .empty := rfl

/-- Without an SRTP session nothing is handed to the RTP / RTCP handlers. -/
theorem demux_no_srtp (data : Bytes) : demux false data ≠ .rtp ∧ demux false data ≠ .rtcp := by
  unfold demux
  cases data with
  | nil => simp
  | cons a t => simp only [Bool.false_eq_true, and_false]; split <;> simp

/-- What the `try` blocks catch is EXACTLY `ValueError`: any other outcome of the parser would escape
`_handle_rtp_data` / `_handle_rtcp_data` (and close the transport in `__run`) … -/
theorem handlers_catch_only_value_error (env : Env) (t : Transport) (data : Bytes) (k : String) :
    (Rtp.parse t.ids data = .crash k → handleRtpData env t data = .crash k) ∧
    (parseCompound data = .crash k → handleRtcpData t data = .crash k) := by
  constructor
  · intro h; unfold handleRtpData; rw [h]
  · intro h; unfold handleRtcpData; rw [h]

/-- … and a rejected datagram changes nothing: router, receivers, senders are exactly as before. -/
theorem rejected_unchanged (env : Env) (t : Transport) (data : Bytes) :
    (Rtp.parse t.ids data = .valueError → handleRtpData env t data = .ok (t, [], 0)) ∧
    (parseCompound data = .valueError → handleRtcpData t data = .ok (t, [])) :=
  ⟨handleRtpData_rejected env t data, handleRtcpData_rejected t data⟩

/-- `RTCRtpReceiver._handle_rtp_packet` for every packet `RtpPacket.parse` can return and every receiver state
satisfying the component invariants: returns normally, keeps the invariants, and its only loop (the NACK
generator) runs at most 128 times. -/
theorem receiver_handle_rtp_total (r : Receiver) (hr : RecvInv r) (p : RtpPacket) (hp : PktOk p) (clock : Int)
    (remb : Bool) :
    ∃ r' e n, r.handleRtp p clock (.ok remb) = .ok (r', e, n) ∧ RecvInv r' ∧ n ≤ 128 :=
  (handleRtp_returns r hr p hp clock remb).exists3

/-- The RTX unwrap is guarded: `unwrap_rtx` raises `struct.error` on a payload shorter than 2 bytes (C07
`rtx_short_payload_crashes`), `_handle_rtp_packet` returns before calling it. -/
theorem rtx_short_payload_guarded (r : Receiver) (codec : Codec) (p : RtpPacket) (h : p.payload.length < 2)
    (hk : codec.kind.isRtx = true) : r.stageRtx codec p = .ok none := by
  unfold Receiver.stageRtx
  cases hc : codec.kind with
  | rtx apt =>
    simp only
    cases Router.dget p.ssrc r.rtxSsrc with
    | none => rfl
    | some o => simp only [h, if_true]
  | _ => rw [hc] at hk; cases hk

/-- A payload the codec parser rejects is dropped after statistics and NACK bookkeeping (`except ValueError`): the
jitter buffer, the timestamp mapper and the decoder are not touched. -/
theorem depayload_error_keeps_jitter_buffer (r : Receiver) (e0 : List Effect) (codec : Codec) (p : RtpPacket)
    (hk : codec.kind.isRtx = false)
    (hne : p.payload.isEmpty = false) (hbad : depayloadFor codec.kind p.payload = .valueError)
    (r' : Receiver) (e : List Effect) (n : Nat) (h : r.handleRtpCodec e0 codec p = .ok (r', e, n)) :
    r'.jb = r.jb ∧ r'.tsMap = r.tsMap ∧ r'.decoderRunning = r.decoderRunning := by
  unfold Receiver.handleRtpCodec at h
  have hx : r.stageRtx codec p = .ok (some (p, codec)) := by
    unfold Receiver.stageRtx
    cases hc : codec.kind with
    | rtx apt => rw [hc] at hk; cases hk
    | _ => rfl
  rw [hx] at h
  simp only [hne, Bool.false_eq_true, if_false, hbad] at h
  cases hn : r.stageNack p <;> rw [hn] at h <;> cases h
  exact stageNack_fields hn

/-- `RTCRtpReceiver._handle_rtcp_packet` (SR: note LSR; BYE: stop the decoder) returns normally and keeps the
invariants. -/
theorem receiver_handle_rtcp_total (r : Receiver) (hr : RecvInv r) (p : RtcpPacket) :
    RecvInv (r.handleRtcp p).1 := recv_handleRtcp_inv r hr p

/-- `RTCRtpSender._handle_rtcp_packet` for EVERY parsed RTCP packet and EVERY sender state whose RTX sequence number is
a 16-bit number (`SenderInv`): RR/SR statistics, NACK → `_retransmit` for each listed sequence number (incl.
`RtpPacket.serialize` of the RTX packet: `struct.error` if the counter had left 0..65535), PLI / FIR → key frame,
REMB → `unpack_remb_fci` inside `try … except ValueError`.  The invariant holds again afterwards, whatever the
history. -/
theorem sender_handle_rtcp_total (s : Sender) (hs : SenderInv s) (p : RtcpPacket) :
    ∃ s' e, s.handleRtcp p = .ok (s', e) ∧ SenderInv s' :=
  (sender_handleRtcp_returns s hs p).exists2

/-- A NACK answers each listed sequence number with at most one retransmission: the work is linear in the
datagram (each 4-byte FCI entry lists at most 17 sequence numbers). -/
theorem retransmissions_bounded (s : Sender) (hs : SenderInv s) (lost : List Nat) :
    ∃ s' e, s.retransmitAll lost = .ok (s', e) ∧ SenderInv s' ∧ e.length ≤ lost.length :=
  (retransmitAll_returns s hs lost).exists2

/-! ### the RTX sequence number: every origin, every length of history -/

/-- `RTCRtpSender.__init__`: `random_sequence_number()` = `random16() % 32768` is a 16-bit number, for every draw. -/
theorem fresh_sender_inv (r16 : Int) (s : Sender) (h : s.rtxSequenceNumber = r16 % 32768) : SenderInv s := by
  unfold SenderInv Props.C17.R16
  omega

/-- One retransmission of a packet that is in the history, RTX negotiated: the RTX packet carries the current counter,
which fits the 16-bit field, and the counter advances in serial arithmetic — 65535 is followed by 0. -/
theorem retransmit_hit (s : Sender) (hs : SenderInv s) (seq pt : Nat) (pkt : RtpPacket)
    (hh : Router.dget (seq % RTP_HISTORY_SIZE) s.history = some pkt) (hq : pkt.sequenceNumber = seq)
    (hpt : s.rtxPayloadType = some pt) :
    s.retransmit seq = .ok ({ s with rtxSequenceNumber := (s.rtxSequenceNumber + 1) % 65536 },
                            [.retransmit s.id (wrapRtx pkt pt s.rtxSequenceNumber.toNat s.rtxSsrc)])
    ∧ (wrapRtx pkt pt s.rtxSequenceNumber.toNat s.rtxSsrc).sequenceNumber < 65536 := by
  constructor
  · unfold Sender.retransmit Sender.retransmitWith
    rw [hh]
    simp only [hq, if_true, hpt, seqPackable_of_r16 hs, uint16_add]
  · have h1 := hs.1
    have h2 := hs.2
    unfold wrapRtx
    simp only
    omega

/-- **Any origin, any length of history**: after `n` retransmissions (n arbitrary — 32 769, 65 536, …) from ANY 16-bit
origin the counter is `(origin + n) mod 2^16`, all `n` packets were sent, nothing was raised. -/
theorem rtx_counter_every_origin (seq pt : Nat) (pkt : RtpPacket) (hq : pkt.sequenceNumber = seq) :
    ∀ (n : Nat) (s : Sender), SenderInv s → Router.dget (seq % RTP_HISTORY_SIZE) s.history = some pkt →
      s.rtxPayloadType = some pt →
      ∃ s' e, s.retransmitAll (List.replicate n seq) = .ok (s', e)
        ∧ s'.rtxSequenceNumber = (s.rtxSequenceNumber + n) % 65536 ∧ e.length = n := by
  intro n
  induction n with
  | zero =>
    intro s hs _ _
    refine ⟨s, [], rfl, ?_, rfl⟩
    have h1 := hs.1
    have h2 := hs.2
    simp only [Int.natCast_zero, Int.add_zero]
    omega
  | succ k ih =>
    intro s hs hh hpt
    have hstep := (retransmit_hit s hs seq pt pkt hh hq hpt).1
    have hs1 : SenderInv { s with rtxSequenceNumber := (s.rtxSequenceNumber + 1) % 65536 } := by
      unfold SenderInv Props.C17.R16; simp only; omega
    obtain ⟨s2, e2, h2, hc2, hl2⟩ := ih { s with rtxSequenceNumber := (s.rtxSequenceNumber + 1) % 65536 } hs1 hh hpt
    refine ⟨_, _, retransmitAllWith_cons_ok hstep h2, ?_, ?_⟩
    · rw [hc2]
      simp only
      push_cast
      omega
    · simp only [List.length_append, List.length_cons, List.length_nil, hl2]
      omega

/-- The class of regression this invariant is about: advance the counter WITHOUT the reduction (`+= 1`).  From 65535 the
next retransmission still goes out (it carries 65535) and leaves the counter at 65536; the one after it raises
`struct.error` out of `_handle_rtcp_packet` — for every sender, every history, every packet. -/
theorem unreduced_counter_crashes (s : Sender) (seq pt : Nat) (pkt : RtpPacket)
    (hh : Router.dget (seq % RTP_HISTORY_SIZE) s.history = some pkt) (hq : pkt.sequenceNumber = seq)
    (hpt : s.rtxPayloadType = some pt) (h : s.rtxSequenceNumber = 65535) :
    s.retransmitAllWith (fun n => n + 1) [seq, seq] = .crash "struct.error" := by
  unfold Sender.retransmitAllWith Sender.retransmitWith
  rw [hh]
  simp only [hq, if_true, hpt, h]
  have h1 : seqPackable 65535 = true := by decide
  rw [if_pos h1]
  simp only
  unfold Sender.retransmitAllWith Sender.retransmitWith
  simp only [hh, hq, if_true]
  have h2 : seqPackable (65535 + 1) = false := by decide
  simp only [h2, Bool.false_eq_true, if_false]

/-- `_handle_rtp_data` for ANY byte string, ANY transport state (router, receivers, senders) whose receivers satisfy
their invariants. -/
theorem handle_rtp_data_total (env : Env) (remb : Bool) (henv : env.rbeOut = .ok remb) (t : Transport)
    (ht : TransportInv t) (data : Bytes) (hb : IsBytes data) :
    ∃ t' e n, handleRtpData env t data = .ok (t', e, n) ∧ TransportInv t' ∧ n ≤ 128 :=
  (handleRtpData_returns env remb henv t ht data hb).exists3

/-- `_handle_rtcp_data` (parse, `route_rtcp`, every recipient's handler) for ANY byte string. -/
theorem handle_rtcp_data_total (t : Transport) (ht : TransportInv t) (data : Bytes) :
    ∃ t' e, handleRtcpData t data = .ok (t', e) ∧ TransportInv t' :=
  (handleRtcpData_returns t ht data).exists2

/-- **dispatch_safe / recv_next_total**: `_recv_next` on ANY datagram (any bytes, incl. the empty one; SRTP
authentication succeeding or failing) in ANY protocol state returns normally — nothing escapes to `__run`, so the
transport stays connected — keeps every receiver's invariants (so the next datagram is covered again), and does
at most 128 loop iterations beyond the parsers' linear passes. -/
theorem recv_next_total (env : Env) (remb : Bool) (henv : env.rbeOut = .ok remb)
    (hsrtp : ∀ d plain, env.unprotect d = some plain → IsBytes plain)
    (t : Transport) (ht : TransportInv t) (data : Bytes) :
    ∃ t' e n, recvNext env t data = .ok (t', e, n) ∧ TransportInv t' ∧ n ≤ 128 :=
  (recvNext_returns env remb henv hsrtp t ht data).exists3

/-- The hypotheses of `recv_next_total` are satisfiable: the identity `unprotect` on byte strings. -/
example (data : Bytes) (h : IsBytes data) : ∀ d plain, (fun x => if x = data then some x else none) d = some plain →
    IsBytes plain := by
  intro d plain hd
  simp only at hd
  split at hd
  · cases hd; subst d; exact h
  · cases hd

/-- After a datagram that is not media, that fails SRTP authentication, or that the parser rejects, the transport
is as before except for the two receive counters. -/
theorem recv_next_rejected_unchanged (env : Env) (t : Transport) (data : Bytes) :
    (demux t.hasSrtp data ∈ [.empty, .dtls, .ignored] → recvNext env t data = .ok (t.count data, [], 0)) ∧
    (env.unprotect data = none → recvNext env t data = .ok (t.count data, [], 0)) ∧
    (∀ plain, demux t.hasSrtp data = .rtp → env.unprotect data = some plain →
      Rtp.parse t.ids plain = .valueError → recvNext env t data = .ok (t.count data, [], 0)) ∧
    (∀ plain, demux t.hasSrtp data = .rtcp → env.unprotect data = some plain →
      parseCompound plain = .valueError → recvNext env t data = .ok (t.count data, [], 0)) := by
  unfold recvNext
  dsimp only
  rw [show (t.count data).hasSrtp = t.hasSrtp from rfl]
  refine ⟨?_, ?_, ?_, ?_⟩
  · intro h
    simp only [List.mem_cons, List.not_mem_nil, or_false] at h
    rcases h with h | h | h <;> rw [h]
  · intro h
    cases demux t.hasSrtp data <;> simp only [h]
  · intro plain hd hu hp
    rw [hd]
    simp only [hu]
    exact handleRtpData_rejected env (t.count data) plain hp
  · intro plain hd hu hp
    rw [hd]
    simp only [hu]
    rw [handleRtcpData_rejected (t.count data) plain hp]

/-- Without `fixes/C05b-empty-datagram.patch`, `_recv_next` indexes `data[0]` of an empty datagram: `IndexError`
escapes to `__run`, whose `finally` closes the transport. -/
theorem recv_next_unfixed_empty_crashes (env : Env) (t : Transport) :
    recvNextUnfixed env t [] = .crash "IndexError" := rfl

/-! ## 3. bounded work: the NACK generator -/

/-- `NackGenerator.add` (with `fixes/C05b-nack-generator-jump.patch`): total on 16-bit sequence numbers, at most 128 loop iterations per packet. -/
theorem nack_add_bounded (g : Nack) (hg : ∀ m, g.maxSeq = some m → Props.C17.R16 m) (p : Int)
    (hp : Props.C17.R16 p) :
    ∃ g' missed n, g.add p = .ok (g', missed, n) ∧ n ≤ 128 ∧ (∀ m, g'.maxSeq = some m → Props.C17.R16 m) :=
  nack_add_total g hg p hp

/-- `NackGenerator.add` without that patch: one packet costs as many iterations as sequence numbers were skipped … -/
theorem nack_add_unfixed_walks (g : Nack) (m p : Int) (hm : Props.C17.R16 m) (hp : Props.C17.R16 p)
    (hmax : g.maxSeq = some m) (hgt : uint16_gt p m = true) :
    ∃ g' missed, g.addUnfixed p = .ok (g', missed, (fwd p m - 1).toNat) :=
  Lemmas.RtpDispatch.nack_add_unfixed_walks g m p hm hp hmax hgt

/-- … 32766 for a 12-byte packet 32767 ahead, where the patched code needs at most 128. -/
theorem nack_jump_witness :
    (∃ g' missed, (Nack.mk (some 0) []).addUnfixed 32767 = .ok (g', missed, 32766)) ∧
    (∃ g' missed n, (Nack.mk (some 0) []).add 32767 = .ok (g', missed, n) ∧ n ≤ 128) := by
  constructor
  · obtain ⟨g', missed, h⟩ := nack_add_unfixed_walks ⟨some 0, []⟩ 0 32767 (by unfold Props.C17.R16; omega) (by unfold Props.C17.R16; omega) rfl
      (by decide)
    exact ⟨g', missed, by rw [h]; rfl⟩
  · obtain ⟨g', missed, n, h, hn, _⟩ := nack_add_total ⟨some 0, []⟩ (by intro m h; cases h; unfold Props.C17.R16; omega) 32767
      (by unfold Props.C17.R16; omega)
    exact ⟨g', missed, n, h, hn⟩

/-! ## 4. `still_alive`: any sequence of datagrams -/

/-- Feed a list of datagrams (each with its own environment inputs). -/
def runAll : Transport → List (Env × Bytes) → Outcome (Transport × List Effect)
  | t, [] => .ok (t, [])
  | t, (env, d) :: rest =>
    match recvNext env t d with
    | .ok (t1, e1, _) =>
      match runAll t1 rest with
      | .ok (t2, e2) => .ok (t2, e1 ++ e2)
      | .valueError => .valueError | .crash k => .crash k | .hang => .hang
    | .valueError => .valueError | .crash k => .crash k | .hang => .hang

/-- An environment whose bitrate estimator returns and whose SRTP layer hands over byte strings. -/
def EnvOk (env : Env) : Prop :=
  (∃ remb, env.rbeOut = .ok remb) ∧ ∀ d plain, env.unprotect d = some plain → IsBytes plain

/-- **still_alive**: after ANY sequence of datagrams the transport has not raised and is again in a state to
which `recv_next_total` applies — whatever came before, the next (valid) datagram is processed by the same total
handlers. -/
theorem still_alive : ∀ (ds : List (Env × Bytes)) (t : Transport), TransportInv t → (∀ x ∈ ds, EnvOk x.1) →
    ∃ t' e, runAll t ds = .ok (t', e) ∧ TransportInv t' := by
  intro ds
  induction ds with
  | nil => intro t ht _; exact ⟨t, [], rfl, ht⟩
  | cons x rest ih =>
    intro t ht hall
    obtain ⟨env, d⟩ := x
    obtain ⟨⟨remb, hremb⟩, hsrtp⟩ := hall (env, d) (by simp)
    obtain ⟨t1, e1, n, h1, hinv1, _⟩ := recv_next_total env remb hremb hsrtp t ht d
    obtain ⟨t2, e2, h2, hinv2⟩ := ih t1 hinv1 (fun y hy => hall y (by simp [hy]))
    unfold runAll
    rw [h1]
    simp only
    rw [h2]
    exact ⟨_, _, rfl, hinv2⟩

/-! ### the receive path during set-up: `_do_handshake` reads datagrams through the same `_recv_next` -/

/-- Before `_setup_srtp()` has created the SRTP sessions (`self._rx_srtp` is `None`: the whole DTLS handshake) NO
datagram — whatever its first byte, in particular 128..191 — is handed to `unprotect` or to the RTP / RTCP handlers:
`_recv_next` returns normally and only the two receive counters move.  (Dropping the `and self._rx_srtp` conjunct
makes `self._rx_srtp.unprotect` an `AttributeError` that escapes `start()`.) -/
theorem recv_next_before_srtp (env : Env) (t : Transport) (h : t.hasSrtp = false) (data : Bytes) :
    recvNext env t data = .ok (t.count data, [], 0) := by
  have hd := demux_no_srtp data
  have hs : (t.count data).hasSrtp = false := h
  unfold recvNext
  dsimp only
  rw [hs]
  cases hx : demux false data with
  | empty | dtls | ignored => rfl
  | rtcp => exact absurd hx hd.2
  | rtp => exact absurd hx hd.1

/-- … for ANY sequence of datagrams that arrives during the handshake: nothing raised, no effect, receivers, senders and
router exactly as before — the transport that `_setup_srtp()` completes is the one `start()` began with. -/
theorem handshake_phase_inert : ∀ (ds : List (Env × Bytes)) (t : Transport), t.hasSrtp = false →
    ∃ t', runAll t ds = .ok (t', []) ∧ t'.receivers = t.receivers ∧ t'.senders = t.senders ∧ t'.router = t.router
      ∧ t'.ids = t.ids ∧ t'.hasSrtp = false := by
  intro ds
  induction ds with
  | nil => intro t h; exact ⟨t, rfl, rfl, rfl, rfl, rfl, h⟩
  | cons x rest ih =>
    intro t h
    obtain ⟨env, d⟩ := x
    obtain ⟨t2, h2, ha, hb, hc, hd, he⟩ := ih (t.count d) h
    unfold runAll
    rw [recv_next_before_srtp env t h d]
    simp only
    rw [h2]
    exact ⟨t2, rfl, ha, hb, hc, hd, he⟩

/-- The hypothesis is satisfiable, and it matters: the same RTP-looking datagram is inert before the SRTP sessions
exist and reaches the router afterwards. -/
example : demux false [128, 0, 0, 1] = .ignored ∧ demux true [128, 0, 0, 1] = .rtp ∧ demux false [129, 200] = .ignored
    ∧ demux true [129, 200] = .rtcp := by decide

/-! ## 5. the hypotheses are satisfiable: a freshly constructed receiver / transport -/

/-- `RTCRtpReceiver.__init__` for video (`JitterBuffer(capacity=128, is_video=True)`) and audio
(`capacity=16, prefetch=4`) satisfies the invariant. -/
theorem fresh_receiver_inv (id : Nat) (video : Bool) (codecs : List (Nat × Codec)) (rtx : List (Nat × Nat))
    (rtcp : Option Nat) :
    ∃ jb, Jitter.mk (if video then 128 else 16) (if video then 0 else 4) video = .ok jb ∧
      RecvInv { id := id, isVideo := video, codecs := codecs, rtxSsrc := rtx, rtcpSsrc := rtcp, jb := jb } := by
  have hc : Props.C10.Pow2Cap (if video then 128 else 16) := by
    cases video
    · exact ⟨4, by omega, rfl⟩
    · exact ⟨7, by omega, rfl⟩
  obtain ⟨jb, hmk, hinv, _⟩ := Props.C10.mk_inv (if video then 128 else 16) (if video then 0 else 4) video hc
  refine ⟨jb, hmk, ⟨hinv, ?_, ⟨fun h => by cases h⟩, fun m h => by cases h⟩⟩
  exact ⟨by simp [Stats.Receiver.init], by simp [Stats.Receiver.init]⟩

/-- A transport state to which `recv_next_total` / `still_alive` apply exists: fresh video receivers everywhere. -/
example : ∃ t : Transport, TransportInv t := by
  obtain ⟨jb, _, hinv⟩ := fresh_receiver_inv 0 true [(100, ⟨.vp8, 90000⟩)] [] (some 1)
  exact ⟨{ ids := {}, router := Router.Router.empty,
           receivers := fun _ => { id := 0, isVideo := true, codecs := [(100, ⟨.vp8, 90000⟩)], rtxSsrc := [],
                                   rtcpSsrc := some 1, jb := jb },
           senders := fun _ => { id := 0, ssrc := 1, rtxSsrc := 2, rtxPayloadType := none, rtxSequenceNumber := 0,
                                 history := [], hasEncoder := false } },
         ⟨fun _ => hinv, fun _ => by unfold SenderInv Props.C17.R16; simp⟩⟩

/-- The hypotheses of `retransmit_hit` / `rtx_counter_every_origin` / `unreduced_counter_crashes` hold for a sender
one step before the wrap with one packet in its history. -/
example : let s : Sender := { id := 0, ssrc := 1, rtxSsrc := 2, rtxPayloadType := some 101, rtxSequenceNumber := 65535,
                              history := [(3 % 128, { sequenceNumber := 3 })], hasEncoder := false }
    SenderInv s ∧ Router.dget (3 % RTP_HISTORY_SIZE) s.history = some { sequenceNumber := 3 }
      ∧ s.rtxPayloadType = some 101 ∧ s.rtxSequenceNumber = 65535 :=
  ⟨⟨by decide, by decide⟩, by decide, rfl, rfl⟩

/-- `PktOk` holds for a concrete packet (hypothesis of `receiver_handle_rtp_total`). -/
example : PktOk { sequenceNumber := 65535, ssrc := 4294967295, payload := [0x90, 0x80, 5, 1, 2] } :=
  ⟨by decide, by decide, by decide⟩

/-- The hypotheses of `nack_add_bounded` / `nack_add_unfixed_walks` hold for a generator in the middle of a stream. -/
example : (∀ m, (Nack.mk (some 65535) [65000]).maxSeq = some m → Props.C17.R16 m) ∧ Props.C17.R16 32766
    ∧ uint16_gt 32766 65535 = true := by
  refine ⟨?_, ?_, by decide⟩
  · intro m h; cases h; unfold Props.C17.R16; omega
  · unfold Props.C17.R16; omega

end Aiortc.Props.C05Rtp
