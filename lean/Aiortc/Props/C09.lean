import Aiortc.Lemmas.C09.SdpSession
/-! # C09 — session descriptions survive parse/serialise round trips

Theorems about the executable model `Aiortc.Model.Sdp` (mirror of `src/aiortc/sdp.py`, tied to the real
code by `harness/props/C09.py`).  Proofs live in `Lemmas/C09/Sdp.lean` (L1), `Lemmas/C09/SdpAttr.lean` (L2),
`Lemmas/C09/{SdpFold,SdpDispatch,SdpMedia,SdpMediaAll,NoBreak,SdpSession}.lean` (L3); this file states the property theorems.
Everything is for ALL values / ALL texts of the stated shape:

* L1: `int(str(i)) = i`; `split()` against `" ".join` on whitespace-free tokens.
* L2 round trips, value → text → value, for every well-formed value of every attribute codec:
  ICE candidates, fmtp parameters, groups (str / int items), rtpmap, rtcp-fb, extmap, fingerprint,
  setup/role, ssrc lines, sctpmap, connection addresses.
* L2 idempotence, text → value → text → value, for EVERY text the parser accepts (no well-formedness
  hypothesis): candidates, fmtp parameters, groups.
* L3 `media_roundtrip`: for EVERY structurally valid media section, `MediaDescription.__str__` followed by
  the media part of `SessionDescription.parse` recovers every field.
* L3 `session_roundtrip` / `generated_fixed_point`: for EVERY structurally valid `SessionDescription` `d`, `str(d)`
  succeeds, parsing its lines recovers `d` (every field), and — when no field contains a line-break character —
  `parse(str(d)) = d` and `str(parse(str(d))) = str(d)` on the text itself.
* Whole-text idempotence for ARBITRARY accepted text is stated as a `Prop` below (`TextIdempotent`) and proved in
  `Props/C09Text.lean`. -/
namespace Aiortc.Props.C09
open Aiortc Aiortc.Model.Sdp Aiortc.Lemmas.C09

theorem int_roundtrip (i : Int) : pyInt (showInt i) = some i := pyInt_showInt i

theorem split_join_tokens (toks : List Str) (h : ∀ t ∈ toks, Tok t) : splitWs (unwords toks) = toks :=
  splitWs_unwords toks h

/-- Clause "ICE candidate lines round-trip exactly", direction value → line → value, for EVERY
well-formed candidate (host/srflx/relay, udp/tcp, with or without raddr/rport/tcptype). -/
theorem candidate_roundtrip (c : Candidate) (h : WFCand c) : candidateFromSdp (candidateToSdp c) = .ok c :=
  Lemmas.C09.candidate_roundtrip c h

theorem params_roundtrip (p : Params) (h : WFParams p) : parametersFromSdp (parametersToSdp p) = .ok p :=
  Lemmas.C09.params_roundtrip p h

theorem group_roundtrip (dest : List (Group Str)) (g : Group Str) (hs : Tok g.semantic) (hi : ∀ t ∈ g.items, Tok t) :
    parseGroupStr dest (some (groupToStr id g)) = .ok (dest ++ [g]) :=
  Lemmas.C09.group_roundtrip dest g hs hi

theorem ssrc_group_roundtrip (dest : List (Group Int)) (g : Group Int) (hs : Tok g.semantic) :
    parseGroupInt dest (some (groupToStr showInt g)) = .ok (dest ++ [g]) :=
  Lemmas.C09.ssrc_group_roundtrip dest g hs

theorem rtpmap_roundtrip (kind name : Str) (c : Codec) (h : WFCodec kind name c) :
    ∃ s, codecStr c = .ok s ∧ parseRtpmap kind (some (showInt c.payloadType ++ ' ' :: s)) = .ok c :=
  Lemmas.C09.rtpmap_roundtrip kind name c h

theorem rtcpfb_roundtrip (pt : Int) (f : Feedback) (h : WFFeedback f) :
    splitFb (fbValue pt f) = (showInt pt, some (f.typ, f.parameter)) :=
  Lemmas.C09.rtcpfb_roundtrip pt f h

theorem extmap_roundtrip (h : HeaderExt) (hu : Tok h.uri) : parseExtmap (some (extmapValue h)) = .ok h :=
  Lemmas.C09.extmap_roundtrip h hu

theorem fingerprint_roundtrip (f : Fingerprint) (ha : Tok f.algorithm) (hv : Tok f.value) :
    parseFingerprint (some (fingerprintValue f)) = .ok f :=
  Lemmas.C09.fingerprint_roundtrip f ha hv

/-- DTLS role ↔ `a=setup:` value, over the regenerated tables. -/
theorem setup_roundtrip : ∀ p ∈ Gen.DTLS_ROLE_SETUP,
    setupOfRole p.1.toList = .ok p.2.toList ∧ parseSetup (some p.2.toList) = .ok p.1.toList := by decide

theorem ssrc_line_roundtrip (id : Int) (attr v : Str) (h : ':' ∉ attr) :
    parseSsrcLine (some (showInt id ++ ' ' :: (attr ++ ':' :: v))) = .ok (id, attr, v) :=
  Lemmas.C09.ssrc_line_roundtrip id attr v h

theorem sctpmap_roundtrip (k : Int) (v : Str) : parseSctpmap (some (showInt k ++ ' ' :: v)) = .ok (k, v) :=
  Lemmas.C09.sctpmap_roundtrip k v

theorem ipaddress_roundtrip (a : Str) (hne : a ≠ []) (hsp : ' ' ∉ a) : ipaddressFromSdp (ipaddressToSdp a) = .ok a :=
  Lemmas.C09.ipaddress_roundtrip a hne hsp

/-- Whatever `parse_group` accepts consists of tokens, hence round-trips. -/
theorem group_idempotent (v : Str) (gs : List (Group Str)) (h : parseGroupStr [] (some v) = .ok gs) :
    ∀ g ∈ gs, parseGroupStr [] (some (groupToStr id g)) = .ok [g] :=
  Lemmas.C09.group_idempotent v gs h

/-- **Structured round trip, media level**: for EVERY structurally valid media section `m`,
`MediaDescription.__str__` succeeds and the media part of `SessionDescription.parse` applied to its lines
gives back exactly `m` (kind, port, profile, formats, host, direction, header extensions, mid, msid, rtcp,
SSRCs and SSRC groups, codecs with parameters and feedback, sctpmap / sctp-port / max-message-size,
candidates, end-of-candidates, ICE credentials and options, DTLS fingerprints and role). -/
theorem media_roundtrip (m : Media) (hw : WFMedia m) :
    ∃ lines, mediaLines m = .ok lines ∧ parseMedia { iceLite := m.ice.iceLite } lines = .ok m :=
  Lemmas.C09.media_roundtrip m hw

/-- The line printed for a candidate, fed to the media-level line parser, appends exactly that candidate. -/
theorem candidate_line_in_media (m : Media) (c : Candidate) (h : WFCand c) :
    mediaLine m (lit "a=candidate:" ++ candidateToSdp c) = .ok { m with candidates := m.candidates ++ [c] } :=
  Lemmas.C09.candidate_line_in_media m c h

/-- **Structured round trip, session level, on lists of lines**: for EVERY structurally valid
`SessionDescription`, `__str__` succeeds with text `"\r\n".join(lines) + "\r\n"`, and parsing those lines
(`grouplines`, session-level lines, defaults folded into the media sections, every media section with both passes)
gives back the description — every field. -/
theorem session_roundtrip (s : Session) (hw : WFSession s) :
    ∃ ls, sessionToStr s = .ok (unlines ls) ∧ parseLines ls = .ok s :=
  Lemmas.C09.session_roundtrip s hw

/-- `("\r\n".join(lines) + "\r\n").splitlines() = lines` when no line contains a line-break character. -/
theorem splitlines_unlines (ls : List Str) (h : ∀ l ∈ ls, NoBreak l) : splitlines (unlines ls) = ls :=
  Lemmas.C09.splitlines_unlines ls h

/-- **Clause 1 of C09 for structurally valid descriptions**: `str(d)` succeeds; if no printed line contains a
line-break character (i.e. no field does), parsing the text recovers `d` — every field — and the text is a fixed
point of parse-then-serialise. -/
theorem generated_fixed_point (s : Session) (hw : WFSession s) :
    ∃ ls, sessionToStr s = .ok (unlines ls) ∧
      ((∀ l ∈ ls, NoBreak l) → parse (unlines ls) = .ok s ∧ roundTrip (unlines ls) = .ok (unlines ls)) :=
  Lemmas.C09.generated_fixed_point s hw

theorem fmtp_int_const : fmtpIntParams =
    ["apt", "max-fr", "max-fs", "maxplaybackrate", "minptime", "stereo", "useinbandfec"].map String.toList :=
  Lemmas.C09.fmtp_int_const
theorem directions_const : directions = ["inactive", "sendonly", "recvonly", "sendrecv"].map String.toList := rfl
theorem ssrc_attrs_const : ssrcInfoAttrs = ["cname", "msid", "mslabel", "label"].map String.toList :=
  Lemmas.C09.ssrc_attrs_const
theorem forbidden_pt_const : (Gen.FORBIDDEN_PT_LO, Gen.FORBIDDEN_PT_HI) = (72, 77) := Lemmas.C09.forbidden_pt_const

/-- Canonically spaced candidate lines: what `candidate_to_sdp` prints for well-formed candidates
(tokens separated by single spaces, decimal numbers, `typ`, then optional `raddr`/`rport`/`tcptype` in
that order). -/
def CanonCandLine (l : Str) : Prop := ∃ c, WFCand c ∧ l = candidateToSdp c

/-- Clause "ICE candidate lines round-trip exactly", direction line → value → line. -/
theorem candidate_line_roundtrip (l : Str) (h : CanonCandLine l) :
    (candidateFromSdp l).bind (fun c => .ok (candidateToSdp c)) = .ok l := by
  obtain ⟨c, hc, rfl⟩ := h
  rw [candidate_roundtrip c hc]; rfl

/-- For ANY line `candidate_from_sdp` accepts (extra blanks, unknown extension attributes, signs,
underscores …), one round of parse-and-serialise reaches a fixed point: the printed line parses to
the same candidate, and prints to the same line. -/
theorem candidate_idempotent (l : Str) (c : Candidate) (h : candidateFromSdp l = .ok c) :
    candidateFromSdp (candidateToSdp c) = .ok c :=
  candidate_roundtrip c (candidate_accepted_wf l c h)

/-- For ANY fmtp text `parameters_from_sdp` accepts, the printed dictionary parses to itself. -/
theorem params_idempotent (s : Str) (p : Params) (h : parametersFromSdp s = .ok p) :
    parametersFromSdp (parametersToSdp p) = .ok p :=
  params_roundtrip p (params_accepted_wf s p h)

/-- "For any SDP text the parser accepts, one round of parse-and-serialise is idempotent." -/
def TextIdempotent : Prop :=
  ∀ t t1, roundTrip t = .ok t1 → roundTrip t1 = .ok t1

def exCand : Candidate :=
  { foundation := "f1".toList, component := 1, protocol := "tcp".toList, priority := 2130706431,
    ip := "192.168.1.2".toList, port := 9, typ := "srflx".toList,
    relatedAddress := some "10.0.0.1".toList, relatedPort := some 0, tcpType := some "active".toList }

example : WFCand exCand :=
  ⟨⟨by decide, by decide⟩, ⟨by decide, by decide⟩, ⟨by decide, by decide⟩, ⟨by decide, by decide⟩,
   by intro a h; simp [exCand] at h; subst h; exact ⟨by decide, by decide⟩,
   by intro a h; simp [exCand] at h; subst h; exact ⟨by decide, by decide⟩⟩

example : candidateToSdp exCand =
    "f1 1 tcp 2130706431 192.168.1.2 9 typ srflx raddr 10.0.0.1 rport 0 tcptype active".toList := by
  lit_toList
  decide +kernel

example : candidateFromSdp "0  1 UDP 2122252543 192.168.99.58 36553 typ host generation 0".toList =
    .ok { foundation := "0".toList, component := 1, protocol := "UDP".toList, priority := 2122252543,
          ip := "192.168.99.58".toList, port := 36553, typ := "host".toList } := by
  lit_toList
  decide +kernel

def exParams : Params :=
  [("apt".toList, .int 96), ("profile-level-id".toList, .str "42e01f".toList), ("cbr".toList, .none)]

example : WFParams exParams :=
  ⟨by decide, by decide, by
    intro kv h; simp [exParams] at h
    rcases h with h | h | h <;> subst h
    · exact ⟨by decide, by decide, by decide⟩
    · exact ⟨by decide, by decide, ⟨by decide, by decide⟩⟩
    · exact ⟨by decide, by decide, trivial⟩⟩

example : parametersToSdp exParams = "apt=96;profile-level-id=42e01f;cbr".toList := by
  lit_toList
  decide +kernel

example : WFCodec "audio".toList "opus".toList
    { mimeType := "audio/opus".toList, clockRate := 48000, channels := some 2, payloadType := 96 } :=
  ⟨by decide, by decide, by decide, by decide, rfl, rfl⟩

example : WFFeedback ⟨"nack".toList, some "pli".toList⟩ := ⟨by decide, by intro p h; simp at h; subst h; simp⟩

example : Tok "BUNDLE".toList := ⟨by decide, by decide⟩

example : parse "v=0\r\nm=audio 9 RTP/AVP 0\r\na=mid:0\r\n".toList = .ok
    { media := [{ kind := "audio".toList, port := 9, profile := "RTP/AVP".toList, fmt := .ints [0],
                  muxId := some "0".toList, ice := {} }] } := by
  lit_toList
  decide +kernel

end Aiortc.Props.C09
