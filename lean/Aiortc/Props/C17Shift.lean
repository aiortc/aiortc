import Aiortc.Lemmas.SctpRx.Sorted
import Aiortc.Lemmas.C17.MarkShift
import Aiortc.Lemmas.C17.StreamShift
import Aiortc.Lemmas.C17.PruneShift
import Aiortc.Lemmas.C17.RecvShift
import Aiortc.Lemmas.C17.EnqueueShift
import Aiortc.Lemmas.C17.AbandonShift
import Aiortc.Lemmas.C17.TransmitShift
import Aiortc.Lemmas.C17.ReceiveSackShift
import Aiortc.Lemmas.C17.NackShift
import Aiortc.Lemmas.C17.SenderShift
import Aiortc.Lemmas.C17.SenderRun
import Aiortc.Lemmas.C17.TsMapShift
import Aiortc.Lemmas.C17.JitterAdd
import Aiortc.Lemmas.C17.TxRun
import Aiortc.Lemmas.C17.Witness
/-!
# Shift-equivariance: behaviour does not depend on where the sequence numbers start

`σ32 k x = (x + k) % 2^32`, `σ16 j x = (x + j) % 2^16` (`Lemmas/C17/ShiftDefs.lean`) for ANY integers `k`, `j`.
Each theorem has the form `step (σ state) (σ input) = (σ state', σ output)`, where `σ` touches
sequence-number-typed fields only — delivered messages, byte counts, flags, verdicts, timer events are
literally the same.  All operands are required to be in the wire range (`R32` / `R16`, spelled out by
`RxOk`, `InOk`, `CR`, `RecvOk`, `TxOk`, `NackOk`); the `example`s show the hypotheses hold at the wrap
point and that the statements are not vacuous there.

Receive side (TSN shift `k`, SSN shift `j`, independent): `shiftR`, `shiftRx`, `shiftIn`, `shiftRecv`.
Send side: `shiftS`, `shiftTx`, `shiftEv` — the SSN shift acts on ORDERED chunks only (an unordered chunk
carries SSN 0 whatever the stream counter is).
-/
namespace Aiortc.Props.C17Shift
open Aiortc Aiortc.Gen Aiortc.Sctp Aiortc.Props.C17 Aiortc.C17 Aiortc.Model Aiortc.Model.Video

/-! ## (1) SCTP receive side -/

/-- The sort key of `_sack_misordered_sorted` (distance from the cumulative TSN) ignores the origin. -/
theorem serialKey_shift (k base t : Int) : serialKey (σ32 k base) (σ32 k t) = serialKey base t :=
  Aiortc.C17.serialKey_shift k base t

theorem sortByKey_shift (k base : Int) (l : List Int) :
    sortByKey (σ32 k base) (l.map (σ32 k)) = (sortByKey base l).map (σ32 k) := by
  induction l with
  | nil => rfl
  | cons x xs ih =>
    simp only [sortByKey, List.map_cons, List.foldr_cons] at *
    rw [ih, insertByKey_shift]

theorem consolidate_shift (k last : Int) (l : List Int) (hl : ∀ x ∈ l, R32 x) :
    consolidate (σ32 k last) (l.map (σ32 k)) = σ32 k (consolidate last l) := by
  induction l generalizing last with
  | nil => rfl
  | cons t ts ih =>
    obtain ⟨ht, hts⟩ := List.forall_mem_cons.1 hl
    have ih := fun last => ih last hts
    simp only [List.map_cons, consolidate]
    by_cases h : t = tsn_plus_one last
    · rw [if_pos h, if_pos ((σ32_eq_plus_one k t last ht).2 h), ih]
    · rw [if_neg h, if_neg (fun h' => h ((σ32_eq_plus_one k t last ht).1 h'))]

/-- What `_mark_received` and `_receive_forward_tsn_chunk` share (`Rx.absorb`) commutes with the shift. -/
theorem absorb_shift (k b : Int) {L dups : List Int} (hb : R32 b) (hL : ∀ x ∈ L, R32 x) (hd : ∀ x ∈ dups, R32 x) :
    Rx.absorb (σ32 k b) (L.map (σ32 k)) (dups.map (σ32 k)) = shiftRx k (Rx.absorb b L dups) := by
  have hlast := (absorb_keeps R32 hb hL hd).1
  have hs : ∀ x ∈ sortByKey b L, R32 x := fun x hx => hL x ((mem_sortByKey _ _ _).1 hx)
  unfold Rx.absorb at hlast ⊢
  simp only [shiftRx, sortByKey_shift, consolidate_shift k _ _ hs, Rx.mk.injEq, true_and]
  exact ⟨List.filter_map_shift _ _ _ _ (fun x hx => σ32_gt k x _ (hL x hx) hlast),
    List.filter_map_shift _ _ _ _ (fun x hx => σ32_gt k x _ (hd x hx) hlast)⟩

/-- `_mark_received`: same duplicate verdict, shifted `(last, misordered, duplicates)`. -/
theorem markReceived_shift (k : Int) (r : Rx) (tsn : Int) (hr : RxOk r) (ht : R32 tsn) :
    markReceived (shiftRx k r) (σ32 k tsn)
      = ((markReceived r tsn).1, shiftRx k (markReceived r tsn).2) := by
  obtain ⟨h1, h2, h3⟩ := hr
  rw [markReceived_eq, markReceived_eq]
  simp only [shiftRx, σ32_gte k _ _ h1 ht, contains_shift32 k tsn r.mis ht h2]
  split
  · simp
  · have e1 : List.map (σ32 k) r.mis ++ [σ32 k tsn] = (r.mis ++ [tsn]).map (σ32 k) := by simp
    rw [e1, absorb_shift k _ h1 (List.forall_mem_snoc h2 ht) h3]; rfl

theorem markReceived_keeps_range (r : Rx) (tsn : Int) (hr : RxOk r) (ht : R32 tsn) :
    RxOk (markReceived r tsn).2 :=
  markReceived_all hr ht

theorem insertLoop_shift (k j : Int) (c : RChunk) (l : List RChunk) (hc : CR c) (hl : ∀ x ∈ l, CR x) :
    insertLoop (shiftR k j c) (l.map (shiftR k j)) = (insertLoop c l).map (List.map (shiftR k j)) :=
  Aiortc.C17.insertLoop_shift k j c l hc hl

/-- `InboundStream.add_chunk` (including its AssertionError outcome). -/
theorem addChunk_shift (k j : Int) (s : InStream) (c : RChunk) (hs : InOk s) (hc : CR c) :
    (shiftIn k j s).addChunk (shiftR k j c) = omap (shiftIn k j) (s.addChunk c) :=
  (addChunk_sim k j s c hs hc).1

/-- One iteration of the `pop_messages` loop on two states related by the shifts: both stop, or both
continue into related states (same position, same output so far). -/
theorem popIter_shift {k j : Int} {a b : PopSt} (h : PopRel k j a b) :
    OptRel (PopRel k j) (popIter a) (popIter b) := popIter_rel h

/-- `InboundStream.pop_messages`: TSNs shifted by `k` and SSNs by `j` independently — the yielded
messages are IDENTICAL, the stream afterwards is the shifted stream. -/
theorem popMessages_shift (k j : Int) (s : InStream) (hs : InOk s) :
    (shiftIn k j s).popMessages = omap (fun r => (r.1, shiftIn k j r.2)) s.popMessages :=
  (popMessages_sim k j s hs).1

/-- `InboundStream.prune_chunks`: same bytes freed, shifted queue. -/
theorem pruneChunks_shift (k j : Int) (s : InStream) (tsn : Int) (hs : InOk s) (ht : R32 tsn) :
    (shiftIn k j s).pruneChunks (σ32 k tsn)
      = (shiftIn k j (s.pruneChunks tsn).1, (s.pruneChunks tsn).2) := by
  unfold InStream.pruneChunks
  simp only [shiftIn, List.length_map, pruneGo_shift k j tsn ht _ s.reasm hs.1]

/-- `_receive_data_chunk`: equivariance, the range invariant, and that no stream is forgotten, from one walk. -/
theorem recvStep_sim (k j : Int) (r : Recv) (c : RChunk) (hr : RecvOk r) (hc : CR c) (hk : StreamKnown j r c.sid) :
    Sim (fun p => (shiftRecv k j p.1, p.2)) (fun p => RecvOk p.1 ∧ ∀ sid, StreamKnown j r sid → StreamKnown j p.1 sid)
      (r.step c) ((shiftRecv k j r).step (shiftR k j c)) := by
  have hs := getStream_ok r c.sid hr
  have hrx := markReceived_keeps_range r.rx c.tsn hr.1 hc.1
  unfold Recv.step
  simp only [shiftR_tsn, shiftR_sid, show (shiftRecv k j r).rx = shiftRx k r.rx from rfl,
    markReceived_shift k r.rx c.tsn hr.1 hc.1, getStream_shift k j r c.sid hk]
  generalize markReceived r.rx c.tsn = mr at hrx
  obtain ⟨dup, rx'⟩ := mr
  cases dup with
  | true => exact .ok ⟨⟨hrx, hr.2⟩, fun _ h => h⟩
  | false =>
    simp only [Bool.false_eq_true, if_false]
    rw [show (shiftIn k j ((dictGet r.streams c.sid).getD {})).reasm
        = ((dictGet r.streams c.sid).getD {}).reasm.map (shiftR k j) from rfl, any_tsn_shift k j c _ hc hs.1]
    split
    · exact .ok ⟨⟨hrx, hr.2⟩, fun _ h => h⟩
    · refine (addChunk_sim k j _ c hs hc).on .valueError .crash .hang fun s1 h1 => ?_
      dsimp only
      refine (popMessages_sim k j s1 h1).on .valueError .crash .hang fun p hp => ?_
      obtain ⟨msgs, s2⟩ := p
      refine .ok ⟨⟨hrx, fun e he => ?_⟩, fun sid h => h.imp_left (dictGet_isSome_dictSet _ _ _ _)⟩
        (congrArg (fun d => Outcome.ok (({ rx := shiftRx k rx', streams := d } : Recv), msgs))
          (dictSet_mapVals (shiftIn k j) r.streams c.sid s2))
      rcases mem_dictSet _ _ _ e he with h | h
      · exact hr.2 e h
      · exact h ▸ hp

/-- `_receive_data_chunk`: the messages handed to the application are identical. `StreamKnown`: the
stream exists already, or `j ≡ 0` (a stream created on demand expects SSN 0 in both runs). -/
theorem recvStep_shift (k j : Int) (r : Recv) (c : RChunk) (hr : RecvOk r) (hc : CR c)
    (hk : StreamKnown j r c.sid) :
    (shiftRecv k j r).step (shiftR k j c) = omap (fun p => (shiftRecv k j p.1, p.2)) (r.step c) :=
  (recvStep_sim k j r c hr hc hk).1

theorem recvStep_keeps_range (r r' : Recv) (c : RChunk) (out : List Msg) (hr : RecvOk r) (hc : CR c)
    (h : r.step c = .ok (r', out)) : RecvOk r' :=
  ((recvStep_sim 0 0 r c hr hc (.inr rfl)).2 _ h).1

/-- **origin_independent** (pure receiver, whole run): the same arrival list with every TSN moved by `k`
and every SSN by `j`, from the correspondingly shifted state, delivers the same messages in the same
order (and, if the run fails, it fails the same way). -/
theorem origin_independent (k j : Int) (cs : List RChunk) (r : Recv) (hr : RecvOk r)
    (hcs : ∀ c ∈ cs, CR c) (hk : ∀ c ∈ cs, StreamKnown j r c.sid) :
    Recv.run (shiftRecv k j r) (cs.map (shiftR k j))
      = omap (fun p => (shiftRecv k j p.1, p.2)) (Recv.run r cs) := by
  induction cs generalizing r with
  | nil => rfl
  | cons c cs ih =>
    obtain ⟨hc, hcs'⟩ := List.forall_mem_cons.1 hcs
    obtain ⟨hkc, hk'⟩ := List.forall_mem_cons.1 hk
    simp only [List.map_cons, Recv.run]
    refine (recvStep_sim k j r c hr hc hkc).on rfl (fun _ => rfl) rfl fun p hp => ?_
    obtain ⟨r1, out1⟩ := p
    simp only [ih r1 hp.1 hcs' fun c' hc' => hp.2 _ (hk' c' hc')]
    cases Recv.run r1 cs <;> rfl

/-- The delivered messages alone. -/
theorem origin_independent_messages (k j : Int) (cs : List RChunk) (r : Recv) (hr : RecvOk r)
    (hcs : ∀ c ∈ cs, CR c) (hk : ∀ c ∈ cs, StreamKnown j r c.sid) :
    omap Prod.snd (Recv.run (shiftRecv k j r) (cs.map (shiftR k j))) = omap Prod.snd (Recv.run r cs) := by
  rw [origin_independent k j cs r hr hcs hk]
  cases Recv.run r cs <;> rfl

/-- From the handshake state: ANY initial TSN gives the run of initial TSN `t0` (TSNs shifted only:
every stream starts at SSN 0). -/
theorem origin_independent_init (k t0 : Int) (cs : List RChunk) (hcs : ∀ c ∈ cs, CR c) :
    omap Prod.snd (Recv.run (Recv.init (σ32 k t0)) (cs.map (shiftR k 0)))
      = omap Prod.snd (Recv.run (Recv.init t0) cs) := by
  have hinit : Recv.init (σ32 k t0) = shiftRecv k 0 (Recv.init t0) := by
    simp only [Recv.init, shiftRecv, shiftRx, σ32_minus_one, List.map_nil]
  have hok : RecvOk (Recv.init t0) :=
    ⟨⟨minus_one_range _, fun x hx => by simp [Recv.init] at hx, fun x hx => by simp [Recv.init] at hx⟩,
     fun e he => by simp [Recv.init] at he⟩
  rw [hinit]
  exact origin_independent_messages k 0 cs _ hok hcs (fun _ _ => Or.inr rfl)

/-! ## (2) SCTP send side -/

/-- `_send`, fragmentation: same fragments, TSN origin moved by `k`, SSN (ordered only) by `j`. -/
theorem fragments_shift (k j : Int) (tsn : Int) (sid : Nat) (ssn : Int) (ppid : Nat) (ordered : Bool)
    (expiry maxRtx : Option Int) (n : Nat) (data : Bytes) (m : Nat) :
    fragments (σ32 k tsn) sid (ssnArg j ordered ssn) ppid ordered expiry maxRtx n data m
      = (fragments tsn sid ssn ppid ordered expiry maxRtx n data m).map (shiftS k j) := by
  induction m with
  | zero => rfl
  | succ q ih =>
    simp only [fragments, List.map_cons, ih]
    congr 1
    have hU := flagU_frag ordered (decide (n - (q + 1) = 0)) (decide (n - (q + 1) = n - 1))
    simp only [decide_eq_true_eq] at hU
    simp only [shiftS, ssnS, hU]
    rw [show (σ32 k tsn + _) % 4294967296 = _ from σ32_add k tsn _]
    cases ordered <;> simp [ssnArg, uint32_add]

/-- `_send` up to `_transmit`. `SeqKnown`: unordered, or the stream's counter exists, or `j ≡ 0`. -/
theorem enqueue_shift (k j : Int) (t : Tx) (sid ppid : Nat) (data : Bytes) (expiry maxRtx : Option Int)
    (ordered : Bool) (h : SeqKnown j t sid ordered) :
    (shiftTx k j t).enqueue sid ppid data expiry maxRtx ordered
      = shiftTx k j (t.enqueue sid ppid data expiry maxRtx ordered) := by
  have hs := enqueue_ssn k j t sid ordered h
  unfold Tx.enqueue
  simp only [hs]
  simp only [shiftTx_localTsn, shiftTx_outQ, shiftTx_streamSeq, fragments_shift]
  rw [show (σ32 k t.localTsn + _) % 4294967296 = _ from σ32_add k t.localTsn _]
  cases ordered with
  | false => simp [shiftTx, uint32_add]
  | true =>
    simp only [if_true, ssnArg, σ16_add, dictSet_mapVals]
    simp [shiftTx, uint32_add]

/-- TSNs covered by the gap blocks of a SACK and the highest of them. -/
theorem gapSeen_shift (k : Int) (cum : Int) (limit : Nat) (gaps : List (Nat × Nat)) :
    gapSeen (σ32 k cum) limit gaps
      = ((gapSeen cum limit gaps).1.map (σ32 k), σ32 k (gapSeen cum limit gaps).2) :=
  Aiortc.C17.gapSeen_shift k cum limit gaps

theorem ackLoop_shift (k j : Int) (ls : Int) (hls : R32 ls) (fl done db : Nat) (l : List SChunk)
    (hl : ∀ c ∈ l, R32 c.tsn) :
    ackLoop (σ32 k ls) fl done db (l.map (shiftS k j))
      = ((ackLoop ls fl done db l).1, (ackLoop ls fl done db l).2.1, (ackLoop ls fl done db l).2.2.1,
         (ackLoop ls fl done db l).2.2.2.map (shiftS k j)) :=
  Aiortc.C17.ackLoop_shift k j ls hls fl done db l hl

theorem htnaLoop_shift (k j : Int) (seen : List Int) (hs : Int) (hseen : ∀ x ∈ seen, R32 x)
    (hhs : R32 hs) (fl db : Nat) (hna : Int) (acc l : List SChunk) (hl : ∀ c ∈ l, R32 c.tsn) :
    htnaLoop (seen.map (σ32 k)) (σ32 k hs) fl db (σ32 k hna) (acc.map (shiftS k j)) (l.map (shiftS k j))
      = ((htnaLoop seen hs fl db hna acc l).1, (htnaLoop seen hs fl db hna acc l).2.1,
         σ32 k (htnaLoop seen hs fl db hna acc l).2.2.1,
         (htnaLoop seen hs fl db hna acc l).2.2.2.map (shiftS k j)) :=
  Aiortc.C17.htnaLoop_shift k j seen hs hseen hhs fl db hna acc l hl

/-- The miss-indication ("strike") loop, `_maybe_abandon` included. -/
theorem strikeLoop_shift (k j : Int) (seen : List Int) (hna now : Int) (hseen : ∀ x ∈ seen, R32 x)
    (hh : R32 hna) (fuel pos : Nat) (t : Tx) (loss : Bool) (ht : QOk t) :
    strikeLoop (seen.map (σ32 k)) (σ32 k hna) now fuel pos (shiftTx k j t) loss
      = (shiftTx k j (strikeLoop seen hna now fuel pos t loss).1,
         (strikeLoop seen hna now fuel pos t loss).2) :=
  Aiortc.C17.strikeLoop_shift k j seen hna now hseen hh fuel pos t loss ht

theorem maybeAbandon_shift (k j : Int) (t : Tx) (pos : Nat) (now : Int) :
    (shiftTx k j t).maybeAbandon pos now
      = ((t.maybeAbandon pos now).1, shiftTx k j (t.maybeAbandon pos now).2) :=
  Aiortc.C17.maybeAbandon_shift k j t pos now

theorem popAbandoned_shift (k j : Int) (adv : Int) (streams : List (Nat × Int)) (needed : Bool)
    (l : List SChunk) :
    popAbandoned (σ32 k adv) (mapVals (σ16 j) streams) needed (l.map (shiftS k j))
      = (σ32 k (popAbandoned adv streams needed l).1,
         mapVals (σ16 j) (popAbandoned adv streams needed l).2.1,
         (popAbandoned adv streams needed l).2.2.1,
         (popAbandoned adv streams needed l).2.2.2.map (shiftS k j)) := by
  induction l generalizing adv streams needed with
  | nil => rfl
  | cons c cs ih =>
    simp only [List.map_cons, popAbandoned, shiftS_abandoned, shiftS_flags, shiftS_tsn, shiftS_sid,
      shiftS_ssn]
    by_cases ha : c.abandoned = true
    · by_cases hU : flagU c.flags = true
      · simp only [ha, hU, Bool.not_true, Bool.false_eq_true, if_false, if_true, ih]
      · simp only [ha, hU, Bool.not_false, if_true, ssnS, Bool.false_eq_true, if_false,
          dictSet_mapVals, ih]
    · simp only [ha, Bool.false_eq_true, if_false]; rfl

/-- `_update_advanced_peer_ack_point` (prepares the FORWARD-TSN: cumulative TSN by `k`, SSNs by `j`). -/
theorem updateAdvAck_shift (k j : Int) (t : Tx) (h1 : R32 t.lastSacked) (h2 : R32 t.advAck) :
    (shiftTx k j t).updateAdvAck = shiftTx k j t.updateAdvAck := by
  unfold Tx.updateAdvAck
  simp only [shiftTx_lastSacked, shiftTx_advAck, σ32_gte k _ _ h1 h2]
  by_cases hg : uint32_gte t.lastSacked t.advAck
  · simp only [hg, if_true]
    have := popAbandoned_shift k j t.lastSacked [] false t.sentQ
    simp only [mapVals, List.map_nil] at this
    simp only [shiftTx, mapVals, this]
    split <;> simp
  · simp only [hg, Bool.false_eq_true, if_false]
    have := popAbandoned_shift k j t.advAck t.forwardStreams t.forwardNeeded t.sentQ
    simp only [shiftTx, this]
    split <;> simp [mapVals]

/-- `_receive_sack_chunk`: same verdict (stale SACK ignored / processed / IndexError), shifted state
(cwnd, ssthresh, flight size, partial_bytes_acked, per-chunk flags unchanged), same T3 events. -/
theorem receiveSack_shift (k j : Int) (t : Tx) (cum : Int) (gaps : List (Nat × Nat)) (now : Int)
    (ht : TxOk t) (hc : R32 cum) :
    (shiftTx k j t).receiveSack (σ32 k cum) gaps now
      = omap (shiftSackOut k j) (t.receiveSack cum gaps now) := by
  obtain ⟨ea, ed, eb⟩ := sackAck_shift k j t cum hc ht.sent
  have hm := (sackMid_ok t cum gaps now ht hc).1
  rw [receiveSack_eq, receiveSack_eq, sackStale_shift k j t cum ht.lastSacked hc, shiftTx_flight, shiftTx_cwnd, ea, ed, eb,
    sackGaps_shift k j _ cum gaps now _ hc (sackAck_ok t cum ht hc).1.qok]
  split
  · rfl
  · simp only []
    rw [sackCwnd_shift k j _ cum _ _ _ _ hc hm.exit]
    cases hcw : ((t.sackAck cum).sackGaps cum gaps now (t.sackDoneBytes cum)).1.sackCwnd cum (t.sackDone cum)
        ((t.sackAck cum).sackGaps cum gaps now (t.sackDoneBytes cum)).2.1 (decide (t.flight ≥ t.cwnd))
        ((t.sackAck cum).sackGaps cum gaps now (t.sackDoneBytes cum)).2.2 with
    | ok tc =>
      have h3 := (sackT3_ok tc (t.sackDone cum) (sackCwnd_ok _ tc _ _ _ _ _ hm hcw).1).1
      simp only [omap_ok, sackT3_shift, shiftSackOut, Option.map_some, updateAdvAck_shift k j _ h3.lastSacked h3.advAck]
    | _ => rfl

/-- `_transmit`: the same chunks leave, with shifted TSN / SSN (and the same FORWARD-TSN, shifted). -/
theorem transmit_shift (k j : Int) (t : Tx) :
    (shiftTx k j t).transmit = (shiftTx k j t.transmit.1, t.transmit.2.map (shiftEv k j)) := by
  rw [transmit_eq, transmit_eq, fwd_shift]
  simp only [afterRtx_shift, burstCwnd_shift, rtxInit_shift, shiftTx_sentQ, shiftTx_outQ, shiftTx_flight, shiftTx_t3,
    rtxLoop_shift, List.length_map]
  simp only [shiftRtx, ← List.map_reverse, ← List.map_append, newLoop_shift]
  split <;> rfl

/-- `_t3_expired` (up to the `_transmit` it schedules). -/
theorem t3Expired_shift (k j : Int) (t : Tx) (now : Int) (h1 : R32 t.lastSacked) (h2 : R32 t.advAck) :
    (shiftTx k j t).t3Expired now = shiftTx k j (t.t3Expired now) := by
  unfold Tx.t3Expired
  have e0 : ({ shiftTx k j t with t3 := false } : Tx) = shiftTx k j { t with t3 := false } := rfl
  have e1 : ({ shiftTx k j t with t3 := false } : Tx).sentQ.length = ({ t with t3 := false } : Tx).sentQ.length := by
    simp [shiftTx]
  simp only [e1]
  rw [e0, t3Mark_shift]
  have hf := t3Mark_frame now ({ t with t3 := false } : Tx).sentQ.length 0 { t with t3 := false }
  rw [updateAdvAck_shift k j _ (by rw [hf]; exact h1) (by rw [hf]; exact h2)]
  rfl

/-- what a command keeps: the range invariant, and no stream counter is forgotten -/
def TxKept (t : Tx) (r : Tx × List TxEv) : Prop :=
  TxOk r.1 ∧ ∀ sid, (dictGet t.streamSeq sid).isSome → (dictGet r.1.streamSeq sid).isSome

theorem txStep_sim (k j : Int) (t : Tx) (c : TxCmd) (h : TxOk t) (hc : CmdOk j t c) :
    Sim (shiftStepOut k j) (TxKept t) (txStep t c) (txStep (shiftTx k j t) (shiftCmd k c)) := by
  have same : ∀ {t' : Tx}, TxOk t' ∧ t'.streamSeq = t.streamSeq → ∀ {e}, TxKept t (t', e) :=
    fun h' => ⟨h'.1, fun _ hs => h'.2 ▸ hs⟩
  cases c with
  | send sid ppid data expiry maxRtx ordered =>
    refine .ok ⟨enqueue_ok t _ _ _ _ _ _ h, fun sid' hs => ?_⟩
      (congrArg (fun x => Outcome.ok (x, [])) (enqueue_shift k j t sid ppid data expiry maxRtx ordered hc))
    unfold Tx.enqueue
    dsimp only
    split
    · exact dictGet_isSome_dictSet _ _ _ _ hs
    · exact hs
  | sack cum gaps now =>
    simp only [txStep, shiftCmd, receiveSack_shift k j t cum gaps now h hc]
    cases hr : t.receiveSack cum gaps now with
    | ok r =>
      cases r with
      | none => exact .ok ⟨h, fun _ hs => hs⟩
      | some p => exact .ok (same (receiveSack_ok t p.1 cum gaps now p.2 h hc hr))
    | valueError => exact .valueError
    | crash s => exact .crash s
    | hang => exact .hang
  | transmit => exact .ok (same (transmit_ok t h)) (congrArg Outcome.ok (transmit_shift k j t))
  | t3 now =>
    exact .ok (same (t3Expired_ok t now h)) (congrArg (fun x => Outcome.ok (x, [])) (t3Expired_shift k j t now h.lastSacked h.advAck))

/-- One sender command (`_send` / SACK arrival / `_transmit` / T3 expiry). -/
theorem txStep_shift (k j : Int) (t : Tx) (c : TxCmd) (h : TxOk t) (hc : CmdOk j t c) :
    txStep (shiftTx k j t) (shiftCmd k c) = omap (shiftStepOut k j) (txStep t c) :=
  (txStep_sim k j t c h hc).1

/-- The range invariant `TxOk` is kept by every command, and stream counters are never forgotten. -/
theorem txStep_keeps_range (t : Tx) (c : TxCmd) (r : Tx × List TxEv) (h : TxOk t)
    (hc : ∀ cum gaps now, c = .sack cum gaps now → R32 cum) (hr : txStep t c = .ok r) :
    TxOk r.1 ∧ ∀ sid, (dictGet t.streamSeq sid).isSome → (dictGet r.1.streamSeq sid).isSome :=
  (txStep_sim 0 0 t c h (by
    cases c with
    | send => exact .inr (.inr rfl)
    | sack cum gaps now => exact hc cum gaps now rfl
    | _ => trivial)).2 r hr

/-- **Whole runs of the sender**, any interleaving of `_send`, SACK arrivals, `_transmit` and T3 expiries:
with every SACK's cumulative TSN moved by `k`, from the shifted state, the same events come out — the
same DATA chunks (TSN by `k`, ordered SSN by `j`), the same FORWARD-TSNs, the same timer starts/stops. -/
theorem sender_origin_independent (k j : Int) (cs : List TxCmd) (t : Tx) (h : TxOk t) (hc : CmdsOk j t cs) :
    txRun (shiftTx k j t) (cs.map (shiftCmd k)) = omap (shiftStepOut k j) (txRun t cs) := by
  induction cs generalizing t with
  | nil => rfl
  | cons c rest ih =>
    obtain ⟨hc0, hcs⟩ := List.forall_mem_cons.1 hc
    simp only [List.map_cons, txRun]
    refine (txStep_sim k j t c h hc0).on rfl (fun _ => rfl) rfl fun r hok => ?_
    obtain ⟨t1, e1⟩ := r
    simp only [shiftStepOut, ih t1 hok.1 fun c' hc' => (hcs c' hc').mono hok.2]
    cases txRun t1 rest <;> simp [shiftStepOut]

/-! ## (3) RTP side -/

/-- `NackGenerator.add`: same `missed` verdict, shifted `max_seq` and missing set. -/
theorem nackAdd_shift (k : Int) (g : NackGen) (sn : Int) (hg : NackOk g) (hs : R16 sn) :
    (shiftNack k g).add (σ16 k sn) = omap (fun p => (shiftNack k p.1, p.2)) (g.add sn) :=
  (nackAdd_sim k g sn hg hs).1

/-- Whole arrival sequences through the NACK generator. -/
theorem nack_origin_independent (k : Int) (sns : List Int) (g : NackGen) (hg : NackOk g)
    (hs : ∀ x ∈ sns, R16 x) :
    nackRun (shiftNack k g) (sns.map (σ16 k)) = omap (fun p => (shiftNack k p.1, p.2)) (nackRun g sns) := by
  induction sns generalizing g with
  | nil => rfl
  | cons sn rest ih =>
    obtain ⟨h1, hrest⟩ := List.forall_mem_cons.1 hs
    simp only [List.map_cons, nackRun]
    refine (nackAdd_sim k g sn hg h1).on rfl (fun _ => rfl) rfl fun p hp => ?_
    simp only [ih p.1 hp hrest]
    cases nackRun p.1 rest <;> rfl

/-- The retransmission-history slot (`sequence_number % 128`) of a shifted sequence number is the slot
rotated by `k` — for every integer `x`, `k` (128 divides 2^16). -/
theorem history_slot_shift (k x : Int) : slotOfSeq (σ16 k x) = rotSlot k (slotOfSeq x) :=
  slotOfSeq_shift k x

theorem history_size_is_128 : RTP_HISTORY_SIZE = 128 := by decide

/-- One encoded frame through the `_run_rtp` packet loop: the same packets with sequence numbers moved by
`k` and timestamps by `m` (= shift of `timestamp_origin`); the history afterwards is the rotated one. -/
theorem sendFrame_shift (k r m : Int) (cfg : SenderCfg) (s : Sender) (encTs : Int) (pls : List Bytes)
    (hs : R16 s.seq) (hh : HistOk s.history) :
    sendFrame (shiftCfg m cfg) (shiftSender k r m s) encTs pls
      = (shiftSender k r m (sendFrame cfg s encTs pls).1, (sendFrame cfg s encTs pls).2.map (shiftPkt k m)) :=
  Aiortc.C17.sendFrame_shift k r m cfg s encTs pls hs hh

/-- The history finds the same packet for the shifted sequence number (and nothing iff nothing). -/
theorem histLookup_shift (k r m : Int) (s : Sender) (sn : Int) (hsn : R16 sn) (hh : HistOk s.history) :
    histLookup (shiftSender k r m s) (σ16 k sn) = (histLookup s sn).map (shiftPkt k m) :=
  Aiortc.C17.histLookup_shift k r m s sn hsn hh

/-- `histLookup` is what `_retransmit` sends (wrapped by `rtxOut` when RTX is negotiated). -/
theorem retransmit_sends_lookup (cfg : SenderCfg) (s : Sender) (sn : Int) :
    (retransmit cfg s sn).2 = (histLookup s sn).toList.map (rtxOut cfg s.rtxSeq) :=
  retransmit_out cfg s sn

/-- `_retransmit`: shifted state; the packet sent is the shifted source packet, RTX-wrapped with the
shifted RTX sequence number (`r`). -/
theorem retransmit_shift (k r m : Int) (cfg : SenderCfg) (s : Sender) (sn : Int) (hsn : R16 sn)
    (hh : HistOk s.history) :
    retransmit cfg (shiftSender k r m s) (σ16 k sn)
      = (shiftSender k r m (retransmit cfg s sn).1,
         (histLookup s sn).toList.map fun p => rtxOut cfg (σ16 r s.rtxSeq) (shiftPkt k m p)) :=
  Aiortc.C17.retransmit_shift k r m cfg s sn hsn hh

/-- A whole NACK without RTX: the same packets are sent again. -/
theorem handleNack_shift_plain (k r m : Int) (cfg : SenderCfg) (hc : cfg.rtxPt = none) (xs : List Int)
    (s : Sender) (hx : ∀ x ∈ xs, R16 x) (hh : HistOk s.history) :
    handleNack cfg (shiftSender k r m s) (xs.map (σ16 k))
      = (shiftSender k r m (handleNack cfg s xs).1, (handleNack cfg s xs).2.map (shiftPkt k m)) := by
  rw [nackEv_render, nackEv_render, nackEv_shift k r m cfg xs s hx hh, List.map_map, List.map_map]
  exact congrArg _ (List.map_congr_left fun e _ => render_shift_plain k r m cfg hc e)

/-! ### Whole histories of the RTP sender (`Lemmas/C17/SenderRun.lean`)

A history is a list of `SOp`s (an encoded frame through the `_run_rtp` loop / an RTCP NACK through
`_handle_rtcp_packet`); `sRun` runs it on the model functions `sendFrame` / `handleNack` (what the `video sender`
driver request executes, tied to the real `RTCRtpSender` by the `sender-origin` component from origins at the wrap);
`evRun` is the same history as events (`SEv.sent p` / `SEv.resent rtxSeq p`), `render` = `rtxOut` makes wire
packets of them. -/

/-- The wire output of a history is the rendering of its events. -/
theorem rtp_sender_wire_is_rendering (cfg : SenderCfg) (ops : List SOp) (s : Sender) :
    sRun cfg s ops = (evRun cfg s ops).map (List.map (render cfg)) := sRun_render cfg ops s

/-- **Whole histories of the RTP sender**: sequence-number origin moved by `k`, RTX sequence-number origin by
`r`, timestamp origin by `m`, the NACKed numbers moved by `k`: the same events in the same order — the same
packets are (re)sent with their sequence number moved by `k` and timestamp by `m`, every retransmission uses the
RTX sequence number moved by `r`, and a NACK that is ignored stays ignored. -/
theorem rtp_sender_origin_independent (k r m : Int) (cfg : SenderCfg) (ops : List SOp) (s : Sender)
    (hops : ∀ op ∈ ops, OpOk op) (h : SOk s) :
    evRun (shiftCfg m cfg) (shiftSender k r m s) (ops.map (shiftOp k))
      = (evRun cfg s ops).map (List.map (shiftSEv k r m)) := by
  induction ops generalizing s with
  | nil => rfl
  | cons op rest ih =>
    obtain ⟨h1, hrest⟩ := List.forall_mem_cons.1 hops
    simp only [List.map_cons, evRun]
    rw [evStep_shift k r m cfg s op h1 h]
    simp only []
    rw [ih _ hrest (evStep_ok cfg s op h)]

/-- From a sender that has not sent anything, for ANY two triples of origins (the run from `(seq, rtxSeq, ts)` and
the run from the origins moved by `k`, `r`, `m`). -/
theorem rtp_sender_origin_independent_fresh (k r m : Int) (cfg : SenderCfg) (ops : List SOp) (seq rtxSeq : Int)
    (hops : ∀ op ∈ ops, OpOk op) (hseq : R16 seq) :
    evRun (shiftCfg m cfg) ⟨σ16 k seq, σ16 r rtxSeq, []⟩ (ops.map (shiftOp k))
      = (evRun cfg ⟨seq, rtxSeq, []⟩ ops).map (List.map (shiftSEv k r m)) :=
  rtp_sender_origin_independent k r m cfg ops ⟨seq, rtxSeq, []⟩ hops (fresh_ok seq rtxSeq hseq)

/-- The retransmission decisions — how many packets answer each operation on the wire — are the same. -/
theorem rtp_sender_decisions_origin_independent (k r m : Int) (cfg : SenderCfg) (ops : List SOp) (s : Sender)
    (hops : ∀ op ∈ ops, OpOk op) (h : SOk s) :
    (sRun (shiftCfg m cfg) (shiftSender k r m s) (ops.map (shiftOp k))).map List.length
      = (sRun cfg s ops).map List.length := by
  rw [sRun_render, sRun_render, rtp_sender_origin_independent k r m cfg ops s hops h]
  simp only [List.map_map]
  apply List.map_congr_left
  intro l _
  simp only [Function.comp, List.length_map]

/-- Without RTX the wire packets themselves are the shifted packets. -/
theorem rtp_sender_origin_independent_plain (k r m : Int) (cfg : SenderCfg) (hc : cfg.rtxPt = none)
    (ops : List SOp) (s : Sender) (hops : ∀ op ∈ ops, OpOk op) (h : SOk s) :
    sRun (shiftCfg m cfg) (shiftSender k r m s) (ops.map (shiftOp k))
      = (sRun cfg s ops).map (List.map (shiftPkt k m)) := by
  rw [sRun_render, sRun_render, rtp_sender_origin_independent k r m cfg ops s hops h]
  simp only [List.map_map]
  apply List.map_congr_left
  intro l _
  simp only [Function.comp, List.map_map]
  apply List.map_congr_left
  intro e _
  exact (render_cfg m cfg _).trans (render_shift_plain k r m cfg hc e)

/-! ### TimestampMapper (`Lemmas/C17/TsMapShift.lean`): `_last_timestamp` moves by `m`, `_origin - _last_timestamp`
stays; the two runs may wrap at different calls, the values returned are the same -/

theorem tsmap_shift (m : Int) (s : TsMap) (t : Int) (ht : R32 t) (hs : TsMapOk s) :
    TsMap.map (shiftTs m s) (σ32 m t) = omap (fun r => (shiftTs m r.1, r.2)) (TsMap.map s t) :=
  tsMap_shift m s t ht hs

/-- A fresh `TimestampMapper` returns the same values for ANY sequence of 32-bit timestamps (monotone or not)
and the sequence with every timestamp moved by `m`. -/
theorem tsmap_origin_independent (m : Int) (ts : List Int) (hts : ∀ t ∈ ts, R32 t) :
    tsMapAll TsMap.init (ts.map (σ32 m)) = tsMapAll TsMap.init ts := by
  have h := tsMapAll_shift m ts TsMap.init hts tsInit_ok
  rwa [tsInit_shift] at h

/-! ### JitterBuffer: the packet array is rotated by `k mod capacity` (`shiftJB`), timestamps move by `m` -/

/-- `x % capacity` of a shifted sequence number is the rotated slot (capacity divides 2^16). -/
theorem jitter_slot_shift (k m : Int) (jb : Jitter.JB) (x : Int) (h : JBOk jb) :
    Jitter.slotOf (shiftJB k m jb) (σ16 k x) = omap (rot k jb.capacity) (Jitter.slotOf jb x) :=
  slotOf_shift k m jb x (σ16 k x) (σ16_mod k x _ h.dvd)

theorem jitter_remove_shift (k m : Int) (jb : Jitter.JB) (count : Nat) (h : JBOk jb) :
    Jitter.remove (shiftJB k m jb) count = omap (shiftJB k m) (Jitter.remove jb count) :=
  (remove_sim k m jb count h).1

theorem jitter_smartRemove_shift (k m : Int) (jb : Jitter.JB) (count : Int) (h : JBOk jb) :
    Jitter.smartRemove (shiftJB k m jb) count
      = omap (fun r => (shiftJB k m r.1, r.2)) (Jitter.smartRemove jb count) :=
  (smartRemove_sim k m jb count h).1

/-- `_remove_frame`: the same frame (payload identical, timestamp moved by `m`) from the same packets. -/
theorem jitter_removeFrame_shift (k m : Int) (jb : Jitter.JB) (sn sn' : Int) (h : JBOk jb) :
    Jitter.removeFrame (shiftJB k m jb) sn' = omap (shiftRFOut k m) (Jitter.removeFrame jb sn) :=
  (removeFrame_sim k m jb sn sn' h).1

/-- `JitterBuffer.add`: same PLI flag, same frame, rotated buffer (also the same exception, if any). -/
theorem jitter_add_shift (k m : Int) (jb : Jitter.JB) (p : Jitter.Packet) (h : JBOk jb) (hp : R32 p.ts) :
    Jitter.add (shiftJB k m jb) (shiftP k m p) = omap (shiftAddOut k m) (Jitter.add jb p) :=
  (add_sim k m jb p h hp).1

theorem jitter_add_keeps_shape (jb : Jitter.JB) (p : Jitter.Packet) (o : Jitter.AddOut) (h : JBOk jb)
    (hp : R32 p.ts) (hr : Jitter.add jb p = .ok o) : JBOk o.jb := (add_sim 0 0 jb p h hp).2 o hr

/-- **Whole arrival lists through the jitter buffer**: every sequence number moved by `k`, every timestamp
by `m` — the same PLI flags and the same frames in the same order. -/
theorem jitter_origin_independent (k m : Int) (ps : List Jitter.Packet) (jb : Jitter.JB) (h : JBOk jb)
    (hp : ∀ p ∈ ps, R32 p.ts) :
    Jitter.run (shiftJB k m jb) (ps.map (shiftP k m))
      = omap (fun r => (shiftJB k m r.1, r.2.map (shiftObs m))) (Jitter.run jb ps) := by
  induction ps generalizing jb with
  | nil => rfl
  | cons p rest ih =>
    obtain ⟨h1, hrest⟩ := List.forall_mem_cons.1 hp
    simp only [List.map_cons, Jitter.run]
    refine (add_sim k m jb p h h1).on rfl (fun _ => rfl) rfl fun o ho => ?_
    dsimp only
    rw [show (shiftAddOut k m o).jb = shiftJB k m o.jb from rfl, ih o.jb ho hrest]
    cases Jitter.run o.jb rest <;> rfl

/-- From a freshly constructed buffer (any capacity that is a positive divisor of 2^16, e.g. the 128 of
video and the 16 of audio receivers): the shifted run starts from the SAME buffer. -/
theorem jitter_origin_independent_fresh (k m : Int) (capacity : Nat) (prefetch : Int) (isVideo : Bool)
    (jb : Jitter.JB) (hc : 0 < capacity) (hd : (capacity : Int) ∣ 65536)
    (hmk : Jitter.mk capacity prefetch isVideo = .ok jb) (ps : List Jitter.Packet) (hp : ∀ p ∈ ps, R32 p.ts) :
    omap (fun r => r.2) (Jitter.run jb (ps.map (shiftP k m)))
      = omap (fun r => r.2.map (shiftObs m)) (Jitter.run jb ps) := by
  have h := mk_ok capacity prefetch isVideo jb hc hd hmk
  have hrun := jitter_origin_independent k m ps jb h.1 hp
  rw [h.2 k m] at hrun
  rw [hrun]
  cases Jitter.run jb ps <;> rfl

/-! ## non-vacuity: the hypotheses hold AT the wrap point, and the runs there do something

`rWrap`, `csWrap`, `tWrap`, `tSend`, `gWrap` are in `Lemmas/C17/Witness.lean`. -/

-- receiver: cumulative TSN 2^32-2, expected SSN 65535; four chunks arrive reordered across both wraps
example : RecvOk rWrap := by
  refine ⟨⟨by unfold R32; decide, by simp [rWrap], by simp [rWrap]⟩, ?_⟩
  intro e he
  simp [rWrap] at he
  subst he
  exact ⟨by simp, by unfold R16; decide⟩
example : ∀ c ∈ csWrap, CR c := by
  intro c hc
  simp [csWrap] at hc
  rcases hc with h | h | h | h <;> subst h <;> (unfold CR R32 R16; decide)
example : ∀ c ∈ csWrap, StreamKnown 12345 rWrap c.sid := by
  intro c hc
  simp [csWrap] at hc
  rcases hc with h | h | h | h <;> subst h <;> exact Or.inl (by decide)
-- three messages are delivered in SSN order across the wrap …
example : omap Prod.snd (Recv.run rWrap csWrap)
    = .ok [⟨0, 51, [1]⟩, ⟨0, 51, [2]⟩, ⟨0, 51, [3, 4]⟩] := by decide +kernel
-- … and the same three from a small origin (k = 7, j = 3 move the wrap point away: TSNs 5,6,7,8 / SSNs 2,3,4)
example : omap Prod.snd (Recv.run (shiftRecv 7 3 rWrap) (csWrap.map (shiftR 7 3)))
    = .ok [⟨0, 51, [1]⟩, ⟨0, 51, [2]⟩, ⟨0, 51, [3, 4]⟩] := by decide +kernel
example : (shiftRecv 7 3 rWrap).rx.last = 5 ∧ (csWrap.map (shiftR 7 3)).map (·.tsn) = [7, 6, 9, 8] := by decide
-- `_mark_received` at the wrap: misordered {0, 1} waiting, 2^32-1 arrives, the cumulative TSN jumps to 1
example : RxOk ⟨4294967294, [0, 1], []⟩ ∧ R32 4294967295
    ∧ markReceived ⟨4294967294, [0, 1], []⟩ 4294967295 = (false, ⟨1, [], []⟩) := by
  refine ⟨⟨by unfold R32; decide, ?_, by simp⟩, by unfold R32; decide, by decide⟩
  intro x hx; simp at hx; rcases hx with h | h <;> subst h <;> (unfold R32; decide)
-- sender: SACK with cumulative TSN 2^32-1 and a gap block for TSN 1 while [2^32-2, 2^32-1, 0, 1] are in flight
example : TxOk tWrap := by
  refine ⟨by unfold R32; decide, by unfold R32; decide, ?_, by simp [tWrap], ?_⟩
  · intro c hc
    simp [tWrap] at hc
    rcases hc with h | h | h | h <;> subst h <;> (unfold R32; decide)
  · intro e he; simp [tWrap] at he
example : R32 4294967295 ∧
    omap (Option.map fun p => (p.1.sentQ.map (·.tsn), p.1.lastSacked, p.1.flight, p.2))
      (tWrap.receiveSack 4294967295 [(2, 2)] 0)
    = .ok (some ([0, 1], 4294967295, 1, [TxEv.t3cancel, TxEv.t3start])) := by
  refine ⟨by unfold R32; decide, by decide +kernel⟩
-- a whole sender run from `tWrap`: SACK across the wrap, `_send`, `_transmit`, T3 expiry
example : CmdsOk 999 tWrap cmdsW := by
  intro c hc
  simp [cmdsW] at hc
  rcases hc with h | h | h | h <;> subst h
  · show R32 4294967295; unfold R32; decide
  · exact Or.inr (Or.inl (by decide))
  · trivial
  · trivial
example : omap (fun r => (r.2.map evTag, r.1.localTsn, r.1.sentQ.map SChunk.tsn, r.1.cwnd)) (txRun tWrap cmdsW)
    = .ok ([(-3, -3), (-2, -2), (2, 2)], 3, [0, 1, 2], 1200) := by decide +kernel
-- `_send` of a 2-fragment ordered message: TSNs 2^32-1, 0 and SSN 65535; the counters wrap to 1 and 0
example : SeqKnown 999 tSend 0 true := Or.inr (Or.inl (by decide))
set_option maxRecDepth 100000 in
example : ((tSend.enqueue 0 51 (List.replicate 1300 0) none none true).outQ.map fun c => (c.tsn, c.ssn, c.flags))
      = [(4294967295, 65535, 2), (0, 65535, 1)]
    ∧ (tSend.enqueue 0 51 (List.replicate 1300 0) none none true).localTsn = 1
    ∧ (tSend.enqueue 0 51 (List.replicate 1300 0) none none true).streamSeq = [(0, 0)] := by decide +kernel
-- NACK generator: highest 65533, 65532 missing; 1 arrives (65534, 65535, 0 become missing), then 65535, 0
example : NackOk gWrap ∧ (∀ x ∈ [1, 65535, 0], R16 x) := by
  refine ⟨⟨?_, ?_⟩, ?_⟩
  · intro m hm; simp [gWrap] at hm; subst hm; unfold R16; decide
  · intro x hx; simp [gWrap] at hx; subst hx; unfold R16; decide
  · intro x hx; simp at hx; rcases hx with h | h | h <;> subst h <;> (unfold R16; decide)
example : nackRun gWrap [1, 65535, 0] = .ok (⟨some 1, [65532, 65534]⟩, [true, false, false]) := by decide +kernel

-- RTP sender at the wrap: next sequence number 65535, three packets; then 65535 and 0 are NACKed
example : R16 sWrap.seq ∧ HistOk sWrap.history := by
  refine ⟨by unfold R16; decide, ?_⟩
  intro e he; simp [sWrap] at he
example : ((sendFrame cfgW sWrap 3000 [[1], [2], [3]]).2.map fun p => (p.sequenceNumber, p.timestamp, p.marker))
      = [(65535, 704, 0), (0, 704, 0), (1, 704, 1)]
    ∧ (sendFrame cfgW sWrap 3000 [[1], [2], [3]]).1.seq = 2
    ∧ ((handleNack cfgW (sendFrame cfgW sWrap 3000 [[1], [2], [3]]).1 [65535, 0, 7]).2.map (·.sequenceNumber))
      = [65535, 0] := by decide +kernel

-- jitter buffer (capacity 16): sequence numbers 65534, 65535, 0, 1, 2 and a timestamp that wraps 2^32
example : ∃ jb, Jitter.mk 16 0 true = .ok jb ∧ JBOk jb ∧ (∀ p ∈ psWrap, R32 p.ts) := by
  refine ⟨_, rfl, (mk_ok 16 0 true _ (by decide) ⟨4096, by decide⟩ rfl).1, ?_⟩
  intro p hp
  simp [psWrap] at hp
  rcases hp with h | h | h | h | h <;> subst h <;> (unfold R32; decide)
example : omap (fun r => r.2) ((Jitter.mk 16 0 true).bind fun jb => Jitter.run jb psWrap)
    = .ok [(false, none), (false, none), (false, some ⟨[1, 2], 4294966296⟩), (false, none),
           (false, some ⟨[3, 4], 1000⟩)] := by decide +kernel
-- the same pattern from a small origin (k = 10, m = 2000): same frames, timestamps moved by 2000
example : omap (fun r => r.2) ((Jitter.mk 16 0 true).bind fun jb => Jitter.run jb (psWrap.map (shiftP 10 2000)))
    = .ok [(false, none), (false, none), (false, some ⟨[1, 2], 1000⟩), (false, none),
           (false, some ⟨[3, 4], 3000⟩)] := by decide +kernel

-- RTP sender history across the wrap (RTX negotiated): a frame of three packets from 65535, a NACK for 65535, 0
-- and a number never sent, 127 more packets, then the packets 127 / 128 / 129 positions back are NACKed: the one
-- 127 back (sequence number 1) is still in the history, 0 and 65535 — sent before / at the wrap — are not
example : SOk sWrap ∧ (∀ op ∈ opsWrap, OpOk op) := by
  refine ⟨fresh_ok 65535 65535 (by unfold R16; decide), ?_⟩
  intro op hop
  simp only [opsWrap, List.mem_cons, List.not_mem_nil, or_false] at hop
  rcases hop with h | h | h | h | h | h <;> subst h <;> (try trivial) <;>
    (intro x hx; simp at hx; (try rcases hx with h | h | h) <;> subst_vars <;> (unfold R16; decide))
set_option maxRecDepth 100000 in
example : (sRun cfgRtx sWrap opsWrap).map (List.map fun p => (p.payloadType, p.sequenceNumber, p.payload.take 2))
    = [[(96, 65535, [1]), (96, 0, [2]), (96, 1, [3])],
       [(97, 65535, [255, 255]), (97, 0, [0, 0])],
       (List.range 127).map (fun i => (96, i + 2, [7])),
       [(97, 1, [0, 1])], [], []] := by decide +kernel
-- the same history from origin 100 / RTX origin 7 (k = 101, r = 8): the same decisions
set_option maxRecDepth 100000 in
example : (sRun cfgRtx (shiftSender 101 8 0 sWrap) (opsWrap.map (shiftOp 101))).map List.length = [3, 2, 127, 1, 0, 0] := by
  decide +kernel
-- TimestampMapper: 2^32-3000, 0, 3000 (wraps at the second call) and the same offsets from 5 (never wraps)
example : tsMapAll TsMap.init [4294964296, 0, 3000] = .ok [0, 3000, 6000]
    ∧ tsMapAll TsMap.init ([4294964296, 0, 3000].map (σ32 3005)) = .ok [0, 3000, 6000]
    ∧ [4294964296, 0, 3000].map (σ32 3005) = [5, 3005, 6005] := by decide +kernel

end Aiortc.Props.C17Shift
