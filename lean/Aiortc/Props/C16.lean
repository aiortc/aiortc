import Aiortc.Lemmas.C16.H264Packetize
import Aiortc.Lemmas.C16.Vp8
import Aiortc.Lemmas.C16.H264Split
/-!
# C16 — H.264 and VP8 packetisation is lossless and respects the payload size limit

All statements are about the executable models `Aiortc.Model.H264` / `Aiortc.Model.Vp8` (tied to
`src/aiortc/codecs/h264.py` / `vpx.py` by the differential run of `harness/props/C16.py`) and quantify
over ALL inputs.  Sizes come from `Aiortc.Gen.Codec` (regenerated from the repo on every run); the
`*_const` lemmas pin them to the numbers of the property text.

Vocabulary (`ValidNal`: `Lemmas/C16/H264Packetize.lean`; `withStartCodes`, `stapEnc`: `Lemmas/C16/H264.lean`; `depayloadAll`: `Model/H264.lean`):
* `ValidNal n`       : `n` has ≥ 2 bytes, all `< 256`, and type bits `n[0] & 0x1F` in 1..23;
* `withStartCodes l` : `00 00 00 01 ++ n` for every `n` of `l`, concatenated (the original bitstream);
* `stapEnc l`        : body of a STAP-A packet (16-bit length ++ unit, for every unit of `l`);
* `depayloadAll ps`  : `h264_depayload` of every payload in order, concatenated; any exception aborts.
-/
namespace Aiortc.Props.C16
open Aiortc Aiortc.Gen Aiortc.Model Aiortc.Model.H264 Aiortc.Lemmas.H264

/-! ## constants of the property text -/

theorem h264_packet_max_const : H264_PACKET_MAX = 1300 := by decide
theorem vpx_packet_max_const : VPX_PACKET_MAX = 1300 := by decide
theorem h264_header_sizes_const :
    H264_NAL_HEADER_SIZE = 1 ∧ H264_FU_A_HEADER_SIZE = 2 ∧ H264_LENGTH_FIELD_SIZE = 2 ∧
    H264_STAP_A_HEADER_SIZE = 3 ∧ H264_NAL_TYPE_FU_A = 28 ∧ H264_NAL_TYPE_STAP_A = 24 := by decide

/-! ## H.264: `_packetize` -/

/-- `_packetize` never raises (and its loops terminate) on valid NAL units. -/
theorem h264_packetize_ok (nals : List Bytes) (hv : ∀ n ∈ nals, ValidNal n) :
    ∃ payloads, packetize nals = .ok payloads := by
  obtain ⟨p, h, _⟩ := packetize_spec nals hv
  exact ⟨p, h⟩

/-- Every RTP payload is at most 1300 bytes. -/
theorem h264_size (nals : List Bytes) (hv : ∀ n ∈ nals, ValidNal n) (payloads : List Bytes)
    (h : packetize nals = .ok payloads) : ∀ p ∈ payloads, p.length ≤ 1300 :=
  ((packetize_spec nals hv).post h).1

/-- Depacketising the payloads in order and concatenating reproduces the NAL units, in order, each
behind a 4-byte start code; no depayload raises. -/
theorem h264_lossless (nals : List Bytes) (hv : ∀ n ∈ nals, ValidNal n) (payloads : List Bytes)
    (h : packetize nals = .ok payloads) : depayloadAll payloads = .ok (withStartCodes nals) :=
  ((packetize_spec nals hv).post h).2

example : ValidNal [0x65, 0x88] := by unfold ValidNal; decide
example : ∀ n ∈ [[0x65, 0x88], [0x41, 0x9a, 0x00]], ValidNal n := by unfold ValidNal; decide
example : packetize [[0x65, 0x88], [0x41, 0x9a, 0x00]]
    = .ok [[0x78, 0, 2, 0x65, 0x88, 0, 3, 0x41, 0x9a, 0x00]] := by decide
example : depayloadAll [[0x78, 0, 2, 0x65, 0x88, 0, 3, 0x41, 0x9a, 0x00]]
    = .ok [0, 0, 0, 1, 0x65, 0x88, 0, 0, 0, 1, 0x41, 0x9a, 0x00] := by decide

/-! ## H.264: FU-A fragments of one NAL unit (`_packetize_fu_a` on a unit of more than 1300 bytes) -/

/-- The fragments of a NAL unit `b0 :: t` of more than 1300 bytes: at least two; the first two bytes of
the fragments are `[F/NRI|28, type|S]`, then `[F/NRI|28, type]`…, then `[F/NRI|28, type|E]` — exactly one
start and one end marker; the bytes after the two header bytes concatenate to the unit's payload `t`;
every fragment carries payload and has at most 1300 bytes. -/
theorem fu_a_markers (b0 : Nat) (t : Bytes) (ht : 1300 ≤ t.length) :
    ∃ (frags : List Bytes) (k : Nat), packetizeFuA (b0 :: t) = .ok frags ∧ frags.length = k + 2 ∧
      frags.map (List.take 2) =
        [(b0 &&& 0xE0) ||| 28, (b0 &&& 0x1F) ||| 0x80] ::
          (List.replicate k [(b0 &&& 0xE0) ||| 28, b0 &&& 0x1F] ++ [[(b0 &&& 0xE0) ||| 28, (b0 &&& 0x1F) ||| 0x40]]) ∧
      (frags.map (List.drop 2)).flatten = t ∧
      ∀ f ∈ frags, 3 ≤ f.length ∧ f.length ≤ 1300 := by
  obtain ⟨k, q, r, h, hinv, hq, hsz⟩ := packetizeFuA_big_eq b0 t ht
  refine ⟨_, k, h, fuSpec_length .., fuSpec_headers_first .., fuSpec_payload _ _ _ _ _ _ _ hinv, fun f hf => ⟨?_, ?_⟩⟩
  · exact fuSpec_nonempty _ _ _ hq _ _ _ _ hinv f hf
  · have := fuSpec_size _ _ _ _ _ _ _ f hf; omega

/-- The bits of the FU indicator / FU header bytes named in `fu_a_markers`: type 28 with the original
F/NRI bits; S only in the start header, E only in the end header, R never; the original type in all
three; and indicator + header restore the original NAL header byte. -/
theorem fu_a_header_bits (b0 : Nat) (hb : b0 < 256) :
    ((b0 &&& 0xE0) ||| 28) &&& 0x1F = 28 ∧ ((b0 &&& 0xE0) ||| 28) &&& 0xE0 = b0 &&& 0xE0 ∧
    ((b0 &&& 0x1F) ||| 0x80) &&& 0xE0 = 0x80 ∧ (b0 &&& 0x1F) &&& 0xE0 = 0 ∧ ((b0 &&& 0x1F) ||| 0x40) &&& 0xE0 = 0x40 ∧
    ((b0 &&& 0x1F) ||| 0x80) &&& 0x1F = b0 &&& 0x1F ∧ ((b0 &&& 0x1F) ||| 0x40) &&& 0x1F = b0 &&& 0x1F ∧
    (((b0 &&& 0xE0) ||| 28) &&& 0xE0) ||| (((b0 &&& 0x1F) ||| 0x80) &&& 0x1F) = b0 := by
  refine ⟨fu_indicator_type b0, fu_indicator_nri b0, ?_, ?_, ?_, fu_start_type b0, fu_end_type b0,
    byte_fu_restore b0 hb⟩ <;> simp [Nat.and_or_distrib_right, Nat.and_assoc]

/-- Depacketising the fragments gives back start code + the whole unit with its original header. -/
theorem fu_a_reassemble (b0 : Nat) (t : Bytes) (hb : b0 < 256) (ht : 1300 ≤ t.length) :
    ∃ frags, packetizeFuA (b0 :: t) = .ok frags ∧ depayloadAll frags = .ok (startCode ++ (b0 :: t)) := by
  obtain ⟨f, h1, _, h3⟩ := packetizeFuA_big b0 t hb ht
  exact ⟨f, h1, h3⟩

/-- The unit is cut into the minimal number of fragments, `⌈payload / 1298⌉`. -/
theorem fu_a_count (b0 : Nat) (t : Bytes) (ht : 1 ≤ t.length) (frags : List Bytes)
    (h : packetizeFuA (b0 :: t) = .ok frags) : frags.length = (t.length + 1297) / 1298 := by
  rw [packetizeFuA_eq b0 t ht] at h
  cases h
  rw [fuSpec_length]
  omega

example : 1300 ≤ (List.replicate 1300 7).length := by rw [List.length_replicate]; omega

/-! ## H.264: STAP-A -/

/-- Every aggregated unit is recovered whole and in order: parsing a STAP-A packet made of any
non-empty list of units (each shorter than 65536 bytes) yields exactly those units behind start codes. -/
theorem stap_a_whole (h : Nat) (nals : List Bytes) (hh : h &&& 0x1F = 24) (hne : nals ≠ [])
    (hl : ∀ n ∈ nals, n.length < 65536) :
    H264.parse (h :: stapEnc nals) = .ok (true, withStartCodes nals) :=
  parse_stap_a h nals hh hne hl

/-- What `_packetize_stap_a(data, it)` does with non-empty units: it consumes a non-empty prefix `agg`
of `data :: it` and hands back the look-ahead unit and the rest of the iterator unchanged; the packet is
`data` itself (one unit) or a STAP-A packet (type 24) of at most 1300 bytes holding exactly `agg`. -/
theorem stap_a_packet (data : Bytes) (it : List Bytes) (hd : data ≠ []) (hit : ∀ n ∈ it, n ≠ []) :
    ∃ (agg : List Bytes) (packet : Bytes) (next : Option Bytes) (rest : List Bytes),
      packetizeStapA data it = .ok (packet, next, rest) ∧
      data :: it = agg ++ (next.toList ++ rest) ∧ (next = none → rest = []) ∧
      ((agg = [data] ∧ packet = data) ∨
       (2 ≤ agg.length ∧ ∃ h, h &&& 0x1F = 24 ∧ packet = h :: stapEnc agg ∧ packet.length ≤ 1300 ∧
          ∀ n ∈ agg, n.length < 65536)) := by
  obtain ⟨agg, packet, next, rest, h1, h2, h3, h4⟩ := packetizeStapA_spec data it hd hit
  refine ⟨agg, packet, next, rest, h1, h2, h3, ?_⟩
  rcases h4 with h | ⟨ha, h, hh, hp, hs, hl⟩
  · exact Or.inl h
  · exact Or.inr ⟨ha, h, hh, hp, by subst hp; simp; omega, hl⟩

example : packetizeStapA [0x65, 0x88] [[0x41, 0x9a]] = .ok ([0x78, 0, 2, 0x65, 0x88, 0, 2, 0x41, 0x9a], none, []) := by
  decide

/-- A single NAL unit payload (types 1..23) depayloads to start code + itself. -/
theorem single_nal_depayload (n : Bytes) (hv : ValidNal n) : depayload n = .ok (startCode ++ n) := by
  obtain ⟨hlen, _, h1, h2⟩ := hv
  cases n with
  | nil => simp at hlen
  | cons b t => exact depayload_single b t hlen (by simpa using h1) (by simpa using h2)

/-! ## H.264: `_split_bitstream` and the whole `pack` path

`framed items` is the Annex-B bitstream in which every unit `n` of `items = [(k, n), …]` is preceded by
a 3-byte (`k = 0`) or 4-byte (`k = 1`) start code; `Clean n`: no `00 00 01` inside `n` and `n` does not end
in `00` (what H.264 emulation prevention and the RBSP stop bit guarantee). -/

/-- Splitting the framed bitstream returns exactly the NAL units, for any mix of 3- and 4-byte start codes. -/
theorem split_bitstream (items : List (Nat × Bytes)) (hall : ∀ it ∈ items, it.1 ≤ 1 ∧ Clean it.2) :
    splitBitstream (framed items) = .ok (items.map (·.2)) := by
  unfold splitBitstream
  cases items with
  | nil => simp [framed, splitLoop, find, findFrom]
  | cons it items =>
    have := splitLoop_framed (it :: items) [] ((framed (it :: items)).length + 1) 0 (by simp) hall
      (by have := framed_length_ge (it :: items); omega) (by simp)
    simpa using this

/-- `pack` (split, then packetise) followed by depayloading: payloads ≤ 1300 bytes and the result is the
same units behind 4-byte start codes. -/
theorem h264_pack_lossless (items : List (Nat × Bytes))
    (hall : ∀ it ∈ items, it.1 ≤ 1 ∧ Clean it.2 ∧ ValidNal it.2) :
    ∃ payloads, H264.pack (framed items) = .ok payloads ∧ (∀ p ∈ payloads, p.length ≤ 1300) ∧
      depayloadAll payloads = .ok (withStartCodes (items.map (·.2))) := by
  have hs := split_bitstream items (fun it h => ⟨(hall it h).1, (hall it h).2.1⟩)
  obtain ⟨p, hp, hsz, hd⟩ := packetize_spec (items.map (·.2)) (by
    intro n hn
    obtain ⟨it, hit, rfl⟩ := List.mem_map.mp hn
    exact (hall it hit).2.2)
  refine ⟨p, ?_, hsz, hd⟩
  unfold H264.pack
  rw [hs]
  exact hp

example : Clean [0x65, 0x88, 0x00, 0x00, 0x03, 0x01] := by
  constructor
  · intro pre post h
    match pre, h with
    | [], h => simp at h
    | [_], h => simp at h
    | [_, _], h => simp at h
    | [_, _, _], h => simp at h
    | _ :: _ :: _ :: _ :: pre', h =>
      have := congrArg List.length h
      simp at this
      omega
  · decide
example : splitBitstream (framed [(1, [0x65, 0x88]), (0, [0x41, 0x9a])]) = .ok [[0x65, 0x88], [0x41, 0x9a]] := by decide

/-! ## VP8: `Vp8Encoder._packetize` and the payload descriptor

`Lemmas.Vp8.D s pic` is the descriptor with `partition_start = s`, `partition_id = 0`,
`picture_id = pic` and no other extension; `Lemmas.Vp8.hdr s pic` its 3- or 4-byte wire form. -/

section VP8
open Aiortc.Model.Vp8 Aiortc.Lemmas.Vp8

/-- The picture id round-trips for all 15-bit values (7-bit and 15-bit wire forms), together with the
S bit and partition id 0, whatever follows the descriptor. -/
theorem vpx_picture_id_roundtrip (s pic : Nat) (rest : Bytes) (hs : s < 2) (hp : pic < 32768) :
    ∃ bs, (D s pic).toBytes = .ok bs ∧ Vp8.parse (bs ++ rest) = .ok (D s pic, rest) :=
  ⟨hdr s pic, toBytes_D s pic hs hp, parse_hdr s pic rest hs hp⟩

/-- Every in-range descriptor (any combination of the I/L/T/K extensions, S < 2, PID < 16, 15-bit picture
id, 8-bit TL0PICIDX, TID < 4, Y < 2, KEYIDX < 32) round-trips through `__bytes__` / `parse`, whatever
payload follows it. -/
theorem vpx_descriptor_roundtrip (d : Vp8.Descr) (rest : Bytes) (h : InRange d) :
    ∃ bs, d.toBytes = .ok bs ∧ Vp8.parse (bs ++ rest) = .ok (d, rest) :=
  ⟨wire d, toBytes_wire d h, parse_wire d rest h⟩

example : InRange ⟨1, 3, some 4711, some 200, some (3, 1), some 31⟩ := by
  refine ⟨by decide, by decide, ?_, ?_, ?_, ?_⟩ <;> intro x hx <;> cases hx <;> decide

/-- `_packetize` never raises for a 15-bit picture id, for any frame buffer. -/
theorem vp8_packetize_ok (buffer : Bytes) (pic : Nat) (hp : pic < 32768) :
    ∃ payloads, Vp8.packetize buffer pic = .ok payloads := by
  obtain ⟨p, h, _⟩ := packetize_returns buffer pic hp
  exact ⟨p, h⟩

/-- Every payload is at most 1300 bytes (and carries at least one byte of the frame). -/
theorem vp8_size (buffer : Bytes) (pic : Nat) (hp : pic < 32768) (payloads : List Bytes)
    (h : Vp8.packetize buffer pic = .ok payloads) :
    ∀ p ∈ payloads, p.length ≤ 1300 ∧ (hdr 0 pic).length < p.length := by
  obtain ⟨cs, rfl, _, hsz, _⟩ := (packetize_returns buffer pic hp).post h
  intro p hp'
  obtain ⟨c, hc, rfl | rfl⟩ := mem_attach hp' <;> have := hsz c hc <;>
    simp only [List.length_append, hdr_length_eq 1 pic] <;> omega

/-- Depayloading all payloads in order and concatenating gives the frame buffer verbatim. -/
theorem vp8_lossless (buffer : Bytes) (pic : Nat) (hp : pic < 32768) (payloads : List Bytes)
    (h : Vp8.packetize buffer pic = .ok payloads) : Vp8.depayloadAll payloads = .ok buffer := by
  obtain ⟨cs, rfl, hfl, _⟩ := (packetize_returns buffer pic hp).post h
  rw [depayloadAll_attach pic hp cs, hfl]

/-- Only the first payload of a frame is marked as partition start, every payload has partition id 0
and carries the frame's picture id (and nothing else); the data behind the descriptors is the frame. -/
theorem vp8_partition_start (buffer : Bytes) (pic : Nat) (hp : pic < 32768) (payloads : List Bytes)
    (h : Vp8.packetize buffer pic = .ok payloads) :
    (buffer = [] ∧ payloads = []) ∨
    ∃ (c : Bytes) (cs : List Bytes), c ++ cs.flatten = buffer ∧
      payloads.map Vp8.parse = .ok (D 1 pic, c) :: cs.map (fun x => .ok (D 0 pic, x)) := by
  obtain ⟨chunks, rfl, hfl, _⟩ := (packetize_returns buffer pic hp).post h
  cases chunks with
  | nil => left; exact ⟨by simpa using hfl.symm, rfl⟩
  | cons c cs =>
    right
    refine ⟨c, cs, by simpa using hfl, ?_⟩
    simp only [attach, List.map_cons, List.map_map, parse_hdr 1 pic c (by omega) hp]
    congr 1
    apply List.map_congr_left
    intro x _
    exact parse_hdr 0 pic x (by omega) hp

/-- The frame is cut into the minimal number of payloads. -/
theorem vp8_count (buffer : Bytes) (pic : Nat) (hp : pic < 32768) (payloads : List Bytes)
    (h : Vp8.packetize buffer pic = .ok payloads) :
    payloads.length = (buffer.length + (1300 - (hdr 0 pic).length) - 1) / (1300 - (hdr 0 pic).length) := by
  obtain ⟨chunks, rfl, _, _, hlen⟩ := (packetize_returns buffer pic hp).post h
  rw [← hlen, length_attach]

example : Vp8.packetize [1, 2, 3] 300 = .ok [[0x90, 0x80, 0x81, 0x2c, 1, 2, 3]] := by decide
example : Vp8.parse [0x90, 0x80, 0x81, 0x2c, 1, 2, 3] = .ok (D 1 300, [1, 2, 3]) := by decide
example : Vp8.packetize [] 5 = .ok [] := by decide

end VP8

end Aiortc.Props.C16
