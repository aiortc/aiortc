import Aiortc.Model.Stats
import Aiortc.Lemmas.C18.Stats
import Aiortc.Lemmas.C18.StatsRecv
/-!
# C18 — RTCP receiver reports carry correct loss/jitter figures that always fit the wire

Model: `Model/Stats.lean` (`StreamStatistics`, report construction of `_run_rtcp`,
`RtcpReceiverInfo.__bytes__`) **of the code with fixes/C18-*.patch applied**.
A history is a first packet `p0` followed by `evs : List Ev` (packets and report instants).
`Pkt.e` is the sequence number: in `run` the wire value is `e mod 2^16`, so a history of wire numbers
(`0 ≤ e < 2^16`) is run as is, and a history of *unwrapped* numbers (ghost) is run as the wire sees it.
`Valid p0.e evs` is the property's hypothesis "reordering within half the sequence space":
each `e` is within `[-2^15, 2^15)` of the running maximum.  `add_any` shows that every wire number has
exactly such a ghost next to the running maximum, so the "never fails / fits" theorems need no hypothesis
on the history at all.
-/
namespace Aiortc.Props.C18
open Aiortc Aiortc.Gen Aiortc.Model.Stats Aiortc.Lemmas.Stats

/-! ## constants of the regenerated code used below -/

theorem clamp_const : (Gen.PACKETS_LOST_MAX : Int) = 8388607 ∧ Gen.PACKETS_LOST_MIN = -8388608 := by decide

theorem clamp_def (x : Int) : clamp_packets_lost x = max (-8388608) (min x 8388607) := rfl

theorem half_const : uint16_gt 32767 0 = true ∧ uint16_gt 32768 0 = false ∧ uint16_gt 0 32769 = true := by decide

theorem rr_type_const : Gen.RTCP_RR = 201 := by decide

/-! ## 0. building a report never fails, for every history whatsoever -/

/-- Any sequence of packets (arbitrary integers as sequence numbers mod 2^16, timestamps, arrival ticks)
and report instants after a first packet: neither `add` nor the report construction raises. -/
theorem add_never_fails (p0 : Pkt) (evs : List Ev) :
    ∃ s infos, run init (.pkt p0 :: evs) = .ok (s, infos) :=
  let ⟨_, _, h, _⟩ := run_init_good p0 evs; ⟨_, _, h⟩

/-! ## 1. packets received is exact (all histories: loss, duplicates, any reordering) -/

theorem received_exact (p0 : Pkt) (evs : List Ev) (s : Stats) (infos : List RrInfo)
    (h : run init (.pkt p0 :: evs) = .ok (s, infos)) :
    s.received = 1 + numPkts evs := by
  obtain ⟨g', _, hr, _, hn, _⟩ := run_init_good p0 evs
  cases hr.symm.trans h; exact hn

/-! ## 2. extended highest sequence number, packets expected, cumulative loss -/

/-- `cycles + max_seq` is the highest unwrapped sequence number, counted from the 2^16-block of the first
packet: wrap cycles are included, for any start and any number of cycles. -/
theorem extended_highest (p0 : Pkt) (evs : List Ev) (hv : Valid p0.e evs) :
    ∃ s infos, run init (.pkt p0 :: evs) = .ok (s, infos) ∧
      s.maxSeq = some (maxOf p0.e evs % 65536) ∧
      s.baseSeq = some (p0.e % 65536) ∧
      s.cycles + maxOf p0.e evs % 65536 = maxOf p0.e evs - (p0.e - p0.e % 65536) := by
  refine ⟨_, _, run_valid p0 evs hv, ?_, ?_, ?_⟩
  · show some ((specRun (Spec.first p0) evs).1.maxE % 65536) = _
    rw [specRun_maxE]; rfl
  · show some ((specRun (Spec.first p0) evs).1.e0 % 65536) = _
    rw [specRun_e0]; rfl
  · have := ext_conc (specRun (Spec.first p0) evs).1
    rw [specRun_maxE, specRun_e0] at this
    exact this

/-- `packets_expected` = extended highest − first + 1. -/
theorem expected_rfc3550 (p0 : Pkt) (evs : List Ev) (hv : Valid p0.e evs) :
    ∃ s infos, run init (.pkt p0 :: evs) = .ok (s, infos) ∧
      packetsExpected s = .ok (maxOf p0.e evs - p0.e + 1) := by
  refine ⟨_, _, run_valid p0 evs hv, ?_⟩
  rw [expected_conc, Spec.expected, specRun_maxE, specRun_e0]; rfl

/-- `packets_lost` = extended highest − first + 1 − received, saturated to the 24-bit signed field. -/
theorem lost_rfc3550 (p0 : Pkt) (evs : List Ev) (hv : Valid p0.e evs) :
    ∃ s infos, run init (.pkt p0 :: evs) = .ok (s, infos) ∧
      packetsLost s = .ok (max (-8388608) (min (maxOf p0.e evs - p0.e + 1 - (1 + numPkts evs)) 8388607)) := by
  refine ⟨_, _, run_valid p0 evs hv, ?_⟩
  rw [lost_conc, Spec.lost, Spec.expected, specRun_maxE, specRun_e0, specRun_n]; rfl

/-! ## 3. fraction lost per reporting interval (RFC 3550 A.3) -/

/-- The RFC formula, spelled out: `(lost_interval << 8) / expected_interval`, or 0 when nothing was
expected or nothing was lost in the interval. -/
theorem fractionOf_def (ei ri : Int) (hpos : 0 < ei) (hlost : 0 < ei - ri) :
    fractionOf ei ri = ((ei - ri) * 256) / ei := by
  unfold fractionOf
  have : ¬(ei = 0 ∨ ei - ri ≤ 0) := by omega
  simp only [this, if_false]
  exact Int.fdiv_eq_ediv_of_nonneg _ (by omega)

theorem fractionOf_zero (ei ri : Int) (h : ei = 0 ∨ ei - ri ≤ 0) : fractionOf ei ri = 0 := by
  unfold fractionOf; simp only [h, if_true]

/-- First report of a stream: the interval starts at the first packet. -/
theorem fraction_rfc3550_first (p0 : Pkt) (mid : List Pkt) (a b c : Int)
    (hv : Valid p0.e (mid.map Ev.pkt ++ [Ev.report a b c])) :
    ∃ s i, run init (.pkt p0 :: (mid.map Ev.pkt ++ [Ev.report a b c])) = .ok (s, [i]) ∧
      i.fractionLost = fractionOf (maxOf p0.e (mid.map Ev.pkt) - p0.e + 1) (1 + mid.length) := by
  refine ⟨_, _, (run_valid_report p0 _ a b c hv).trans (by rw [specRun_pkts_infos]; rfl), ?_⟩
  · simp only [Spec.info, Spec.fraction, Spec.expected]
    rw [(specRun_pkts_priors _ _).1, (specRun_pkts_priors _ _).2]
    simp only [specRun_maxE, specRun_e0, specRun_n, numPkts_pkts, Spec.first]
    congr 1; omega

/-- Every later report: the interval runs from the previous report.  `pre` is everything before the
previous report, `mid` the packets between the two reports. -/
theorem fraction_rfc3550_interval (p0 : Pkt) (pre : List Ev) (mid : List Pkt) (a b c a' b' c' : Int)
    (hv : Valid p0.e (pre ++ [Ev.report a b c] ++ mid.map Ev.pkt ++ [Ev.report a' b' c'])) :
    ∃ s infos i, run init (.pkt p0 :: (pre ++ [Ev.report a b c] ++ mid.map Ev.pkt ++ [Ev.report a' b' c']))
        = .ok (s, infos ++ [i]) ∧
      i.fractionLost = fractionOf (maxOf p0.e (pre ++ mid.map Ev.pkt) - maxOf p0.e pre) mid.length := by
  refine ⟨_, _, _, run_valid_report p0 _ a' b' c' hv, ?_⟩
  · rw [specRun_append, specRun_append]
    simp only [specRun, Spec.info, Spec.fraction, Spec.expected]
    rw [(specRun_pkts_priors _ _).1, (specRun_pkts_priors _ _).2]
    simp only [specRun_maxE, specRun_e0, specRun_n, numPkts_pkts, Spec.closeInterval, Spec.expected, maxOf_append,
      Spec.first]
    congr 1 <;> omega

/-- Whatever the history, the fraction of every report fits 8 bits (an in-order packet is needed to raise
`packets_expected`, so at least one packet is received in an interval that expects any). -/
theorem fraction_fits (p0 : Pkt) (evs : List Ev) (s : Stats) (infos : List RrInfo)
    (h : run init (.pkt p0 :: evs) = .ok (s, infos)) :
    ∀ i ∈ infos, 0 ≤ i.fractionLost ∧ i.fractionLost ≤ 255 := by
  obtain ⟨g', _, hr, _, _, hf, _⟩ := run_init_good p0 evs
  cases hr.symm.trans h; exact hf

/-! ## 4. interarrival jitter (RFC 3550 A.8, 32-bit arithmetic) -/

/-- The estimator state is that of the specification machine run on the history … -/
theorem jitter_rfc3550 (p0 : Pkt) (evs : List Ev) (hv : Valid p0.e evs) :
    ∃ s infos, run init (.pkt p0 :: evs) = .ok (s, infos) ∧
      s.jitterQ4 = (specRun (Spec.first p0) evs).1.j ∧ jitter s = (specRun (Spec.first p0) evs).1.j / 16 :=
  ⟨_, _, run_valid p0 evs hv, rfl, rfl⟩

/-- … whose step is the A.8 recurrence: only an in-order packet (`e` above the extended maximum) whose
timestamp differs from the previous in-order packet's updates `J`, by
`J += |D| − ((J + 8) >> 4)` with `D = (arrival − prev_arrival) − (ts − prev_ts)` reduced to a signed
32-bit value; every in-order packet becomes the new reference point. -/
theorem jitter_recurrence (g : Spec) (p : Pkt) :
    (g.add p).j =
      (if p.e > g.maxE ∧ p.ts ≠ g.prevTs then
        g.j + (Int.natAbs (((p.arr - g.prevArr) - (p.ts - g.prevTs) + 2147483648) % 4294967296 - 2147483648)
               - (g.j + 8) / 16)
       else g.j) ∧
    ((g.add p).prevArr, (g.add p).prevTs) = (if p.e > g.maxE then (p.arr, p.ts) else (g.prevArr, g.prevTs)) := by
  unfold Spec.add Spec.jitterNext
  by_cases h1 : p.e > g.maxE <;> by_cases h2 : p.ts = g.prevTs <;>
    simp [h1, h2, jitterStep, absDiff, signed32]

/-- Timestamp (and arrival) differences are taken modulo 2^32: `|D|` computed from the 32-bit values equals
`|D|` computed from unwrapped timestamps, so a timestamp wrap between two packets changes nothing. -/
theorem jitter_mod32 (arr prevArr ts prevTs : Int) :
    absDiff (arr % 4294967296) (prevArr % 4294967296) (ts % 4294967296) (prevTs % 4294967296)
      = absDiff arr prevArr ts prevTs := by
  unfold absDiff
  have : (arr % 4294967296 - prevArr % 4294967296 - (ts % 4294967296 - prevTs % 4294967296))
      = (arr - prevArr - (ts - prevTs))
        + 4294967296 * (-(arr / 4294967296) + prevArr / 4294967296 + ts / 4294967296 - prevTs / 4294967296) := by
    omega
  rw [this, signed32_periodic]

/-- When the true difference is small (`|D| < 2^31`, i.e. < 6.6 h at 90 kHz) the 32-bit value is the true one. -/
theorem jitter_small_exact (arr prevArr ts prevTs : Int)
    (h : -2147483648 ≤ (arr - prevArr) - (ts - prevTs) ∧ (arr - prevArr) - (ts - prevTs) < 2147483648) :
    absDiff arr prevArr ts prevTs = Int.natAbs ((arr - prevArr) - (ts - prevTs)) := by
  unfold absDiff; rw [signed32_id _ h]

/-- The estimator never leaves `[0, 2^35 + 7]`, whatever the clock does: the reported jitter is `< 2^32`. -/
theorem jitter_bounded (p0 : Pkt) (evs : List Ev) (s : Stats) (infos : List RrInfo)
    (h : run init (.pkt p0 :: evs) = .ok (s, infos)) :
    0 ≤ s.jitterQ4 ∧ s.jitterQ4 ≤ 34359738375 ∧ 0 ≤ jitter s ∧ jitter s < 4294967296 := by
  obtain ⟨g', _, hr, hw, _⟩ := run_init_good p0 evs
  cases hr.symm.trans h
  have h3 := hw.j_lo
  have h4 := hw.j_hi
  simp only [jitter, conc]
  omega

/-! ## 5. every reported value fits its field: serialisation cannot raise -/

/-- For every history whatsoever and every report instant with a 32-bit SSRC / LSR / DLSR: the report is
built, every field is within its width, and `bytes(report)` is 24 bytes. -/
theorem report_fits (p0 : Pkt) (evs : List Ev) (hp : ParamsOk evs) :
    ∃ s infos, run init (.pkt p0 :: evs) = .ok (s, infos) ∧
      ∀ i ∈ infos, Fits i ∧ ∃ b, i.bytes = .ok b ∧ b.length = 24 := by
  obtain ⟨_, _, hr, _, _, _, hF⟩ := run_init_good p0 evs
  exact ⟨_, _, hr, fun i hi => ⟨hF hp i hi, bytes_of_fits i (hF hp i hi)⟩⟩

/-- What the last report of a valid history carries, in terms of the history alone. -/
theorem report_values (p0 : Pkt) (pre : List Ev) (a b c : Int) (hv : Valid p0.e (pre ++ [Ev.report a b c])) :
    ∃ s infos i, run init (.pkt p0 :: (pre ++ [Ev.report a b c])) = .ok (s, infos ++ [i]) ∧
      i.ssrc = a ∧ i.lsr = b ∧ i.dlsr = c ∧
      i.packetsLost = max (-8388608) (min (maxOf p0.e pre - p0.e + 1 - (1 + numPkts pre)) 8388607) ∧
      i.highestSequence = (maxOf p0.e pre - (p0.e - p0.e % 65536)) % 4294967296 ∧
      i.jitter = (specRun (Spec.first p0) pre).1.j / 16 := by
  refine ⟨_, _, _, run_valid_report p0 pre a b c hv, rfl, rfl, rfl, ?_, ?_, rfl⟩
  · simp only [Spec.info, Spec.lost, Spec.expected, specRun_maxE, specRun_e0, specRun_n]; rfl
  · simp only [Spec.info, specRun_maxE, specRun_e0]; rfl

/-- `lsr` as computed from any SR NTP timestamp fits 32 bits. -/
theorem lsr_fits (ntp : Int) : U32 (lsrOf ntp) := lsrOf_u32 ntp

/-- `dlsr` as computed from any delay `num/den` (`den > 0`) fits 32 bits. -/
theorem dlsr_fits (num den : Int) (hden : 0 < den) : U32 (dlsrOf num den) := dlsrOf_u32 num den hden

/-- The 24-bit loss field round-trips on its whole range (and `clamp_packets_lost` lands in it). -/
theorem packets_lost_roundtrip (n : Int) (h : -8388608 ≤ n ∧ n ≤ 8388607) :
    ∃ b, packPacketsLost? n = some b ∧ b.length = 3 ∧ unpackPacketsLost b = some n := by
  unfold packPacketsLost?
  rw [if_pos (by omega)]
  refine ⟨_, rfl, rfl, ?_⟩
  rw [unpackPacketsLost_low]
  congr 1
  split <;> omega

/-- `bytes(RtcpReceiverInfo)` succeeds exactly when the unsigned fields fit and `packets_lost` fits 32 bits
signed (outside 24 bits it is silently truncated — which is why the clamp matters). -/
theorem info_bytes_ok_iff (i : RrInfo) :
    (∃ b, i.bytes = .ok b) ↔
      (U32 i.ssrc ∧ (0 ≤ i.fractionLost ∧ i.fractionLost < 256) ∧
       (-2147483648 ≤ i.packetsLost ∧ i.packetsLost < 2147483648) ∧
       U32 i.highestSequence ∧ U32 i.jitter ∧ U32 i.lsr ∧ U32 i.dlsr) := by
  constructor
  · intro ⟨b, hb⟩
    unfold RrInfo.bytes packU32? packU8? packPacketsLost? at hb
    unfold U32
    repeat' split at hb
    all_goals first | (cases hb) | skip
    all_goals simp_all
  · intro ⟨h1, h2, h3, h4, h5, h6, h7⟩
    obtain ⟨b, hb, _⟩ := bytes_of_ranges i h1 h2 h3 h4 h5 h6 h7
    exact ⟨b, hb⟩

/-! ## 6. the receiver: per-SSRC statistics, sender-report bookkeeping, the RR datagram -/

/-- `bytes(RtcpRrPacket)` for up to 31 fitting reports: header `0x80 | count`, packet type 201, length
field (in words, minus one) `1 + 6·count`, sender SSRC, then the 24-byte blocks: 8 + 24·count bytes in all. -/
theorem rr_packet_ok (ssrc : Int) (hs : U32 ssrc) (infos : List RrInfo) (hf : ∀ i ∈ infos, Fits i)
    (hc : infos.length ≤ 31) :
    ∃ body, concatBytes infos = .ok body ∧ body.length = 24 * infos.length ∧
      rrPacketBytes ssrc infos
        = .ok ((128 + infos.length) :: 201 :: (u16be (1 + 6 * infos.length) ++ (u32be ssrc.toNat ++ body))) := by
  have hor : 128 ||| infos.length = 128 + infos.length :=
    (Nat.two_pow_add_eq_or_of_lt (i := 7) (by omega) 1).symm
  rw [← hor]
  exact rrPacketBytes_eq ssrc hs infos hf (by omega)

/-- From every reachable receiver state: feeding a packet, running one `_run_rtcp` iteration (with fewer
than 256 streams) and `getStats()` all succeed; a datagram that is sent has 8 + 24·streams bytes. -/
theorem receiver_never_fails (rtcp : Option Int) (hr : ∀ s, rtcp = some s → U32 s) (r : Receiver)
    (h : RReach rtcp r) :
    (∀ ssrc seq ts arr, U32 ssrc → (0 ≤ seq ∧ seq < 65536) → ∃ r', r.rtp ssrc seq ts arr = .ok r') ∧
    (∀ delays : List (Int × Int), (∀ d ∈ delays, 0 < d.2) → r.streams.length < 256 →
      ∃ out r', r.runRtcp rtcp delays = .ok (out, r') ∧
        ∀ b, out = some b → b.length = 8 + 24 * r.streams.length) ∧
    (∃ o, r.getStats = .ok o) := by
  have hg := reach_good rtcp hr r h
  refine ⟨?_, ?_, ?_⟩
  · intro ssrc seq ts arr hs hq
    obtain ⟨r', h1, _⟩ := rtp_good r hg ssrc seq ts arr hs hq
    exact ⟨r', h1⟩
  · intro delays hd hc
    obtain ⟨out, r', h1, _, _, h4⟩ := runRtcp_good r hg rtcp hr delays hd hc
    exact ⟨out, r', h1, h4⟩
  · exact statsLoop_good r.streams none hg.1

/-- Non-vacuity: a receiver that saw two SSRCs and a sender report is reachable. -/
example : ∃ r, RReach (some 1234) r ∧ r.streams.length = 2 ∧ r.lsr.length = 1 := by
  refine ⟨_, RReach.sr 5 (4294967296 * 65536) (RReach.rtp 6 65535 0 0 (RReach.rtp 5 65535 0 0 RReach.init ?_ ?_ rfl) ?_ ?_ rfl), ?_, ?_⟩
  all_goals first | (unfold U32; omega) | omega | rfl

/-! ## non-vacuity: the hypotheses are satisfiable by histories that exercise the wraps -/

/-- A history across the 16-bit wrap with loss, a duplicate and a late packet is `Valid`. -/
example : Valid 65534 [.pkt ⟨65535, 0, 0⟩, .pkt ⟨65537, 3000, 3000⟩, .pkt ⟨65536, 3000, 3100⟩,
    .pkt ⟨65537, 3000, 3200⟩, .report 1 0 0, .pkt ⟨98304, 6000, 6000⟩, .pkt ⟨65536, 0, 0⟩] := by
  simp [Valid, Window]; omega

example : ParamsOk [.pkt ⟨65535, 0, 0⟩, .report 4294967295 0 4294967295] := by
  simp [ParamsOk, U32]

/-- Packets 65534, 65535, 0, 1 across both the sequence and the timestamp wrap (the example of DESIGN.md),
arriving exactly on time.  cycles = 65536, highest_sequence = 65537, jitter 0, nothing lost
(the upstream code reported highest_sequence = 1 and a jitter of 2^28 here). -/
example :
    run init [.pkt ⟨65534, 4294961296, 1000⟩, .pkt ⟨65535, 4294964296, 4000⟩, .pkt ⟨65536, 0, 7000⟩,
              .pkt ⟨65537, 3000, 10000⟩, .report 7 0 0]
      = .ok (⟨some 65534, some 1, 65536, 4, 0, some 10000, some 3000, 4, 4⟩,
             [⟨7, 0, 0, 65537, 0, 0, 0⟩]) := by decide +kernel

/-- Loss and a clock jump of 2^45 ticks: fraction 85/256, 1 lost, |D| wraps to 3000 instead of 2^45. -/
example :
    run init [.pkt ⟨10, 0, 0⟩, .pkt ⟨12, 3000, 35184372088832⟩, .report 1 2 3]
      = .ok (⟨some 10, some 12, 0, 2, 3000, some 35184372088832, some 3000, 3, 2⟩,
             [⟨1, 85, 1, 12, 187, 2, 3⟩]) := by decide +kernel

end Aiortc.Props.C18
