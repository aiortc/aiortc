import Aiortc.Lemmas.C09.TextIdem
import Aiortc.Props.C09
/-! # C09, clause 2 — "for ANY SDP text the parser accepts, one round of parse-and-serialise is idempotent"

`Props/C09.lean` states this clause as `def TextIdempotent : Prop`.  It is proved here, about the same executable model
(`Model/Sdp/{Lex,Attr,Session}.lean`), with no hypothesis on the text:

1. `parse_output_canonical`: whatever `parse` returns is a `ParsedSession` (`Lemmas/C09/Parsed*.lean`: numeric fields
   are numbers, tokens are tokens, hosts have no blank, DTLS roles are in the table, payload types / ssrc ids / sctpmap
   keys are distinct, DTLS parameters without a role are gone, no field contains a line-break character, …).  This
   predicate is weaker than `WFSession`: it allows everything the parser really produces and the printer does not
   carry one-to-one (`origin = None`, `mid = None`, `msid = ""`, `rtcp_mux` without rtcp port, ssrc entries without a
   known attribute, audio channel counts other than 1/2, empty rtcp-fb parameters, fmtp dictionaries that print as
   `""`, media kinds containing "/").
2. `normS` maps such a value to its normal form; `print_norm_invariant`: printing does not see the difference;
   `canonical_norm_wf`: the normal form is structurally valid (`WFSession`), so `session_roundtrip` applies to it.
3. `canonical_fixed_point`: printing a canonical value and parsing the text back is the normalisation;
   `printed_lines_nobreak` supplies the `splitlines` side condition.
4. `text_idempotent : TextIdempotent`, and the stronger `accepted_text_roundtrip`. -/
namespace Aiortc.Props.C09Text
open Aiortc Aiortc.Model.Sdp Aiortc.Lemmas.C09

/-- Whatever the media-section parser returns (header regex, first pass, DTLS fix-up, second pass) is canonical, for
any session-level defaults the session lines can produce and any lines `splitlines` can produce. -/
theorem media_output_canonical (d : Defaults) (lines : List Str) (m : Media) (hd : DefaultsOk d)
    (hl : ∀ l ∈ lines, NoBreak l) (h : parseMedia d lines = .ok m) :
    ParsedMedia m ∧ DtlsRole m ∧ m.ice.iceLite = d.iceLite :=
  parseMedia_inv d lines m hd hl h

/-- Media-section fixed point: a canonical media section prints (no exception), the printed lines parse to its
normal form, the normal form prints to the same lines, and no printed line contains a line break. -/
theorem media_fixed_point (m : Media) (hp : ParsedMedia m) (hr : DtlsRole m) :
    ∃ ls, mediaLines m = .ok ls ∧ parseMedia { iceLite := m.ice.iceLite } ls = .ok (normM m) ∧
      mediaLines (normM m) = .ok ls ∧ ∀ l ∈ ls, NoBreak l := by
  obtain ⟨ls, h1, h2⟩ := Lemmas.C09.media_roundtrip (normM m) (wfMedia_norm m hp hr)
  rw [mediaLines_normM] at h1
  exact ⟨ls, h1, h2, by rw [mediaLines_normM]; exact h1, mediaLines_nb m hp ls h1⟩

/-- Media-section idempotence for ANY accepted group of lines: parse → print → parse → print gives the same lines. -/
theorem media_idempotent (d : Defaults) (lines : List Str) (m : Media) (hd : DefaultsOk d)
    (hl : ∀ l ∈ lines, NoBreak l) (h : parseMedia d lines = .ok m) :
    ∃ ls m', mediaLines m = .ok ls ∧ parseMedia { iceLite := d.iceLite } ls = .ok m' ∧ mediaLines m' = .ok ls := by
  obtain ⟨hp, hr, hlite⟩ := parseMedia_inv d lines m hd hl h
  obtain ⟨ls, h1, h2, h3, _⟩ := media_fixed_point m hp hr
  rw [hlite] at h2
  exact ⟨ls, normM m, h1, h2, h3⟩

/-- Step 1 above: **parser output is canonical**. -/
theorem parse_output_canonical (t : Str) (s : Session) (h : parse t = .ok s) : ParsedSession s :=
  parse_parsed t s h

/-- Printing is invariant under normalisation (any value, no hypothesis). -/
theorem print_norm_invariant (s : Session) : sessionToStr (normS s) = sessionToStr s :=
  sessionToStr_normS s

/-- The normal form of a canonical value is structurally valid in the sense of `session_roundtrip`. -/
theorem canonical_norm_wf (s : Session) (hp : ParsedSession s) : WFSession (normS s) :=
  wfSession_norm s hp

/-- No line printed for a canonical value contains a line-break character. -/
theorem printed_lines_nobreak (s : Session) (hp : ParsedSession s) (ml : List Str)
    (h : allLines mediaLines s.media = .ok ml) : ∀ l ∈ sessionHdr s ++ ml, NoBreak l :=
  printed_nb s hp ml h

/-- Serialisation never raises on a canonical value — in particular on anything the parser accepted. -/
theorem canonical_serialises (s : Session) (hp : ParsedSession s) : ∃ t1, sessionToStr s = .ok t1 := by
  obtain ⟨ls, h, _⟩ := Lemmas.C09.session_roundtrip (normS s) (wfSession_norm s hp)
  rw [sessionToStr_normS] at h
  exact ⟨_, h⟩

/-- Step 3 above: **printing a canonical value and parsing it back is the normalisation**, and the
normal form prints to the same text. -/
theorem canonical_fixed_point (s : Session) (t1 : Str) (hp : ParsedSession s) (h : sessionToStr s = .ok t1) :
    parse t1 = .ok (normS s) ∧ sessionToStr (normS s) = .ok t1 :=
  canon_fixed_point s t1 hp h

/-- **C09, clause 2, full strength**: `TextIdempotent` of `Props/C09.lean` holds — for ANY text `t`, if
`str(parse(t))` succeeds with text `t1`, then `str(parse(t1))` succeeds with `t1`. -/
theorem text_idempotent : C09.TextIdempotent :=
  fun t t1 h => Lemmas.C09.text_idempotent t t1 h

/-- The stronger form: for ANY text the parser accepts, serialisation succeeds (no exception), the serialised text
is accepted again, parses to the normal form of the first result, and is a fixed point of parse-then-serialise. -/
theorem accepted_text_roundtrip (t : Str) (s : Session) (h : parse t = .ok s) :
    ∃ t1, roundTrip t = .ok t1 ∧ parse t1 = .ok (normS s) ∧ roundTrip t1 = .ok t1 := by
  have hp := parse_parsed t s h
  obtain ⟨t1, h1⟩ := canonical_serialises s hp
  obtain ⟨h2, h3⟩ := canon_fixed_point s t1 hp h1
  exact ⟨t1, by simp only [roundTrip, h, ok_bind, h1], h2, by simp only [roundTrip, h2, ok_bind, h3]⟩

/-- After one round the VALUE is a fixed point too: the reparsed description is its own normal form. -/
theorem reparsed_value_fixed (t : Str) (s : Session) (h : parse t = .ok s) : normS (normS s) = normS s :=
  -- true of every value (`normS_idem`); `h` is not needed
  have _ := h
  normS_idem s

/-- A text whose parse result is NOT structurally valid (`a=mid` without value, lone `a=rtcp-mux`, an ssrc line with
an unknown attribute, six audio channels, an empty rtcp-fb parameter, an empty fmtp, fingerprint without setup,
unknown lines) — accepted, and one round reaches the fixed point. -/
def exText : Str :=
  ("v=0\r\ns=x \r\nb=AS:1\r\nm=audio 9 RTP/AVP 96\r\na=mid\r\na=rtcp-mux\r\na=ssrc:1 foo:bar\r\n" ++
   "a=rtpmap:96 opus/48000/6\r\na=rtcp-fb:96 nack \r\na=fmtp:96 \r\na=fingerprint:sha-256 AA\r\na=foo:bar\r\n").toList

def exText1 : Str :=
  "v=0\r\no=None\r\ns=x\r\nt=0 0\r\nm=audio 9 RTP/AVP 96\r\na=rtpmap:96 opus/48000\r\na=rtcp-fb:96 nack\r\n".toList

theorem exText_roundTrip : roundTrip exText = .ok exText1 := by
  unfold exText exText1
  rewrite [String.toList_append]
  lit_toList
  decide +kernel

set_option maxRecDepth 20000 in
example : roundTrip exText = .ok exText1 := exText_roundTrip
set_option maxRecDepth 20000 in
example : roundTrip exText1 = .ok exText1 := text_idempotent exText exText1 exText_roundTrip

/- A media kind containing "/" (accepted by the regex `[^ ]+`): the codec name becomes the second piece of the kind. -/
set_option maxRecDepth 20000 in
example : roundTrip "v=0\r\nm=a/b 9 X 0\r\na=rtpmap:96 opus/48000\r\n".toList =
    .ok "v=0\r\no=None\r\ns=-\r\nt=0 0\r\nm=a/b 9 X 0\r\na=rtpmap:96 b/48000\r\n".toList := by
  lit_toList
  decide +kernel

example : DefaultsOk {} := defaultsOk_init

end Aiortc.Props.C09Text
