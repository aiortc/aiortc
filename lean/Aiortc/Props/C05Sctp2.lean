import Aiortc.Lemmas.C05.SctpWeakApp
import Aiortc.Lemmas.C05.SctpQuiet
/-!
# C05 (SCTP part): the receive path cannot be crashed from ANY state the application can reach

`Props/C05Sctp.lean` proves crash-freedom of `.rx` from the invariant `Inv`, which excludes (a) channels created
before they can get a stream id and (b) partially reliable traffic, and says nothing about the application inputs.
Here the invariant `Inv2 B e` (`Aiortc.Sctp.V2.WFx B`, see `Lemmas/C05/SctpWeakInv.lean` and `notes/C05c.md`) has neither
restriction; it holds from `Ep.init` on (phase `Pre` before `start()`), is preserved by EVERY input under the API
preconditions stated below, and makes every datagram harmless (`rx_never_crashes2_proved`,
`reachable_rx_never_crashes_proved`).  One capacity hypothesis is needed:

* the budget `B` of `Inv2 B e`: there is a set `U` of streams for partially reliable user messages with
  `|U| + (number of armed application handlers) + B ≤ 16381` (a FORWARD-TSN chunk over more streams does not fit its
  16-bit length: `Chunk.inRange`, `4 + 4·n + 4 < 65536`). `channel.send()` and arming a handler each take one unit of
  `B`; a handler that fires inside an event (also inside `_handle_data`: `open`, `message`, `datachannel`, …) spends the
  unit reserved when it was armed. Nothing else is assumed about the handlers: any kind, any channel index.

There is no capacity hypothesis on stream ids: `_data_channel_flush` closes a data channel that cannot get a stream id
instead of using one beyond 65535 (modelled in `flushLoop`), so a peer that occupies every stream id of the local
parity cannot make it queue a DATA chunk with stream id 65536.
-/
namespace Aiortc.Props.C05Sctp2
open Aiortc Aiortc.Gen Aiortc.Sctp Aiortc.Sctp.Wire

def Inv2 (B : Nat) (e : Ep) : Prop := V2.WFx B e ∧ Acc 0 e.rwnd e.inStreams ∧ SidOk e.inStreams

/-- A handler that keeps `WFx` (with budget `B'`) and touches neither the receive window nor the inbound streams
keeps the invariant. -/
theorem step_frame {B B' : Nat} {e : Ep} {now : Int} {inp : Input} (h : Inv2 B e)
    (hw : ∀ Q : Unit → St → Prop,
      Cont RxKept (V2.WFx B') e Q →
      wp NoExc (handle inp) Q ({ e with now := now }, [])) :
    (∀ k, Out.crash k ∉ (step e now inp).2) ∧ Inv2 B' (step e now inp).1 :=
  step_ok (P := Inv2 B') (hw _ (Cont.inv h.2.1 h.2.2))

/-! ## the receive path -/

/-- The property: `Inv2` alone makes every datagram harmless, and is preserved. -/
def rx_never_crashes2 : Prop :=
  ∀ (B : Nat) (e : Ep) (d cookie : Bytes) (now : Int), Inv2 B e → IsBytes d → cookie.length ≤ 1000 →
    (∀ k, Out.crash k ∉ (step e now (.rx d cookie)).2) ∧ Inv2 B (step e now (.rx d cookie)).1

/-- NO byte string makes the receive path raise or hang — in any association state, with channels still waiting for
their stream id (also when the peer occupies every id of the local parity), with partially reliable messages queued,
abandoned or in flight — and the invariant holds again. -/
theorem rx_never_crashes2_proved : rx_never_crashes2 := by
  intro B e d cookie now h hd hc
  obtain ⟨hw, ha, hs⟩ := h
  refine step_ok (P := Inv2 B) ?_
  show wp NoExc (handleData d cookie) _ _
  refine wp_handleData V2.chunkInv_WFx (hw.setNow now) ha hs hd hc ?_
  intro e' l' hw' ha' hs'
  exact ⟨hw', ha', hs'⟩

/-- `Out.crash "hang"` in particular. -/
theorem rx_no_hang2 (B : Nat) (e : Ep) (d cookie : Bytes) (now : Int)
    (h : Inv2 B e) (hd : IsBytes d) (hc : cookie.length ≤ 1000) :
    Out.crash "hang" ∉ (step e now (.rx d cookie)).2 :=
  (rx_never_crashes2_proved B e d cookie now h hd hc).1 _

/-! ## timers and queued tasks (what they need is part of the invariant) -/

/-- A timer that is armed (`asyncio` only calls back a handle that was started and not cancelled) neither raises nor
breaks the invariant. -/
theorem fire_preserves_inv2 (B : Nat) (e : Ep) (now : Int) (t : String) (h : Inv2 B e)
    (ht : t = "t1" ∧ e.t1 = true ∨ t = "t2" ∧ e.t2 = true ∨ t = "t3" ∨ t = "reconfig") :
    (∀ k, Out.crash k ∉ (step e now (.fire t)).2) ∧ Inv2 B (step e now (.fire t)).1 := by
  refine step_frame h fun Q post => ?_
  have hw0 := h.1.setNow now
  rcases ht with ⟨rfl, hc⟩ | ⟨rfl, hc⟩ | rfl | rfl
  · exact V2.wp_fire_t1 hw0 hc post
  · exact V2.wp_fire_t2 hw0 hc post
  · exact wp_fire_t3 V2.ctlInv_WFx hw0 post
  · exact V2.wp_fire_reconfig hw0 post

theorem task_preserves_inv2 (B : Nat) (e : Ep) (now : Int) (h : Inv2 B e) :
    (∀ k, Out.crash k ∉ (step e now .task).2) ∧ Inv2 B (step e now .task).1 :=
  step_frame h fun _ hq => V2.wp_runTask (h.1.setNow now) hq

/-! ## application inputs (after `start()`) -/

/-- `createDataChannel` with parameters the API can encode (`CreateOk`). -/
theorem create_preserves_inv2 (B : Nat) (e : Ep) (now : Int) (p : CreateParams)
    (h : Inv2 B e) (hp : V2.CreateOk p) :
    (∀ k, Out.crash k ∉ (step e now (.create p)).2) ∧ Inv2 B (step e now (.create p)).1 := by
  obtain ⟨hw, ha, hs⟩ := h
  refine step_ok (P := Inv2 B) ?_
  show wp NoExc (createChannel p) _ _
  refine V2.wp_create hp ?_
  intro e' l' hc
  rcases hc with rfl | ⟨c, hc⟩
  · exact ⟨hw.setNow now, ha, hs⟩
  · exact Cont.inv ha hs e' l' ((hw.setNow now).created hc) hc.kept

/-- `channel.send` on an existing channel object (any channel: if it is partially reliable its stream joins the set
of streams a FORWARD-TSN may have to list): one unit of the budget. -/
theorem send_preserves_inv2 (B : Nat) (e : Ep) (now : Int) (i : Nat) (isStr : Bool) (data : Bytes)
    (h : Inv2 (B + 1) e) (hi : i < e.chans.length) :
    (∀ k, Out.crash k ∉ (step e now (.send i isStr data)).2) ∧ Inv2 B (step e now (.send i isStr data)).1 :=
  step_frame h fun _ hq => V2.wp_send (h.1.setNow now) hi hq

/-- The application arms a one-shot event handler that will call `channel.send(data)` from inside the event
(`open`, `close`, `bufferedamountlow`, `message` of channel `i`, or the transport's `datachannel` event) — ANY kind
and ANY channel index, also one that does not exist (yet): one unit of the budget. -/
theorem react_preserves_inv2 (B : Nat) (e : Ep) (now : Int) (k i : Nat) (isStr : Bool) (data : Bytes)
    (h : Inv2 (B + 1) e) :
    (∀ c, Out.crash c ∉ (step e now (.react k i isStr data)).2) ∧ Inv2 B (step e now (.react k i isStr data)).1 :=
  step_frame h fun _ hq => V2.wp_arm (h.1.setNow now) hq

/-- The budget is an upper bound: less is fine. -/
theorem Inv2.mono {B B' : Nat} {e : Ep} (h : Inv2 B e) (hb : B' ≤ B) : Inv2 B' e :=
  ⟨h.1.mono hb, h.2⟩

/-- `channel.close()` on an existing channel while the association is ESTABLISHED (the stream reset is queued).
In the other association states `_data_channels.pop(channel.id)` raises `KeyError` if the id is not registered any
more, and `Inv2` does not track which channel objects are registered: see `close_only_keyerror`. -/
theorem close_preserves_inv2_partial (B : Nat) (e : Ep) (now : Int) (i : Nat)
    (h : Inv2 B e) (hi : i < e.chans.length) (hk : e.assoc = .established) :
    (∀ k, Out.crash k ∉ (step e now (.close i)).2) ∧ Inv2 B (step e now (.close i)).1 :=
  step_frame h fun _ hq => V2.wp_close (h.1.setNow now) hi (Or.inr hk) hq

/-- `close()` in any association state: the only exception that can escape is that `KeyError`. -/
theorem close_only_keyerror (B : Nat) (e : Ep) (now : Int) (i : Nat)
    (h : Inv2 B e) (hi : i < e.chans.length) :
    (∀ k, Out.crash k ∈ (step e now (.close i)).2 → k = "KeyError") ∧
    ((∀ k, Out.crash k ∉ (step e now (.close i)).2) → Inv2 B (step e now (.close i)).1) :=
  step_of_wp (A := fun k => k = "KeyError") (P := Inv2 B) <|
    V2.wp_close (h.1.setNow now) hi (Or.inl rfl) (Cont.inv h.2.1 h.2.2)

theorem threshold_preserves_inv2 (B : Nat) (e : Ep) (now : Int) (i : Nat) (v : Int)
    (h : Inv2 B e) (hi : i < e.chans.length) :
    (∀ k, Out.crash k ∉ (step e now (.threshold i v)).2) ∧ Inv2 B (step e now (.threshold i v)).1 :=
  step_frame h fun _ hq => V2.wp_threshold (h.1.setNow now) hi hq

theorem stop_preserves_inv2 (B : Nat) (e : Ep) (now : Int) (h : Inv2 B e) :
    (∀ k, Out.crash k ∉ (step e now .stop).2) ∧ Inv2 B (step e now .stop).1 :=
  step_frame h fun _ hq => V2.wp_stop (h.1.setNow now) hq

/-! ## before `start()`, and `start()` -/

/-- `createDataChannel` before `start()` (what `RTCPeerConnection.createDataChannel` does first). -/
theorem create_preserves_pre (B : Nat) (e : Ep) (now : Int) (p : CreateParams)
    (h : V2.Pre B e) (hp : V2.CreateOk p) :
    (∀ k, Out.crash k ∉ (step e now (.create p)).2) ∧ V2.Pre B (step e now (.create p)).1 := by
  refine step_ok (P := V2.Pre B) ?_
  show wp NoExc (createChannel p) _ _
  refine V2.wp_create hp ?_
  intro e' l' hc
  rcases hc with rfl | ⟨c, hc⟩
  · exact h.setNow now
  · exact (h.setNow now).created hc

/-- Arming a handler before `start()`. -/
theorem react_preserves_pre (B : Nat) (e : Ep) (now : Int) (k i : Nat) (isStr : Bool) (data : Bytes)
    (h : V2.Pre (B + 1) e) :
    (∀ c, Out.crash c ∉ (step e now (.react k i isStr data)).2) ∧ V2.Pre B (step e now (.react k i isStr data)).1 := by
  refine step_ok (P := V2.Pre B) ?_
  simp only [handle, wp_modE]
  exact (h.setNow now).armed _

/-- The `_data_channel_flush` task queued by it does nothing before the association is established. -/
theorem task_preserves_pre (B : Nat) (e : Ep) (now : Int) (h : V2.Pre B e) :
    (∀ k, Out.crash k ∉ (step e now .task).2) ∧ V2.Pre B (step e now .task).1 := by
  refine step_ok (P := V2.Pre B) ?_
  show wp NoExc runTask _ _
  exact V2.wp_runTask_pre (h.setNow now) (fun e' l' h' => h')

/-- `start()` with a 16-bit remote port establishes the invariant (the client sends its INIT without raising). -/
theorem start_establishes_inv2 (B : Nat) (e : Ep) (now : Int) (rp : Nat) (h : V2.Pre B e)
    (hr : rp < 65536) :
    (∀ k, Out.crash k ∉ (step e now (.start rp)).2) ∧ Inv2 B (step e now (.start rp)).1 := by
  refine step_ok (P := Inv2 B) ?_
  exact V2.wp_start (h.setNow now) hr (Cont.inv h.acc h.so)

theorem Pre.mono {B B' : Nat} {e : Ep} (h : V2.Pre B e) (hb : B' ≤ B) : V2.Pre B' e :=
  ⟨h.ns, h.cl, h.t1, h.tk, h.wf.mono hb, h.acc, h.so⟩

/-! ## arbitrary input sequences from `Ep.init` -/

/-- States reachable before `start()`: a fresh endpoint, `createDataChannel` calls, the tasks they queue, and arming
event handlers. `B` is the budget left: how many more times the application may arm a handler or call `send()`
(each may put a partially reliable message on one more stream; a FORWARD-TSN can list 16381 streams).
`C e k` is a side condition a caller may put on each step that can take `k` bytes of the receive window: `k` is the
DATA payload of a datagram (`V2.dgramDataBytes`), and 12, the length of a DATA_CHANNEL_OPEN message with empty label
and protocol, for `createDataChannel`.  `before_pre` and `reach_inv2` hold for every `C`; the property
`reachable_rx_never_crashes` takes `C := fun _ _ => True`. -/
inductive Before (C : Ep → Nat → Prop) : Nat → Ep → Prop
  | init (B : Nat) (isServer : Bool) (tag tsn : Nat) : B ≤ 16381 → tag < 4294967296 → tsn < 4294967296 →
      Before C B (Ep.init isServer tag tsn)
  | create {B : Nat} {e : Ep} (now : Int) (p : CreateParams) : Before C B e → V2.CreateOk p → C e 12 →
      Before C B (step e now (.create p)).1
  | react {B : Nat} {e : Ep} (now : Int) (k i : Nat) (isStr : Bool) (data : Bytes) : Before C (B + 1) e →
      Before C B (step e now (.react k i isStr data)).1
  | task {B : Nat} {e : Ep} (now : Int) : Before C B e → Before C B (step e now .task).1

/-- States reachable after `start()` by ANY sequence of inputs: datagrams of bytes (with a cookie of ≤ 1000 bytes for
the INIT-ACK), expiries of armed timers, queued tasks, and the application calls under the preconditions of the API:
`createDataChannel` with encodable parameters, `send` / `close` / `bufferedAmountLowThreshold` on existing channel
objects, `close()` while established, arming ANY event handler that re-enters `send()`; `send` and arming a handler
each take one unit of the budget `B`. -/
inductive Reach (C : Ep → Nat → Prop) : Nat → Ep → Prop
  | start {B : Nat} {e : Ep} (now : Int) (rp : Nat) : Before C B e → rp < 65536 → Reach C B (step e now (.start rp)).1
  | rx {B : Nat} {e : Ep} (now : Int) (d cookie : Bytes) : Reach C B e → IsBytes d → cookie.length ≤ 1000 →
      C e (V2.dgramDataBytes d) → Reach C B (step e now (.rx d cookie)).1
  | fire {B : Nat} {e : Ep} (now : Int) (t : String) : Reach C B e →
      (t = "t1" ∧ e.t1 = true ∨ t = "t2" ∧ e.t2 = true ∨ t = "t3" ∨ t = "reconfig") →
      Reach C B (step e now (.fire t)).1
  | task {B : Nat} {e : Ep} (now : Int) : Reach C B e → Reach C B (step e now .task).1
  | create {B : Nat} {e : Ep} (now : Int) (p : CreateParams) : Reach C B e → V2.CreateOk p → C e 12 →
      Reach C B (step e now (.create p)).1
  | send {B : Nat} {e : Ep} (now : Int) (i : Nat) (isStr : Bool) (data : Bytes) : Reach C (B + 1) e →
      i < e.chans.length → Reach C B (step e now (.send i isStr data)).1
  | react {B : Nat} {e : Ep} (now : Int) (k i : Nat) (isStr : Bool) (data : Bytes) : Reach C (B + 1) e →
      Reach C B (step e now (.react k i isStr data)).1
  | close {B : Nat} {e : Ep} (now : Int) (i : Nat) : Reach C B e → i < e.chans.length → e.assoc = .established →
      Reach C B (step e now (.close i)).1
  | threshold {B : Nat} {e : Ep} (now : Int) (i : Nat) (v : Int) : Reach C B e → i < e.chans.length →
      Reach C B (step e now (.threshold i v)).1
  | stop {B : Nat} {e : Ep} (now : Int) : Reach C B e → Reach C B (step e now .stop).1

theorem before_pre (C : Ep → Nat → Prop) {B : Nat} {e : Ep} (h : Before C B e) : V2.Pre B e := by
  induction h with
  | init B isServer tag tsn hB ht hs => exact .init hB isServer ht hs
  | create now p _ hp _ ih => exact (create_preserves_pre _ _ now p ih hp).2
  | react now k i isStr data _ ih => exact (react_preserves_pre _ _ now k i isStr data ih).2
  | task now _ ih => exact (task_preserves_pre _ _ now ih).2

/-- The invariant holds in every reachable state. -/
theorem reach_inv2 (C : Ep → Nat → Prop) {B : Nat} {e : Ep} (h : Reach C B e) : Inv2 B e := by
  induction h with
  | start now rp hb hr => exact (start_establishes_inv2 _ _ now rp (before_pre C hb) hr).2
  | rx now d cookie _ hd hc _ ih => exact (rx_never_crashes2_proved _ _ d cookie now ih hd hc).2
  | fire now t _ ht ih => exact (fire_preserves_inv2 _ _ now t ih ht).2
  | task now _ ih => exact (task_preserves_inv2 _ _ now ih).2
  | create now p _ hp _ ih => exact (create_preserves_inv2 _ _ now p ih hp).2
  | send now i isStr data _ hi ih => exact (send_preserves_inv2 _ _ now i isStr data ih hi).2
  | react now k i isStr data _ ih => exact (react_preserves_inv2 _ _ now k i isStr data ih).2
  | close now i _ hi hk ih => exact (close_preserves_inv2_partial _ _ now i ih hi hk).2
  | threshold now i v _ hi ih => exact (threshold_preserves_inv2 _ _ now i v ih hi).2
  | stop now _ ih => exact (stop_preserves_inv2 _ _ now ih).2

/-- The property: no state reachable from `Ep.init` — with any event handlers armed — can be crashed by a datagram. -/
def reachable_rx_never_crashes : Prop :=
  ∀ (B : Nat) (e : Ep), Reach (fun _ _ => True) B e →
    ∀ (d cookie : Bytes) (now : Int), IsBytes d → cookie.length ≤ 1000 →
      ∀ k, Out.crash k ∉ (step e now (.rx d cookie)).2

/-- In a state reached by any run (inputs under the API preconditions of `Reach`) no byte string can crash or hang
the receive path. -/
theorem reachable_rx_never_crashes_proved : reachable_rx_never_crashes :=
  fun B e h d cookie now hd hc =>
    (rx_never_crashes2_proved B e d cookie now (reach_inv2 _ h) hd hc).1

/-! ## constants, and the hypotheses are satisfiable -/

/-- 16381 is exactly the largest stream count a FORWARD-TSN chunk can carry. -/
theorem forward_tsn_capacity (streams : List (Nat × Nat)) (h : pairsInRange streams = true) :
    (Chunk.forwardTsn 0 0 streams).inRange = true ↔ streams.length ≤ 16381 := by
  simp only [Chunk.inRange, h, Bool.and_true, Bool.and_eq_true, decide_eq_true_eq]
  omega

/-- A started client with a partially reliable channel created before `start()` (still waiting for its stream id) and
two armed handlers (a `datachannel` handler, and an `open` handler for a channel that does not exist) is reachable and
satisfies the invariant. -/
example : ∃ e, Reach (fun _ _ => True) 100 e ∧ Inv2 100 e ∧ (e.chans.map (·.id)) = [none] ∧ e.reactions.length = 2 := by
  let p : CreateParams := { label := [99], protocol := [], ordered := true, maxRetransmits := some 0,
                            maxPacketLifeTime := none, negotiated := false, id := none }
  have hp : V2.CreateOk p := by
    refine ⟨by decide, by decide, ?_, ?_, ?_⟩
    · intro r hr; cases hr; decide
    · intro r hr; cases hr
    · intro v hv; cases hv
  have hb0 : Before (fun _ _ => True) 102 (Ep.init false 222 5000) :=
    .init 102 false 222 5000 (by decide) (by decide) (by decide)
  have hb1 := Before.create (C := fun _ _ => True) 1024000 p hb0 hp trivial
  have hb2 := Before.react (C := fun _ _ => True) 1024000 4 0 true [104, 105] hb1
  have hr := Reach.start (C := fun _ _ => True) 1024000 5000 hb2 (by decide)
  have hr2 := Reach.react (C := fun _ _ => True) 1024000 0 7 false [1] hr
  exact ⟨_, hr2, reach_inv2 _ hr2, by decide +kernel, by decide +kernel⟩

end Aiortc.Props.C05Sctp2
