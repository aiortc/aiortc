import Aiortc.Model.Rate
import Aiortc.Lemmas.C15.RateCounter
import Aiortc.Lemmas.Dict
/-!
# C15 — the REMB bandwidth estimate: what is measured, what is reported

The model is `Model/Rate.lean` with `Model/RateAimd.lean` and `Model/RateCounter.lean` (`rate.py`: `RateCounter`, `AimdRateControl`,
`RemoteBitrateEstimator.add`; the REMB packing of `rtp.py`).  Floats enter only through the record `AimdFloats` of the float
helpers the controller calls: every theorem holds for all `fl`, and each float fact it needs is a hypothesis (or a field of
`SignFacts`), checked on the real functions by the harness.
-/
namespace Aiortc.Props.C15
open Aiortc Aiortc.Model.Rate Aiortc.Model.Rate.Aimd

theorem effective_eq (a : Aimd) (est : Option Int) :
    effective a est = ({ a with latest := est.getD a.latest }, est.getD a.latest) := by
  cases est <;> rfl

theorem initStep_frame (a : Aimd) (est : Option Int) (now : Int) :
    ∃ c i f, initStep a est now = { a with current := c, initialized := i, firstTime := f } := by
  unfold initStep; repeat' split
  all_goals exact ⟨_, _, _, rfl⟩

theorem initStep_current (a : Aimd) (est : Option Int) (now : Int) :
    (initStep a est now).current = a.current ∨ est = some (initStep a est now).current := by
  unfold initStep; repeat' split
  all_goals simp

theorem stateStep_cases (a : Aimd) (u : Usage) (now : Int) :
    stateStep a u now = { a with lastChange := some now, state := .increase } ∨
    stateStep a u now = { a with state := .decrease } ∨
    stateStep a u now = { a with state := .hold } ∨ stateStep a u now = a := by
  unfold stateStep; repeat' split
  · exact Or.inl rfl
  · exact Or.inr (Or.inl rfl)
  · exact Or.inr (Or.inr (Or.inl rfl))
  · exact Or.inr (Or.inr (Or.inr rfl))

theorem stateStep_frame (a : Aimd) (u : Usage) (now : Int) :
    ∃ l s, stateStep a u now = { a with lastChange := l, state := s } := by
  rcases stateStep_cases a u now with e | e | e | e <;> exact ⟨_, _, e⟩

theorem stateStep_overusing (a : Aimd) (now : Int) : (stateStep a .overusing now).state = .decrease := by
  unfold stateStep; simp

theorem stateStep_lastChange (a : Aimd) (u : Usage) (now : Int) :
    (stateStep a u now).lastChange = a.lastChange ∨ (stateStep a u now).lastChange = some now := by
  rcases stateStep_cases a u now with e | e | e | e <;> rw [e]
  · exact Or.inr rfl
  all_goals exact Or.inl rfl

theorem stateStep_increase_last (a : Aimd) (u : Usage) (now : Int)
    (hi : a.state = .increase → ∃ l, a.lastChange = some l)
    (h : (stateStep a u now).state = .increase) : ∃ l, (stateStep a u now).lastChange = some l := by
  rcases stateStep_cases a u now with e | e | e | e <;> rw [e] at h ⊢
  · exact ⟨now, rfl⟩
  · cases h
  · cases h
  · exact hi h

theorem bitrateStep_ok {fl : AimdFloats} {a : Aimd} {m now : Int} {a4 : Aimd} {nb : Int}
    (h : bitrateStep fl a m now = .ok (a4, nb)) :
    ∃ avg var nm l s, a4 = { a with avgMax := avg, varMax := var, nearMax := nm, lastChange := l, state := s } ∧
      match a.state with
      | .hold => a4 = a ∧ nb = a.current
      | .decrease => fl.round85 m = .ok nb ∧ l = some now ∧ s = .hold
      | .increase => l = some now ∧ s = .increase ∧ ∃ inc, nb = a.current + inc ∧
          (if nm then additiveInc fl a.lastChange now a.current a.rtt else fl.multInc a.current a.lastChange now)
            = .ok inc := by
  unfold bitrateStep at h
  split at h
  · split at h
    · rename_i hs
      split at h
      · simp only at h
        split at h
        · rename_i inc hinc
          cases h
          exact ⟨_, _, _, _, _, rfl, by rw [hs]; exact ⟨rfl, rfl, inc, rfl, hinc⟩⟩
        all_goals cases h
      all_goals cases h
    · rename_i hs
      split at h
      · split at h
        · rename_i r hr
          cases h
          exact ⟨_, _, _, _, _, rfl, by rw [hs]; exact ⟨hr, rfl, rfl⟩⟩
        all_goals cases h
      all_goals cases h
    · rename_i hs
      cases h
      exact ⟨_, _, _, _, _, rfl, by rw [hs]; exact ⟨rfl, rfl⟩⟩
  all_goals cases h

theorem updateWith_some {fl : AimdFloats} {a : Aimd} {u : Usage} {est : Option Int} {now : Int}
    {a' : Aimd} {v : Int} (h : updateWith fl a u est now = .ok (a', some v)) :
    ∃ a4 nb f15,
      bitrateStep fl { stateStep (initStep a est now) u now with latest := est.getD a.latest }
        (est.getD a.latest) now = .ok (a4, nb) ∧
      fl.int15 (est.getD a.latest) = .ok f15 ∧
      v = clamp (initStep a est now).current nb f15 ∧ a' = { a4 with current := v } := by
  unfold updateWith at h
  simp only [effective_eq] at h
  split at h
  · cases h
  · split at h
    · rename_i a4 nb hb
      split at h
      · rename_i f15 hf
        injection h with h
        injection h with h1 h2
        injection h2 with h2
        obtain ⟨_, _, _, e1⟩ := initStep_frame a est now
        obtain ⟨_, _, e2⟩ := stateStep_frame (initStep a est now) u now
        obtain ⟨_, _, _, _, _, e4, -⟩ := bitrateStep_ok hb
        have hl : (stateStep (initStep a est now) u now).latest = a.latest := by rw [e2, e1]
        rw [hl] at hb hf
        refine ⟨a4, nb, f15, hb, hf, ?_, by rw [← h1, h2]⟩
        rw [← h2, e4, e2]
      all_goals cases h
    all_goals cases h

theorem updateWith_none {fl : AimdFloats} {a : Aimd} {u : Usage} {est : Option Int} {now : Int}
    {a' : Aimd} (h : updateWith fl a u est now = .ok (a', none)) :
    a' = initStep a est now ∧ u ≠ .overusing := by
  unfold updateWith at h
  simp only [] at h
  split at h
  · rename_i hc; cases h; exact ⟨rfl, hc.2⟩
  · repeat' split at h
    all_goals cases h

/-- the literal numbers of the property text are the regenerated constants of the working tree -/
theorem rate_const :
    Gen.RATE_WINDOW_MS = 1000 ∧ Gen.RATE_SCALE = 8000 ∧ Gen.RATE_CLAMP_OFFSET = 10000 ∧
    Gen.RATE_FEEDBACK_INTERVAL_MS = 500 ∧ Gen.RATE_INITIAL_BITRATE = 30000000 ∧
    Gen.RATE_INITIAL_THROUGHPUT = 30000000 ∧ Gen.RATE_RTT_MS = 200 := by decide

theorem clamp_eq (cur nb f15 : Int) : clamp cur nb f15 = min nb (max (f15 + 10000) cur) := rfl

/-! ## AimdRateControl: the property clauses

`m` is the throughput the update works with: the measured rate passed in, or the latest measured one when
`RateCounter.rate` returned `None`.  All theorems hold for every family `fl` of float helpers. -/

/-- **Cap.** Whatever the float helpers compute, a reported estimate is at most
`max(int(1.5·m) + 10000, previous estimate, m)` and becomes the new `current_bitrate`. -/
theorem update_cap {fl : AimdFloats} {a : Aimd} {u : Usage} {est : Option Int} {now : Int}
    {a' : Aimd} {v : Int} (h : updateWith fl a u est now = .ok (a', some v)) :
    ∃ f15, fl.int15 (est.getD a.latest) = .ok f15 ∧
      v ≤ max (f15 + 10000) (max a.current (est.getD a.latest)) ∧ a'.current = v := by
  obtain ⟨a4, nb, f15, _, hf, hv, ha⟩ := updateWith_some h
  refine ⟨f15, hf, ?_, by rw [ha]⟩
  rw [clamp_eq] at hv
  rcases initStep_current a est now with h1 | h1
  · rw [h1] at hv; omega
  · rw [h1, Option.getD_some]; omega

/-- **"An estimate never rises above 1.5 × the latest measured incoming bitrate + 10 kbit/s"**, with the
literal numbers of the property; the only float fact used is `int(1.5·m) ≤ ⌊3m/2⌋` (stated as a hypothesis
on the value the helper returned). -/
theorem update_never_rises_above {fl : AimdFloats} {a : Aimd} {u : Usage} {est : Option Int} {now : Int}
    {a' : Aimd} {v : Int} (h : updateWith fl a u est now = .ok (a', some v))
    (hm : 0 ≤ est.getD a.latest)
    (h15 : ∀ f, fl.int15 (est.getD a.latest) = .ok f → f ≤ 3 * (est.getD a.latest) / 2) :
    v ≤ max (3 * (est.getD a.latest) / 2 + 10000) a.current ∧
    (a.current < v → 2 * v ≤ 3 * (est.getD a.latest) + 20000) := by
  obtain ⟨f15, hf, hv, _⟩ := update_cap h
  have := h15 f15 hf
  omega

/-- over-use: the bitrate step is the `decrease` one, so the report is `round(0.85·m)` under the clamp -/
theorem updateWith_overusing {fl : AimdFloats} {a : Aimd} {est : Option Int} {now : Int} {a' : Aimd} {v : Int}
    (h : updateWith fl a .overusing est now = .ok (a', some v)) :
    ∃ nb f15, fl.round85 (est.getD a.latest) = .ok nb ∧ fl.int15 (est.getD a.latest) = .ok f15 ∧
      v = clamp (initStep a est now).current nb f15 := by
  obtain ⟨a4, nb, f15, hb, hf, hv, _⟩ := updateWith_some h
  obtain ⟨_, _, _, _, _, _, hm⟩ := bitrateStep_ok hb
  rw [show (_ : Aimd).state = _ from stateStep_overusing (initStep a est now) now] at hm
  exact ⟨nb, f15, hm.1, hf, hv⟩

/-- **Over-use always reports, and cuts.** With `OVERUSING` the controller never waits (`None`), and the
reported value is at most `round(0.85·m)`. -/
theorem update_overuse_cut {fl : AimdFloats} {a : Aimd} {est : Option Int} {now : Int}
    {a' : Aimd} {r : Option Int} (h : updateWith fl a .overusing est now = .ok (a', r)) :
    ∃ v r85, r = some v ∧ fl.round85 (est.getD a.latest) = .ok r85 ∧ v ≤ r85 := by
  cases r with
  | none => exact absurd rfl (updateWith_none h).2
  | some v =>
    obtain ⟨nb, f15, h85, _, hv⟩ := updateWith_overusing h
    exact ⟨v, nb, rfl, h85, by rw [hv, clamp_eq]; omega⟩

/-- **"on detected over-use it is cut to at most 85 % of that measurement"** with the literal numbers;
float fact used: `round(0.85·m) ≤ 0.85·m + 1`. -/
theorem update_overuse_85 {fl : AimdFloats} {a : Aimd} {est : Option Int} {now : Int}
    {a' : Aimd} {v : Int} (h : updateWith fl a .overusing est now = .ok (a', some v))
    (h85 : ∀ r, fl.round85 (est.getD a.latest) = .ok r → 100 * r ≤ 85 * (est.getD a.latest) + 100) :
    100 * v ≤ 85 * (est.getD a.latest) + 100 := by
  obtain ⟨v', r85, hr, hf, hv⟩ := update_overuse_cut h
  cases hr
  have := h85 r85 hf
  omega

/-- **Over-use cuts to exactly `round(0.85·m)`** — the value the harness oracle recomputes from the inputs and
compares with the reported estimate: the clamp cannot bind when `round(0.85·m) ≤ int(1.5·m) + 10000`
(a float fact for `m ≥ 0`, checked by `misc:hyp` on every run).  With `update_overuse_cut` this says that an
over-use report reveals the measurement the controller worked with. -/
theorem update_overuse_exact {fl : AimdFloats} {a : Aimd} {est : Option Int} {now : Int}
    {a' : Aimd} {v : Int} (h : updateWith fl a .overusing est now = .ok (a', some v))
    (hle : ∀ r f, fl.round85 (est.getD a.latest) = .ok r → fl.int15 (est.getD a.latest) = .ok f → r ≤ f + 10000) :
    fl.round85 (est.getD a.latest) = .ok v := by
  obtain ⟨nb, f15, h85, hf, hv⟩ := updateWith_overusing h
  have hn := hle nb f15 h85 hf
  have : v = nb := by rw [hv, clamp_eq]; omega
  rw [this]; exact h85

/-- **Every update that reports records the measurement it was given as the latest one — a measurement of
exactly 0 bit/s (only empty packets in the window) included** — and an update without a measurement
(`RateCounter.rate` returned `None`) keeps the latest one.  Together with `update_cap` /
`update_overuse_cut` (whose `m` is `est.getD a.latest`): the bounds always refer to the latest measurement. -/
theorem update_records_measurement {fl : AimdFloats} {a : Aimd} {u : Usage} {est : Option Int} {now : Int}
    {a' : Aimd} {v : Int} (h : updateWith fl a u est now = .ok (a', some v)) :
    a'.latest = est.getD a.latest := by
  obtain ⟨a4, nb, f15, hb, _, _, rfl⟩ := updateWith_some h
  obtain ⟨_, _, _, _, _, rfl, -⟩ := bitrateStep_ok hb
  rfl

/-! ### the division by zero of `_near_max_rate_increase` (DESIGN.md §4, C15) -/

/-- In the upstream code `packets_per_frame = math.ceil(…)` is 0 whenever `current_bitrate` is 0 and the
division `bits_per_frame / packets_per_frame` raises: for any float helpers that report 0 packets. -/
theorem nearMaxInc_unfixed_zero_division (fl : AimdFloats) (cur rtt : Int) (bpf : Float)
    (h : fl.framePackets cur = .ok (bpf, 0)) :
    nearMaxIncUnfixed fl cur rtt = .crash "ZeroDivisionError" := by
  unfold nearMaxIncUnfixed; rw [h]; rfl

/-- With `fixes/C15-near-max-zero-division.patch` (`max(1, math.ceil(…))`) both integer divisors are
non-zero: the function is exactly the float tail applied to a packet count ≥ 1. -/
theorem nearMaxInc_no_zero_division (fl : AimdFloats) (cur rtt : Int) (bpf : Float) (p : Int)
    (h : fl.framePackets cur = .ok (bpf, p)) (hr : 0 ≤ rtt) :
    nearMaxInc fl cur rtt = (fl.nearMaxTail bpf (max 1 p) (rtt + 100)).bind (fun q => .ok (max 4000 q))
      ∧ 1 ≤ max 1 p := by
  unfold nearMaxInc; rw [h]
  simp only []
  rw [if_neg (by omega), if_neg (by omega)]
  refine ⟨?_, by omega⟩
  cases fl.nearMaxTail bpf (max 1 p) (rtt + 100) <;> rfl

/-- Invariant of the controller at time `t` (the time of the latest `update`). -/
structure AInv (a : Aimd) (t : Int) : Prop where
  cur : 0 ≤ a.current
  latest : 0 ≤ a.latest
  rtt : 0 ≤ a.rtt
  inc : a.state = .increase → ∃ l, a.lastChange = some l
  last : ∀ l, a.lastChange = some l → l ≤ t
  notDec : a.state ≠ .decrease

theorem ainv_new (t : Int) : AInv Aimd.new t := by
  refine ⟨(by decide), (by decide), (by decide), ?_, ?_, (by decide)⟩
  · intro h; cases h
  · intro l h; cases h

/-- an update that does not report (waiting for initialisation) leaves the latest measurement untouched -/
theorem update_wait_keeps_latest {fl : AimdFloats} {a : Aimd} {u : Usage} {est : Option Int} {now : Int}
    {a' : Aimd} (h : updateWith fl a u est now = .ok (a', none)) : a'.latest = a.latest := by
  obtain ⟨_, _, _, e⟩ := initStep_frame a est now
  rw [(updateWith_none h).1, e]

theorem nearMaxInc_ge {fl : AimdFloats} {cur rtt r : Int} (h : nearMaxInc fl cur rtt = .ok r) : 4000 ≤ r := by
  unfold nearMaxInc at h
  repeat' (first | split at h | (dsimp only at h; split at h))
  all_goals (cases h <;> omega)

/-- Float facts about signs, true of the real helpers (`int(max(x, 1000))`, `round(0.85·m)` for `m ≥ 0`,
`int(x / 1000)` for `x ≥ 0`); hypotheses of `update_nonneg`. -/
structure SignFacts (fl : AimdFloats) : Prop where
  r85 : ∀ m r, 0 ≤ m → fl.round85 m = .ok r → 0 ≤ r
  mul : ∀ nb l n x, fl.multInc nb l n = .ok x → 0 ≤ x
  sc : ∀ x y, 0 ≤ x → fl.scale1000 x = .ok y → 0 ≤ y

theorem additiveInc_nonneg {fl : AimdFloats} (sf : SignFacts fl) {last : Option Int} {now cur rtt inc : Int}
    (hl : ∀ l, last = some l → l ≤ now) (h : additiveInc fl last now cur rtt = .ok inc) : 0 ≤ inc := by
  unfold additiveInc at h
  split at h
  · cases h
  · rename_i l
    split at h
    · rename_i q hq
      have := nearMaxInc_ge hq
      have := hl l rfl
      exact sf.sc _ _ (Int.mul_nonneg (by omega) (by omega)) h
    all_goals cases h

/-- **Estimates are non-negative integers**, and the invariant is kept: for non-negative measurements and
non-decreasing times. -/
theorem update_nonneg {fl : AimdFloats} (sf : SignFacts fl) {a : Aimd} {u : Usage} {est : Option Int}
    {t now : Int} {a' : Aimd} {r : Option Int} (inv : AInv a t) (ht : t ≤ now)
    (hest : ∀ m, est = some m → 0 ≤ m) (h : updateWith fl a u est now = .ok (a', r)) :
    AInv a' now ∧ ∀ v, r = some v → 0 ≤ v := by
  have hic : 0 ≤ (initStep a est now).current := by
    rcases initStep_current a est now with h1 | h1
    · rw [h1]; exact inv.cur
    · exact hest _ h1
  have hlast : ∀ l, a.lastChange = some l → l ≤ now := fun l hl => Int.le_trans (inv.last l hl) ht
  obtain ⟨_, _, _, e1⟩ := initStep_frame a est now
  cases r with
  | none =>
    rw [(updateWith_none h).1]
    rw [e1] at hic ⊢
    exact ⟨⟨hic, inv.latest, inv.rtt, inv.inc, hlast, inv.notDec⟩, fun v hv => by cases hv⟩
  | some v =>
    obtain ⟨a4, nb, f15, hb, _, hv, rfl⟩ := updateWith_some h
    have hm : 0 ≤ est.getD a.latest := by
      cases est with
      | none => exact inv.latest
      | some m => exact hest m rfl
    have hinc2 := stateStep_increase_last (initStep a est now) u now (by rw [e1]; exact inv.inc)
    have hlast2 : ∀ l, (stateStep (initStep a est now) u now).lastChange = some l → l ≤ now := by
      intro l hl
      rcases stateStep_lastChange (initStep a est now) u now with h1 | h1
      · rw [h1, e1] at hl; exact hlast l hl
      · rw [h1] at hl; cases hl; exact Int.le_refl _
    obtain ⟨_, _, e2⟩ := stateStep_frame (initStep a est now) u now
    have hc2 : 0 ≤ (stateStep (initStep a est now) u now).current := by rw [e2]; exact hic
    have hr2 : 0 ≤ (stateStep (initStep a est now) u now).rtt := by rw [e2, e1]; exact inv.rtt
    generalize stateStep (initStep a est now) u now = a2 at *
    suffices hA : AInv { a4 with current := v } now from ⟨hA, fun _ e => by cases e; exact hA.cur⟩
    have hv0 : 0 ≤ nb → 0 ≤ v := fun _ => by rw [hv, clamp_eq]; omega
    obtain ⟨_, _, nm, _, _, rfl, hb⟩ := bitrateStep_ok hb
    cases hst : a2.state <;> rw [hst] at hb
    case hold =>
      obtain ⟨e, rfl⟩ := hb
      rw [e]
      exact ⟨hv0 hc2, hm, hr2, hinc2, hlast2, by rw [hst]; decide⟩
    case decrease =>
      obtain ⟨h85, rfl, rfl⟩ := hb
      refine ⟨hv0 (sf.r85 _ _ hm h85), hm, hr2, ?_, ?_, ?_⟩
      · intro hh; cases hh
      · intro l hl; cases hl; exact Int.le_refl _
      · intro hh; cases hh
    case increase =>
      obtain ⟨rfl, rfl, inc, rfl, hinc⟩ := hb
      have : 0 ≤ inc := by
        cases nm with
        | true => exact additiveInc_nonneg sf hlast2 hinc
        | false => exact sf.mul _ _ _ _ hinc
      refine ⟨hv0 (Int.add_nonneg hc2 this), hm, hr2, fun _ => ⟨now, rfl⟩, ?_, ?_⟩
      · intro l hl; cases hl; exact Int.le_refl _
      · intro hh; cases hh

/-- "Every float helper call that `update` performs on this input succeeds" (finite operands), spelled
out call by call for the state `a` on which the bitrate step runs. -/
def FloatsOk (fl : AimdFloats) (a : Aimd) (m now : Int) : Prop :=
  ∃ kbps, fl.kbpsOf m = .ok kbps ∧ (∃ f, fl.int15 m = .ok f) ∧
    (a.state = .decrease →
      (∃ x, fl.decreaseMax a.avgMax a.varMax kbps = .ok x) ∧ (∃ r, fl.round85 m = .ok r)) ∧
    (a.state = .increase →
      ∃ nm avg, fl.increaseClear a.nearMax a.avgMax a.varMax kbps = .ok (nm, avg) ∧
        (nm = false → ∃ x, fl.multInc a.current a.lastChange now = .ok x) ∧
        (nm = true → ∃ bpf p q, fl.framePackets a.current = .ok (bpf, p) ∧
            fl.nearMaxTail bpf (max 1 p) (a.rtt + 100) = .ok q ∧
            ∀ l, a.lastChange = some l → ∃ x, fl.scale1000 ((now - l) * max 4000 q) = .ok x))

theorem bitrateStep_total {fl : AimdFloats} {a : Aimd} {m now : Int}
    (hinc : a.state = .increase → ∃ l, a.lastChange = some l) (hr : 0 ≤ a.rtt)
    (ok : FloatsOk fl a m now) : ∃ a4 nb, bitrateStep fl a m now = .ok (a4, nb) := by
  obtain ⟨kbps, hk, _, hdec, hup⟩ := ok
  unfold bitrateStep
  rw [hk]
  cases hst : a.state with
  | hold => exact ⟨_, _, rfl⟩
  | decrease =>
    obtain ⟨⟨x, hx⟩, ⟨r, hr85⟩⟩ := hdec hst
    simp only [hx, hr85]
    exact ⟨_, _, rfl⟩
  | increase =>
    obtain ⟨nm, avg, hc, hmul, hadd⟩ := hup hst
    obtain ⟨l, hl⟩ := hinc hst
    simp only [hc]
    cases nm with
    | false =>
      obtain ⟨x, hx⟩ := hmul rfl
      simp only [hx, Bool.false_eq_true, if_false]
      exact ⟨_, _, rfl⟩
    | true =>
      obtain ⟨bpf, p, q, hfp, htail, hsc⟩ := hadd rfl
      obtain ⟨x, hx⟩ := hsc l hl
      have hnm : nearMaxInc fl a.current a.rtt = .ok (max 4000 q) := by
        unfold nearMaxInc; rw [hfp]
        simp only []
        rw [if_neg (by omega), if_neg (by omega), htail]
      have hadd' : additiveInc fl a.lastChange now a.current a.rtt = .ok x := by
        unfold additiveInc; rw [hl]; simp only [hnm]; exact hx
      simp only [hadd', if_true]
      exact ⟨_, _, rfl⟩

/-- **The integer control flow of `update` cannot fail** (with the fix): if every float helper call it
makes returns a value, `update` returns normally — no division by zero in `_near_max_rate_increase`, no
`None - int` in `_additive_rate_increase`, whatever the history that led to the state (`AInv`). -/
theorem update_total {fl : AimdFloats} {a : Aimd} {u : Usage} {est : Option Int} {t now : Int}
    (inv : AInv a t)
    (ok : FloatsOk fl (effective (stateStep (initStep a est now) u now) est).1
            (effective (stateStep (initStep a est now) u now) est).2 now) :
    ∃ a' r, updateWith fl a u est now = .ok (a', r) := by
  obtain ⟨_, _, _, e1⟩ := initStep_frame a est now
  obtain ⟨_, _, e2⟩ := stateStep_frame (initStep a est now) u now
  have hinc := stateStep_increase_last (initStep a est now) u now (by rw [e1]; exact inv.inc)
  have hr : 0 ≤ (stateStep (initStep a est now) u now).rtt := by rw [e2, e1]; exact inv.rtt
  obtain ⟨a4, nb, hb⟩ :=
    bitrateStep_total (by rw [effective_eq]; exact hinc) (by rw [effective_eq]; exact hr) ok
  obtain ⟨_, _, ⟨f, hf⟩, _⟩ := ok
  unfold updateWith
  simp only []
  split
  · exact ⟨_, _, rfl⟩
  · simp only [hb, hf]
    exact ⟨_, _, rfl⟩

/-! ## RateCounter: the window is exactly the last `window_size` ms

`H` is the list of samples `(time, value)` added since the constructor / last `reset()`, `last` the time of
the latest `add` / `rate` call.  `inWindow W last t` is `last - W < t ≤ last`. -/

def inWindow (W : Nat) (last t : Int) : Bool := decide (last - W < t) && decide (t ≤ last)

def Inv (rc : RateCounter) (H : List Sample) (last : Int) : Prop :=
  (Fresh rc ∧ H = []) ∨
  ∃ o, Core rc o H ∧ o ≤ last ∧ last < o + rc.window ∧ (∀ s ∈ H, s.1 ≤ last) ∧
    (∀ s ∈ H, o ≤ s.1 ∨ s.1 + rc.window ≤ last)

theorem counter_new_inv (W : Nat) (scale : Int) (hW : 0 < W) (t : Int) :
    Inv (RateCounter.new W scale) [] t := Or.inl ⟨fresh_new W scale hW, rfl⟩

theorem counter_reset_inv (rc : RateCounter) (hW : 0 < rc.window) (t : Int) : Inv rc.reset [] t :=
  Or.inl ⟨fresh_reset rc hW, rfl⟩

theorem inv_window_pos {rc : RateCounter} {H : List Sample} {last : Int} (inv : Inv rc H last) :
    0 < rc.window := by
  rcases inv with ⟨f, _⟩ | ⟨o, c, _⟩
  · exact f.wpos
  · exact c.wpos

/-- `_origin_ms` after `_erase_old(now)` (or after `add` sets it on a fresh counter). -/
def originAfter (rc : RateCounter) (now : Int) : Int :=
  match rc.originMs with
  | none => now
  | some o => max o (now - rc.window + 1)

theorem originAfter_lt {rc : RateCounter} {o now : Int} (ho : rc.originMs = some o) (hlt : o < now)
    (hw : 1 < rc.window) : originAfter rc now < now := by
  simp only [originAfter, ho]
  omega

theorem inWindow_iff {W : Nat} {last t : Int} : inWindow W last t = true ↔ last - W < t ∧ t ≤ last := by
  unfold inWindow; rw [Bool.and_eq_true, decide_eq_true_eq, decide_eq_true_eq]

theorem hist_advance {W : Nat} {o last now : Int} {H : List Sample} (hmono : last ≤ now)
    (h3 : ∀ s ∈ H, s.1 ≤ last) (h4 : ∀ s ∈ H, o ≤ s.1 ∨ s.1 + W ≤ last) :
    (∀ s ∈ H, s.1 ≤ now) ∧ ∀ s ∈ H, max o (now - W + 1) ≤ s.1 ∨ s.1 + W ≤ now := by
  refine ⟨fun s hs => Int.le_trans (h3 s hs) hmono, fun s hs => ?_⟩
  have := h3 s hs
  have := h4 s hs
  omega

/-- **`add` never raises and keeps the invariant**, for any value and any `now ≥ last`. -/
theorem counter_add_ok {rc : RateCounter} {H : List Sample} {last : Int} (inv : Inv rc H last)
    (v now : Int) (hmono : last ≤ now) :
    ∃ rc', rc.add v now = .ok rc' ∧ Inv rc' ((now, v) :: H) now ∧ rc'.window = rc.window ∧
      rc'.scale = rc.scale ∧ rc'.originMs = some (originAfter rc now) := by
  rcases inv with ⟨f, hH⟩ | ⟨o, c, h1, h2, h3, h4⟩
  · subst hH
    obtain ⟨rc', ha, c', w, sc⟩ := add_fresh f v now
    have := f.wpos
    exact ⟨rc', ha, Or.inr ⟨now, c', Int.le_refl _, by omega, by simp, by simp⟩, w, sc,
      by rw [c'.origin]; unfold originAfter; rw [f.origin]⟩
  · obtain ⟨rc', ha, c', w, sc⟩ := add_core c v now (by omega)
    obtain ⟨h3', h4'⟩ := hist_advance hmono h3 h4
    have := c.wpos
    refine ⟨rc', ha, Or.inr ⟨_, c', by omega, by omega, List.forall_mem_cons.2 ⟨Int.le_refl _, h3'⟩,
      List.forall_mem_cons.2 ⟨Or.inl (by show max o _ ≤ now; omega), by rw [w]; exact h4'⟩⟩, w, sc,
      by rw [c'.origin]; unfold originAfter; rw [c.origin]⟩

/-- **`rate` never raises and keeps the invariant**, for any `now ≥ last`; its value is the half-to-even
rounding of `scale · bytes / active_window` where `bytes`, `count` are those of the window ending at `now`
and `1 ≤ active_window ≤ window_size`; `None` iff the window is empty or only 1 ms is active. -/
theorem counter_rate_ok {rc : RateCounter} {H : List Sample} {last : Int} (inv : Inv rc H last)
    (now : Int) (hmono : last ≤ now) :
    ∃ rc' r, rc.rate now = .ok (rc', r) ∧ Inv rc' H now ∧ rc'.window = rc.window ∧ rc'.scale = rc.scale ∧
      (∀ o, rc.originMs = some o → rc'.originMs = some (originAfter rc now)) ∧
      ((r = none ∧ (Fresh rc ∨ rc'.total.count ≤ 0 ∨ rc'.originMs = some now)) ∨
       (∃ active : Int, 1 < active ∧ active ≤ (rc.window : Int) ∧ 0 < rc'.total.count ∧
          rc'.originMs = some (now - active + 1) ∧
          r = some (roundDivHalfEven (rc.scale * rc'.total.value) active))) := by
  rcases inv with ⟨f, hH⟩ | ⟨o, c, h1, h2, h3, h4⟩
  · exact ⟨rc, none, rate_fresh f now, Or.inl ⟨f, hH⟩, rfl, rfl, (by intro o ho; rw [f.origin] at ho; cases ho),
      Or.inl ⟨rfl, Or.inl f⟩⟩
  · obtain ⟨rc', c', w, sc, hr⟩ := rate_core c now
    obtain ⟨h3', h4'⟩ := hist_advance hmono h3 h4
    have := c.wpos
    refine ⟨rc', _, hr, Or.inr ⟨_, c', by omega, by omega, h3', by rw [w]; exact h4'⟩, w, sc,
      (by intro _ _; rw [c'.origin]; unfold originAfter; rw [c.origin]), ?_⟩
    rw [c'.origin]
    split
    · rename_i hc
      exact Or.inr ⟨now - max o (now - ↑rc.window + 1) + 1, hc.2, (by omega), hc.1, (by congr 1; omega), rfl⟩
    · refine Or.inl ⟨rfl, Or.inr ?_⟩
      by_cases h0 : rc'.total.count ≤ 0
      · exact Or.inl h0
      · exact Or.inr (by congr 1; omega)

/-- **Window exactness**: under the invariant the running total is the count and byte sum of exactly the
samples that arrived in `(last - window_size, last]`. -/
theorem counter_window_exact {rc : RateCounter} {H : List Sample} {last : Int} (inv : Inv rc H last) :
    rc.total = agg (inWindow rc.window last) H := by
  rcases inv with ⟨f, hH⟩ | ⟨o, c, h1, h2, h3, h4⟩
  · subst hH; exact f.total
  · rw [c.total]
    apply agg_congr
    intro s hs
    have := h3 s hs
    have := h4 s hs
    rw [Bool.eq_iff_iff, decide_eq_true_eq, inWindow_iff]
    omega

/-- `roundDivHalfEven a b` is the integer nearest to `a / b`, ties to even (what `round()` does). -/
theorem roundDivHalfEven_spec (a b : Int) (hb : 0 < b) :
    -b ≤ 2 * (roundDivHalfEven a b * b - a) ∧ 2 * (roundDivHalfEven a b * b - a) ≤ b ∧
    ((2 * (roundDivHalfEven a b * b - a) = b ∨ 2 * (roundDivHalfEven a b * b - a) = -b) →
      roundDivHalfEven a b % 2 = 0) := by
  have h1 : a / b * b + a % b = a := Int.ediv_mul_add_emod a b
  have h2 : 0 ≤ a % b := Int.emod_nonneg _ (by omega)
  have h3 : a % b < b := Int.emod_lt_of_pos _ hb
  unfold roundDivHalfEven
  simp only []
  generalize a / b = q at *
  generalize a % b = r at *
  -- the result is `q` or `q + 1`, and `q * b - a = -r`, `(q + 1) * b - a = b - r`
  have e : (q + 1) * b = q * b + b := by rw [Int.add_mul, Int.one_mul]
  split
  · omega
  · split
    · rw [e]; omega
    · split
      · omega
      · rw [e]; omega

inductive COp where
  | add (v now : Int)
  | rate (now : Int)

def COp.time : COp → Int
  | .add _ n => n
  | .rate n => n

def runOps : RateCounter → List COp → Outcome RateCounter
  | rc, [] => .ok rc
  | rc, .add v n :: rest =>
    match rc.add v n with
    | .ok rc' => runOps rc' rest
    | .valueError => .valueError
    | .crash k => .crash k
    | .hang => .hang
  | rc, .rate n :: rest =>
    match rc.rate n with
    | .ok (rc', _) => runOps rc' rest
    | .valueError => .valueError
    | .crash k => .crash k
    | .hang => .hang

/-- samples added by `ops`, newest first, on top of `acc` -/
def samplesOf : List COp → List Sample → List Sample
  | [], acc => acc
  | .add v n :: rest, acc => samplesOf rest ((n, v) :: acc)
  | .rate _ :: rest, acc => samplesOf rest acc

def Sorted : Int → List COp → Prop
  | _, [] => True
  | t, op :: rest => t ≤ op.time ∧ Sorted op.time rest

def lastTime : Int → List COp → Int
  | t, [] => t
  | _, op :: rest => lastTime op.time rest

theorem counter_history (ops : List COp) : ∀ (rc : RateCounter) (H : List Sample) (t : Int),
    Inv rc H t → Sorted t ops →
    ∃ rc', runOps rc ops = .ok rc' ∧ Inv rc' (samplesOf ops H) (lastTime t ops) ∧ rc'.window = rc.window := by
  induction ops with
  | nil => intro rc H t inv _; exact ⟨rc, rfl, inv, rfl⟩
  | cons op rest ih =>
    intro rc H t inv hs
    cases op with
    | add v n =>
      obtain ⟨rc1, h1, inv1, w1, _⟩ := counter_add_ok inv v n hs.1
      obtain ⟨rc2, h2, inv2, w2⟩ := ih rc1 _ n inv1 hs.2
      exact ⟨rc2, by simp only [runOps, h1]; exact h2, inv2, by rw [w2, w1]⟩
    | rate n =>
      obtain ⟨rc1, r, h1, inv1, w1, _⟩ := counter_rate_ok inv n hs.1
      obtain ⟨rc2, h2, inv2, w2⟩ := ih rc1 _ n inv1 hs.2
      exact ⟨rc2, by simp only [runOps, h1]; exact h2, inv2, by rw [w2, w1]⟩

/-- **"the measurement itself is computed over exactly the packets that arrived within the last 1000 ms"**
(RateCounter level, any window size): after ANY sequence of `add`/`rate` calls with non-decreasing times on
a new counter, no call has raised and `_total` is the count / byte sum of exactly the samples in
`(last - window_size, last]`. -/
theorem counter_history_exact (W : Nat) (scale : Int) (hW : 0 < W) (ops : List COp) (t0 : Int)
    (hs : Sorted t0 ops) :
    ∃ rc, runOps (RateCounter.new W scale) ops = .ok rc ∧
      rc.total = agg (inWindow W (lastTime t0 ops)) (samplesOf ops []) := by
  obtain ⟨rc, h, inv, w⟩ := counter_history ops _ [] t0 (counter_new_inv W scale hW t0) hs
  refine ⟨rc, h, ?_⟩
  have := counter_window_exact inv
  rw [w] at this
  exact this

/-! ## RemoteBitrateEstimator: the incoming-bitrate window over the WHOLE packet history

`G` is every packet `(arrival_ms, payload_size)` fed to `add` so far (newest first).  The estimator calls
`reset()` on its counter when `rate()` returns `None`; `GInv` says that what a reset discards (`D`) is
older than the window, so the total is still exact with respect to the whole history. -/

theorem inv_le {rc : RateCounter} {H : List Sample} {last : Int} (inv : Inv rc H last) :
    ∀ s ∈ H, s.1 ≤ last := by
  rcases inv with ⟨_, hH⟩ | ⟨o, _, _, _, h3, _⟩
  · subst hH; intro s hs; cases hs
  · exact h3

def GInv (c : RateCounter) (init : Bool) (G : List Sample) (last : Int) : Prop :=
  c.window = 1000 ∧ c.scale = 8000 ∧
  ∃ H D, G = H ++ D ∧ Inv c H last ∧ (∀ s ∈ D, s.1 + 1000 ≤ last) ∧
    (init = true → (Fresh c ∧ G = []) ∨ ∃ o, c.originMs = some o ∧ o < last)

theorem ginv_new (t : Int) : GInv (RateCounter.new 1000 8000) true [] t :=
  ⟨rfl, rfl, [], [], rfl, counter_new_inv 1000 8000 (by decide) t, (by intro s hs; cases hs),
   fun _ => Or.inl ⟨fresh_new 1000 8000 (by decide), rfl⟩⟩

theorem ginv_add {c : RateCounter} {H D : List Sample} {now : Int} (inv : Inv c H now) (hw : c.window = 1000)
    (hsc : c.scale = 8000) (hD : ∀ s ∈ D, s.1 + 1000 ≤ now) (size : Int) (init : Bool)
    (hinit : init = true → ∃ o, c.originMs = some o ∧ o < now) :
    ∃ c3, c.add size now = .ok c3 ∧ GInv c3 init ((now, size) :: (H ++ D)) now := by
  obtain ⟨c3, h3, inv3, w3, s3, ho3⟩ := counter_add_ok inv size now (Int.le_refl _)
  refine ⟨c3, h3, by rw [w3, hw], by rw [s3, hsc], (now, size) :: H, D, rfl, inv3, hD, fun hi => Or.inr ?_⟩
  obtain ⟨o, ho, hlt⟩ := hinit hi
  exact ⟨_, ho3, originAfter_lt ho hlt (by rw [hw]; decide)⟩

/-- rate.py:531-537 never raises and keeps the global invariant, for any payload size and `now ≥ last`. -/
theorem countStep_ok {c : RateCounter} {init : Bool} {G : List Sample} {last : Int}
    (g : GInv c init G last) (size now : Int) (hmono : last ≤ now) :
    ∃ c' init', Rbe.countStep c init size now = .ok (c', init') ∧ GInv c' init' ((now, size) :: G) now := by
  obtain ⟨hw, hsc, H, D, hG, inv, hD, hinit⟩ := g
  obtain ⟨c1, r, hr, inv1, w1, s1, ho1, hcase⟩ := counter_rate_ok inv now hmono
  have hD' : ∀ s ∈ D, s.1 + 1000 ≤ now := fun s hs => by have := hD s hs; omega
  have hw1 : c1.window = 1000 := w1.trans hw
  have hs1 : c1.scale = 8000 := s1.trans hsc
  unfold Rbe.countStep
  rw [hr, hG]
  cases r with
  | some m =>
    rcases hcase with ⟨hn, _⟩ | ⟨active, ha1, _, _, horig, _⟩
    · cases hn
    obtain ⟨c3, h3, g3⟩ := ginv_add inv1 hw1 hs1 hD' size true (fun _ => ⟨_, horig, by omega⟩)
    exact ⟨c3, true, by simp only [Option.isSome_some, if_true, h3], g3⟩
  | none =>
    cases init with
    | false =>
      obtain ⟨c3, h3, g3⟩ := ginv_add inv1 hw1 hs1 hD' size false (fun h => by cases h)
      exact ⟨c3, false, by simp only [Option.isSome_none, Bool.false_eq_true, if_false, h3], g3⟩
    | true =>
      -- the window ran empty: everything counted so far is older than 1000 ms, the counter is reset
      have hHold : ∀ s ∈ H, s.1 + 1000 ≤ now := by
        rcases hcase with ⟨_, hf | hcnt | horig⟩ | ⟨_, _, _, _, _, hn⟩
        · rcases inv with ⟨_, hH⟩ | ⟨o, cc, _⟩
          · subst hH; intro s hs; cases hs
          · have := cc.origin; rw [hf.origin] at this; cases this
        · intro s hs
          rw [counter_window_exact inv1, hw1] at hcnt
          have hz := agg_count_zero hcnt s hs
          have hle := inv_le inv1 s hs
          rw [Bool.eq_false_iff, Ne, inWindow_iff] at hz
          omega
        · -- origin == now is impossible once initialised
          rcases hinit rfl with ⟨_, hGe⟩ | ⟨o, ho, hlt⟩
          · rw [hG] at hGe
            have : H = [] := (List.append_eq_nil_iff.mp hGe).1
            subst this; intro s hs; cases hs
          · have := originAfter_lt (now := now) ho (by omega) (by rw [hw]; decide)
            have := Option.some.inj ((ho1 o ho).symm.trans horig)
            omega
        · cases hn
      obtain ⟨c3, h3, g3⟩ := ginv_add (H := []) (D := H ++ D) (counter_reset_inv c1 (by rw [hw1]; decide) now)
        hw1 hs1 (fun s hs => (List.mem_append.1 hs).elim (hHold s) (hD' s)) size false (fun h => by cases h)
      exact ⟨c3, false, by simp only [Option.isSome_none, Bool.false_eq_true, if_false, if_true, h3], g3⟩

/-- **"the measurement itself is computed over exactly the packets that arrived within the last 1000 ms"**
(estimator level): under `GInv` the counter total is the count / byte sum of exactly the packets of the
whole history with `last - 1000 < arrival ≤ last`, resets included. -/
theorem global_window_exact {c : RateCounter} {init : Bool} {G : List Sample} {last : Int}
    (g : GInv c init G last) : c.total = agg (inWindow 1000 last) G := by
  obtain ⟨hw, _, H, D, hG, inv, hD, _⟩ := g
  have hz : agg (inWindow 1000 last) D = Bucket.zero := by
    apply agg_none
    intro s hs
    have := hD s hs
    rw [Bool.eq_false_iff, Ne, inWindow_iff]
    omega
  rw [counter_window_exact inv, hw, hG, agg_append, hz, Bucket.add_zero]

/-- **Packets that share one arrival millisecond are all counted** — in particular the further packets of a
burst that arrives in the same millisecond as the packet which started or restarted the window (the first
frame of the stream, the first frame after an idle period ≥ 1000 ms, when `rate()` is `None` for BOTH packets):
after two `countStep`s at the same `now` the total is the total over the earlier history plus both packets. -/
theorem burst_same_ms_counted {c : RateCounter} {init : Bool} {G : List Sample} {last : Int}
    (g : GInv c init G last) (s1 s2 now : Int) (hmono : last ≤ now) :
    ∃ c1 i1 c2 i2, Rbe.countStep c init s1 now = .ok (c1, i1) ∧ Rbe.countStep c1 i1 s2 now = .ok (c2, i2) ∧
      c2.total = Bucket.add (Bucket.add (agg (inWindow 1000 now) G) ⟨1, s1⟩) ⟨1, s2⟩ := by
  obtain ⟨c1, i1, h1, g1⟩ := countStep_ok g s1 now hmono
  obtain ⟨c2, i2, h2, g2⟩ := countStep_ok g1 s2 now (Int.le_refl _)
  refine ⟨c1, i1, c2, i2, h1, h2, ?_⟩
  rw [global_window_exact g2]
  have hin : inWindow 1000 now now = true := inWindow_iff.2 (by omega)
  simp only [agg, hin, if_true]

/-- first-seen-order set insertion (what a Python `dict` does with its keys) -/
def addSeen (l : List Int) (k : Int) : List Int := if k ∈ l then l else l ++ [k]

theorem dictSet_eq_dset (d : List (Int × Int)) (k v : Int) : dictSet d k v = Model.Router.dset k v d := by
  induction d with
  | nil => rfl
  | cons e t ih => obtain ⟨a, b⟩ := e; simp only [dictSet, Model.Router.dset, ih]

theorem dictSet_keys (d : List (Int × Int)) (k v : Int) :
    (dictSet d k v).map Prod.fst = addSeen (d.map Prod.fst) k := by
  rw [dictSet_eq_dset]; exact Model.Router.dkeys_dset k v d

/-- what `add` does, step by step (rate.py:522-579) -/
theorem add_shape {s s' : Rbe} {now abs size ssrc : Int} {ret : Option (Int × List Int)}
    (h : s.add now abs size ssrc = .ok (s', ret)) :
    ∃ c cinit ia est det,
      Rbe.countStep s.counter s.counterInit size now = .ok (c, cinit) ∧
      Rbe.delayStep s.ia s.est s.det (abs * 256) now size = .ok (ia, est, det) ∧
      s'.ssrcs = dictSet s.ssrcs ssrc now ∧ s'.det = det ∧ s'.counterInit = cinit ∧
      ((Rbe.wantsUpdate s.lastUpdate now det.hypothesis = false ∧ ret = none ∧ s'.aimd = s.aimd ∧
          s'.counter = c) ∨
       (Rbe.wantsUpdate s.lastUpdate now det.hypothesis = true ∧
          ∃ c' m aimd r, c.rate now = .ok (c', m) ∧ s.aimd.update det.hypothesis m now = .ok (aimd, r) ∧
            s'.aimd = aimd ∧ s'.counter = c' ∧
            ret = r.map (fun v => (v, (dictSet s.ssrcs ssrc now).map Prod.fst)))) := by
  unfold Rbe.add at h
  simp only [] at h
  split at h
  · rename_i c cinit hc
    split at h
    · rename_i ia est det hd
      refine ⟨c, cinit, ia, est, det, hc, hd, ?_⟩
      split at h
      · rename_i hw
        split at h
        · rename_i c' m hr
          split at h
          · rename_i aimd target hu
            cases h
            exact ⟨rfl, rfl, rfl, Or.inr ⟨hw, c', m, aimd, some target, hr, hu, rfl, rfl, rfl⟩⟩
          · rename_i aimd hu
            cases h
            exact ⟨rfl, rfl, rfl, Or.inr ⟨hw, c', m, aimd, none, hr, hu, rfl, rfl, rfl⟩⟩
          all_goals cases h
        all_goals cases h
      · rename_i hw
        cases h
        exact ⟨rfl, rfl, rfl, Or.inl ⟨by simpa using hw, rfl, rfl, rfl⟩⟩
    all_goals cases h
  all_goals cases h

/-- `rate(now)` right after the packet was added: keeps the global invariant; a reported measurement is
non-negative when all payload sizes are. -/
theorem rate_ginv {c : RateCounter} {init : Bool} {G : List Sample} {now : Int}
    (g : GInv c init G now) (hne : G ≠ []) (hsz : ∀ p ∈ G, 0 ≤ p.2) {c' : RateCounter} {r : Option Int}
    (h : c.rate now = .ok (c', r)) :
    GInv c' init G now ∧ ∀ m, r = some m → 0 ≤ m ∧ ∃ active : Int, 1 < active ∧ active ≤ 1000 ∧
      m = roundDivHalfEven (8000 * (agg (inWindow 1000 now) G).value) active := by
  obtain ⟨hw, hsc, H, D, hG, inv, hD, hinit⟩ := g
  obtain ⟨c1, r1, hr, inv1, w1, s1, ho1, hcase⟩ := counter_rate_ok inv now (Int.le_refl _)
  rw [hr] at h
  cases h
  have g' : GInv c' init G now := by
    refine ⟨by rw [w1, hw], by rw [s1, hsc], H, D, hG, inv1, hD, ?_⟩
    intro hi
    rcases hinit hi with ⟨_, hGe⟩ | ⟨o, ho, hlt⟩
    · exact absurd hGe hne
    · exact Or.inr ⟨_, ho1 o ho, originAfter_lt ho hlt (by rw [hw]; decide)⟩
  refine ⟨g', ?_⟩
  intro m hm
  rcases hcase with ⟨hn, _⟩ | ⟨active, ha1, ha2, _, _, hv⟩
  · rw [hn] at hm; cases hm
  · rw [hv] at hm
    cases hm
    rw [hsc, global_window_exact g']
    refine ⟨?_, active, ha1, by rw [hw] at ha2; exact ha2, rfl⟩
    apply roundDivHalfEven_nonneg _ _ _ (by omega)
    have := agg_value_nonneg (inWindow 1000 now) G hsz
    omega

theorem ainv_mono {a : Aimd} {t now : Int} (inv : AInv a t) (h : t ≤ now) : AInv a now :=
  ⟨inv.cur, inv.latest, inv.rtt, inv.inc, fun l hl => by have := inv.last l hl; omega, inv.notDec⟩

theorem wantsUpdate_overusing (l : Option Int) (now : Int) : Rbe.wantsUpdate l now .overusing = true := by
  cases l <;> simp [Rbe.wantsUpdate]

/-- Invariant of the whole estimator after a history `G` of packets `(arrival, size)` (newest first) whose
SSRCs, in first-seen order, are `seen`; `t` is the latest arrival time. -/
structure RInv (s : Rbe) (G : List Sample) (seen : List Int) (t : Int) : Prop where
  counter : GInv s.counter s.counterInit G t
  aimd : AInv s.aimd t
  ssrcs : s.ssrcs.map Prod.fst = seen
  sizes : ∀ p ∈ G, 0 ≤ p.2

theorem rinv_new (t : Int) : RInv Rbe.new [] [] t :=
  ⟨ginv_new t, ainv_new t, rfl, by intro p hp; cases hp⟩

/-- **One packet.**  For an estimator satisfying the invariant, a packet with `arrival ≥` the previous
arrival and `size ≥ 0`: if `add` returns (i.e. no float helper failed), then the invariant holds again, the
incoming-bitrate total is exactly the packets of the last 1000 ms, over-use always produces a report, and a
report `(v, l)` lists exactly the SSRCs seen (first-seen order), is a non-negative integer, is at most
`max(int(1.5·m)+10000, previous estimate, m)` and, on over-use, at most `round(0.85·m)` — where `m ≥ 0` is
the rate measured over that window (half-even rounding of `8000·bytes/active_ms`), or the latest measured
rate when `rate()` is `None`. -/
theorem add_step (sf : SignFacts realFloats) {s : Rbe} {G : List Sample} {seen : List Int} {t : Int}
    (inv : RInv s G seen t) {now abs size ssrc : Int} (hmono : t ≤ now) (hsize : 0 ≤ size)
    {s' : Rbe} {ret : Option (Int × List Int)} (h : s.add now abs size ssrc = .ok (s', ret)) :
    RInv s' ((now, size) :: G) (addSeen seen ssrc) now ∧
    s'.counter.total = agg (inWindow 1000 now) ((now, size) :: G) ∧
    (s'.det.hypothesis = .overusing → ret ≠ none) ∧
    ∀ v l, ret = some (v, l) →
      l = addSeen seen ssrc ∧ 0 ≤ v ∧ s'.aimd.current = v ∧
      ∃ (mr : Option Int) (m : Int), m = mr.getD s.aimd.latest ∧ 0 ≤ m ∧
        (∀ x, mr = some x → ∃ active : Int, 1 < active ∧ active ≤ 1000 ∧
          x = roundDivHalfEven (8000 * (agg (inWindow 1000 now) ((now, size) :: G)).value) active) ∧
        (∃ f15, int15 m = .ok f15 ∧ v ≤ max (f15 + 10000) (max s.aimd.current m)) ∧
        (s'.det.hypothesis = .overusing → ∃ r85, round85 m = .ok r85 ∧ v ≤ r85) := by
  obtain ⟨c, cinit, ia, est, det, hc, hd, hss, hdet, hci, hcase⟩ := add_shape h
  obtain ⟨c0, init0, hc0, g0⟩ := countStep_ok inv.counter size now hmono
  rw [hc] at hc0
  cases hc0
  have hsz : ∀ p ∈ (now, size) :: G, 0 ≤ p.2 := List.forall_mem_cons.2 ⟨hsize, inv.sizes⟩
  have hkeys : s'.ssrcs.map Prod.fst = addSeen seen ssrc := by
    rw [hss, dictSet_keys, inv.ssrcs]
  rcases hcase with ⟨hw, hret, haimd, hcnt⟩ | ⟨hw, c', mr, aimd, r, hr, hu, haimd, hcnt, hret⟩
  · -- the rate controller is not consulted
    refine ⟨⟨by rw [hcnt, hci]; exact g0, by rw [haimd]; exact ainv_mono inv.aimd hmono, hkeys, hsz⟩,
      by rw [hcnt]; exact global_window_exact g0, ?_, by intro v l hvl; rw [hret] at hvl; cases hvl⟩
    intro ho
    rw [hdet] at ho
    rw [ho, wantsUpdate_overusing] at hw
    cases hw
  · obtain ⟨g1, hm⟩ := rate_ginv g0 (by simp) hsz hr
    obtain ⟨ainv', hnn⟩ := update_nonneg sf inv.aimd hmono (fun m hm' => (hm m hm').1) hu
    have hover : s'.det.hypothesis = .overusing → ∃ v r85, r = some v ∧
        round85 (mr.getD s.aimd.latest) = .ok r85 ∧ v ≤ r85 := fun ho => by
      rw [hdet] at ho
      rw [ho] at hu
      exact update_overuse_cut hu
    refine ⟨⟨by rw [hcnt, hci]; exact g1, by rw [haimd]; exact ainv', hkeys, hsz⟩,
      by rw [hcnt]; exact global_window_exact g1, ?_, ?_⟩
    · intro ho
      obtain ⟨v, _, hrv, _⟩ := hover ho
      rw [hret, hrv]; simp
    · intro v l hvl
      rw [hret] at hvl
      cases r with
      | none => cases hvl
      | some v' =>
        simp only [Option.map_some, Option.some.injEq, Prod.mk.injEq] at hvl
        obtain ⟨hv, hl⟩ := hvl
        subst hv
        obtain ⟨f15, hf, hcap, hcur⟩ := update_cap hu
        refine ⟨by rw [← hl, dictSet_keys, inv.ssrcs], hnn _ rfl, by rw [haimd]; exact hcur,
          mr, mr.getD s.aimd.latest, rfl, ?_, fun x hx => (hm x hx).2, ⟨f15, hf, hcap⟩, ?_⟩
        · cases mr with
          | none => exact inv.aimd.latest
          | some x => exact (hm x rfl).1
        · intro ho
          obtain ⟨v2, r85, hrv, h85, hle⟩ := hover ho
          cases hrv
          exact ⟨r85, h85, hle⟩

/-- a packet as fed to `add`: arrival time (ms), abs-send-time stamp, payload size, SSRC -/
structure Pkt where
  now : Int
  abs : Int
  size : Int
  ssrc : Int

def runAdds : Rbe → List Pkt → Outcome Rbe
  | s, [] => .ok s
  | s, p :: rest =>
    match s.add p.now p.abs p.size p.ssrc with
    | .ok (s', _) => runAdds s' rest
    | .valueError => .valueError
    | .crash k => .crash k
    | .hang => .hang

/-- non-decreasing arrival times starting at `t`, sizes ≥ 0; stamps and SSRCs arbitrary -/
def Admissible : Int → List Pkt → Prop
  | _, [] => True
  | t, p :: rest => t ≤ p.now ∧ 0 ≤ p.size ∧ Admissible p.now rest

def histOf : List Pkt → List Sample → List Sample
  | [], acc => acc
  | p :: rest, acc => histOf rest ((p.now, p.size) :: acc)

def seenOf : List Pkt → List Int → List Int
  | [], acc => acc
  | p :: rest, acc => seenOf rest (addSeen acc p.ssrc)

def lastArrival : Int → List Pkt → Int
  | t, [] => t
  | _, p :: rest => lastArrival p.now rest

/-- **Every reachable state satisfies the invariant**: for ANY admissible arrival history (any gaps, any
send-time stamps, any sizes ≥ 0, any SSRCs), if the run returns then `RInv` holds for the whole history —
so `add_step`'s guarantees apply to every packet of every history. -/
theorem run_history (sf : SignFacts realFloats) (ps : List Pkt) :
    ∀ (s : Rbe) (G : List Sample) (seen : List Int) (t : Int) (s' : Rbe),
      RInv s G seen t → Admissible t ps → runAdds s ps = .ok s' →
      RInv s' (histOf ps G) (seenOf ps seen) (lastArrival t ps) := by
  induction ps with
  | nil => intro s G seen t s' inv _ h; cases h; exact inv
  | cons p rest ih =>
    intro s G seen t s' inv adm h
    simp only [runAdds] at h
    split at h
    · rename_i s1 ret h1
      exact ih s1 _ _ p.now s' (add_step sf inv adm.1 adm.2.1 h1).1 adm.2.2 h
    all_goals cases h

/-- From a new estimator: after any admissible history the reported SSRC list is exactly the SSRCs seen
(first-seen order, no duplicates) and the incoming-bitrate total is exactly the packets of the last 1000 ms. -/
theorem run_from_new (sf : SignFacts realFloats) (ps : List Pkt) (t0 : Int) (s' : Rbe)
    (adm : Admissible t0 ps) (h : runAdds Rbe.new ps = .ok s') :
    s'.ssrcs.map Prod.fst = seenOf ps [] ∧
    s'.counter.total = agg (inWindow 1000 (lastArrival t0 ps)) (histOf ps []) ∧
    0 ≤ s'.aimd.current := by
  have inv := run_history sf ps Rbe.new [] [] t0 s' (rinv_new t0) adm h
  exact ⟨inv.ssrcs, global_window_exact inv.counter, inv.aimd.cur⟩

theorem addSeen_nodup (l : List Int) (k : Int) (h : l.Nodup) : (addSeen l k).Nodup := nodup_insertNew h

theorem mem_addSeen (l : List Int) (k x : Int) : x ∈ addSeen l k ↔ x ∈ l ∨ x = k :=
  mem_insertNew.trans or_comm

/-! ### REMB can encode every estimate below 2^81 (rtp.py:181-185) -/

theorem rembLoop_spec (f : Nat) : ∀ (m e : Int), 0 ≤ m → m < 2 ^ (18 + f) →
    ∃ m' e', rembLoop (f + 1) m e = some (m', e') ∧ 0 ≤ m' ∧ m' ≤ 0x3FFFF ∧ e ≤ e' ∧ e' ≤ e + f := by
  induction f with
  | zero =>
    intro m e h0 hm
    have hm : m < 262144 := hm
    exact ⟨m, e, by unfold rembLoop; rw [if_neg (by omega)], h0, by omega, Int.le_refl _, by omega⟩
  | succ f ih =>
    intro m e h0 hm
    unfold rembLoop
    split
    · have hm2 : m / 2 < 2 ^ (18 + f) := by
        rw [show 18 + (f + 1) = (18 + f) + 1 by omega, Int.pow_succ] at hm; omega
      obtain ⟨m', e', h, a1, a2, a3, a4⟩ := ih (m / 2) (e + 1) (by omega) hm2
      exact ⟨m', e', h, a1, a2, by omega, by omega⟩
    · exact ⟨m, e, rfl, h0, by omega, Int.le_refl _, by omega⟩

/-- **Every estimate `0 ≤ v < 2^81` is REMB-encodable**: the exponent loop of `pack_remb_fci` terminates
with an 18-bit mantissa and an exponent ≤ 63, so `(exponent << 2) | (mantissa >> 16)` fits the `B` field. -/
theorem remb_encodable (v : Int) (h0 : 0 ≤ v) (h : v < 2 ^ 81) :
    ∃ m e, rembLoop 64 v 0 = some (m, e) ∧ 0 ≤ m ∧ m ≤ 0x3FFFF ∧ 0 ≤ e ∧ e ≤ 63 ∧
      e * 4 + m / 65536 < 256 := by
  obtain ⟨m, e, hl, a1, a2, a3, a4⟩ := rembLoop_spec 63 v 0 h0 h
  exact ⟨m, e, hl, a1, a2, a3, by omega, by omega⟩

/-! ## Non-vacuity: the hypotheses are satisfiable, the conclusions are not trivially true

Lean's kernel cannot evaluate `Float` operations, so concrete AIMD runs are shown for `exactFloats`, a family
of helpers computing the same quantities in exact integer arithmetic (the theorems hold for every family);
that the REAL helpers also produce such runs is what the compiled-model correspondence shows. -/

def exactFloats : AimdFloats where
  int15 := fun m => .ok (3 * m / 2)
  round85 := fun m => .ok (roundDivHalfEven (85 * m) 100)
  kbpsOf := fun _ => .ok 0.0
  multInc := fun nb _ _ => .ok (max (8 * nb / 100) 1000)
  framePackets := fun cur => .ok (0.0, (cur + 287999) / 288000)
  nearMaxTail := fun _ p _ => .ok (if p = 0 then 0 else 100)
  scale1000 := fun x => .ok (x / 1000)
  increaseClear := fun nm avg _ _ => .ok (nm, avg)
  decreaseMax := fun _ v _ => .ok (0.0, v)

def retOf : Outcome (Aimd × Option Int) → Option Int
  | .ok (_, r) => r
  | _ => none

def stOf : Outcome (Aimd × Option Int) → Aimd
  | .ok (a, _) => a
  | _ => Aimd.new

/-- over-use at 1 kbit/s reports round(0.85·1000) = 850 … -/
example : retOf (updateWith exactFloats Aimd.new .overusing (some 1000) 0) = some 850 := by decide +kernel
/-- … a second over-use at 0 bit/s reports 0 and keeps near-max mode … -/
def afterTwoOveruses : Aimd :=
  stOf (updateWith exactFloats (stOf (updateWith exactFloats Aimd.new .overusing (some 1000) 0))
    .overusing (some 0) 3100)
example : afterTwoOveruses.current = 0 ∧ afterTwoOveruses.nearMax = true := by decide +kernel
/-- … and the next normal-usage update runs `_near_max_rate_increase` with `current_bitrate = 0`:
the upstream code divides by zero, the fixed code reports 0 and, 100 ms later, 400 = int(100 ms · 4000 / 1000). -/
example : nearMaxIncUnfixed exactFloats afterTwoOveruses.current 200 = .crash "ZeroDivisionError" := by decide +kernel
example : retOf (updateWith exactFloats afterTwoOveruses .normal (some 0) 3200) = some 0 := by decide +kernel
example : retOf (updateWith exactFloats (stOf (updateWith exactFloats afterTwoOveruses .normal (some 0) 3200))
    .normal (some 0) 3300) = some 400 := by decide +kernel

/-- a measurement of exactly 0 bit/s is a measurement: after an over-use at 163200 bit/s, an over-use at a measured 0
reports 0 (not 85 % of the stale 163200), records 0 as the latest measurement, and a further over-use without a
measurement works with that 0 -/
def afterOveruseAtZero : Aimd :=
  stOf (updateWith exactFloats (stOf (updateWith exactFloats Aimd.new .overusing (some 163200) 0)) .overusing (some 0) 600)
example : retOf (updateWith exactFloats Aimd.new .overusing (some 163200) 0) = some 138720 := by decide +kernel
example : retOf (updateWith exactFloats (stOf (updateWith exactFloats Aimd.new .overusing (some 163200) 0)) .overusing (some 0) 600)
    = some 0 := by decide +kernel
example : afterOveruseAtZero.latest = 0 := by decide +kernel
example : retOf (updateWith exactFloats afterOveruseAtZero .overusing none 700) = some 0 := by decide +kernel
/-- the hypothesis of `update_overuse_exact` holds for `exactFloats` on measurements `m ≥ 0` -/
example : ∀ m r f, 0 ≤ m → exactFloats.round85 m = .ok r → exactFloats.int15 m = .ok f → r ≤ f + 10000 := by
  intro m r f hm h1 h2; cases h1; cases h2
  have := (roundDivHalfEven_spec (85 * m) 100 (by decide)).2.1
  omega
/-- hypotheses of `update_never_rises_above` / `update_overuse_85` / `SignFacts` hold for `exactFloats` -/
example : ∀ m f, exactFloats.int15 m = .ok f → f ≤ 3 * m / 2 := by
  intro m f h; cases h; exact Int.le_refl _
theorem signFacts_exact : SignFacts exactFloats := by
  refine ⟨?_, ?_, ?_⟩
  · intro m r hm h; cases h; exact roundDivHalfEven_nonneg _ _ (by omega) (by decide)
  · intro nb l n x h; cases h; omega
  · intro x y hx h; cases h; exact Int.ediv_nonneg hx (by decide)
example : ∀ m r, 0 ≤ m → exactFloats.round85 m = .ok r → 100 * r ≤ 85 * m + 100 := by
  intro m r _ h; cases h
  have := (roundDivHalfEven_spec (85 * m) 100 (by decide)).2.1
  omega
/-- `FloatsOk` is satisfiable (every helper of `exactFloats` returns) -/
example : FloatsOk exactFloats afterTwoOveruses 0 3200 := by
  refine ⟨0.0, rfl, ⟨_, rfl⟩, ?_, ?_⟩
  · intro h; exact ⟨⟨_, rfl⟩, ⟨_, rfl⟩⟩
  · intro h; exact absurd h (by decide)
example : AInv Aimd.new 0 := ainv_new 0

/-- multiplicative increase 100000 → 108000 while the measured 100 kbit/s allows up to 160000; with only
50 kbit/s measured the cap max(75000 + 10000, 100000) binds and the estimate does not rise -/
example : retOf (updateWith exactFloats { Aimd.new with initialized := true, current := 100000 } .normal (some 100000) 10)
    = some 108000 := by decide +kernel
example : retOf (updateWith exactFloats { Aimd.new with initialized := true, current := 100000 } .normal (some 50000) 10)
    = some 100000 := by decide +kernel

example : Sorted 0 [.add 1500 5, .rate 6, .add 0 2000, .rate 2000, .rate 2999, .rate 3000] := by
  simp [Sorted, COp.time]
example : (match runOps (RateCounter.new 10 1) [.add 3 0, .add 4 5, .rate 12] with
    | .ok rc => some (rc.total.count, rc.total.value) | _ => none) = some (1, 4) := by decide +kernel
example : roundDivHalfEven 5 2 = 2 ∧ roundDivHalfEven 7 2 = 4 ∧ roundDivHalfEven 8000 3 = 2667 := by decide +kernel

example : Admissible 0 [⟨5, 16777215, 1200, 7⟩, ⟨5, 3, 0, 7⟩, ⟨2000, 100, 1500, 9⟩] := by
  simp [Admissible]
example : seenOf [⟨5, 0, 1200, 7⟩, ⟨5, 3, 0, 9⟩, ⟨6, 100, 1500, 7⟩] [] = [7, 9] := by decide +kernel
example : rembLoop 64 30000000 0 = some (234375, 7) := by decide +kernel
def isOkNone : Outcome (Rbe × Option (Int × List Int)) → Bool
  | .ok (_, none) => true
  | _ => false
-- the hypothesis `s.add … = .ok (s', ret)` of `add_step` is satisfiable: the first packet of a history
set_option maxRecDepth 20000 in
example : isOkNone (Rbe.new.add 5 16777215 1200 7) = true := by decide +kernel

end Aiortc.Props.C15
