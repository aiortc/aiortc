import Aiortc.Lemmas.C02.DrainPRBoth
import Aiortc.Lemmas.C02.DrainPRDeliveredRun
/-!
# C02 (f): the pair drains with partially reliable traffic in the fault history (FORWARD TSN)

`Props/C02Drain.lean` proves the drain theorem for histories of RELIABLE sends.  Here the restriction is lifted: the
application may send messages with `max_retransmits` and / or a lifetime, the clock may expire lifetimes (`tick`), so
`_maybe_abandon`, `_update_advanced_peer_ack_point` and FORWARD TSN occur, in the history and in the continuation.

System (`PLink`, `Lemmas/C02/DrainPRCoh.lean`): the model's sender `Tx`; the model's receiver on `Rx` — `_mark_received` for
DATA and the cumulative-TSN part of `_receive_forward_tsn_chunk` (`rxFwdTsn`, `C02PR_rxFwd_model`) for FORWARD TSN, every chunk
answered by the SACK `_send_sack` builds; DATA and FORWARD TSN chunks in flight (`toRx`), SACKs in flight (`toTx`).  Moves as in
`Fault`, without the reliability restriction.

* `C02PR_coherence_preserved`, `C02PR_reachable_coherent` — the coherence invariant `CohP b κ f r`: `lastSacked = T b κ`, advanced
  peer ack point `T b f`, `κ ≤ f`, FORWARD TSN needed iff `κ < f`, `sentQ ++ outQ` carry `T b (f+1) …`; receiver at `T b r`,
  `κ ≤ r ≤ f + |sentQ|`; DATA in flight was transmitted, FORWARD TSN in flight is at most `T b f`, SACKs at most `T b r`; a needed
  FORWARD TSN is scheduled or covered by T3 (`NeedT3`).  Preserved by EVERY move.
* `C02PR_step_decreases` — every non-T3 step of the continuation strictly decreases `phi3`, which also pays for the FORWARD TSN
  ping-pong (a SACK behind the ack point makes `_receive_sack_chunk` re-send the FORWARD TSN — the repeat rule —, which
  produces another SACK): a SACK at or beyond the ack point weighs `1 + 2N`, behind it `3 + 2N`; the ack point only moves when
  a chunk leaves the queues.
* `C02PR_epoch` — **the repeat rule at work**: from a quiet state with the cumulative ack behind the ack point (the FORWARD TSN
  and / or its SACK were lost) or with something outstanding, T3 expiry + `_transmit` put a FORWARD TSN for the current ack point,
  or the first outstanding chunk, into flight.
* **`C02PR_drains_from_coherent`**, **`C02PR_drains_abstract`** — from every coherent state / after ANY finite history (reliable and
  partially reliable sends mixed, T3 expiries, clock ticks, loss, duplication, reordering) the continuation reaches within
  `PLink.drainBound` steps a state with both queues and the network empty, nothing in flight, T3 off, no FORWARD TSN pending or
  needed, and `lastSacked = advAck = receiver's cumulative TSN = last TSN assigned`.
-/
namespace Aiortc.Props.C02DrainPR
open Aiortc.Sctp Aiortc.Gen

/-- the receiver step of `PLink` on FORWARD TSN is the `Rx` component of the model's `_receive_forward_tsn_chunk`
(`Model/Sctp/Forward.lean`, `rxFwd`), whatever the inbound streams are -/
theorem C02PR_rxFwd_model (rx rx' : Rx) (ins ins' : List (Nat × InStream)) (cum : Int) (streams : List (Nat × Int)) (freed : Nat)
    (msgs : List Msg) (h : rxFwd rx ins cum streams = .ok (rx', ins', freed, msgs)) : rx' = rxFwdTsn rx cum := by
  unfold rxFwd at h
  unfold rxFwdTsn
  split at h
  · simp only [Outcome.ok.injEq, Prod.mk.injEq] at h
    rename_i hg; rw [if_pos hg]; exact h.1.symm
  · rename_i hg
    rw [if_neg hg]
    split at h
    · simp only [Outcome.ok.injEq, Prod.mk.injEq] at h; exact h.1.symm
    all_goals cases h

/-- **every move preserves coherence**, reliable and partially reliable sends alike -/
theorem C02PR_coherence_preserved {b : Int} {κ f r : Nat} {s : PLink} (h : CohP b κ f r s) (ft : Fault)
    (hb : f + s.tx.nOut + ft.sent + 1 < 2147483648) :
    ∃ κ' f' r', CohP b κ' f' r' (s.fault ft) ∧ f' + (s.fault ft).tx.nOut = f + s.tx.nOut + ft.sent :=
  (h.fault ft hb).imp fun _ h' => h'.imp fun _ h' => h'.imp fun _ h' => ⟨h'.1, h'.2.2.2.2⟩

theorem C02PR_reachable_coherent (s0 : PLink) (h0 : s0.Fresh) (fs : List Fault) (hb : sentTotal fs + 1 < 2147483648) :
    ∃ κ f r, CohP s0.tx.lastSacked κ f r (fs.foldl PLink.fault s0)
      ∧ f + (fs.foldl PLink.fault s0).tx.nOut = sentTotal fs := by
  obtain ⟨hc, hn⟩ := h0.coh
  obtain ⟨κ, f, r, h1, h2⟩ := hc.faults fs (by omega)
  exact ⟨κ, f, r, h1, by omega⟩

/-- **every non-T3 step decreases the potential**, keeps coherence, never un-acks, conserves `f + nOut` -/
theorem C02PR_step_decreases {b : Int} {κ f r h : Nat} {s : PLink} (hc : CohP b κ f r s) (hh : HonP b h s) (hq : ¬ s.Quiet) :
    ∃ κ' f' r' h', CohP b κ' f' r' s.step ∧ HonP b h' s.step ∧ h' ≤ h ∧ s.step.phi3 h' + 1 ≤ s.phi3 h ∧ κ ≤ κ'
      ∧ f' + s.step.tx.nOut = f + s.tx.nOut := by
  obtain ⟨κ1, f1, r1, hc1, ht1⟩ := step_progressP hc hq
  obtain ⟨h1, hle, hh1, hphi⟩ := step_phi3 hc hh hq
  exact ⟨κ1, f1, r1, h1, hc1, hh1, hle, hphi, ht1.le, ht1.nOut⟩

/-- **the repeat rule makes every epoch count**: quiet coherent state in which the cumulative ack is behind the advanced peer
ack point (FORWARD TSN or its SACK lost) or something is outstanding; after T3 and the queued `_transmit`, a FORWARD TSN
beyond the cumulative ack or the chunk after it is in flight (`epochP`), so when the network is next empty the cumulative
ack has advanced -/
theorem C02PR_epoch {b : Int} {κ f r : Nat} {s : PLink} (h : CohP b κ f r s) (hq : s.Quiet) (h3 : s.tx.t3 = true)
    (hopen : κ < f ∨ s.tx.sentQ ≠ []) :
    ∃ j κ' f' r', j ≤ epochCostP s.tx.nOut ∧ CohP b κ' f' r' (PLink.run j s) ∧ (PLink.run j s).Quiet ∧ κ < κ'
      ∧ f' + (PLink.run j s).tx.nOut = f + s.tx.nOut :=
  epoch_quietP h hq hopen

/-- the bound, spelled out: `nOut = |sentQ| + |outQ|`, `unacked` = TSNs assigned but not cumulatively acked (`unacked_def`) -/
theorem drainBound_eq (s : PLink) :
    s.drainBound = s.toRx.length * (4 + 2 * s.tx.nOut) + s.toTx.length * (3 + 2 * s.tx.nOut) + (5 + 2 * s.tx.nOut)
      + (4 + 2 * s.tx.nOut) * (s.tx.nOut + s.tx.nOut * (s.toTx.length + 2 * s.tx.nOut))
      + (s.tx.unacked * (2 + (5 + 2 * s.tx.unacked)
          + (4 + 2 * s.tx.unacked) * (s.tx.unacked + s.tx.unacked * (2 * s.tx.unacked))) + 2) := rfl

theorem unacked_def (t : Tx) :
    t.unacked = ((t.advAck - t.lastSacked) % 4294967296).toNat + (t.sentQ.length + t.outQ.length) := rfl

/-- from every coherent state the continuation reaches, within `PLink.drainBound` steps, a drained state in which no FORWARD TSN
is pending or needed and the receiver's cumulative TSN is the old advanced peer ack point plus the number of chunks that were
outstanding or queued -/
theorem C02PR_drains_from_coherent {b : Int} {κ f r : Nat} {s : PLink} (h : CohP b κ f r s) :
    ∃ j, j ≤ s.drainBound ∧ (PLink.run j s).Drained
      ∧ (PLink.run j s).tx.forwardNeeded = false
      ∧ (PLink.run j s).rx.last = (s.tx.advAck + (s.tx.nOut : Int)) % 4294967296
      ∧ (PLink.run j s).tx.lastSacked = (PLink.run j s).rx.last
      ∧ (PLink.run j s).tx.advAck = (PLink.run j s).rx.last
      ∧ (PLink.run j s).tx.localTsn = tsn_plus_one (PLink.run j s).rx.last := by
  obtain ⟨j, hj, hd, h1, h2, h3, h4, h5, _⟩ := h.drains
  refine ⟨j, hj, hd, h5, ?_, by rw [h1, h3], by rw [h2, h3], by rw [h4, h3, T_succ]⟩
  rw [h3, h.core.seq.adv, T_add]

/-- **`C02PR_drains_abstract`**: fresh pair, ANY finite history — reliable and partially reliable messages, T3 expiries,
clock ticks, loss / duplication / reordering of DATA, FORWARD TSN and SACK chunks —, then the canonical fault-free
continuation: within `drainBound` steps everything is drained, no FORWARD TSN is pending or needed, and the sender's cumulative
ack, its advanced peer ack point and the receiver's cumulative TSN all equal the last TSN assigned. -/
theorem C02PR_drains_abstract (s0 : PLink) (h0 : s0.Fresh) (fs : List Fault) (hb : sentTotal fs + 1 < 2147483648) :
    let s := fs.foldl PLink.fault s0
    ∃ j, j ≤ s.drainBound ∧ (PLink.run j s).Drained
      ∧ (PLink.run j s).tx.forwardNeeded = false
      ∧ (PLink.run j s).rx.last = (s0.tx.lastSacked + (sentTotal fs : Int)) % 4294967296
      ∧ (PLink.run j s).tx.lastSacked = (PLink.run j s).rx.last
      ∧ (PLink.run j s).tx.advAck = (PLink.run j s).rx.last
      ∧ (PLink.run j s).tx.localTsn = tsn_plus_one (PLink.run j s).rx.last := by
  intro s
  obtain ⟨κ, f, r, hc, hn⟩ := C02PR_reachable_coherent s0 h0 fs hb
  obtain ⟨j, hj, hd, h1, h2, h3⟩ := C02PR_drains_from_coherent hc
  refine ⟨j, hj, hd, h1, ?_, h3⟩
  rw [h2, hc.core.seq.adv, T_add, hn]; rfl

/-! ## every reliable message arrives

`queuedBy s0 fs` lists, in TSN order, every chunk the history `fs` put into `_outbound_queue` (`_send`'s fragments); `got` is
the list of TSNs that reached the receiver as DATA chunks.  Supporting invariants (`Lemmas/C02/DrainPRWf.lean`, `DrainPRAw.lean`,
`DrainPRDelivered*.lean`): the queue consists of whole messages whose fragments share `max_retransmits` / lifetime (`Wf`), so
`_maybe_abandon` — which walks from the chunk that exceeded its limits back to the FIRST and on to the LAST fragment — only ever
marks partially reliable chunks (`maybeAbandon_aw`); a chunk leaves the queues only cumulatively acknowledged or abandoned (`Leaves`);
the receiver's cumulative TSN moves only over TSNs it received or that a FORWARD TSN (≤ the advanced peer ack point) skipped
(`GotInv`). -/

/-- `_maybe_abandon` marks only partially reliable chunks, in a queue made of whole messages -/
theorem C02PR_only_pr_abandoned (t : Tx) (pos : Nat) (now : Int) (h : AW t) : AW (t.maybeAbandon pos now).2 :=
  maybeAbandon_aw t pos now h

/-- **`C02PR_reliable_received`**: fresh pair, ANY finite history, then the continuation: drained within the bound; the chunks
the history queued are exactly the TSNs `initial + 1 … initial + sentTotal`; EVERY chunk of a reliable message (no
`max_retransmits`, no lifetime) reached the receiver as a DATA chunk; the receiver's cumulative TSN, the sender's cumulative
ack and its advanced peer ack point all equal the last TSN assigned (abandoned chunks were skipped by FORWARD TSN). -/
theorem C02PR_reliable_received (s0 : PLink) (h0 : s0.Fresh) (fs : List Fault) (hb : sentTotal fs + 1 < 2147483648) :
    ∃ j, j ≤ (fs.foldl PLink.fault s0).drainBound ∧ (PLink.run j (fs.foldl PLink.fault s0)).Drained
      ∧ (queuedBy s0 fs).length = sentTotal fs
      ∧ (∀ i c, (queuedBy s0 fs)[i]? = some c → c.tsn = (s0.tx.lastSacked + ((i + 1 : Nat) : Int)) % 4294967296)
      ∧ (∀ c ∈ queuedBy s0 fs, c.maxRetransmits = none → c.expiry = none →
          c.tsn ∈ (PLink.run j (fs.foldl PLink.fault s0)).got)
      ∧ (PLink.run j (fs.foldl PLink.fault s0)).rx.last = (s0.tx.lastSacked + (sentTotal fs : Int)) % 4294967296
      ∧ (PLink.run j (fs.foldl PLink.fault s0)).tx.lastSacked = (PLink.run j (fs.foldl PLink.fault s0)).rx.last
      ∧ (PLink.run j (fs.foldl PLink.fault s0)).tx.advAck = (PLink.run j (fs.foldl PLink.fault s0)).rx.last
      ∧ (PLink.run j (fs.foldl PLink.fault s0)).tx.forwardNeeded = false := by
  obtain ⟨hc0, hn0⟩ := h0.coh
  obtain ⟨κ, f, r, hc, hg, hn⟩ := GotInv.faults fs hc0 h0.got (by rw [hn0, Nat.zero_add]; exact hb)
  rw [hn0, Nat.zero_add] at hn
  rw [List.nil_append] at hg
  obtain ⟨j, hj, hd, d1, d2, d3, _, d5, _⟩ := hc.drains
  obtain ⟨_, _, _, _, hg2, _⟩ := GotInv.run j hc hg
  exact ⟨j, hj, hd, by rw [hg.len, hn], fun i c hi => by rw [hg.tsn i c hi]; rfl,
    fun c hcm h1 h2 => (hg2.drained hd c hcm).resolve_right (fun h => h ⟨h1, h2⟩), by rw [d3, hn]; rfl,
    d1.trans d3.symm, d2.trans d3.symm, d5⟩

/-! ## both directions of one association

The model's endpoints never bundle a SACK with DATA (`Endpoint.sendChunk` builds one packet per chunk), and here the sender and
the receiver half of an endpoint share no state: an association is the product of the link A → B (`A.Tx`, `B.Rx`) and the link
B → A (`fault2`, `step2`, `run2` in `Lemmas/C02/DrainPRBoth.lean`). -/

/-- **`C02PR_drains_both_directions`**: two fresh links, ANY finite history of moves on either of them, then the canonical
continuation of the association (both links step): within the larger of the two bounds both directions are drained, and in
each the sender's cumulative ack, its advanced peer ack point and the peer's cumulative TSN equal the last TSN assigned. -/
theorem C02PR_drains_both_directions (a0 b0 : PLink) (ha : a0.Fresh) (hb : b0.Fresh) (fs : List (Bool × Fault))
    (hba : sentTotal (movesOf true fs) + 1 < 2147483648) (hbb : sentTotal (movesOf false fs) + 1 < 2147483648) :
    let s := fs.foldl fault2 (a0, b0)
    ∃ j, j ≤ max s.1.drainBound s.2.drainBound ∧ (run2 j s).1.Drained ∧ (run2 j s).2.Drained
      ∧ (run2 j s).1.rx.last = (a0.tx.lastSacked + (sentTotal (movesOf true fs) : Int)) % 4294967296
      ∧ (run2 j s).1.tx.lastSacked = (run2 j s).1.rx.last ∧ (run2 j s).1.tx.advAck = (run2 j s).1.rx.last
      ∧ (run2 j s).2.rx.last = (b0.tx.lastSacked + (sentTotal (movesOf false fs) : Int)) % 4294967296
      ∧ (run2 j s).2.tx.lastSacked = (run2 j s).2.rx.last ∧ (run2 j s).2.tx.advAck = (run2 j s).2.rx.last := by
  intro s
  obtain ⟨κ1, f1, r1, hc1, hn1⟩ := C02PR_reachable_coherent a0 ha (movesOf true fs) hba
  obtain ⟨κ2, f2, r2, hc2, hn2⟩ := C02PR_reachable_coherent b0 hb (movesOf false fs) hbb
  rw [show s = (_, _) from foldl_fault2 fs (a0, b0)]
  obtain ⟨j, hj, d1, d2, a1, a2, a3, c1, c2, c3⟩ := drains_both (s := (_, _)) hc1 hc2
  exact ⟨j, hj, d1, d2, a1.trans (by rw [hn1]; rfl), a2.trans a1.symm, a3.trans a1.symm, c1.trans (by rw [hn2]; rfl),
    c2.trans c1.symm, c3.trans c1.symm⟩

/-! ## non-vacuity: an abandoned message and a FORWARD TSN that is lost twice -/

def relMsg : SendArgs := { sid := 1, ppid := 53, data := [1, 2, 3], expiry := none, maxRtx := none, ordered := true }
/-- `maxRetransmits = 0`: abandoned as soon as it would have to be retransmitted -/
def prMsg : SendArgs := { sid := 2, ppid := 53, data := [4, 5], expiry := none, maxRtx := some 0, ordered := true }

def demo0 : PLink := { tx := (Ep.init false 1 100).tx, rx := { last := 99, mis := [], dups := [] } }

example : demo0.Fresh :=
  ⟨⟨rfl, rfl, rfl, rfl, by decide⟩, rfl, by unfold R32; decide, rfl, by decide, rfl, rfl, rfl, rfl, rfl⟩

/-- TSN 100 (partially reliable) is lost, 101 arrives, its SACK is lost, T3 fires: 100 is abandoned and skipped, the FORWARD TSN
is lost, the retransmitted 101 is SACKed, `_receive_sack_chunk` repeats the FORWARD TSN, which is lost again; one more send -/
def demoFaults : List Fault :=
  [.send prMsg, .send relMsg, .dropData 0, .deliverData 0, .dropSack 0, .fireT3, .task, .dropData 0,
   .deliverData 0, .deliverSack 0, .dropData 0, .send relMsg]

def demo1 : PLink := demoFaults.foldl PLink.fault demo0

example : sentTotal demoFaults = 3 := by decide +kernel

/-- the history leaves: cumulative ack 99 behind the advanced peer ack point 100, FORWARD TSN needed but none in flight, the
receiver still at 99 with 101 misordered -/
example : demo1.tx.lastSacked = 99 ∧ demo1.tx.advAck = 100 ∧ demo1.tx.forwardNeeded = true ∧ demo1.tx.forwardTsn = none
    ∧ demo1.tx.sentQ.map (·.tsn) = [101, 102] ∧ demo1.rx.last = 99 ∧ demo1.rx.mis = [101] ∧ demo1.toTx = []
    ∧ demo1.toRx.length = 1 ∧ demo1.tx.t3 = true ∧ demo1.got = [101, 101] := by decide +kernel

example : demo1.drainBound = 768 := by decide +kernel

/-- … and the continuation drains it: the receiver's cumulative TSN ends at 99 + 3 although TSN 100 never arrived -/
example : (PLink.run 4 demo1).tx.sentQ = [] ∧ (PLink.run 4 demo1).tx.outQ = [] ∧ (PLink.run 4 demo1).tx.flight = 0
    ∧ (PLink.run 4 demo1).toRx = [] ∧ (PLink.run 4 demo1).toTx = [] ∧ (PLink.run 4 demo1).tx.t3 = false
    ∧ (PLink.run 4 demo1).rx.last = 102 ∧ (PLink.run 4 demo1).tx.lastSacked = 102 ∧ (PLink.run 4 demo1).tx.advAck = 102
    ∧ (PLink.run 4 demo1).tx.forwardNeeded = false ∧ (PLink.run 4 demo1).got = [101, 101, 102] := by decide +kernel

/-- the chunks the history queued: TSN 100 partially reliable, 101 and 102 reliable; the reliable ones arrive, 100 does not -/
example : (queuedBy demo0 demoFaults).map (fun c => (c.tsn, c.maxRetransmits)) = [(100, some 0), (101, none), (102, none)]
    ∧ 100 ∉ (PLink.run 4 demo1).got := by decide +kernel

/-- hypotheses of `C02PR_epoch`: everything in flight is lost too; only T3 is left -/
def demo2 : PLink := (demoFaults ++ [Fault.dropData 0]).foldl PLink.fault demo0
example : demo2.Quiet ∧ demo2.tx.t3 = true ∧ demo2.tx.lastSacked = 99 ∧ demo2.tx.advAck = 100 := by
  unfold PLink.Quiet; decide +kernel

/-- a history on both links: the one above on A → B, a lost reliable message on B → A -/
def demoBoth : List (Bool × Fault) := demoFaults.map (fun f => (true, f)) ++ [(false, .send relMsg), (false, .dropData 0)]
def demoB0 : PLink := { tx := (Ep.init true 2 500).tx, rx := { last := 499, mis := [], dups := [] } }
example : demoB0.Fresh :=
  ⟨⟨rfl, rfl, rfl, rfl, by decide⟩, rfl, by unfold R32; decide, rfl, by decide, rfl, rfl, rfl, rfl, rfl⟩
example : sentTotal (movesOf true demoBoth) = 3 ∧ sentTotal (movesOf false demoBoth) = 1 := by decide +kernel
example : (run2 8 (demoBoth.foldl fault2 (demo0, demoB0))).1.rx.last = 102
    ∧ (run2 8 (demoBoth.foldl fault2 (demo0, demoB0))).2.rx.last = 500
    ∧ (run2 8 (demoBoth.foldl fault2 (demo0, demoB0))).2.tx.sentQ = []
    ∧ (run2 8 (demoBoth.foldl fault2 (demo0, demoB0))).1.tx.sentQ = [] := by decide +kernel

end Aiortc.Props.C02DrainPR
