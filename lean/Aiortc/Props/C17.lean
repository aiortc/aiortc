import Aiortc.Gen.Serial
import Aiortc.Gen.Sctp
import Aiortc.Gen.Rtp
import Aiortc.Lemmas.Serial
/-!
# C17 — serial-number arithmetic: the laws of the regenerated comparison functions

`Aiortc.Gen.uint16_*` / `uint32_*` / `tsn_*` are re-translated from `src/aiortc/utils.py` and
`rtcsctptransport.py` on every run, so these theorems are about what the code says at that run.
All statements quantify over *all* integers in the wire range (no enumeration).
-/
namespace Aiortc.Props.C17
open Aiortc.Gen

def R16 (a : Int) : Prop := 0 ≤ a ∧ a < 65536
def R32 (a : Int) : Prop := 0 ≤ a ∧ a < 4294967296

/-! `uint16_gt` and `uint32_gt` are `Serial.serialGt` with `h = 2^15` and `h = 2^31`; the laws are those of `Lemmas/Serial.lean`,
proved there for any even modulus. -/

theorem uint16_gt_iff (a b : Int) (ha : R16 a) (hb : R16 b) :
    uint16_gt a b = true ↔ 0 < (a - b) % 65536 ∧ (a - b) % 65536 < 32768 :=
  Serial.serialGt_iff (by decide) (by decide) ha hb

theorem uint16_gt_irrefl (a : Int) : uint16_gt a a = false := Serial.serialGt_irrefl

-- totality rather than antisymmetry: of two distinct numbers not exactly half the space apart, exactly one is greater
theorem uint16_gt_antisymm (a b : Int) (hne : a ≠ b)
    (hhalf : (a - b) % 65536 ≠ 32768) :
    uint16_gt a b = !uint16_gt b a :=
  Serial.serialGt_eq_not (by decide) (by decide) hne hhalf

theorem uint16_gt_asymm (a b : Int) (h : uint16_gt a b = true) : uint16_gt b a = false := Serial.serialGt_asymm h

theorem uint16_add_gt (a k : Int) (ha : R16 a) (hk : 0 < k) (hk' : k < 32768) :
    uint16_gt (uint16_add a k) a = true :=
  Serial.serialGt_add (by decide) (by decide) ha hk hk'

theorem uint16_add_range (a k : Int) : R16 (uint16_add a k) := Serial.emod_range (by decide) _

theorem uint16_gt_shift (a b c : Int) (ha : R16 a) (hb : R16 b) :
    uint16_gt (uint16_add a c) (uint16_add b c) = uint16_gt a b :=
  Serial.serialGt_shift (by decide) (by decide) c ha hb

theorem uint16_gte_iff (a b : Int) : uint16_gte a b = (decide (a = b) || uint16_gt a b) := rfl

theorem uint16_gte_shift (a b c : Int) (ha : R16 a) (hb : R16 b) :
    uint16_gte (uint16_add a c) (uint16_add b c) = uint16_gte a b := by
  unfold uint16_gte
  rw [uint16_gt_shift a b c ha hb]
  congr 1
  exact decide_eq_decide.2 (Serial.eq_shift c ha hb)

theorem uint16_gt_trans_window (a b c : Int) (ha : R16 a) (hb : R16 b) (hc : R16 c)
    (hab : uint16_gt a b = true) (hbc : uint16_gt b c = true)
    (hwin : (a - c) % 65536 < 32768) : uint16_gt a c = true :=
  Serial.serialGt_trans_window (by decide) (by decide) ha hb hc hab hbc hwin

theorem uint32_gt_iff (a b : Int) (ha : R32 a) (hb : R32 b) :
    uint32_gt a b = true ↔ 0 < (a - b) % 4294967296 ∧ (a - b) % 4294967296 < 2147483648 :=
  Serial.serialGt_iff (by decide) (by decide) ha hb

theorem uint32_gt_irrefl (a : Int) : uint32_gt a a = false := Serial.serialGt_irrefl

theorem uint32_gt_antisymm (a b : Int) (hne : a ≠ b)
    (hhalf : (a - b) % 4294967296 ≠ 2147483648) :
    uint32_gt a b = !uint32_gt b a :=
  Serial.serialGt_eq_not (by decide) (by decide) hne hhalf

theorem uint32_gt_asymm (a b : Int) (h : uint32_gt a b = true) : uint32_gt b a = false := Serial.serialGt_asymm h

theorem uint32_add_gt (a k : Int) (ha : R32 a) (hk : 0 < k) (hk' : k < 2147483648) :
    uint32_gt (uint32_add a k) a = true :=
  Serial.serialGt_add (by decide) (by decide) ha hk hk'

theorem uint32_add_range (a k : Int) : R32 (uint32_add a k) := Serial.emod_range (by decide) _

theorem uint32_gt_shift (a b c : Int) (ha : R32 a) (hb : R32 b) :
    uint32_gt (uint32_add a c) (uint32_add b c) = uint32_gt a b :=
  Serial.serialGt_shift (by decide) (by decide) c ha hb

theorem uint32_gte_iff (a b : Int) : uint32_gte a b = (decide (a = b) || uint32_gt a b) := rfl

theorem uint32_gte_shift (a b c : Int) (ha : R32 a) (hb : R32 b) :
    uint32_gte (uint32_add a c) (uint32_add b c) = uint32_gte a b := by
  unfold uint32_gte
  rw [uint32_gt_shift a b c ha hb]
  congr 1
  exact decide_eq_decide.2 (Serial.eq_shift c ha hb)

theorem uint32_gt_trans_window (a b c : Int) (ha : R32 a) (hb : R32 b) (hc : R32 c)
    (hab : uint32_gt a b = true) (hbc : uint32_gt b c = true)
    (hwin : (a - c) % 4294967296 < 2147483648) : uint32_gt a c = true :=
  Serial.serialGt_trans_window (by decide) (by decide) ha hb hc hab hbc hwin

theorem tsn_plus_one_eq (a : Int) : tsn_plus_one a = uint32_add a 1 := rfl

theorem tsn_minus_plus (a : Int) (ha : R32 a) : tsn_minus_one (tsn_plus_one a) = a := by
  unfold R32 at *; unfold tsn_minus_one tsn_plus_one; omega

theorem tsn_plus_minus (a : Int) (ha : R32 a) : tsn_plus_one (tsn_minus_one a) = a := by
  unfold R32 at *; unfold tsn_minus_one tsn_plus_one; omega

theorem tsn_plus_one_gt (a : Int) (ha : R32 a) : uint32_gt (tsn_plus_one a) a = true := by
  rw [tsn_plus_one_eq]; exact uint32_add_gt a 1 ha (by omega) (by omega)

/-! non-vacuity: the wrap point satisfies the hypotheses -/
example : R16 65535 ∧ R16 0 ∧ uint16_gt 0 65535 = true ∧ uint16_gt 65535 0 = false := by
  unfold R16; decide
example : R32 4294967295 ∧ uint32_gt (tsn_plus_one 4294967295) 4294967295 = true := by
  unfold R32; decide

end Aiortc.Props.C17
