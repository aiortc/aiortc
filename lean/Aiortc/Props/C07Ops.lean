import Aiortc.Model.Rtp.Ops
import Aiortc.Lemmas.C07.Ops
import Aiortc.Props.C07
/-!
# C07 — the round trip does not depend on the history of the objects involved

`Props/C07.lean` states the round trips for *values* and for ONE id record.  The library's
`HeaderExtensionsMap` is a long-lived mutable object that is `configure()`d again between uses (every sender
/ receiver that registers on a bundled transport), and packets are mutable objects that are re-stamped and
serialised again.  `Model/Rtp/Ops.lean` is the reference semantics of such histories; the `ops`
correspondence of the harness runs the same histories on live Python objects and compares every step.

The theorems say what the reference semantics guarantees after an ARBITRARY history `hist`.
-/
namespace Aiortc.Props.C07Ops
open Aiortc Aiortc.Rtp Aiortc.Rtp.Ops Aiortc.Outcome Aiortc.Lemmas.C07.Ops

/-! ## `configure`: the id record is a function of the configure history -/

/-- Two `configure` calls are one call with the concatenated extension lists … -/
theorem configure_append (ids : ExtIds) (l₁ l₂ : List (Uri × Nat)) :
    configure (configure ids l₁) l₂ = configure ids (l₁ ++ l₂) := by
  simp [configure, List.foldl_append]

/-- … so the map after any number of calls is the fold of ALL entries seen so far, in order, over the empty
record (nothing else — in particular not whether `get`/`set` were used in between — enters). -/
theorem configure_history (ls : List (List (Uri × Nat))) :
    ls.foldl configure {} = configure {} ls.flatten := by
  suffices h : ∀ ids, ls.foldl configure ids = configure ids ls.flatten from h _
  induction ls with
  | nil => intro ids; rfl
  | cons l ls ih => intro ids; rw [List.foldl_cons, ih, List.flatten_cons, ← configure_append]

/-- A later `configure` ADDS: an entry for a known URI sets the id of that extension … -/
theorem configure_sets (ids : ExtIds) (l : List (Uri × Nat)) (i : Nat) :
    (configure ids (l ++ [(.mid, i)])).mid = some i
    ∧ (configure ids (l ++ [(.repairedRtpStreamId, i)])).repairedRtpStreamId = some i
    ∧ (configure ids (l ++ [(.rtpStreamId, i)])).rtpStreamId = some i
    ∧ (configure ids (l ++ [(.absSendTime, i)])).absSendTime = some i
    ∧ (configure ids (l ++ [(.transmissionOffset, i)])).transmissionOffset = some i
    ∧ (configure ids (l ++ [(.audioLevel, i)])).audioLevel = some i
    ∧ (configure ids (l ++ [(.transportSequenceNumber, i)])).transportSequenceNumber = some i := by
  simp [configure, List.foldl_append, configure1]

/-- … and never removes or changes the id of an extension it does not mention (shown for `mid`; unknown URIs
change nothing at all). -/
theorem configure_keeps (ids : ExtIds) (l : List (Uri × Nat)) :
    ((∀ e ∈ l, e.1 ≠ .mid) → (configure ids l).mid = ids.mid)
    ∧ ((∀ e ∈ l, e.1 = .other) → configure ids l = ids) := by
  constructor
  · refine fun h => configure_keeps_of (·.mid) l (fun ⟨u, i⟩ he a => ?_) ids
    have he := h _ he
    cases u <;> first | rfl | exact absurd rfl he
  · refine fun h => configure_keeps_of id l (fun ⟨u, i⟩ he a => ?_) ids
    have he : u = .other := h _ he
    subst he
    rfl

/-! ## histories -/

/-- **Serialising observes the current field values and the current id record only.**  Whatever happened
before (`hist`: the object may have been built with other values, serialised, parsed into, modified; the map
may have been used for any number of packets), once the live object has the field values `v`, serialising it
gives exactly what a fresh object with these values gives under a map holding the same ids. -/
theorem ops_ser_current_value (pool : Pool) (hist : List Op) (o m b : Nat) (v : Val) :
    run (exec pool hist) [.put o v, .ser o m b] =
      [.done, .bytes (serVal ((exec pool hist).maps m) v)] := by
  simp [run, step, upd_same]

/-- Serialising twice in a row gives the same bytes. -/
theorem ops_ser_twice (pool : Pool) (o m b b' : Nat) :
    run pool [.ser o m b, .ser o m b'] = [(step pool (.ser o m b)).2, (step pool (.ser o m b)).2] := by
  simp only [run, step]
  cases h : (pool.objs o).bind (serVal (pool.maps m)) <;> simp [h]

/-- **Parsing observes the bytes and the current id record only**: in two pools that agree on the register
and on the ids of the map, `RtpPacket.parse`, `RtcpPacket.parse` and `HeaderExtensionsMap.get` observe the
same — in particular after the owner of an earlier result modified it. -/
theorem ops_parse_pure (pool pool' : Pool) (b m o o' : Nat) (hr : pool'.regs b = pool.regs b)
    (hm : pool'.maps m = pool.maps m) (profile : Nat) (d : Bytes) :
    (step pool (.parseRtp b m o)).2 = .rtp (parse (pool.maps m) (pool.regs b))
    ∧ (step pool' (.parseRtp b m o')).2 = (step pool (.parseRtp b m o)).2
    ∧ (step pool' (.parseRtcp b o')).2 = (step pool (.parseRtcp b o)).2
    ∧ (step pool' (.mget m profile d)).2 = (step pool (.mget m profile d)).2 := by
  simp only [step, hr, hm, and_self]

/-- Sequence form: parse, then let anything happen that does not re-configure the map or overwrite the
register — the owner modifies the result in any way (`put`), other packets are parsed and serialised with the
same map, other maps are configured — and parse the same bytes again: the last observation equals the first. -/
theorem ops_reparse_same (pool : Pool) (b m o o' : Nat) (mid : List Op) (hq : ∀ op ∈ mid, Quiet m b op) :
    (run pool ([.parseRtp b m o] ++ mid ++ [.parseRtp b m o'])).getLast? = (run pool [.parseRtp b m o]).head? := by
  rw [run_append_singleton, List.getLast?_concat]
  have hs := step_quiet pool m b (.parseRtp b m o) trivial
  have he := exec_quiet (step pool (.parseRtp b m o)).1 m b mid hq
  have := (ops_parse_pure pool (exec pool ([.parseRtp b m o] ++ mid)) b m o o'
    (by simp only [List.singleton_append, exec]; exact he.2.trans hs.2)
    (by simp only [List.singleton_append, exec]; exact he.1.trans hs.1) 0 []).2.1
  rw [this]
  rfl

/-- **Round trip for re-used objects and re-configured maps.**  After an arbitrary history — which may
contain any number of `configure` calls on map `m` interleaved with uses of it — configure `m` once more
(`l`), overwrite the live packet in slot `o` with in-range field values, serialise it with `m` and parse the
bytes with `m`: if the id record the history produced is legal (ids 1..255, distinct), the packet parses back
to exactly these values, with every extension that has an id in the record at that time — including those
whose id was configured after the map was first used. -/
theorem ops_reuse_roundtrip (pool : Pool) (hist : List Op) (m o o' b : Nat) (l : List (Uri × Nat))
    (p : RtpPacket) (pad : Bytes)
    (hids : (configure ((exec pool hist).maps m) l).WF) (hp : p.WF) (hpad : pad.length = p.paddingSize - 1) :
    run (exec pool hist) [.cfg m l, .put o (.rtp p pad), .ser o m b, .parseRtp b m o'] =
      [.done, .done, .bytes (some (serialize (configure ((exec pool hist).maps m) l) p pad)),
       .rtp (ok { p with extensions := restrict (configure ((exec pool hist).maps m) l) p.extensions })] := by
  have hser : rtpSerOk (configure ((exec pool hist).maps m) l) p pad := by
    refine ⟨hp, ?_, hpad⟩
    intro i hi
    rw [List.mem_filterMap] at hi
    obtain ⟨oi, ho, hoi⟩ := hi
    exact (hids.1 oi ho i hoi).2
  have hrt := C07.rtp_roundtrip _ hids p hp pad (fun _ => hpad)
  simp only [run, step, upd_same, Option.bind_some, serVal, if_pos hser, hrt]

/-- The same for RTCP: overwrite a live compound with well-formed packets (NACK lists ascending), serialise,
parse — after any history. -/
theorem ops_reuse_roundtrip_rtcp (pool : Pool) (hist : List Op) (o o' m b : Nat) (ps : List RtcpPacket)
    (h : ∀ p ∈ ps, p.WF) (hasc : ∀ p ∈ ps, ∀ f s m lost, p = .rtpfb f s m lost → Ascending lost) :
    run (exec pool hist) [.put o (.rtcp ps), .ser o m b, .parseRtcp b o'] =
      [.done, .bytes (some (serCompound ps)), .rtcp (ok ps)] := by
  have hall : ps.all (fun p => decide p.WF) = true := by
    rw [List.all_eq_true]; intro p hp; exact decide_eq_true (h p hp)
  have hrt := C07.rtcp_roundtrip ps h hasc
  simp only [run, step, upd_same, Option.bind_some, serVal, hall, if_true, hrt]

/-- An example history: an audio receiver registers first (mid 1, audio level 2) and the map is
used; then a video receiver registers on the same transport (abs-send-time 3, transport-cc 15): a packet
carrying the NEW extensions round-trips (hypotheses of `ops_reuse_roundtrip` satisfied by a non-trivial history). -/
def exHist (bs : Bytes) : List Op :=
  [.mnew 0, .cfg 0 [(.mid, 1), (.audioLevel, 2)], .raw 0 bs, .parseRtp 0 0 1, .mget 0 0xBEDE bs]
def exPacket : RtpPacket :=
  { payloadType := 96, sequenceNumber := 65535,
    extensions := { mid := some [0x31], absSendTime := some 0xFFFFFF, transportSequenceNumber := some 65535 } }

example (bs : Bytes) :
    ∃ ids, ids.absSendTime = some 3 ∧ ids.transportSequenceNumber = some 15
      ∧ restrict ids exPacket.extensions = exPacket.extensions
      ∧ run (exec Pool.empty (exHist bs))
          [.cfg 0 [(.mid, 1), (.absSendTime, 3), (.transportSequenceNumber, 15)], .put 0 (.rtp exPacket []),
           .ser 0 0 1, .parseRtp 1 0 2] =
        [.done, .done, .bytes (some (serialize ids exPacket [])), .rtp (ok exPacket)] := by
  have hm : (exec Pool.empty (exHist bs)).maps 0 = ({ mid := some 1, audioLevel := some 2 } : ExtIds) := by
    have := exec_quiet (exec Pool.empty [.mnew 0, .cfg 0 [(.mid, 1), (.audioLevel, 2)]]) 0 7
      [.raw 0 bs, .parseRtp 0 0 1, .mget 0 0xBEDE bs] (by simp [Quiet])
    exact this.1
  have h := ops_reuse_roundtrip Pool.empty (exHist bs) 0 0 2 1
    [(.mid, 1), (.absSendTime, 3), (.transportSequenceNumber, 15)] exPacket []
    (by rw [hm]; decide) (by decide) (by decide)
  rw [hm] at h
  exact ⟨_, rfl, rfl, by decide, h⟩

end Aiortc.Props.C07Ops
