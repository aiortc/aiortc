import Aiortc.Model.Ntp
import Aiortc.Model.Stats
/-!
# C18 (extension) — the NTP timestamp behind the `lsr` field

The receiver report's `lsr` is the middle 32 bits of the NTP timestamp of the last sender report
(`Model.Stats.lsrOf`), and that timestamp is produced on the sending side by `clock.datetime_to_ntp`.
These theorems cover the integer core of `clock.py` (`Model/Ntp.lean`) for every date from 1900 on:
the fraction word always fits 32 bits, the whole timestamp fits the 64-bit wire field exactly until the
NTP era ends (2^32 s after 1900), the conversion is monotone in time, `>> 32` recovers the seconds, `lsr`
is the low 16 bits of the seconds and the high 16 bits of the fraction, and `datetime_from_ntp` inverts
`datetime_to_ntp` to the microsecond and is total on every 64-bit value.
-/
namespace Aiortc.Props.C18Ntp
open Aiortc.Model.Ntp Aiortc.Model.Stats

/-- The fraction word fits 32 bits. -/
theorem low_lt (m : Nat) (hm : m < 1000000) : low m < 4294967296 := by
  unfold low; omega

/-- The fraction is the floor of `m / 10^6` in units of 2^-32 s: never ahead of the true time, less than one unit behind. -/
theorem low_floor (m : Nat) : low m * 1000000 ≤ m * 4294967296 ∧ m * 4294967296 < (low m + 1) * 1000000 := by
  unfold low; omega

/-- `(high << 32) | low` is `high · 2^32 + low`. -/
theorem toNtp_eq (d s m : Nat) (hm : m < 1000000) : toNtp d s m = high d s * 4294967296 + low m := by
  unfold toNtp
  rw [← Nat.shiftLeft_add_eq_or_of_lt (by simpa using low_lt m hm), Nat.shiftLeft_eq]

/-- `current_ntp_time() >> 32` (session ids of createOffer / createAnswer) is the whole seconds. -/
theorem toNtp_seconds (d s m : Nat) (hm : m < 1000000) : toNtp d s m >>> 32 = high d s := by
  have := low_lt m hm
  rw [toNtp_eq d s m hm, Nat.shiftRight_eq_div_pow]; omega

theorem toNtp_fraction (d s m : Nat) (hm : m < 1000000) : toNtp d s m &&& 0xFFFFFFFF = low m := by
  have := low_lt m hm
  have h : (0xFFFFFFFF : Nat) = 2 ^ 32 - 1 := by decide
  rw [toNtp_eq d s m hm, h, Nat.and_two_pow_sub_one_eq_mod]; omega

/-- The timestamp fits the 64-bit field of a sender report exactly while the seconds fit 32 bits (until 2036). -/
theorem toNtp_fits_iff (d s m : Nat) (hm : m < 1000000) :
    toNtp d s m < 18446744073709551616 ↔ high d s < 4294967296 := by
  have := low_lt m hm
  rw [toNtp_eq d s m hm]; omega

/-- Later instants get larger timestamps (lexicographic order on seconds, microseconds). -/
theorem toNtp_mono (d s m d' s' m' : Nat) (hm : m < 1000000) (hm' : m' < 1000000)
    (h : high d s < high d' s' ∨ (high d s = high d' s' ∧ m ≤ m')) : toNtp d s m ≤ toNtp d' s' m' := by
  have := low_lt m hm
  have := low_lt m' hm'
  rw [toNtp_eq d s m hm, toNtp_eq d' s' m' hm']
  rcases h with h | ⟨h, h'⟩
  · omega
  · have : low m ≤ low m' := by unfold low; omega
    omega

/-- Distinct seconds give distinct timestamps (strictness of the order in the seconds). -/
theorem toNtp_strict (d s m d' s' m' : Nat) (hm : m < 1000000) (hm' : m' < 1000000)
    (h : high d s < high d' s') : toNtp d s m < toNtp d' s' m' := by
  have := low_lt m hm
  have := low_lt m' hm'
  rw [toNtp_eq d s m hm, toNtp_eq d' s' m' hm']; omega

/-- The `lsr` a receiver derives from a sender's timestamp: low 16 bits of the seconds, high 16 bits of the fraction. -/
theorem lsr_of_toNtp (d s m : Nat) (hm : m < 1000000) :
    lsrOf (toNtp d s m : Nat) = ((high d s % 65536) * 65536 + low m / 65536 : Nat) := by
  have := low_lt m hm
  rw [toNtp_eq d s m hm]
  unfold lsrOf
  omega

theorem roundHalfEven_near (n k : Nat) (h1 : k * 4294967296 < n + 1000000) (h2 : n ≤ k * 4294967296) :
    roundHalfEven n 4294967296 = k := by
  unfold roundHalfEven
  split
  · omega
  · split
    · omega
    · split <;> omega

theorem roundHalfEven_le_succ (n d : Nat) : roundHalfEven n d ≤ n / d + 1 := by
  unfold roundHalfEven
  split
  · omega
  · split
    · omega
    · split <;> omega

theorem roundHalfEven_le (n : Nat) (h : n < 4294967296 * 1000000) : roundHalfEven n 4294967296 ≤ 1000000 :=
  Nat.le_trans (roundHalfEven_le_succ n _) (Nat.succ_le_of_lt (Nat.div_lt_of_lt_mul h))

/-- `datetime_from_ntp` undoes `datetime_to_ntp` to the microsecond, for every instant from 1900 on. -/
theorem from_to (d s m : Nat) (hs : s < 86400) (hm : m < 1000000) : fromNtp (toNtp d s m) = (d, s, m) := by
  have hf := low_floor m
  have hus : fromUs (toNtp d s m) = m := by
    unfold fromUs
    rw [toNtp_fraction d s m hm]
    exact roundHalfEven_near _ _ (by omega) (by omega)
  have htot : fromTotal (toNtp d s m) = d * 86400 + s := by
    unfold fromTotal
    rw [hus, toNtp_seconds d s m hm]; unfold high; omega
  unfold fromNtp
  rw [hus, htot]
  simp only [Prod.mk.injEq]
  omega

/-- `datetime_from_ntp` is total and normalised on every value (any SR a peer sends can be shown in getStats). -/
theorem fromNtp_normalised (ntp : Nat) : (fromNtp ntp).2.1 < 86400 ∧ (fromNtp ntp).2.2 < 1000000 := by
  unfold fromNtp; dsimp only; omega

/-- … and stays within `datetime`'s range for every 64-bit timestamp: at most 2^32 s after 1900. -/
theorem fromNtp_range (ntp : Nat) (h : ntp < 18446744073709551616) :
    (fromNtp ntp).1 * 86400 + (fromNtp ntp).2.1 ≤ 4294967296 := by
  have hm : ntp &&& 0xFFFFFFFF < 4294967296 := by
    have h' : (0xFFFFFFFF : Nat) = 2 ^ 32 - 1 := by decide
    rw [h', Nat.and_two_pow_sub_one_eq_mod]; omega
  have hs : ntp >>> 32 < 4294967296 := by rw [Nat.shiftRight_eq_div_pow]; omega
  have hr : fromUs ntp ≤ 1000000 := by
    unfold fromUs; exact roundHalfEven_le _ (by omega)
  have ht : fromTotal ntp ≤ 4294967296 := by unfold fromTotal; omega
  unfold fromNtp; dsimp only
  omega

/-- The abs-send-time a sender writes fits the 24-bit header-extension field for every clock value whatsoever
(also after the NTP era: packing it never fails). -/
theorem absSendTime_fits (ntp : Nat) : absSendTime ntp < 16777216 := by
  unfold absSendTime
  have h : (0x00FFFFFF : Nat) = 2 ^ 24 - 1 := by decide
  rw [h, Nat.and_two_pow_sub_one_eq_mod]; omega

/-- … and is the 6.18 fixed-point image of the instant: low 6 bits of the seconds, high 18 bits of the fraction. -/
theorem absSendTime_of_toNtp (d s m : Nat) (hm : m < 1000000) :
    absSendTime (toNtp d s m) = (high d s % 64) * 262144 + low m / 16384 := by
  have := low_lt m hm
  unfold absSendTime
  have h : (0x00FFFFFF : Nat) = 2 ^ 24 - 1 := by decide
  rw [toNtp_eq d s m hm, h, Nat.and_two_pow_sub_one_eq_mod, Nat.shiftRight_eq_div_pow]; omega

/-- abs-send-time is periodic in 64 s: two instants a multiple of 64 s apart with equal microseconds collide, nothing else
of the seconds matters (what the receiver's inter-arrival filter has to unwrap). -/
theorem absSendTime_period (d s d' s' m : Nat) (hm : m < 1000000) (h : high d s % 64 = high d' s' % 64) :
    absSendTime (toNtp d s m) = absSendTime (toNtp d' s' m) := by
  rw [absSendTime_of_toNtp d s m hm, absSendTime_of_toNtp d' s' m hm, h]

/-! non-vacuity / concrete anchors -/
example : toNtp 45920 43200 500000 = 17040416752007118848 := by decide +kernel
example : fromNtp 17040416752007118848 = (45920, 43200, 500000) := by decide +kernel
example : fromNtp 18446744073709551615 = (49710, 23296, 0) := by decide +kernel
example : absSendTime 17040416752007118848 = 131072 := by decide +kernel
example : fromNtp 33554432 = (0, 0, 7812) := by decide +kernel  -- an exact tie 7812.5: rounds to even

end Aiortc.Props.C18Ntp
