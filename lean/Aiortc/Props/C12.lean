import Aiortc.Lemmas.C12.Router
import Aiortc.Lemmas.C12.Remb
/-!
# C12 — bundled RTP/RTCP is routed to exactly the right receivers and senders

Model: `Aiortc.Model.Router` (`RtpRouter` of src/aiortc/rtcdtlstransport.py + `rtp.unpack_remb_fci`,
the latter with fixes/C12-remb-truncated-fci.patch).  Vocabulary (Lemmas/C12/Router.lean):

* `ssrcOf st x`      — the receiver registered for SSRC `x`   (`ssrc_table.get(x)`)
* `accepts st pt r`  — receiver `r` accepts payload type `pt` (`r in payload_type_table.get(pt, set())`)
* `senderOf st x`    — the sender registered for SSRC `x`     (`senders.get(x)`)
* `WF st`            — representation invariant; holds in every state reachable from `RtpRouter()`
                       (`reachable_wf`), so every theorem with a `WF` hypothesis applies to every history.

All statements quantify over all states / histories / packets; nothing is enumerated.
-/
namespace Aiortc.Props.C12
open Aiortc.Model.Router

/-- Any history from a fresh `RtpRouter()` ends in a well-formed state. -/
theorem reachable_wf (ops : List Op) : WF (run Router.empty ops).1 := WF.empty.run ops

/-- … and well-formedness is preserved from any well-formed state. -/
theorem wf_preserved {st : Router} (h : WF st) (ops : List Op) : WF (run st ops).1 := h.run ops

/-- `register_receiver`: the listed SSRCs now belong to `r` (others unchanged), `r` additionally
accepts the listed payload types (nobody loses one), `r` is registered, senders untouched. -/
theorem register_receiver_spec (st : Router) (r : Nat) (ssrcs pts : List Nat) (mid : Option String) :
    let st' := registerReceiver st r ssrcs pts mid
    (∀ x, ssrcOf st' x = if x ∈ ssrcs then some r else ssrcOf st x) ∧
    (∀ pt r', accepts st' pt r' ↔ (r' = r ∧ pt ∈ pts) ∨ accepts st pt r') ∧
    (∀ r', r' ∈ st'.receivers ↔ r' = r ∨ r' ∈ st.receivers) ∧
    st'.senders = st.senders := by
  refine ⟨fun x => dget_foldl_dset r ssrcs _ x, fun pt r' => mem_ptSet_foldl_ptAdd r pts _ pt r',
    fun r' => mem_sadd, rfl⟩

/-- `unregister_receiver` (well-formed state): exactly the SSRCs of `r` become unknown, `r` accepts
nothing any more, everybody else keeps what they had. -/
theorem unregister_receiver_spec {st : Router} (h : WF st) (r : Nat) :
    let st' := unregisterReceiver st r
    (∀ x, ssrcOf st' x = if ssrcOf st x = some r then none else ssrcOf st x) ∧
    (∀ pt r', accepts st' pt r' ↔ r' ≠ r ∧ accepts st pt r') ∧
    (∀ r', r' ∈ st'.receivers ↔ r' ≠ r ∧ r' ∈ st.receivers) ∧
    st'.senders = st.senders := by
  refine ⟨fun x => dget_ddiscard x r h.ssrcKeys, fun pt r' => ?_, fun r' => mem_sdiscard, rfl⟩
  unfold accepts; rw [ptSet_unregisterReceiver]; exact mem_sdiscard

/-- `register_sender`: SSRC `ssrc` now belongs to sender `s`; nothing else changes. -/
theorem register_sender_spec (st : Router) (s ssrc : Nat) :
    let st' := registerSender st s ssrc
    (∀ x, senderOf st' x = if x = ssrc then some s else senderOf st x) ∧
    st'.ssrcTable = st.ssrcTable ∧ st'.ptTable = st.ptTable ∧ st'.receivers = st.receivers :=
  ⟨fun x => dget_dset ssrc x s _, rfl, rfl, rfl⟩

/-- `unregister_sender` (well-formed state): exactly the SSRCs of `s` lose their sender. -/
theorem unregister_sender_spec {st : Router} (h : WF st) (s : Nat) :
    let st' := unregisterSender st s
    (∀ x, senderOf st' x = if senderOf st x = some s then none else senderOf st x) ∧
    st'.ssrcTable = st.ssrcTable ∧ st'.ptTable = st.ptTable ∧ st'.receivers = st.receivers :=
  ⟨fun x => dget_ddiscard x s h.sndKeys, rfl, rfl, rfl⟩

/-- **RTP routing.** The packet is handed to `r` exactly when `r` is registered for its SSRC and
accepts its payload type, or its SSRC is unknown and `r` is the only receiver accepting its payload
type.  In every other case it is dropped (the result is an `Option`: at most one receiver). -/
theorem route_rtp_spec {st : Router} (h : WF st) (ssrc pt r : Nat) :
    (routeRtp st ssrc pt).2 = some r ↔
      (ssrcOf st ssrc = some r ∧ accepts st pt r) ∨
      (ssrcOf st ssrc = none ∧ ∀ r', accepts st pt r' ↔ r' = r) := by
  unfold accepts
  rw [only_member_iff (h.ptNodup pt)]
  unfold routeRtp ssrcOf
  cases hs : dget ssrc st.ssrcTable with
  | some r0 =>
    by_cases hm : r0 ∈ ptSet st.ptTable pt
    · simp only [hm, if_true, Option.some.injEq, reduceCtorEq, false_and, or_false]
      constructor
      · rintro rfl; exact ⟨rfl, hm⟩
      · exact fun h => h.1
    · simp only [hm, if_false, Option.some.injEq, reduceCtorEq, false_and, or_false]
      constructor
      · intro h; cases h
      · rintro ⟨rfl, h2⟩; exact absurd h2 hm
  | none =>
    simp only [reduceCtorEq, false_and, false_or, true_and]
    split
    · rename_i r1 hr; rw [hr]; simp
    · rename_i hne
      constructor
      · intro h; cases h
      · intro h; exact absurd h (hne r)

/-- Dropped means dropped: `none` exactly when neither case applies to any receiver. -/
theorem route_rtp_none_iff {st : Router} (h : WF st) (ssrc pt : Nat) :
    (routeRtp st ssrc pt).2 = none ↔
      ∀ r, ¬ ((ssrcOf st ssrc = some r ∧ accepts st pt r) ∨
              (ssrcOf st ssrc = none ∧ ∀ r', accepts st pt r' ↔ r' = r)) := by
  rw [Option.eq_none_iff_forall_ne_some]
  exact forall_congr' fun r => not_congr (route_rtp_spec h ssrc pt r)

/-- **Latching / state effect.** `route_rtp` changes nothing but the binding of the packet's own SSRC,
and only when that SSRC was unknown: it is then bound to the receiver the packet was handed to. -/
theorem route_rtp_state (st : Router) (ssrc pt : Nat) :
    let st' := (routeRtp st ssrc pt).1
    st'.receivers = st.receivers ∧ st'.senders = st.senders ∧ st'.midTable = st.midTable ∧
    st'.ptTable = st.ptTable ∧
    ∀ x, ssrcOf st' x =
      if x = ssrc ∧ ssrcOf st ssrc = none then (routeRtp st ssrc pt).2 else ssrcOf st x := by
  unfold routeRtp ssrcOf
  cases hs : dget ssrc st.ssrcTable with
  | some r0 =>
    simp only [reduceCtorEq, and_false, if_false]
    split <;> exact ⟨rfl, rfl, rfl, rfl, fun _ => rfl⟩
  | none =>
    simp only [and_true]
    split
    · refine ⟨rfl, rfl, rfl, rfl, fun x => ?_⟩
      simp only [dget_dset]
    · refine ⟨rfl, rfl, rfl, rfl, fun x => ?_⟩
      by_cases hx : x = ssrc
      · subst hx; simp [hs]
      · simp [hx]

/-- A bound SSRC is never re-latched. -/
theorem route_rtp_keeps {st : Router} {y : Nat} (hy : ssrcOf st y ≠ none) (x pt : Nat) :
    ssrcOf (routeRtp st x pt).1 y = ssrcOf st y := by
  rw [(route_rtp_state st x pt).2.2.2.2 y, if_neg]
  rintro ⟨rfl, hn⟩; exact hy hn

/-- "…and that SSRC sticks to it": right after a packet was handed to `r`, its SSRC is bound to `r`. -/
theorem route_rtp_binds (st : Router) (ssrc pt r : Nat) (h : (routeRtp st ssrc pt).2 = some r) :
    ssrcOf (routeRtp st ssrc pt).1 ssrc = some r := by
  have := (route_rtp_state st ssrc pt).2.2.2.2 ssrc
  rw [this]
  by_cases hn : ssrcOf st ssrc = none
  · simp [hn, h]
  · simp only [hn, and_false, if_false]
    unfold routeRtp at h; unfold ssrcOf at hn ⊢
    cases hs : dget ssrc st.ssrcTable with
    | none => exact absurd hs hn
    | some r0 =>
      rw [hs] at h; simp only at h
      split at h
      · simpa using h
      · cases h

/-- An RTP packet is only ever handed to a currently registered receiver. -/
theorem route_rtp_registered {st : Router} (h : WF st) (ssrc pt r : Nat)
    (hr : (routeRtp st ssrc pt).2 = some r) : r ∈ st.receivers := by
  rcases (route_rtp_spec h ssrc pt r).1 hr with ⟨_, ha⟩ | ⟨_, ha⟩
  · exact h.ptRecv pt r ha
  · exact h.ptRecv pt r ((ha r).2 rfl)

/-- Operations that may change who owns SSRC `x` when it is bound to `r`: unregistering `r`, or a
registration that lists `x`. -/
def rebinds (x r : Nat) : Op → Prop
  | .unregReceiver r' => r' = r
  | .regReceiver _ ssrcs _ _ => x ∈ ssrcs
  | _ => False

theorem step_keeps_binding {st : Router} {x r : Nat} (hb : ssrcOf st x = some r) (op : Op)
    (hop : ¬ rebinds x r op) : ssrcOf (step st op).1 x = some r := by
  cases op with
  | regReceiver r' ssrcs pts mid =>
    have := (register_receiver_spec st r' ssrcs pts mid).1 x
    simp only [rebinds] at hop
    simpa [step, hop, hb] using this
  | regSender s ssrc => exact hb
  | unregReceiver r' =>
    simp only [rebinds] at hop
    exact dget_ddiscard_of_ne hb (fun e => hop e.symm)
  | unregSender s => exact hb
  | rtp ssrc pt => exact (route_rtp_keeps (hb ▸ Option.some_ne_none r) ssrc pt).trans hb
  | rtcp p => exact hb

/-- **Sticks from then on.** Once SSRC `x` is bound to `r` (by registration or by latching), it stays
bound to `r` through every history that neither unregisters `r` nor re-registers `x`. -/
theorem latch_sticks {st : Router} {x r : Nat} (hb : ssrcOf st x = some r) (ops : List Op)
    (hops : ∀ op ∈ ops, ¬ rebinds x r op) : ssrcOf (run st ops).1 x = some r := by
  induction ops generalizing st with
  | nil => exact hb
  | cons op ops ih =>
    rw [run_cons]
    exact ih (step_keeps_binding hb op (hops op (by simp))) (fun o ho => hops o (by simp [ho]))

/-- … hence every later RTP packet with that SSRC is handed to `r` (if `r` accepts its payload type)
or dropped — never to anybody else. -/
theorem rtp_after_latch {st : Router} (h : WF st) {x r : Nat} (hb : ssrcOf st x = some r) (ops : List Op)
    (hops : ∀ op ∈ ops, ¬ rebinds x r op) (pt : Nat) :
    let st' := (run st ops).1
    (routeRtp st' x pt).2 = if accepts st' pt r then some r else none := by
  intro st'
  have hb' : ssrcOf st' x = some r := latch_sticks hb ops hops
  have hwf : WF st' := h.run ops
  by_cases ha : accepts st' pt r
  · simp only [ha, if_true]
    exact (route_rtp_spec hwf x pt r).2 (Or.inl ⟨hb', ha⟩)
  · simp only [ha, if_false]
    rw [route_rtp_none_iff hwf]
    rintro r' (⟨h1, h2⟩ | ⟨h1, _⟩)
    · rw [hb'] at h1; cases h1; exact ha h2
    · rw [hb'] at h1; cases h1

theorem rtcp_psfb_app_const : Aiortc.Gen.RTCP_PSFB_APP = 15 := by decide

/-- SSRCs whose *receiver* an RTCP packet concerns: the sender SSRC of an SR, the sources of a BYE. -/
def reportedSources : Rtcp → List Nat
  | .sr ssrc _ => [ssrc]
  | .bye sources => sources
  | _ => []

/-- The SSRC list inside a REMB FCI as the code decodes it (`[]` if it is not a REMB). -/
def rembList (fci : Bytes) : List Nat :=
  match rembTargets fci with
  | .ok l => l
  | _ => []

/-- SSRCs whose *sender* an RTCP packet reports on: report blocks of SR / RR, `media_ssrc` of a
feedback packet, and the SSRC list inside a REMB (PSFB with fmt 15). -/
def reportedMedia : Rtcp → List Nat
  | .sr _ reports => reports
  | .rr _ reports => reports
  | .rtpfb _ _ media => [media]
  | .psfb fmt _ media fci => media :: (if fmt = 15 then rembList fci else [])
  | _ => []

theorem routeRtcp_eq (st : Router) (p : Rtcp) :
    routeRtcp st p = .ok (addAll .sender (senderOf st) (reportedMedia p)
                            (addAll .receiver (ssrcOf st) (reportedSources p) [])) := by
  cases p with
  | sr ssrc reports => rfl
  | rr ssrc reports => rfl
  | sdes chunks => rfl
  | bye sources => rfl
  | rtpfb fmt ssrc media => rfl
  | psfb fmt ssrc media fci =>
    obtain ⟨l, hl⟩ := rembTargets_ok fci
    by_cases hf : fmt = 15
    · subst hf
      simp [routeRtcp, rtcp_psfb_app_const, hl, reportedMedia, rembList, rtcpReceiverPart, reportedSources,
        addAll, addSenders, senderOf]
    · simp [routeRtcp, rtcp_psfb_app_const, hf, reportedMedia, rtcpReceiverPart, reportedSources,
        addAll, addSenders, senderOf]

/-- **RTCP routing.** `route_rtcp` never raises and returns a set containing exactly the receivers
registered for the SSRCs the packet is about (SR sender / BYE sources) and exactly the senders
registered for the SSRCs it reports on (report blocks / media_ssrc / REMB list) — nobody else. -/
theorem route_rtcp_spec (st : Router) (p : Rtcp) :
    ∃ l, routeRtcp st p = .ok l ∧ l.Nodup ∧
      (∀ r, Recipient.receiver r ∈ l ↔ ∃ x ∈ reportedSources p, ssrcOf st x = some r) ∧
      (∀ s, Recipient.sender s ∈ l ↔ ∃ x ∈ reportedMedia p, senderOf st x = some s) := by
  refine ⟨_, routeRtcp_eq st p, nodup_addAll _ _ _ (nodup_addAll _ _ _ List.nodup_nil), fun r => ?_, fun s => ?_⟩
  · simp only [mem_addAll, reduceCtorEq, and_false, exists_false, false_or, Recipient.receiver.injEq,
      List.not_mem_nil, or_false, exists_eq_right']
  · simp only [mem_addAll, reduceCtorEq, and_false, exists_false, or_false, Recipient.sender.injEq,
      List.not_mem_nil, exists_eq_right']

theorem route_rtcp_never_raises (st : Router) (p : Rtcp) : ∃ l, routeRtcp st p = .ok l :=
  ⟨_, routeRtcp_eq st p⟩

theorem rtcp_receiver_bound {st : Router} {p : Rtcp} {l : List Recipient} {r : Nat}
    (hl : routeRtcp st p = .ok l) (hr : Recipient.receiver r ∈ l) : r ∈ dvals st.ssrcTable := by
  obtain ⟨l', hl', _, hrec, _⟩ := route_rtcp_spec st p
  rw [hl] at hl'; cases hl'
  obtain ⟨x, _, hx⟩ := (hrec r).1 hr
  exact dget_mem_dvals hx

theorem rtcp_sender_bound {st : Router} {p : Rtcp} {l : List Recipient} {s : Nat}
    (hl : routeRtcp st p = .ok l) (hs : Recipient.sender s ∈ l) : s ∈ dvals st.senders := by
  obtain ⟨l', hl', _, _, hsnd⟩ := route_rtcp_spec st p
  rw [hl] at hl'; cases hl'
  obtain ⟨x, _, hx⟩ := (hsnd s).1 hs
  exact dget_mem_dvals hx

/-- RTCP is only ever routed to currently registered receivers. -/
theorem route_rtcp_registered {st : Router} (h : WF st) (p : Rtcp) (l : List Recipient) (r : Nat)
    (hl : routeRtcp st p = .ok l) (hr : Recipient.receiver r ∈ l) : r ∈ st.receivers :=
  h.ssrcRecv r (rtcp_receiver_bound hl hr)

/-- A well-formed REMB FCI (`"REMB"`, count, 3 bitrate bytes, `count` big-endian SSRCs, optional
trailing bytes) is decoded to exactly its SSRC list … -/
theorem rembList_of_isRemb {fci : Bytes} {ssrcs : List Nat} (h : IsRemb fci ssrcs) : rembList fci = ssrcs := by
  obtain ⟨b, hb⟩ := unpackRembFci_of_isRemb h
  simp [rembList, rembTargets, hb]

/-- … and anything else (any byte string that is not a well-formed REMB FCI) contributes no SSRC. -/
theorem rembList_of_not_isRemb {fci : Bytes} (hb : IsBytes fci) (h : ¬ ∃ ssrcs, IsRemb fci ssrcs) :
    rembList fci = [] := by
  rcases unpackRembFci_no_crash fci with h1 | ⟨b, l, h1⟩
  · simp [rembList, rembTargets, h1]
  · exact absurd ⟨l, (unpackRembFci_spec fci).post h1 hb⟩ h

/-- **REMB routing.** A PSFB packet with fmt 15 whose FCI is a well-formed REMB carrying `ssrcs`
reaches exactly the senders registered for `media_ssrc` or for one of `ssrcs`, and no receiver. -/
theorem route_rtcp_remb (st : Router) (ssrc media : Nat) {fci : Bytes} {ssrcs : List Nat}
    (h : IsRemb fci ssrcs) :
    ∃ l, routeRtcp st (.psfb 15 ssrc media fci) = .ok l ∧
      (∀ s, Recipient.sender s ∈ l ↔ ∃ x ∈ media :: ssrcs, senderOf st x = some s) ∧
      (∀ r, Recipient.receiver r ∉ l) := by
  obtain ⟨l, hl, _, hrec, hsnd⟩ := route_rtcp_spec st (.psfb 15 ssrc media fci)
  refine ⟨l, hl, fun s => ?_, fun r hr => ?_⟩
  · rw [hsnd s]; simp only [reportedMedia, if_true, rembList_of_isRemb h]
  · obtain ⟨x, hx, _⟩ := (hrec r).1 hr
    simp [reportedSources] at hx

example : IsRemb [82, 69, 77, 66, 2, 0, 3, 232, 0, 0, 4, 210, 0, 0, 22, 46] [1234, 5678] :=
  ⟨0, 3, 232, [], by decide, by decide⟩

def registersReceiver (r : Nat) : Op → Prop
  | .regReceiver r' _ _ _ => r' = r
  | _ => False

def registersSender (s : Nat) : Op → Prop
  | .regSender s' _ => s' = s
  | _ => False

def toReceiver (r : Nat) : Out → Prop
  | .rtp (some r') => r' = r
  | .rtcp (.ok l) => Recipient.receiver r ∈ l
  | _ => False

def toSender (s : Nat) : Out → Prop
  | .rtcp (.ok l) => Recipient.sender s ∈ l
  | _ => False

structure ReceiverAbsent (r : Nat) (st : Router) : Prop where
  recv : r ∉ st.receivers
  ssrc : r ∉ dvals st.ssrcTable
  mid : r ∉ dvals st.midTable
  pt : ∀ pt, r ∉ ptSet st.ptTable pt

theorem absent_unregister (st : Router) {r r' : Nat} (h : r = r' ∨ ReceiverAbsent r st) :
    ReceiverAbsent r (unregisterReceiver st r') := by
  constructor
  · exact fun hm => h.elim (mem_sdiscard.1 hm).1 fun ha => ha.recv (mem_sdiscard.1 hm).2
  · exact fun hm => h.elim (mem_dvals_ddiscard.1 hm).1 fun ha => ha.ssrc (mem_dvals_ddiscard.1 hm).2
  · exact fun hm => h.elim (mem_dvals_ddiscard.1 hm).1 fun ha => ha.mid (mem_dvals_ddiscard.1 hm).2
  · intro pt hm
    rw [ptSet_unregisterReceiver] at hm
    exact h.elim (mem_sdiscard.1 hm).1 fun ha => ha.pt pt (mem_sdiscard.1 hm).2

theorem absent_step {st : Router} {r : Nat} (ha : ReceiverAbsent r st) (op : Op) (hop : ¬ registersReceiver r op) :
    ReceiverAbsent r (step st op).1 ∧ ¬ toReceiver r (step st op).2 := by
  cases op with
  | regReceiver r' ssrcs pts mid =>
    have hne : r ≠ r' := fun e => hop e.symm
    refine ⟨⟨fun h => (mem_sadd.1 h).elim hne ha.recv, fun h => (mem_dvals_foldl_dset ssrcs _ h).elim hne ha.ssrc,
      ?_, fun pt h => ((mem_ptSet_foldl_ptAdd r' pts _ pt r).1 h).elim (fun h => hne h.1) (ha.pt pt)⟩, fun h => h⟩
    cases mid with
    | none => exact ha.mid
    | some m => exact fun h => (mem_dvals_dset h).elim hne ha.mid
  | regSender s ssrc => exact ⟨⟨ha.recv, ha.ssrc, ha.mid, ha.pt⟩, fun h => h⟩
  | unregReceiver r' => exact ⟨absent_unregister st (Or.inr ha), fun h => h⟩
  | unregSender s => exact ⟨⟨ha.recv, ha.ssrc, ha.mid, ha.pt⟩, fun h => h⟩
  | rtp ssrc pt =>
    show ReceiverAbsent r (routeRtp st ssrc pt).1 ∧ ¬ toReceiver r (.rtp (routeRtp st ssrc pt).2)
    unfold routeRtp
    cases hs : dget ssrc st.ssrcTable with
    | some r0 =>
      have hr0 : r0 ≠ r := fun e => ha.ssrc (e ▸ dget_mem_dvals hs)
      simp only
      split
      · exact ⟨ha, hr0⟩
      · exact ⟨ha, fun h => h⟩
    | none =>
      simp only
      split
      · rename_i r1 hr1
        have hne : r1 ≠ r := by
          intro e; subst e; exact ha.pt pt (by rw [hr1]; simp)
        exact ⟨⟨ha.recv, fun h => (mem_dvals_dset h).elim (fun e => hne e.symm) ha.ssrc, ha.mid, ha.pt⟩, hne⟩
      · exact ⟨ha, fun h => h⟩
  | rtcp p =>
    refine ⟨ha, ?_⟩
    show ¬ toReceiver r (.rtcp (routeRtcp st p))
    rw [routeRtcp_eq]
    exact fun h => ha.ssrc (rtcp_receiver_bound (routeRtcp_eq st p) h)

theorem absent_rtp {st : Router} {r : Nat} (ha : ReceiverAbsent r st) (ssrc pt : Nat) :
    (routeRtp st ssrc pt).2 ≠ some r := fun h =>
  (absent_step ha (.rtp ssrc pt) id).2 (show toReceiver r (.rtp (routeRtp st ssrc pt).2) from h ▸ rfl)

theorem run_keeps {P : Router → Prop} {ok : Op → Prop} {bad : Out → Prop}
    (hstep : ∀ {st : Router}, P st → ∀ op, ok op → P (step st op).1 ∧ ¬ bad (step st op).2)
    {st : Router} (h : P st) (ops : List Op) (hops : ∀ op ∈ ops, ok op) :
    P (run st ops).1 ∧ ∀ o ∈ (run st ops).2, ¬ bad o := by
  induction ops generalizing st with
  | nil => exact ⟨h, fun o ho => by cases ho⟩
  | cons op ops ih =>
    rw [run_cons]
    obtain ⟨h1, h2⟩ := hstep h op (hops op List.mem_cons_self)
    obtain ⟨h3, h4⟩ := ih h1 (fun o ho => hops o (List.mem_cons_of_mem _ ho))
    exact ⟨h3, List.forall_mem_cons.2 ⟨h2, h4⟩⟩

/-- **Unregistered receivers are gone.** After `unregister_receiver(r)` — in *any* router state — no
RTP and no RTCP packet is handed to `r` by any later operation of any history that does not register
`r` again, and `r` occurs in no table at the end. -/
theorem unregistered_receiver_is_gone (st : Router) (r : Nat) (ops : List Op)
    (hops : ∀ op ∈ ops, ¬ registersReceiver r op) :
    (∀ o ∈ (run (unregisterReceiver st r) ops).2, ¬ toReceiver r o) ∧
    ReceiverAbsent r (run (unregisterReceiver st r) ops).1 :=
  (run_keeps absent_step (absent_unregister st (Or.inl rfl)) ops hops).symm

theorem sender_absent_step {st : Router} {s : Nat} (ha : s ∉ dvals st.senders) (op : Op)
    (hop : ¬ registersSender s op) :
    s ∉ dvals (step st op).1.senders ∧ ¬ toSender s (step st op).2 := by
  cases op with
  | regReceiver r' ssrcs pts mid => exact ⟨ha, fun h => h⟩
  | regSender s' ssrc =>
    exact ⟨fun h => (mem_dvals_dset h).elim (fun e => hop e.symm) ha, fun h => h⟩
  | unregReceiver r' => exact ⟨ha, fun h => h⟩
  | unregSender s' => exact ⟨fun h => ha (mem_dvals_ddiscard.1 h).2, fun h => h⟩
  | rtp ssrc pt =>
    refine ⟨?_, fun h => h⟩
    show s ∉ dvals (routeRtp st ssrc pt).1.senders
    rw [(route_rtp_state st ssrc pt).2.1]; exact ha
  | rtcp p =>
    refine ⟨ha, ?_⟩
    show ¬ toSender s (.rtcp (routeRtcp st p))
    rw [routeRtcp_eq]
    exact fun h => ha (rtcp_sender_bound (routeRtcp_eq st p) h)

/-- **Unregistered senders are gone.** After `unregister_sender(s)` no RTCP packet is handed to `s` by
any later operation of any history that does not register `s` again. -/
theorem unregistered_sender_is_gone (st : Router) (s : Nat) (ops : List Op)
    (hops : ∀ op ∈ ops, ¬ registersSender s op) :
    ∀ o ∈ (run (unregisterSender st s) ops).2, ¬ toSender s o := by
  have h0 : s ∉ dvals (unregisterSender st s).senders := fun h => (mem_dvals_ddiscard.1 h).1 rfl
  exact (run_keeps (P := fun st => s ∉ dvals st.senders) sender_absent_step h0 ops hops).2

/-- What the delivery loops (`quiet_*`, Props/C12Delivery.lean) need of a table property `P` to conclude that nothing reaches `who`. -/
structure ShutsOut (P : Router → Prop) (ok : Op → Prop) (who : Recipient) : Prop where
  step : ∀ {st : Router}, P st → ∀ op, ok op → P (step st op).1
  rtp : ∀ ssrc pt, ok (.rtp ssrc pt)
  rtcp : ∀ {st : Router} {p : Rtcp} {l : List Recipient}, P st → routeRtcp st p = .ok l → who ∉ l
  rtpOut : ∀ (st : Router) (ssrc pt r : Nat), P st → who = .receiver r → (routeRtp st ssrc pt).2 ≠ some r

theorem shutsOut_receiver (r : Nat) : ShutsOut (ReceiverAbsent r) (fun op => ¬ registersReceiver r op) (.receiver r) where
  step ha op hop := (absent_step ha op hop).1
  rtp _ _ hh := hh
  rtcp ha hl hm := ha.ssrc (rtcp_receiver_bound hl hm)
  rtpOut _ ssrc pt _ ha e := by cases e; exact absent_rtp ha ssrc pt

theorem shutsOut_sender (s : Nat) : ShutsOut (fun st => s ∉ dvals st.senders) (fun op => ¬ registersSender s op) (.sender s) where
  step ha op hop := (sender_absent_step ha op hop).1
  rtp _ _ hh := hh
  rtcp ha hl hm := ha (rtcp_sender_bound hl hm)
  rtpOut _ _ _ _ _ e := nomatch e

/-- For every history `pre` from a fresh router and every packet that follows it, the routing
decision is the one the property demands (`route_rtp_spec` and `route_rtcp_spec` instantiated at the reached state). -/
theorem history_spec (pre : List Op) :
    let st := (run Router.empty pre).1
    (∀ ssrc pt r, (step st (.rtp ssrc pt)).2 = .rtp (some r) ↔
        (ssrcOf st ssrc = some r ∧ accepts st pt r) ∨
        (ssrcOf st ssrc = none ∧ ∀ r', accepts st pt r' ↔ r' = r)) ∧
    (∀ p, ∃ l, (step st (.rtcp p)).2 = .rtcp (.ok l) ∧ l.Nodup ∧
        (∀ r, Recipient.receiver r ∈ l ↔ ∃ x ∈ reportedSources p, ssrcOf st x = some r) ∧
        (∀ s, Recipient.sender s ∈ l ↔ ∃ x ∈ reportedMedia p, senderOf st x = some s)) := by
  intro st
  refine ⟨fun ssrc pt r => ?_, fun p => ?_⟩
  · rw [← route_rtp_spec (reachable_wf pre) ssrc pt r]
    exact Out.rtp.injEq _ _ ▸ Iff.rfl
  · obtain ⟨l, hl, h2⟩ := route_rtcp_spec st p
    exact ⟨l, by show Out.rtcp (routeRtcp st p) = _; rw [hl], h2⟩

/-! ## No limit on the number of streams

The property quantifies over all histories, so there is no number of SSRCs after which the router may stop remembering new ones:
whatever is already in the tables (`st` is any well-formed state, e.g. one reached by an arbitrarily long history) and however many
new streams show up (`xs` is a list of any length), each of them latches, the table holds every one of them, and each of them
sticks. (A cap such as `len(ssrc_table) < 64` on latching contradicts these statements.) -/

def firstPackets (xs : List Nat) (pt : Nat) : List Op := xs.map fun x => Op.rtp x pt

/-- **Every one of any number of new streams latches.** If `r` is the only receiver accepting `pt` and none of the SSRCs `xs`
belongs to somebody else, the first packets of all these streams are handed to `r`, afterwards every one of these SSRCs is bound
to `r`, and nothing else changed (earlier bindings, payload types, receivers, senders). -/
theorem many_streams_all_latch {st : Router} (h : WF st) (r pt : Nat)
    (hacc : ∀ r', accepts st pt r' ↔ r' = r) (xs : List Nat)
    (hx : ∀ x ∈ xs, ssrcOf st x = none ∨ ssrcOf st x = some r) :
    let res := run st (firstPackets xs pt)
    res.2 = xs.map (fun _ => Out.rtp (some r)) ∧
    (∀ x ∈ xs, ssrcOf res.1 x = some r) ∧
    (∀ y, ssrcOf st y ≠ none → ssrcOf res.1 y = ssrcOf st y) ∧
    res.1.ptTable = st.ptTable ∧ res.1.receivers = st.receivers ∧ res.1.senders = st.senders := by
  induction xs generalizing st with
  | nil => exact ⟨rfl, by simp, fun _ _ => rfl, rfl, rfl, rfl⟩
  | cons x xs ih =>
    have hres : (routeRtp st x pt).2 = some r := by
      rw [route_rtp_spec h]
      rcases hx x (by simp) with hn | hs
      · exact Or.inr ⟨hn, hacc⟩
      · exact Or.inl ⟨hs, (hacc r).2 rfl⟩
    obtain ⟨hrecv, hsnd, _, hpt, hss⟩ := route_rtp_state st x pt
    have hacc1 : ∀ r', accepts (routeRtp st x pt).1 pt r' ↔ r' = r := by
      intro r'; unfold accepts; rw [hpt]; exact hacc r'
    have hx1 : ∀ y ∈ xs, ssrcOf (routeRtp st x pt).1 y = none ∨ ssrcOf (routeRtp st x pt).1 y = some r := by
      intro y hy
      rw [hss y, hres]
      split
      · exact Or.inr rfl
      · exact hx y (by simp [hy])
    have hbx : ssrcOf (routeRtp st x pt).1 x = some r := route_rtp_binds st x pt r hres
    obtain ⟨io, ib, ik, ip, ir, is⟩ := ih (h.routeRtp x pt) hacc1 hx1
    have hstep : step st (.rtp x pt) = ((routeRtp st x pt).1, .rtp (routeRtp st x pt).2) := rfl
    simp only [firstPackets, List.map_cons, run_cons, hstep] at io ib ik ip ir is ⊢
    refine ⟨by rw [hres, io], ?_, ?_, by rw [ip, hpt], by rw [ir, hrecv], by rw [is, hsnd]⟩
    · intro y hy
      rcases List.mem_cons.1 hy with rfl | hy
      · rw [ik y (by rw [hbx]; simp), hbx]
      · exact ib y hy
    · intro y hy
      have h1 := route_rtp_keeps hy x pt
      rw [ik y (by rw [h1]; exact hy), h1]

/-- **… and every one of them sticks.** After the first packets of any number of streams, through every later history that
neither unregisters `r` nor registers one of these SSRCs explicitly (other receivers for the same payload type may come and go):
each stream is still bound to `r`, its RTP goes to `r` (dropped only if `r` itself no longer accepts the payload type, never to
anybody else), and its sender reports and BYEs reach `r`. -/
theorem many_streams_stick {st : Router} (h : WF st) (r pt : Nat)
    (hacc : ∀ r', accepts st pt r' ↔ r' = r) (xs : List Nat)
    (hx : ∀ x ∈ xs, ssrcOf st x = none ∨ ssrcOf st x = some r)
    (ops : List Op) (hops : ∀ x ∈ xs, ∀ op ∈ ops, ¬ rebinds x r op) :
    let st' := (run st (firstPackets xs pt ++ ops)).1
    ∀ x ∈ xs,
      ssrcOf st' x = some r ∧
      (∀ pt', (routeRtp st' x pt').2 = if accepts st' pt' r then some r else none) ∧
      (∀ reports, ∃ l, routeRtcp st' (.sr x reports) = .ok l ∧ Recipient.receiver r ∈ l) ∧
      (∀ others, ∃ l, routeRtcp st' (.bye (x :: others)) = .ok l ∧ Recipient.receiver r ∈ l) := by
  intro st' x hxm
  have hst' : st' = (run (run st (firstPackets xs pt)).1 ops).1 := by
    show (run st (firstPackets xs pt ++ ops)).1 = _
    rw [run_append]
  have hwf1 : WF (run st (firstPackets xs pt)).1 := h.run _
  have hb1 : ssrcOf (run st (firstPackets xs pt)).1 x = some r :=
    (many_streams_all_latch h r pt hacc xs hx).2.1 x hxm
  have hb : ssrcOf st' x = some r := by rw [hst']; exact latch_sticks hb1 ops (hops x hxm)
  refine ⟨hb, fun pt' => ?_, fun reports => ?_, fun others => ?_⟩
  · rw [hst']; exact rtp_after_latch hwf1 hb1 ops (hops x hxm) pt'
  · obtain ⟨l, hl, _, hrec, _⟩ := route_rtcp_spec st' (.sr x reports)
    exact ⟨l, hl, (hrec r).2 ⟨x, by simp [reportedSources], hb⟩⟩
  · obtain ⟨l, hl, _, hrec, _⟩ := route_rtcp_spec st' (.bye (x :: others))
    exact ⟨l, hl, (hrec r).2 ⟨x, by simp [reportedSources], hb⟩⟩

/-- **The SSRC table has no maximum size**: after `n` distinct new streams it has at least `n` entries, for every `n`. -/
theorem ssrc_table_unbounded {st : Router} (h : WF st) (r pt : Nat)
    (hacc : ∀ r', accepts st pt r' ↔ r' = r) (xs : List Nat) (hn : xs.Nodup)
    (hx : ∀ x ∈ xs, ssrcOf st x = none ∨ ssrcOf st x = some r) :
    xs.length ≤ (run st (firstPackets xs pt)).1.ssrcTable.length := by
  have hall := (many_streams_all_latch h r pt hacc xs hx).2.1
  have hsub : xs ⊆ dkeys (run st (firstPackets xs pt)).1.ssrcTable := fun x hxm => mem_dkeys_of_dget (hall x hxm)
  have := hn.length_le_of_subset hsub
  rwa [dkeys, List.length_map] at this

def registerSenders (ps : List (Nat × Nat)) : List Op := ps.map fun p => Op.regSender p.1 p.2

theorem senderOf_registerSenders_other (st : Router) (ps : List (Nat × Nat)) (x : Nat) (hx : x ∉ ps.map Prod.snd) :
    senderOf (run st (registerSenders ps)).1 x = senderOf st x := by
  induction ps generalizing st with
  | nil => rfl
  | cons p ps ih =>
    simp only [List.map_cons, List.mem_cons, not_or] at hx
    have hstep : step st (.regSender p.1 p.2) = (registerSender st p.1 p.2, .unit) := rfl
    simp only [registerSenders, List.map_cons, run_cons, hstep]
    have := ih (registerSender st p.1 p.2) hx.2
    simp only [registerSenders] at this
    rw [this, (register_sender_spec st p.1 p.2).1 x, if_neg hx.1]

/-- **Any number of senders.** After registering any number of senders on distinct SSRCs every one of them owns its SSRC, feedback
for each SSRC reaches its sender, and a receiver report with a report block for every one of them reaches all of them. -/
theorem many_senders_all_reachable (st : Router) (ps : List (Nat × Nat)) (hn : (ps.map Prod.snd).Nodup) :
    let st' := (run st (registerSenders ps)).1
    (∀ p ∈ ps, senderOf st' p.2 = some p.1) ∧
    (∀ p ∈ ps, ∀ ssrc, ∃ l, routeRtcp st' (.rtpfb 1 ssrc p.2) = .ok l ∧ Recipient.sender p.1 ∈ l) ∧
    (∀ ssrc, ∃ l, routeRtcp st' (.rr ssrc (ps.map Prod.snd)) = .ok l ∧ ∀ p ∈ ps, Recipient.sender p.1 ∈ l) := by
  intro st'
  have hall : ∀ p ∈ ps, senderOf st' p.2 = some p.1 := by
    show ∀ p ∈ ps, senderOf (run st (registerSenders ps)).1 p.2 = some p.1
    clear st'
    induction ps generalizing st with
    | nil => intro p hp; cases hp
    | cons q ps ih =>
      have hn' : q.2 ∉ ps.map Prod.snd ∧ (ps.map Prod.snd).Nodup := List.nodup_cons.1 hn
      have hstep : step st (.regSender q.1 q.2) = (registerSender st q.1 q.2, .unit) := rfl
      intro p hp
      simp only [registerSenders, List.map_cons, run_cons, hstep]
      rcases List.mem_cons.1 hp with rfl | hp
      · have := senderOf_registerSenders_other (registerSender st p.1 p.2) ps p.2 hn'.1
        simp only [registerSenders] at this
        rw [this, (register_sender_spec st p.1 p.2).1 p.2, if_pos rfl]
      · have := ih (registerSender st q.1 q.2) hn'.2 p hp
        simpa only [registerSenders] using this
  refine ⟨hall, fun p hp ssrc => ?_, fun ssrc => ?_⟩
  · obtain ⟨l, hl, _, _, hsnd⟩ := route_rtcp_spec st' (.rtpfb 1 ssrc p.2)
    exact ⟨l, hl, (hsnd p.1).2 ⟨p.2, by simp [reportedMedia], hall p hp⟩⟩
  · obtain ⟨l, hl, _, _, hsnd⟩ := route_rtcp_spec st' (.rr ssrc (ps.map Prod.snd))
    exact ⟨l, hl, fun p hp => (hsnd p.1).2 ⟨p.2, by simp only [reportedMedia]; exact List.mem_map_of_mem hp, hall p hp⟩⟩

/-- latch → stick → unregister → gone, with two receivers sharing payload type 96 -/
example :
    (run Router.empty
      [.regReceiver 0 [] [96] none, .rtp 7 96, .regReceiver 1 [] [96] (some "a"), .rtp 7 96, .rtp 8 96,
       .unregReceiver 0, .rtp 7 96, .rtp 8 96]).2
    = [.unit, .rtp (some 0), .unit, .rtp (some 0), .rtp none, .unit, .rtp (some 1), .rtp (some 1)] := by decide +kernel

/-- a REMB reaches the senders of the SSRCs in its FCI (media_ssrc is 0) plus the `media_ssrc` sender -/
example :
    (run Router.empty
      [.regSender 0 1234, .regSender 1 5678, .regSender 2 0,
       .rtcp (.psfb 15 9 0 [82, 69, 77, 66, 2, 0, 3, 232, 0, 0, 4, 210, 0, 0, 22, 46])]).2.getLast?
    = some (.rtcp (.ok [.sender 2, .sender 0, .sender 1])) := by decide +kernel

/-- a REMB whose count exceeds its data is ignored (patched behaviour), media_ssrc still routed -/
example :
    routeRtcp (registerSender Router.empty 0 0) (.psfb 15 1 0 [82, 69, 77, 66, 1, 0, 3, 232])
    = .ok [.sender 0] := by decide

/-- hypotheses of `latch_sticks` / `unregistered_*_is_gone` are satisfiable by non-trivial histories -/
example : ¬ rebinds 7 0 (.regReceiver 1 [8] [96] none) ∧ ¬ rebinds 7 0 (.unregReceiver 1) ∧
    ¬ registersReceiver 0 (.regReceiver 1 [7] [96] none) ∧ ¬ registersSender 0 (.regSender 1 5) := by
  simp [rebinds, registersReceiver, registersSender]

example : WF (registerReceiver Router.empty 3 [1, 2] [96, 97] (some "m")) := WF.empty.registerReceiver ..

/-- hypotheses of `many_streams_all_latch` / `many_streams_stick` / `ssrc_table_unbounded` are satisfiable for as many streams as
one likes: receiver 0 (SSRC 1111, payload type 96), streams 10000 … 10000+n-1, later a second receiver for payload type 96 -/
example (n : Nat) :
    let st := registerReceiver Router.empty 0 [1111] [96] none
    WF st ∧ (∀ r', accepts st 96 r' ↔ r' = 0) ∧ (List.range' 10000 n).Nodup ∧
    (∀ x ∈ List.range' 10000 n, ssrcOf st x = none ∨ ssrcOf st x = some 0) ∧
    ∀ x ∈ List.range' 10000 n, ∀ op ∈ [Op.regReceiver 1 [2222] [96] none, .rtp 5 96, .unregReceiver 1], ¬ rebinds x 0 op := by
  refine ⟨WF.empty.registerReceiver .., ?_, List.nodup_range', ?_, ?_⟩
  · intro r'; simp [accepts, registerReceiver, Router.empty, ptAdd, ptSet, dget, sadd]
  · intro x hx
    left
    have : x ≠ 1111 := by have := List.mem_range'_1.1 hx; omega
    simp [ssrcOf, registerReceiver, Router.empty, dset, dget, Ne.symm this]
  · intro x hx op hop
    have : x ≠ 2222 := by have := List.mem_range'_1.1 hx; omega
    simp at hop
    rcases hop with rfl | rfl | rfl <;> simp [rebinds, this]

/-- 70 unknown streams on one receiver, then a second receiver for the payload type: the 70th stream's next packet and its sender
report still go to receiver 0; a 71st, new stream is dropped as ambiguous -/
example :
    (run Router.empty ([.regReceiver 0 [] [96] none] ++ firstPackets (List.range' 10000 70) 96 ++
       [.regReceiver 1 [] [96] none, .rtp 10069 96, .rtcp (.sr 10069 []), .rtp 20000 96])).2.drop 72
    = [.rtp (some 0), .rtcp (.ok [.receiver 0]), .rtp none] := by decide +kernel

/-- the side condition of `many_senders_all_reachable` is satisfiable for any number of senders (7 sender objects, `n` SSRCs) -/
example (n : Nat) : (((List.range' 5000 n).map fun x => (x % 7, x)).map Prod.snd).Nodup := by
  have : ((List.range' 5000 n).map fun x => (x % 7, x)).map Prod.snd = List.range' 5000 n := by
    simp [List.map_map, Function.comp_def]
  rw [this]; exact List.nodup_range'

end Aiortc.Props.C12
