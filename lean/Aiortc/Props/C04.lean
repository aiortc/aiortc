import Aiortc.Model.Dtls
import Aiortc.Lemmas.C04.Dtls
/-!
# C04 — DTLS connects only to the fingerprinted peer; both sides derive matching keys

Theorems about `Model/Dtls.lean` (the decision logic of `rtcdtlstransport.py`, fixed code), for ALL inputs.
What OpenSSL and libsrtp do (handshake soundness, equal exporter output, authentication) is NOT proved
here: their answers are inputs of the model (see `harness/props/C04.py` ASSUMPTIONS / TRUSTED_EXTRA).
-/
namespace Aiortc.Props.C04
open Aiortc Aiortc.Model.Dtls Aiortc.Lemmas.Dtls

/-- core Lean has no `List.Forall₂` -/
inductive Rel₂ {α β : Type} (R : α → β → Prop) : List α → List β → Prop
  | nil : Rel₂ R [] []
  | cons {a b l₁ l₂} : R a b → Rel₂ R l₁ l₂ → Rel₂ R (a :: l₁) (b :: l₂)

theorem Rel₂.imp {α β : Type} {R S : α → β → Prop} (h : ∀ {a b}, R a b → S a b) {l₁ l₂} :
    Rel₂ R l₁ l₂ → Rel₂ S l₁ l₂ := by
  intro hr; induction hr with
  | nil => exact .nil
  | cons hab _ ih => exact .cons (h hab) ih

theorem Rel₂.countP_eq {α β : Type} {R : α → β → Prop} {p : α → Bool} {q : β → Bool}
    (hpq : ∀ {a b}, R a b → p a = q b) {l₁ l₂} (h : Rel₂ R l₁ l₂) : l₁.countP p = l₂.countP q := by
  induction h with
  | nil => rfl
  | cons hab _ ih => rw [List.countP_cons, List.countP_cons, ih, hpq hab]

section policy
variable (lower fold : Str → Str) (algs : List Str) (digest : Str → Str)

/-- The policy of the property text: accepted ⇔ at least one fingerprint uses a supported hash and every
fingerprint with a supported hash matches the certificate digest (after case folding). -/
theorem fingerprint_policy (fps : List Fingerprint) :
    accepted lower fold algs digest fps = true ↔
      (∃ f ∈ fps, lower f.algorithm ∈ algs) ∧
      (∀ f ∈ fps, lower f.algorithm ∈ algs → fold f.value = fold (digest (lower f.algorithm))) := by
  rw [accepted_iff, List.countP_pos_iff, List.countP_eq_countP_iff fun f h => (sup_iff ..).2 ((good_iff ..).1 h).1]
  simp only [sup_iff, good_iff]
  exact and_congr_right fun _ => ⟨fun h f hf hs => (h f hf hs).2, fun h f hf hs => ⟨hs, h f hf hs⟩⟩

/-- An empty list, or a list without any supported hash, is rejected. -/
theorem rejected_without_supported (fps : List Fingerprint)
    (h : ∀ f ∈ fps, lower f.algorithm ∉ algs) : accepted lower fold algs digest fps = false := by
  rw [Bool.eq_false_iff]; intro hacc
  obtain ⟨⟨f, hf, hs⟩, _⟩ := (fingerprint_policy lower fold algs digest fps).1 hacc
  exact h f hf hs

theorem empty_rejected : accepted lower fold algs digest [] = false :=
  rejected_without_supported lower fold algs digest [] (by simp)

/-- One supported fingerprint that does not match is enough to reject, whatever else is in the list. -/
theorem rejected_on_mismatch (fps : List Fingerprint) (f : Fingerprint) (hf : f ∈ fps)
    (hs : lower f.algorithm ∈ algs) (hne : fold f.value ≠ fold (digest (lower f.algorithm))) :
    accepted lower fold algs digest fps = false := by
  rw [Bool.eq_false_iff]; intro hacc
  exact hne (((fingerprint_policy lower fold algs digest fps).1 hacc).2 f hf hs)

/-- Order does not matter. -/
theorem accepted_perm {fps gps : List Fingerprint} (h : fps.Perm gps) :
    accepted lower fold algs digest fps = accepted lower fold algs digest gps := by
  unfold accepted
  rw [validateCounts_eq, validateCounts_eq, h.countP_eq, h.countP_eq]

/-- Any recasing: replacing every entry by one whose algorithm name lower-cases to the same string and
whose value folds to the same string does not change the decision. -/
theorem accepted_recase {fps gps : List Fingerprint}
    (h : Rel₂ (fun f g => lower f.algorithm = lower g.algorithm ∧ fold f.value = fold g.value) fps gps) :
    accepted lower fold algs digest fps = accepted lower fold algs digest gps := by
  unfold accepted
  rw [validateCounts_eq, validateCounts_eq,
    h.countP_eq (p := sup lower algs) (q := sup lower algs) fun h => by simp only [sup, h.1],
    h.countP_eq (p := good lower fold algs digest) (q := good lower fold algs digest) fun h => by
      simp only [good, h.1, h.2]]

/-- Entries with an unsupported hash are irrelevant: adding or removing them anywhere changes nothing. -/
theorem accepted_unsupported_irrelevant (l₁ l₂ : List Fingerprint) (u : Fingerprint)
    (hu : lower u.algorithm ∉ algs) :
    accepted lower fold algs digest (l₁ ++ u :: l₂) = accepted lower fold algs digest (l₁ ++ l₂) := by
  unfold accepted
  rw [validateCounts_eq, validateCounts_eq]
  have hs : sup lower algs u = false := by simp [sup, hu]
  have hg : good lower fold algs digest u = false := by simp [good, hu]
  simp [List.countP_append, hs, hg]

theorem accepted_filter_supported (fps : List Fingerprint) :
    accepted lower fold algs digest (fps.filter (sup lower algs)) = accepted lower fold algs digest fps := by
  rw [Bool.eq_iff_iff, fingerprint_policy, fingerprint_policy]
  simp only [List.mem_filter, sup, decide_eq_true_eq]
  constructor
  · rintro ⟨⟨f, ⟨hf, _⟩, hs⟩, hall⟩
    exact ⟨⟨f, hf, hs⟩, fun g hg hs => hall g ⟨hg, hs⟩ hs⟩
  · rintro ⟨⟨f, hf, hs⟩, hall⟩
    exact ⟨⟨f, ⟨hf, hs⟩, hs⟩, fun g hg hs => hall g hg.1 hs⟩

end policy

/-- The supported hashes are exactly the three of the property text (breaks if the table changes). -/
theorem algs_const : ALGS = [strOf "sha-256", strOf "sha-384", strOf "sha-512"] := by decide +kernel

theorem algs_codepoints : ALGS =
    [[115, 104, 97, 45, 50, 53, 54], [115, 104, 97, 45, 51, 56, 52], [115, 104, 97, 45, 53, 49, 50]] := by
  decide +kernel

theorem fingerprint_policy_real (dg : Digests) (fps : List Fingerprint) :
    acceptedReal dg fps = true ↔
      (∃ f ∈ fps, asciiLower f.algorithm ∈ ALGS) ∧
      (∀ f ∈ fps, asciiLower f.algorithm ∈ ALGS →
        asciiLower f.value = asciiLower (digestOf dg (asciiLower f.algorithm))) :=
  fingerprint_policy asciiLower asciiLower ALGS (digestOf dg) fps

theorem algs_lower_fixed : ∀ a ∈ ALGS, asciiLower a = a := by decide +kernel

/-- Round trip between the two ends: what `getFingerprints()` signals for a certificate is accepted by the policy
for that very certificate — for all digests (stateless: it depends on nothing but the certificate's digests). -/
theorem local_fingerprints_accepted (dg : Digests) : acceptedReal dg (localFingerprints dg) = true := by
  rw [fingerprint_policy_real]
  constructor
  · refine ⟨⟨strOf "sha-256", digestOf dg (strOf "sha-256")⟩, ?_,
      (by decide : asciiLower (strOf "sha-256") ∈ ALGS)⟩
    unfold localFingerprints
    rw [algs_const]
    simp
  · intro f hf _
    unfold localFingerprints at hf
    obtain ⟨a, ha, rfl⟩ := List.mem_map.1 hf
    simp only
    rw [algs_lower_fixed a ha]

theorem lowerC_idem (c : Nat) : lowerC (lowerC c) = lowerC c := by grind [lowerC]
theorem lowerC_upperC (c : Nat) : lowerC (upperC c) = lowerC c := by
  grind [lowerC, upperC]
theorem asciiLower_idem (s : Str) : asciiLower (asciiLower s) = asciiLower s := by
  simp [asciiLower, lowerC_idem]
theorem asciiLower_asciiUpper (s : Str) : asciiLower (asciiUpper s) = asciiLower s := by
  simp [asciiLower, asciiUpper, lowerC_upperC]

def Recased (s s' : Str) : Prop := Rel₂ (fun c c' => c' = c ∨ c' = upperC c ∨ c' = lowerC c) s s'

theorem asciiLower_recased {s s' : Str} (h : Recased s s') : asciiLower s = asciiLower s' := by
  unfold Recased at h
  induction h with
  | nil => rfl
  | cons hc _ ih =>
    simp only [asciiLower, List.map_cons, List.cons.injEq] at *
    refine ⟨?_, ih⟩
    rcases hc with h | h | h <;> subst h
    · rfl
    · exact (lowerC_upperC _).symm
    · exact (lowerC_idem _).symm

/-- Upper / lower / mixed case of algorithm names and of values does not change the decision. -/
theorem accepted_ascii_recase (dg : Digests) {fps gps : List Fingerprint}
    (h : Rel₂ (fun f g => Recased f.algorithm g.algorithm ∧ Recased f.value g.value) fps gps) :
    acceptedReal dg fps = acceptedReal dg gps := by
  apply accepted_recase
  exact h.imp (fun hfg => ⟨asciiLower_recased hfg.1, asciiLower_recased hfg.2⟩)

example : acceptedReal [(strOf "sha-256", [0xAB, 0x01])]
    [⟨strOf "SHA-256", strOf "ab:01"⟩, ⟨strOf "sha-1", strOf "zz"⟩] = true := by decide +kernel
example : acceptedReal [(strOf "sha-256", [0xAB, 0x01]), (strOf "sha-384", [0xCD])]
    [⟨strOf "sha-256", strOf "AB:01"⟩, ⟨strOf "sha-384", strOf "CE"⟩] = false := by decide +kernel
example : acceptedReal [(strOf "sha-256", [0xAB, 0x01])] [⟨strOf "sha-1", strOf "AB:01"⟩] = false := by decide +kernel

def hexLow (n : Nat) : Nat := lowerC (hexUp n)

theorem hexLow_inj (n m : Nat) (hn : n < 16) (hm : m < 16) (h : hexLow n = hexLow m) : n = m := by
  unfold hexLow lowerC hexUp at h
  grind

theorem hexLow_ne_colon (n : Nat) (hn : n < 16) : hexLow n ≠ 58 := by
  unfold hexLow lowerC hexUp
  grind

theorem byte_eq (x y : Nat) (hx : x < 256) (hy : y < 256)
    (h1 : hexLow (x / 16 % 16) = hexLow (y / 16 % 16)) (h2 : hexLow (x % 16) = hexLow (y % 16)) : x = y := by
  have a := hexLow_inj _ _ (Nat.mod_lt _ (by omega)) (Nat.mod_lt _ (by omega)) h1
  have b := hexLow_inj _ _ (Nat.mod_lt _ (by omega)) (Nat.mod_lt _ (by omega)) h2
  omega

theorem lower_colonHex_nil : asciiLower (colonHex []) = [] := rfl
theorem lower_colonHex_cons (x : Nat) (r : Bytes) : asciiLower (colonHex (x :: r)) =
    hexLow (x / 16 % 16) :: hexLow (x % 16) :: (if r = [] then [] else 58 :: asciiLower (colonHex r)) := by
  cases r <;> simp [colonHex, asciiLower, byteHex, hexLow, lowerC]

/-- The (case-folded) textual fingerprint determines the digest bytes. -/
theorem lower_colonHex_injective : ∀ (a b : Bytes), IsBytes a → IsBytes b →
    asciiLower (colonHex a) = asciiLower (colonHex b) → a = b
  | [], [], _, _, _ => rfl
  | [], y :: r, _, _, h => by rw [lower_colonHex_cons] at h; cases h
  | x :: a, [], _, _, h => by rw [lower_colonHex_cons] at h; cases h
  | x :: a, y :: b, ha, hb, h => by
    rw [lower_colonHex_cons, lower_colonHex_cons] at h
    simp only [List.cons.injEq] at h
    rw [byte_eq x y (ha x (by simp)) (hb y (by simp)) h.1 h.2.1,
      lower_colonHex_injective a b (fun z hz => ha z (by simp [hz])) (fun z hz => hb z (by simp [hz])) ?_]
    -- both tails empty, or both start with the colon
    cases a <;> cases b <;> simp at h ⊢
    exact h.2.2

/-- **only the fingerprinted certificate**: if the same signalled list is accepted for two peer certificates,
then for every listed supported hash (and there is at least one) the two certificates have the same digest
bytes. (That equal SHA-2 digests mean equal certificates is collision resistance — trusted.) -/
theorem accepted_pins_digest (dg dg' : Digests) (fps : List Fingerprint)
    (h1 : acceptedReal dg fps = true) (h2 : acceptedReal dg' fps = true) :
    (∃ f ∈ fps, asciiLower f.algorithm ∈ ALGS) ∧
    ∀ f ∈ fps, asciiLower f.algorithm ∈ ALGS → ∀ b b',
      dg.lookup (asciiLower f.algorithm) = some b → dg'.lookup (asciiLower f.algorithm) = some b' →
      IsBytes b → IsBytes b' → b = b' := by
  obtain ⟨hex, hall⟩ := (fingerprint_policy_real dg fps).1 h1
  obtain ⟨_, hall'⟩ := (fingerprint_policy_real dg' fps).1 h2
  refine ⟨hex, ?_⟩
  intro f hf hs b b' hb hb' ib ib'
  have e1 := hall f hf hs
  have e2 := hall' f hf hs
  simp only [digestOf, hb, hb'] at e1 e2
  exact lower_colonHex_injective b b' ib ib' (e1.symm.trans e2)

/-- The profile table is the one of the property's anchors (breaks if a length changes). -/
theorem srtp_profiles_const : TABLE =
    [⟨"SRTP_AEAD_AES_256_GCM", 32, 12⟩, ⟨"SRTP_AEAD_AES_128_GCM", 16, 12⟩, ⟨"SRTP_AES128_CM_SHA1_80", 16, 14⟩] := by
  decide +kernel

/-- The four slices partition the keying material in the RFC 5764 order
`client_key | server_key | client_salt | server_salt`; index 0 is the client's key‖salt, index 1 the server's. -/
theorem keys_partition (k s : Nat) (m : Bytes) (hm : m.length = 2 * (k + s)) :
    ∃ ck sk cs ss : Bytes,
      ck.length = k ∧ sk.length = k ∧ cs.length = s ∧ ss.length = s ∧
      m = ck ++ sk ++ cs ++ ss ∧
      getKeyAndSalt k s m 0 = ck ++ cs ∧ getKeyAndSalt k s m 1 = sk ++ ss := by
  have len : ∀ i n, i + n ≤ m.length → ((m.drop i).take n).length = n := fun i n h => by
    rw [List.length_take, List.length_drop]; omega
  refine ⟨(m.drop 0).take k, (m.drop k).take k, (m.drop (2 * k)).take s, (m.drop (2 * k + s)).take s,
    len _ _ (by omega), len _ _ (by omega), len _ _ (by omega), len _ _ (by omega), ?_, ?_, ?_⟩
  · -- consecutive pieces: `take (i + n) = take i ++ take n (drop i)`
    rw [List.drop_zero, ← List.take_add, Nat.two_mul, ← List.take_add, ← List.take_add,
      List.take_of_length_le (by omega)]
  · rw [getKeyAndSalt, slice_add, slice_add, Nat.zero_mul, Nat.zero_mul, Nat.add_zero]
  · rw [getKeyAndSalt, slice_add, slice_add, Nat.one_mul, Nat.one_mul]

theorem getKeyAndSalt_length (k s : Nat) (m : Bytes) (hm : m.length = 2 * (k + s)) (idx : Nat) (hi : idx < 2) :
    (getKeyAndSalt k s m idx).length = k + s := by
  obtain ⟨ck, sk, cs, ss, h1, h2, h3, h4, _, h0, h1'⟩ := keys_partition k s m hm
  have : idx = 0 ∨ idx = 1 := by omega
  rcases this with h | h <;> subst h
  · rw [h0]; simp [*]
  · rw [h1']; simp [*]

/-- Mirror image, for every profile and every keying material: what the client sends with, the server
receives with, and vice versa. (`auto` never reaches `_setup_srtp`: `start()` resolves it; it would behave
as `client`.) -/
theorem keys_mirror (p : Profile) (m : Bytes) :
    (deriveKeys .client p m).tx = (deriveKeys .server p m).rx ∧
    (deriveKeys .server p m).tx = (deriveKeys .client p m).rx ∧
    (deriveKeys .client p m).profile = (deriveKeys .server p m).profile := by
  simp [deriveKeys]

/-- For every profile of the regenerated table and keying material of the requested length: keys have the
length libsrtp expects (key + salt), mirror each other, and client and server keys together are a
rearrangement of the whole material (nothing shared, nothing dropped). -/
theorem keys_mirror_table (p : Profile) (_hp : p ∈ TABLE) (m : Bytes) (hm : m.length = exportLen p) :
    let c := deriveKeys .client p m
    let s := deriveKeys .server p m
    c.tx = s.rx ∧ s.tx = c.rx ∧ c.tx.length = p.keyLen + p.saltLen ∧ s.tx.length = p.keyLen + p.saltLen ∧
    ∃ ck sk cs ss : Bytes, m = ck ++ sk ++ cs ++ ss ∧ c.tx = ck ++ cs ∧ s.tx = sk ++ ss ∧
      ck.length = p.keyLen ∧ sk.length = p.keyLen ∧ cs.length = p.saltLen ∧ ss.length = p.saltLen := by
  unfold exportLen at hm
  obtain ⟨ck, sk, cs, ss, h1, h2, h3, h4, hm', h0, h1'⟩ := keys_partition p.keyLen p.saltLen m hm
  simp only [deriveKeys, if_true, reduceCtorEq, if_false]
  refine ⟨trivial, trivial, getKeyAndSalt_length _ _ _ hm 0 (by omega), getKeyAndSalt_length _ _ _ hm 1 (by omega),
    ck, sk, cs, ss, hm', h0, h1', h1, h2, h3, h4⟩

/-- Literal instance: AES128_CM_SHA1_80 asks for 60 bytes and uses 30-byte keys. -/
example : ∀ p ∈ TABLE, exportLen p ∈ [88, 56, 60] := by decide +kernel

/-- `_setup_srtp` succeeds iff the profile OpenSSL selected is one of the local list; it then uses the
lengths of that very profile. -/
theorem setupSrtp_some_iff (role : Role) (ps : List Profile) (sel : String) (m : Bytes) :
    (setupSrtp role ps sel m).isSome = true ↔ ∃ p ∈ ps, p.name = sel := by
  rw [← findProfile_isSome, setupSrtp]
  cases findProfile ps sel <;> rfl

theorem setupSrtp_profile (role : Role) (ps : List Profile) (sel : String) (m : Bytes) (k : Keys)
    (h : setupSrtp role ps sel m = some k) :
    k.profile ∈ ps ∧ k.profile.name = sel ∧ k = deriveKeys role k.profile m := by
  unfold setupSrtp at h
  cases hf : findProfile ps sel with
  | none => simp [hf] at h
  | some p =>
    simp only [hf, Option.some.injEq] at h
    subst h
    have hp : (deriveKeys role p m).profile = p := by unfold deriveKeys; split <;> rfl
    rw [hp]
    exact ⟨(findProfile_some hf).1, (findProfile_some hf).2, rfl⟩

def isDelivery : Eff → Bool
  | .deliverData _ | .deliverRtp _ | .deliverRtcp _ => true
  | _ => false

def isSent : Eff → Bool
  | .sentData _ | .sentRtp _ | .sentRtcp _ => true
  | _ => false

/-- In the history `evs` the transport `t` passed all three gates: `start()` was called with fingerprints
`fps`, the handshake completed with a peer certificate whose digests `dg` the policy accepts for `fps`,
OpenSSL selected a profile of the local list, and the SRTP sessions are keyed from the exported material
according to the role. -/
def Validated (evs : List Ev) (t : T) : Prop :=
  ∃ fps ice dg sel mat p, Ev.start fps ice ∈ evs ∧ Ev.hsOk dg sel mat ∈ evs ∧
    acceptedReal dg fps = true ∧ findProfile t.profiles sel = some p ∧
    t.srtp = some (deriveKeys t.role p mat)

structure Inv (evs : List Ev) (t : T) : Prop where
  hs : t.handshaking = true → t.state = .connecting ∧ ∃ ice, Ev.start t.fps ice ∈ evs
  quiet : t.state ≠ .connected → t.state ≠ .closed → t.srtp = none ∧ t.pumping = false
  valid : t.state = .connected ∨ t.state = .closed → Validated evs t
  pump : t.pumping = true → t.state = .connected

theorem Validated.mono {evs : List Ev} {t : T} (e : Ev) (h : Validated evs t) : Validated (evs ++ [e]) t := by
  obtain ⟨fps, ice, dg, sel, mat, p, h1, h2, h3⟩ := h
  exact ⟨fps, ice, dg, sel, mat, p, List.mem_append_left _ h1, List.mem_append_left _ h2, h3⟩

theorem Inv.mono {evs : List Ev} {t : T} (e : Ev) (h : Inv evs t) : Inv (evs ++ [e]) t where
  hs := fun hh => ⟨(h.hs hh).1, (h.hs hh).2.elim fun ice hi => ⟨ice, List.mem_append_left _ hi⟩⟩
  quiet := h.quiet
  valid := fun hv => (h.valid hv).mono e
  pump := h.pump

theorem inv_init (ps : List Profile) (dr : Bool) (role : Role) : Inv [] (init ps dr role) where
  hs := by simp [init]
  quiet := by simp [init]
  valid := by simp [init]
  pump := by simp [init]

/-- `_recv_next` never delivers application data outside CONNECTED, never delivers RTP/RTCP before the SRTP
sessions exist, and only delivers what OpenSSL / libsrtp authenticated and returned. -/
theorem recvNext_delivery (t : T) (d : RecvIn) (effs : List Eff) (h : recvNext t d = .ok effs) (e : Eff)
    (he : e ∈ effs) :
    (∃ data ssl srtp x, d = .pkt data ssl srtp ∧
      ((e = .deliverData x ∧ ssl = .data x ∧ x ≠ [] ∧ t.state = .connected ∧ t.hasDataReceiver = true) ∨
       ((e = .deliverRtp x ∨ e = .deliverRtcp x) ∧ srtp = .ok x ∧ t.srtp.isSome = true))) := by
  have none_of : ∀ {P : Prop}, RecvOut.ok [] = .ok effs → P := fun h0 => by cases h0; cases he
  have one_of : ∀ {x : Eff}, RecvOut.ok [x] = .ok effs → e = x := fun h1 => by
    cases h1; exact List.mem_singleton.1 he
  match d with
  | .timeout => exact none_of h
  | .connError => cases h
  | .pkt [] _ _ => cases h
  | .pkt (b :: rest) ssl srtp =>
    rw [recvNext_pkt] at h
    refine ⟨b :: rest, ssl, srtp, ?_⟩
    generalize demuxClass b = c at h
    cases c with
    | drop => exact none_of h
    | dtls =>
      cases ssl with
      | notAsked => cases h
      | zeroReturn => cases h
      | error => exact none_of h
      | data x =>
        refine ⟨x, rfl, ?_⟩
        dsimp only at h
        split at h
        · rename_i hc
          exact .inl ⟨one_of h, rfl, hc.1, hc.2.2, hc.2.1⟩
        · exact none_of h
    | srtp =>
      dsimp only at h
      split at h
      · rename_i hs
        cases srtp with
        | notAsked => cases h
        | fail => exact none_of h
        | ok x =>
          refine ⟨x, rfl, .inr ⟨?_, rfl, hs⟩⟩
          dsimp only at h
          split at h
          · exact .inr (one_of h)
          · exact .inl (one_of h)
      · exact none_of h

/-- Packets that fail authentication (DTLS record MAC → `SSL.Error`; SRTP tag → `pylibsrtp.Error`) are
dropped: nothing is delivered and nothing else happens. -/
theorem recvNext_auth_failure_drops (t : T) (data : Bytes) (hne : data ≠ []) :
    recvNext t (.pkt data .error .fail) = .ok [] := by
  cases data with
  | nil => exact absurd rfl hne
  | cons b rest =>
    rw [recvNext_pkt]
    cases demuxClass b with
    | dtls => rfl
    | srtp => dsimp only; split <;> rfl
    | drop => rfl

def noPayload (effs : List Eff) : Bool := effs.all fun eff => !isDelivery eff && !isSent eff

/-- What one event can do; every theorem about `step` below cases on this (`step_trans`). `same`: the transport is
untouched, and its effects carry no payload, or are what `_recv_next` returned inside `start()` / the pump, or the
transport is CONNECTED (the sends). -/
inductive Trans (t : T) : Ev → T → List Eff → Prop
  | same {e effs} : noPayload effs = true ∨
      (∃ d, (t.handshaking = true ∨ t.pumping = true) ∧ recvNext t d = .ok effs) ∨
      t.state = .connected → Trans t e t effs
  | start {effs} (fps ice role) : t.state = .new → noPayload effs = true →
      Trans t (.start fps ice) { t with role := role, fps := fps, state := .connecting, handshaking := true } effs
  | fail {e effs} (enc : Bool) : t.handshaking = true → noPayload effs = true →
      Trans t e { t with encrypted := enc, state := .failed, handshaking := false } effs
  | crash {e effs} : t.handshaking = true → noPayload effs = true → Trans t e { t with handshaking := false } effs
  | connect {effs} (dg sel mat p) : t.handshaking = true → acceptedReal dg t.fps = true →
      findProfile t.profiles sel = some p → noPayload effs = true →
      Trans t (.hsOk dg sel mat)
        { t with encrypted := true, state := .connected, handshaking := false, pumping := true,
                 srtp := some (deriveKeys t.role p mat) } effs
  | close {e effs} : t.pumping = true → noPayload effs = true →
      Trans t e { t with state := .closed, pumping := false } effs

theorem step_trans (t : T) (e : Ev) : Trans t e (step t e).1 (step t e).2 := by
  unfold step
  cases e with
  | start fps ice =>
    dsimp only
    split
    · exact .same (.inl rfl)
    · rename_i hn
      exact .start fps ice _ (by simpa using hn) rfl
  | hsWant d =>
    dsimp only
    split
    · rename_i hc
      split
      · rename_i effs hr
        exact .same (.inr (.inl ⟨d, .inl hc.1, hr⟩))
      · exact .fail t.encrypted hc.1 rfl
      · exact .crash hc.1 rfl
      · exact .same (.inl rfl)
    · exact .same (.inl rfl)
  | hsError =>
    dsimp only
    split
    · rename_i hc
      exact .fail t.encrypted hc.1 rfl
    · exact .same (.inl rfl)
  | hsOk dg sel mat =>
    dsimp only
    split
    · rename_i hc
      split
      · exact .fail true hc.1 rfl
      · rename_i hacc
        split
        · exact .fail true hc.1 rfl
        · rename_i p hp
          exact .connect dg sel mat p hc.1 (by simpa using hacc) hp rfl
    · exact .same (.inl rfl)
  | pump d =>
    dsimp only
    split
    · rename_i hc
      split
      · rename_i effs hr
        exact .same (.inr (.inl ⟨d, .inr hc, hr⟩))
      · exact .close hc rfl
      · exact .close hc rfl
      · exact .same (.inl rfl)
    · exact .same (.inl rfl)
  | sendData d err =>
    dsimp only
    split
    · exact .same (.inl rfl)
    · rename_i hc
      split <;> exact .same (.inr (.inr (by simpa using hc)))
  | sendRtp d pok =>
    dsimp only
    split
    · exact .same (.inl rfl)
    · rename_i hc
      split <;> exact .same (.inr (.inr (by simpa using hc)))
  | stop =>
    dsimp only
    split
    · exact .same (.inl rfl)
    · split
      · rename_i hc
        exact .close hc rfl
      · exact .same (.inl rfl)

theorem Inv.not_handshaking {evs : List Ev} {t : T} (h : Inv evs t) (hs : t.state ≠ .connecting) :
    t.handshaking = false := by
  cases hb : t.handshaking with
  | false => rfl
  | true => exact absurd (h.hs hb).1 hs

theorem Inv.of_handshaking {evs : List Ev} {t : T} (h : Inv evs t) (hh : t.handshaking = true) :
    t.state = .connecting ∧ t.srtp = none ∧ t.pumping = false :=
  have hst := (h.hs hh).1
  ⟨hst, h.quiet (by simp [hst]) (by simp [hst])⟩

theorem Inv.idle {evs : List Ev} {t : T} (hs : t.handshaking = true → t.state = .connecting ∧ ∃ ice, Ev.start t.fps ice ∈ evs)
    (h1 : t.state ≠ .connected) (h2 : t.state ≠ .closed) (hq : t.srtp = none ∧ t.pumping = false) : Inv evs t where
  hs := hs
  quiet := fun _ _ => hq
  valid := fun h => (h.elim h1 h2).elim
  pump := fun hp => by simp [hq.2] at hp

theorem Inv.trans {evs : List Ev} {t t' : T} {e : Ev} {effs : List Eff} (h : Inv evs t) (ht : Trans t e t' effs) :
    Inv (evs ++ [e]) t' := by
  cases ht with
  | same _ => exact h.mono e
  | start fps ice role hn _ =>
    exact .idle (fun _ => ⟨rfl, ice, by simp⟩) nofun nofun (h.quiet (by simp [hn]) (by simp [hn]))
  | fail enc hh _ => exact .idle nofun nofun nofun (h.of_handshaking hh).2
  | crash hh _ =>
    obtain ⟨hst, hq⟩ := h.of_handshaking hh
    exact .idle nofun (by simp [hst]) (by simp [hst]) hq
  | connect dg sel mat p hh hacc hp _ =>
    obtain ⟨_, ice, hstart⟩ := h.hs hh
    refine { hs := nofun, quiet := by simp, valid := fun _ => ?_, pump := fun _ => rfl }
    exact ⟨t.fps, ice, dg, sel, mat, p, List.mem_append_left _ hstart, by simp, hacc, hp, rfl⟩
  | close hp _ =>
    have hst := h.pump hp
    exact { hs := fun hh => absurd (h.hs hh).1 (by simp [hst]), quiet := by simp, pump := nofun,
            valid := fun _ => (h.valid (Or.inl hst)).mono _ }

/-- The invariant is preserved by every event (the history grows by that event). -/
theorem inv_step {evs : List Ev} {t : T} (h : Inv evs t) (e : Ev) : Inv (evs ++ [e]) (step t e).1 :=
  h.trans (step_trans t e)

theorem run_append (t : T) (a b : List Ev) :
    run t (a ++ b) = ((run (run t a).1 b).1, (run t a).2 ++ (run (run t a).1 b).2) := by
  induction a generalizing t with
  | nil => simp [run]
  | cons e es ih => simp only [List.cons_append, run, ih, List.append_assoc]

theorem inv_run {pre : List Ev} {t : T} (h : Inv pre t) (evs : List Ev) : Inv (pre ++ evs) (run t evs).1 := by
  induction evs generalizing pre t with
  | nil => simpa [run] using h
  | cons e es ih =>
    have := ih (inv_step h e)
    simpa [run, List.append_assoc] using this

/-- Every reachable transport satisfies the invariant w.r.t. its own history. -/
theorem inv_reachable (ps : List Profile) (dr : Bool) (role : Role) (evs : List Ev) :
    Inv evs (run (init ps dr role) evs).1 := by
  simpa using inv_run (inv_init ps dr role) evs

/-- **connected only if**: in every run, the transport is CONNECTED (or has been: CLOSED) only if `start()`
was called with fingerprints that the policy accepts for the certificate the handshake completed with, and
OpenSSL selected a profile of the local list; its SRTP keys are then the role's slices of the exporter. -/
theorem connected_only_if (ps : List Profile) (dr : Bool) (role : Role) (evs : List Ev)
    (h : (run (init ps dr role) evs).1.state = .connected ∨ (run (init ps dr role) evs).1.state = .closed) :
    Validated evs (run (init ps dr role) evs).1 :=
  (inv_reachable ps dr role evs).valid h

/-- SRTP sessions exist only after all three gates. -/
theorem srtp_only_after_setup (ps : List Profile) (dr : Bool) (role : Role) (evs : List Ev)
    (h : (run (init ps dr role) evs).1.srtp.isSome = true) :
    Validated evs (run (init ps dr role) evs).1 := by
  have inv := inv_reachable ps dr role evs
  by_cases h1 : (run (init ps dr role) evs).1.state = .connected
  · exact inv.valid (Or.inl h1)
  · by_cases h2 : (run (init ps dr role) evs).1.state = .closed
    · exact inv.valid (Or.inr h2)
    · have := (inv.quiet h1 h2).1
      simp [this] at h

/-- The only transition into CONNECTED: a completed handshake on a transport that is inside `start()`, with
accepted fingerprints and a selected profile from the local list. -/
theorem step_to_connected (t : T) (e : Ev) (h0 : t.state ≠ .connected) (h1 : (step t e).1.state = .connected) :
    ∃ dg sel mat p, e = .hsOk dg sel mat ∧ t.handshaking = true ∧ acceptedReal dg t.fps = true ∧
      findProfile t.profiles sel = some p ∧ (step t e).1.srtp = some (deriveKeys t.role p mat) := by
  suffices ∀ t' effs, Trans t e t' effs → t'.state = .connected → ∃ dg sel mat p, e = .hsOk dg sel mat ∧
      t.handshaking = true ∧ acceptedReal dg t.fps = true ∧ findProfile t.profiles sel = some p ∧
      t'.srtp = some (deriveKeys t.role p mat) from this _ _ (step_trans t e) h1
  intro t' effs ht h1
  cases ht with
  | same _ => exact absurd h1 h0
  | start _ _ _ _ _ => cases h1
  | fail _ _ _ => cases h1
  | crash _ _ => exact absurd h1 h0
  | connect dg sel mat p hh hacc hp _ => exact ⟨dg, sel, mat, p, rfl, hh, hacc, hp, rfl⟩
  | close _ _ => cases h1

/-- `_send_data` / `_send_rtp` refuse (ConnectionError) unless CONNECTED, and change nothing. -/
theorem send_refused_unless_connected (t : T) (d : Bytes) (h : t.state ≠ .connected) :
    (∀ err, step t (.sendData d err) = (t, [.refused])) ∧ ∀ pok, step t (.sendRtp d pok) = (t, [.refused]) := by
  simp [step, h]

/-- `_send_rtp` never changes the transport, whether or not libsrtp accepts the packet; when `protect` refuses
it the exception is visible to the caller (it is not a silent loss). -/
theorem sendRtp_state_unchanged (t : T) (d : Bytes) (pok : Bool) : (step t (.sendRtp d pok)).1 = t := by
  simp only [step, apply_ite Prod.fst, ite_self]

theorem sendRtp_protect_failure_visible (t : T) (d : Bytes) (h : t.state = .connected) :
    Eff.raised "Error" ∈ (step t (.sendRtp d false)).2 := by
  simp only [step, h, ne_eq, not_true_eq_false, ↓reduceIte, Bool.false_eq_true]
  split <;> simp

/-- `_send_data` never changes the transport, whatever OpenSSL answers; when `SSL.Connection.send` refuses the
message (empty, or longer than a DTLS record can be) the exception reaches the caller: not a silent loss. -/
theorem sendData_state_unchanged (t : T) (d : Bytes) (err : Option String) :
    (step t (.sendData d err)).1 = t := by
  cases err <;> simp only [step, apply_ite Prod.fst, ite_self]

theorem sendData_ssl_failure_visible (t : T) (d : Bytes) (k : String) (h : t.state = .connected) :
    Eff.raised k ∈ (step t (.sendData d (some k))).2 := by
  simp [step, h]

example : (step { (init [] true .client) with state := .connected } (.sendData [] (some "SysCallError"))).2 =
    [.sentData [], .raised "SysCallError"] := by decide +kernel

/-- Under the invariant, whatever is handed to a data / RTP / RTCP receiver or sent as application data /
SRTP in a step, the transport was CONNECTED when the step began. -/
theorem step_payload_connected {evs : List Ev} {t : T} (h : Inv evs t) (e : Ev) (eff : Eff)
    (he : eff ∈ (step t e).2) (hp : isDelivery eff = true ∨ isSent eff = true) : t.state = .connected := by
  suffices ∀ t' effs, Trans t e t' effs → eff ∈ effs → t.state = .connected from this _ _ (step_trans t e) he
  intro t' effs ht he
  have hq : noPayload effs = true → t.state = .connected := fun q => by
    have := List.all_eq_true.1 q eff he
    rcases hp with hp | hp <;> simp [hp] at this
  cases ht with
  | start _ _ _ _ q => exact hq q
  | fail _ _ q => exact hq q
  | crash _ q => exact hq q
  | connect _ _ _ _ _ _ _ q => exact hq q
  | close _ q => exact hq q
  | same hj =>
    rcases hj with q | ⟨d, hh | hpump, hr⟩ | hc
    · exact hq q
    · -- inside `start()` there are no SRTP sessions yet, and application data needs CONNECTED
      obtain ⟨_, _, _, _, _, hcase⟩ := recvNext_delivery t d _ hr eff he
      rcases hcase with ⟨_, _, _, hst', _⟩ | ⟨_, _, hsome⟩
      · exact hst'
      · simp [(h.of_handshaking hh).2.1] at hsome
    · exact h.pump hpump
    · exact hc

/-- Where an effect of a run comes from. -/
theorem mem_run_effs (t : T) (evs : List Ev) (eff : Eff) (h : eff ∈ (run t evs).2) :
    ∃ pre e post, evs = pre ++ e :: post ∧ eff ∈ (step (run t pre).1 e).2 := by
  induction evs generalizing t with
  | nil => simp [run] at h
  | cons e es ih =>
    simp only [run, List.mem_append] at h
    rcases h with h | h
    · exact ⟨[], e, es, rfl, by simpa [run] using h⟩
    · obtain ⟨pre, e', post, heq, hm⟩ := ih _ h
      exact ⟨e :: pre, e', post, by simp [heq], by simpa [run] using hm⟩

/-- **delivers / sends only after validation**: every application-data, RTP or RTCP delivery to a receiver,
and every application data / SRTP packet sent, happens in a step that starts in CONNECTED, at a point of
the history where all three gates have already been passed. -/
theorem delivery_only_if_validated (ps : List Profile) (dr : Bool) (role : Role) (evs : List Ev) (eff : Eff)
    (h : eff ∈ (run (init ps dr role) evs).2) (hp : isDelivery eff = true ∨ isSent eff = true) :
    ∃ pre e post, evs = pre ++ e :: post ∧ eff ∈ (step (run (init ps dr role) pre).1 e).2 ∧
      (run (init ps dr role) pre).1.state = .connected ∧ Validated pre (run (init ps dr role) pre).1 := by
  obtain ⟨pre, e, post, heq, hm⟩ := mem_run_effs _ _ _ h
  have inv := inv_reachable ps dr role pre
  have hc := step_payload_connected inv e eff hm hp
  exact ⟨pre, e, post, heq, hm, hc, inv.valid (Or.inl hc)⟩

/-- FAILED is absorbing and silent: no event changes a failed transport, nothing is delivered or sent. -/
theorem failed_step {evs : List Ev} {t : T} (h : Inv evs t) (hf : t.state = .failed) (e : Ev) :
    (step t e).1 = t ∧ ∀ eff ∈ (step t e).2, isDelivery eff = false ∧ isSent eff = false := by
  have hh := h.not_handshaking (by simp [hf])
  have hq := h.quiet (by simp [hf]) (by simp [hf])
  have same : ∀ {t' effs}, Trans t e t' effs → t' = t := fun ht => by
    cases ht with
    | same _ => rfl
    | start _ _ _ hn _ => simp [hf] at hn
    | fail _ hh' _ => simp [hh] at hh'
    | crash hh' _ => simp [hh] at hh'
    | connect _ _ _ _ hh' _ _ _ => simp [hh] at hh'
    | close hp _ => simp [hq.2] at hp
  refine ⟨same (step_trans t e), fun eff he => ?_⟩
  have hn : ¬(isDelivery eff = true ∨ isSent eff = true) := fun hp => by
    simpa [hf] using step_payload_connected h e eff he hp
  exact ⟨Bool.eq_false_iff.2 fun hd => hn (.inl hd), Bool.eq_false_iff.2 fun hs => hn (.inr hs)⟩

theorem failed_terminal {pre : List Ev} {t : T} (h : Inv pre t) (hf : t.state = .failed) (evs : List Ev) :
    (run t evs).1 = t ∧ ∀ eff ∈ (run t evs).2, isDelivery eff = false ∧ isSent eff = false := by
  induction evs generalizing pre with
  | nil => simp [run]
  | cons e es ih =>
    obtain ⟨h1, h2⟩ := failed_step h hf e
    have h' : Inv (pre ++ [e]) t := h.mono e
    obtain ⟨h3, h4⟩ := ih h'
    simp only [run, h1, h3, List.mem_append, true_and]
    rintro eff (hm | hm)
    · exact h2 eff hm
    · exact h4 eff hm

/-- Once CONNECTED (or CLOSED) a transport never becomes FAILED. -/
theorem connected_stays {evs : List Ev} {t : T} (h : Inv evs t) (hc : t.state = .connected ∨ t.state = .closed)
    (e : Ev) : (step t e).1.state = .connected ∨ (step t e).1.state = .closed := by
  have hh := h.not_handshaking (by rcases hc with hc | hc <;> simp [hc])
  suffices ∀ t' effs, Trans t e t' effs → t'.state = .connected ∨ t'.state = .closed from this _ _ (step_trans t e)
  intro t' effs ht
  cases ht with
  | same _ => exact hc
  | start _ _ _ hn _ => rcases hc with hc | hc <;> simp [hc] at hn
  | fail _ hh' _ => simp [hh] at hh'
  | crash hh' _ => simp [hh] at hh'
  | connect _ _ _ _ hh' _ _ _ => simp [hh] at hh'
  | close _ _ => exact .inr rfl

theorem connected_stays_run {pre : List Ev} {t : T} (h : Inv pre t)
    (hc : t.state = .connected ∨ t.state = .closed) (evs : List Ev) :
    (run t evs).1.state = .connected ∨ (run t evs).1.state = .closed := by
  induction evs generalizing pre t with
  | nil => simpa [run] using hc
  | cons e es ih => simpa [run] using ih (inv_step h e) (connected_stays h hc e)

/-- **otherwise it ends in `failed` and delivers nothing**: a run that ends in FAILED has not delivered
anything to any receiver nor sent any application data / SRTP, at any point of its history. -/
theorem failed_silent (ps : List Profile) (dr : Bool) (role : Role) (evs : List Ev)
    (hf : (run (init ps dr role) evs).1.state = .failed) (eff : Eff) (h : eff ∈ (run (init ps dr role) evs).2) :
    isDelivery eff = false ∧ isSent eff = false := by
  by_cases hp : isDelivery eff = true ∨ isSent eff = true
  · obtain ⟨pre, e, post, heq, _, hc, _⟩ := delivery_only_if_validated ps dr role evs eff h hp
    have inv := inv_reachable ps dr role pre
    have := connected_stays_run inv (Or.inl hc) (e :: post)
    rw [heq, run_append] at hf
    simp only at hf
    rcases this with h1 | h1 <;> simp [h1] at hf
  · simp only [not_or, Bool.not_eq_true] at hp
    exact hp

/-- The two outcomes of `start()` once the handshake has completed, as a function of the three gates. -/
theorem run_state_connected_iff (t : T) (dg : Digests) (sel : String) (mat : Bytes)
    (hh : t.handshaking = true) (he : t.encrypted = false) :
    ((step t (.hsOk dg sel mat)).1.state = .connected ↔
      acceptedReal dg t.fps = true ∧ ∃ p ∈ t.profiles, p.name = sel) ∧
    ((step t (.hsOk dg sel mat)).1.state ≠ .connected → (step t (.hsOk dg sel mat)).1.state = .failed) := by
  simp only [step, hh, he, and_self, if_true, ← findProfile_isSome]
  cases acceptedReal dg t.fps with
  | false => simp
  | true => cases findProfile t.profiles sel <;> simp

def exDg : Digests := [(strOf "sha-256", [0xAB, 0x01])]
def exFps : List Fingerprint := [⟨strOf "SHA-256", strOf "ab:01"⟩]
def exMat : Bytes := List.range 60

/-- controlling ICE side (⇒ server), handshake, all gates pass, then: application data, an RTP packet, an
RTP packet failing authentication, a send. -/
def exGood : List Ev :=
  [.start exFps true, .hsWant (.pkt [22, 1] .error .notAsked), .hsOk exDg "SRTP_AES128_CM_SHA1_80" exMat,
   .pump (.pkt [23, 0] (.data [1, 2]) .notAsked), .pump (.pkt [128, 0, 9] .notAsked (.ok [128, 0, 7])),
   .pump (.pkt [128, 0, 9] .notAsked .fail), .sendData [5] none]

theorem exGood_connected : (run (init TABLE true .auto) exGood).1.state = .connected := by decide +kernel

example : (run (init TABLE true .auto) exGood).1.state = .connected := exGood_connected
example : (run (init TABLE true .auto) exGood).2 =
    [.role .server, .state .connecting, .exportLen 60,
     .keys "SRTP_AES128_CM_SHA1_80" (List.range' 16 16 ++ List.range' 46 14) (List.range' 0 16 ++ List.range' 32 14),
     .state .connected, .deliverData [1, 2], .deliverRtp [128, 0, 7], .sentData [5]] := by decide +kernel
example : Validated exGood (run (init TABLE true .auto) exGood).1 :=
  connected_only_if TABLE true .auto exGood (Or.inl exGood_connected)

/-- the intruder: wrong certificate, application data coalesced with the last handshake flight. -/
def exIntruder : List Ev :=
  [.start exFps false, .hsWant (.pkt [22, 1] (.data [69, 86, 73, 76]) .notAsked),
   .hsOk [(strOf "sha-256", [0xAB, 0x02])] "SRTP_AES128_CM_SHA1_80" exMat, .sendData [5] none, .stop]

example : run (init TABLE true .auto) exIntruder =
    ({ init TABLE true .client with state := .failed, encrypted := true, fps := exFps },
     [.role .client, .state .connecting, .state .failed, .refused]) := by decide +kernel

/-- no common SRTP profile: OpenSSL reports no selected profile. -/
example : (run (init TABLE true .auto) [.start exFps true, .hsOk exDg "" []]).1.state = .failed := by decide +kernel

/-! ## the replay windows of the two SRTP sessions (`_setup_srtp`: `rx_policy` / `tx_policy`)

"every RTP packet sent by one side is received by the other": a packet that the SENDING session encrypts
(its own replay window lets the index through) must not be thrown away by the RECEIVING session as too old.
That holds for every sequence of packet indexes — re-ordered, repeated, jumping backwards, with losses —
iff the receiving window is at least as wide as the sending one. -/

def LinkInv (l : Link) : Prop := l.rx.hi ≤ l.tx.hi

theorem linkInv_init : LinkInv {} := Nat.le_refl _

theorem recv_inv {l : Link} (wrx i : Nat) (a : Bool) (h : LinkInv l) (hi : i ≤ l.tx.hi) :
    LinkInv (l.recv wrx i a).1 := by
  rcases recv_cases l wrx i a with ⟨_, e⟩ | ⟨_, e⟩ | e | e <;> rw [e]
  · exact h
  · exact h
  · exact h
  · exact Nat.max_le.2 ⟨h, hi⟩

theorem send_inv {l : Link} (wtx wrx : Nat) (rep : Bool) (i : Nat) (a : Bool) (h : LinkInv l) :
    LinkInv (l.send wtx wrx rep i a).1 := by
  rcases send_cases l wtx wrx rep i a with e | ⟨l', hrx, hhi, hi, _, e⟩ <;> rw [e]
  · exact h
  · exact recv_inv wrx i a (by unfold LinkInv at h ⊢; rw [hrx]; omega) hi

/-- A packet that passes the sender's window is never "too old" for a receiver whose window is not narrower. -/
theorem send_not_rxOld {l : Link} {wtx wrx : Nat} (hw : wtx ≤ wrx) (rep : Bool) (i : Nat) (a : Bool)
    (h : LinkInv l) : (l.send wtx wrx rep i a).2 ≠ .rxOld := by
  rcases send_cases l wtx wrx rep i a with e | ⟨l', hrx, _, _, hold, e⟩ <;> rw [e]
  · simp
  · have hnew : l'.rx.check wrx i ≠ .old := hrx ▸ check_ne_old_mono h hw hold
    rcases recv_cases l' wrx i a with ⟨ho, _⟩ | ⟨_, e⟩ | e | e
    · exact absurd ho hnew
    all_goals rw [e]; simp

theorem run_not_rxOld {wtx wrx : Nat} (hw : wtx ≤ wrx) (rep : Bool) (pkts : List (Nat × Bool)) :
    ∀ {l : Link}, LinkInv l → PktOut.rxOld ∉ (Link.run wtx wrx rep l pkts).2 := by
  induction pkts with
  | nil => intro l _; simp [Link.run]
  | cons p ps ih =>
    intro l h
    obtain ⟨i, a⟩ := p
    simp only [Link.run, List.mem_cons, not_or]
    exact ⟨fun e => send_not_rxOld hw rep i a h e.symm, ih (send_inv wtx wrx rep i a h)⟩

/-- Whatever the order, repetition, backward jumps and in-transit damage of the packets of one SSRC: when the
receiving policy's window is at least the sending policy's, no packet that the sender put on the wire is
discarded as too old. (`window_size` 0 is libsrtp's default 128.) -/
theorem window_no_silent_loss (wtx wrx : Nat) (hw : effWindow wtx ≤ effWindow wrx) (rep : Bool)
    (pkts : List (Nat × Bool)) :
    PktOut.rxOld ∉ (Link.run (effWindow wtx) (effWindow wrx) rep {} pkts).2 :=
  run_not_rxOld hw rep pkts linkInv_init

/-- The only other way an unaltered packet is not delivered: the receiver has already delivered that index. -/
theorem send_rxReplay_seen {l : Link} {wtx wrx : Nat} {rep : Bool} {i : Nat} {a : Bool}
    (h : (l.send wtx wrx rep i a).2 = .rxReplay) : i ∈ l.rx.seen := by
  rcases send_cases l wtx wrx rep i a with e | ⟨l', hrx, _, _, _, e⟩ <;> rw [e] at h
  · cases h
  · rcases recv_cases l' wrx i a with ⟨_, e⟩ | ⟨hs, _⟩ | e | e
    · rw [e] at h; cases h
    · exact hrx ▸ hs
    · rw [e] at h; cases h
    · rw [e] at h; cases h

/-- An index enters the receiver's database exactly when it is delivered. -/
theorem send_rx_seen (l : Link) (wtx wrx : Nat) (rep : Bool) (i : Nat) (a : Bool) :
    (l.send wtx wrx rep i a).1.rx.seen =
      if (l.send wtx wrx rep i a).2 = .delivered then i :: l.rx.seen else l.rx.seen := by
  rcases send_cases l wtx wrx rep i a with e | ⟨l', hrx, _, _, _, e⟩ <;> rw [e]
  · rfl
  · rcases recv_cases l' wrx i a with ⟨_, e⟩ | ⟨_, e⟩ | e | e <;> rw [e, ← hrx] <;> rfl

/-- equal windows of 1024 (the upstream code): 1023 behind is delivered, a repeat is a replay, 1024 behind is
refused by the SENDER (visible), nothing is lost silently -/
example : (Link.run 1024 1024 true {} [(5000, false), (3977, false), (3977, false), (3976, false), (5001, true),
    (5001, false)]).2 = [.delivered, .delivered, .rxReplay, .txRefused, .authFail, .delivered] := by decide +kernel
/-- a receiving window narrower than the sending one (rx_policy left at libsrtp's default): the sender encrypts
a packet 128 behind, the receiver silently drops it -/
example : (Link.run (effWindow 1024) (effWindow 0) true {} [(5000, false), (4873, false), (4872, false)]).2 =
    [.delivered, .delivered, .rxOld] := by decide +kernel
example : effWindow 1024 ≤ effWindow 1024 := by decide +kernel

/-! ## `_write_ssl`: records, the BIO byte stream and datagrams

"every data message sent by one side is received intact": DTLS never re-assembles a record, so the record that
carries a message has to leave `_write_ssl` in one piece, at the start of a datagram. -/

theorem writeSsl_of_ne {chunk : Nat} {bio : Bytes} (h : bio.take chunk ≠ []) :
    writeSsl chunk bio = (some (bio.take chunk), bio.drop chunk) := if_neg h

theorem take_ne_nil {l : Bytes} {n : Nat} (hn : 0 < n) (hl : l ≠ []) : l.take n ≠ [] := by
  cases l with
  | nil => exact absurd rfl hl
  | cons a as =>
    cases n with
    | zero => omega
    | succ n => simp

/-- A record that fits the `bio_read` size leaves an empty BIO as exactly one datagram, nothing stays behind. -/
theorem sendRecord_whole {chunk : Nat} {r : Bytes} (hne : r ≠ []) (hfit : r.length ≤ chunk) :
    sendRecord chunk [] r = (some r, []) := by
  have ht : r.take chunk = r := List.take_of_length_le hfit
  rw [sendRecord, List.nil_append, writeSsl_of_ne (by rwa [ht]), ht, List.drop_of_length_le hfit]

/-- A bare `_write_ssl` on an empty BIO sends nothing. -/
theorem writeSsl_empty (chunk : Nat) : writeSsl chunk [] = (none, []) := by
  simp [writeSsl]

/-- A record LONGER than the `bio_read` size is cut: the datagram is a proper prefix (the peer's OpenSSL discards it),
and the tail stays in the BIO. -/
theorem sendRecord_cut {chunk : Nat} {r : Bytes} (hpos : 0 < chunk) (hlong : chunk < r.length) :
    ∃ d, (sendRecord chunk [] r).1 = some d ∧ d.length = chunk ∧ d ≠ r ∧
      (sendRecord chunk [] r).2.length = r.length - chunk ∧ (sendRecord chunk [] r).2 ≠ [] := by
  have e : sendRecord chunk [] r = (some (r.take chunk), r.drop chunk) :=
    writeSsl_of_ne (take_ne_nil hpos (by rintro rfl; simp at hlong))
  rw [e]
  refine ⟨_, rfl, by rw [List.length_take]; omega, fun h => ?_, List.length_drop, fun h => ?_⟩
  · have := congrArg List.length h
    rw [List.length_take] at this; omega
  · have := congrArg List.length h
    rw [List.length_drop, List.length_nil] at this; omega

/-- What a cut leaves behind goes out FIRST in the next datagram: the next record does not start a datagram (the
peer demultiplexes / parses garbage, the message is lost although it was small enough). -/
theorem sendRecord_after_cut {chunk : Nat} {pending r : Bytes} (hp : pending ≠ []) (hfit : pending.length ≤ chunk) :
    ∃ d, (sendRecord chunk pending r).1 = some d ∧ pending <+: d := by
  have hpos : 0 < chunk := Nat.lt_of_lt_of_le (List.length_pos_iff.2 hp) hfit
  rw [sendRecord, writeSsl_of_ne (take_ne_nil hpos (by simp [hp]))]
  refine ⟨_, rfl, ?_⟩
  rw [List.take_append, List.take_of_length_le hfit]
  exact List.prefix_append _ _

/-- One read per call (the upstream code) is `writeSsl`. -/
theorem writeReads_single (n : Nat) (bio : Bytes) :
    writeReads [n] bio = ((writeSsl n bio).1.toList, (writeSsl n bio).2) := by
  simp only [writeReads]
  split <;> rename_i h <;> simp [h]

/-- Reading again after a record that fitted (a draining `_write_ssl`) changes nothing: the BIO is empty. -/
theorem writeReads_whole {chunk : Nat} {r : Bytes} (more : List Nat) (hne : r ≠ []) (hfit : r.length ≤ chunk) :
    writeReads (chunk :: more) r = ([r], []) := by
  have h := sendRecord_whole hne hfit
  simp only [sendRecord, List.nil_append] at h
  have hmore : ∀ ns : List Nat, writeReads ns [] = ([], []) := by
    intro ns; induction ns with
    | nil => rfl
    | cons n ns ih => simp [writeReads, writeSsl_empty, ih]
  simp [writeReads, h, hmore]

/-- Any run of `_send_data` calls with records that fit (and bare `_write_ssl` calls in between), starting from an
empty BIO: every record crosses as exactly one datagram of its own, bare calls send nothing, the BIO ends empty. -/
theorem sendRecords_whole {chunk : Nat} (steps : List (Option Bytes))
    (h : ∀ r, some r ∈ steps → r ≠ [] ∧ r.length ≤ chunk) :
    sendRecords chunk [] steps = (steps, []) := by
  induction steps with
  | nil => rfl
  | cons s rest ih =>
    have ih' := ih (fun r hr => h r (List.mem_cons_of_mem _ hr))
    cases s with
    | none =>
      simp [sendRecords, sendRecord, writeSsl_empty, ih']
    | some r =>
      obtain ⟨hne, hfit⟩ := h r (List.mem_cons_self)
      simp [sendRecords, sendRecord_whole hne hfit, ih']

/-- With the upstream `bio_read(1500)` and the 37 bytes the negotiated AES-GCM suites add to a message (13 header,
8 explicit nonce, 16 tag): every data message of 1..1463 bytes leaves as one whole record. -/
theorem data_messages_whole_1500 (recs : List Bytes) (h : ∀ r ∈ recs, 1 + 37 ≤ r.length ∧ r.length ≤ 1463 + 37) :
    sendRecords 1500 [] (recs.map some) = (recs.map some, []) := by
  apply sendRecords_whole
  intro r hr
  obtain ⟨x, hx, hxr⟩ := List.mem_map.mp hr
  cases hxr
  obtain ⟨h1, h2⟩ := h r hx
  refine ⟨?_, by omega⟩
  intro h0; rw [h0] at h1; simp at h1

/-- in small: a 5-byte record through `bio_read(4)` is cut and its last byte poisons the next datagram; through
`bio_read(5)` it is whole, a bare `_write_ssl` in between sends nothing -/
example : sendRecords 4 [] [some [9, 8, 7, 6, 5], some [1, 2, 3]] = ([some [9, 8, 7, 6], some [5, 1, 2, 3]], []) := by decide +kernel
example : sendRecords 5 [] [some [9, 8, 7, 6, 5], none, some [1, 2, 3]] = ([some [9, 8, 7, 6, 5], none, some [1, 2, 3]], []) := by
  decide +kernel
/-- the hypotheses of `data_messages_whole_1500` / `sendRecord_cut` are satisfiable: a 1244-byte message (1281-byte
record) is whole with 1500 and cut with 1280 -/
example : ∀ r ∈ [List.replicate 1281 (7 : Nat)], 1 + 37 ≤ r.length ∧ r.length ≤ 1463 + 37 := by
  intro r hr
  rw [List.mem_singleton.mp hr, List.length_replicate]
  omega
example : (0 : Nat) < 1280 ∧ 1280 < (List.replicate 1281 (7 : Nat)).length := by
  rw [List.length_replicate]; omega

/-- The classes partition 0..255 exactly as RFC 7983 says: [20..63] DTLS, [128..191] RTP/RTCP, everything else
(STUN 0..3, ZRTP 16..19, TURN channels 64..79, 80..127, 192..255) is dropped. -/
theorem demux_rfc7983 (b : Nat) :
    (demuxClass b = .dtls ↔ 20 ≤ b ∧ b ≤ 63) ∧ (demuxClass b = .srtp ↔ 128 ≤ b ∧ b ≤ 191) ∧
    (demuxClass b = .drop ↔ b ≤ 19 ∨ (64 ≤ b ∧ b ≤ 127) ∨ 192 ≤ b) := by
  unfold demuxClass
  split
  · simp only [reduceCtorEq, true_iff, false_iff]; omega
  · split
    · simp only [reduceCtorEq, true_iff, false_iff]; omega
    · simp only [reduceCtorEq, true_iff, false_iff]; omega

/-- every one of the 256 byte values is in exactly the class the RFC gives it: the model's two strict range tests are the
RFC's two closed ranges -/
theorem demux_table : ∀ b < 256, demuxClass b =
    (if 20 ≤ b ∧ b ≤ 63 then Demux.dtls else if 128 ≤ b ∧ b ≤ 191 then Demux.srtp else Demux.drop) := by
  intro b _
  unfold demuxClass
  have e1 : (19 < b ∧ b < 64) ↔ (20 ≤ b ∧ b ≤ 63) := by omega
  have e2 : (127 < b ∧ b < 192) ↔ (128 ≤ b ∧ b ≤ 191) := by omega
  simp only [e1, e2]

/-- `recvNext` IS this demultiplexer: a dropped class produces nothing and asks neither OpenSSL nor libsrtp. -/
theorem recvNext_drop (t : T) (b : Nat) (rest : Bytes) (ssl : SslRecv) (u : Unprotect)
    (h : demuxClass b = .drop) : recvNext t (.pkt (b :: rest) ssl u) = .ok [] := by
  rw [recvNext_pkt, h]

/-- Every first byte 0x80..0xBF (all 64 RTP layouts P × X × CC, all RTCP padding × count values) reaches libsrtp once
the SRTP sessions exist, and what `unprotect` returns is handed on — RTCP iff the second byte is 192..208. -/
theorem recvNext_srtp_sweep (t : T) (b : Nat) (rest d : Bytes) (ssl : SslRecv)
    (hb : 128 ≤ b ∧ b ≤ 191) (hs : t.srtp.isSome = true) :
    recvNext t (.pkt (b :: rest) ssl (.ok d)) =
      .ok [if isRtcp (b :: rest) then .deliverRtcp d else .deliverRtp d] := by
  rw [recvNext_pkt, (demux_rfc7983 b).2.1.2 hb]
  dsimp only
  rw [if_pos hs]
  cases isRtcp (b :: rest) <;> rfl

/-- … and every first byte 20..63 reaches OpenSSL. -/
theorem recvNext_dtls_sweep (t : T) (b : Nat) (rest : Bytes) (u : Unprotect) (hb : 20 ≤ b ∧ b ≤ 63) :
    recvNext t (.pkt (b :: rest) .error u) = .ok [] ∧ recvNext t (.pkt (b :: rest) .zeroReturn u) = .connError := by
  rw [recvNext_pkt, recvNext_pkt, (demux_rfc7983 b).1.2 hb]
  exact ⟨rfl, rfl⟩

example : demuxClass 0xBF = .srtp ∧ demuxClass 0x80 = .srtp ∧ demuxClass 0xC0 = .drop ∧ demuxClass 63 = .dtls ∧
    demuxClass 64 = .drop ∧ demuxClass 19 = .drop ∧ demuxClass 20 = .dtls := by decide +kernel
example : recvNext { (init [] true .client) with srtp := some ⟨⟨"x", 16, 14⟩, [], []⟩ } (.pkt [0xBF, 96, 1] .notAsked (.ok [7])) =
    .ok [.deliverRtp [7]] := by decide +kernel

end Aiortc.Props.C04
