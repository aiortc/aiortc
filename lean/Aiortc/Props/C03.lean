import Aiortc.Lemmas.C03.Compat
/-!
# C03 — offer/answer yields a consistent, connectable session for every configuration

Theorems about the executable model of the offer/answer code (`Model/Jsep/Codecs.lean`, `Model/Jsep/Negotiate.lean`).
See notes/C03.md for what is proved, under which hypotheses, and what is only observed.
-/
namespace Aiortc.Props.C03
open Aiortc (Outcome)
open Aiortc.Model.Negotiate
open Aiortc.Model.Jsep (Sig)

/-! ## 0. regenerated constants and graphs the model is tied to -/

/-- `and_direction` as modelled is the regenerated graph of the real function. -/
theorem and_direction_graph : Gen.AND_DIRECTION =
    (Dir.all.flatMap fun a => Dir.all.map fun b => (a.str, b.str, (andDir a b).str)) := by rfl

theorem or_direction_graph : Gen.OR_DIRECTION =
    (Dir.all.flatMap fun a => Dir.all.map fun b => (a.str, b.str, (orDir a b).str)) := by rfl

theorem reverse_direction_graph : Gen.REVERSE_DIRECTION = Dir.all.map fun a => (a.str, (revDir a).str) := by rfl

theorem directions_const : Gen.DIRECTIONS = Dir.all.map Dir.str := by rfl

theorem dtls_role_setup_const :
    Gen.DTLS_ROLE_SETUP = [(Role.auto.str, Role.auto.setup), (Role.client.str, Role.client.setup), (Role.server.str, Role.server.setup)] := by
  rfl

theorem dynamic_pt_const : Gen.NEG_DYNAMIC_PT_LO = 96 ∧ Gen.NEG_DYNAMIC_PT_HI = 128 := by decide

theorem media_kinds_const : Gen.NEG_MEDIA_KINDS = [Kind.audio.str, Kind.video.str] := by rfl

/-! ## 1. directions (the 4×4 graphs, for all direction pairs) -/

theorem revDir_involutive (d : Dir) : revDir (revDir d) = d := by cases d <;> rfl

/-- The direction the answerer ends with (`and_direction(own, reverse(offered))`) never exceeds what it wants and
what the offerer allows; its reverse — the offerer's current direction — never exceeds what the offerer offered. -/
theorem answer_direction_sound (offered own : Dir) :
    let cur := andDir own (revDir offered)
    andDir cur own = cur ∧ andDir (revDir cur) offered = revDir cur := by
  cases offered <;> cases own <;> decide

/-- … and it is the largest such direction. -/
theorem answer_direction_maximal (offered own d : Dir) (h1 : andDir d own = d) (h2 : andDir (revDir d) offered = revDir d) :
    andDir d (andDir own (revDir offered)) = d := by
  revert h1 h2; cases offered <;> cases own <;> cases d <;> decide

/-! ## 2. codecs, feedback, header extensions: what is selected was offered (ALL lists) -/

/-- `find_common_codecs`: every selected codec is a local codec adapted to a compatible OFFERED non-RTX codec —
same (case-insensitive) mime type and clock rate, the offerer's payload type when that is dynamic, feedback ⊆ offered —
or an offered RTX codec itself. -/
theorem common_codecs_offered (loc remote : List Codec) (c : Codec) (hc : c ∈ findCommon loc remote) :
    (c.isRtx = false ∧ ∃ l ∈ loc, ∃ r ∈ remote, r.isRtx = false ∧ isCodecCompatible l r = true ∧
        c.mime = l.mime ∧ c.mime.toLower = r.mime.toLower ∧ c.clockRate = r.clockRate ∧ c.params = l.params ∧
        c.pt = (if isDynamicPt r.pt then r.pt else l.pt) ∧ ∀ f ∈ c.fb, f ∈ r.fb) ∨
    (c.isRtx = true ∧ c ∈ remote) := by
  cases findCommon_selected loc remote c hc with
  | base l r hl hr h1 h2 =>
    refine .inl ⟨by rw [adapt_isRtx, compatible_isRtx h2]; exact h1, l, hl, r, hr, h1, h2, rfl, ?_, ?_, rfl, rfl, ?_⟩
    · exact compatible_mime h2
    · exact compatible_clock h2
    · intro f hf; exact (adapt_fb_offered l r f hf).1
  | rtx r hr h1 => exact .inr ⟨h1, hr⟩

/-- RTX only next to its base codec: an RTX codec is accepted only if the codec its `apt` names was accepted, with
the same clock rate. -/
theorem common_codecs_rtx_has_base (loc remote : List Codec) : RtxHasBase (findCommon loc remote) :=
  findCommon_rtxHasBase loc remote

/-- `filter_preferred_codecs` never invents a codec, and when preferences are set an RTX codec is kept only right
behind a kept base codec whose payload type is its `apt`. -/
theorem preferred_codecs_sound {codecs : List Codec} {prefs : List Cap} {out : List Codec}
    (h : filterPreferred codecs prefs = .ok out) :
    (∀ c ∈ out, c ∈ codecs) ∧
    (prefs ≠ [] → ∀ c ∈ out, c.isRtx = true → ∃ b ∈ out, b.isRtx = false ∧ plookup "apt" c.params = some (.inl (b.pt : Int))) :=
  filterPreferred_spec h

/-- What `setRemoteDescription` stores in `transceiver._codecs` (intersection, then preference filter):
every codec was offered, and every RTX codec has its base codec in the list. -/
theorem negotiated_codecs_offered {loc remote : List Codec} {prefs : List Cap} {out : List Codec}
    (h : filterPreferred (findCommon loc remote) prefs = .ok out) :
    (∀ c ∈ out, Selected loc remote c) ∧
    (∀ c ∈ out, c.isRtx = true → ∃ b ∈ out, b.isRtx = false ∧ plookup "apt" c.params = some (.inl (b.pt : Int))) := by
  obtain ⟨hsub, hrtx⟩ := filterPreferred_spec h
  refine ⟨fun c hc => findCommon_selected loc remote c (hsub c hc), ?_⟩
  by_cases hp : prefs = []
  · subst hp
    simp [filterPreferred] at h
    subst h
    intro c hc hr
    obtain ⟨b, hb, h1, h2, _⟩ := findCommon_rtxHasBase loc remote c hc hr
    exact ⟨b, hb, h1, h2⟩
  · exact hrtx hp

/-- With aiortc's own tables on both sides a selected codec ALWAYS carries the offerer's payload type: a local audio
codec is compatible with a table codec of static payload type only if it has that payload type itself, and all
video payload types are dynamic. -/
theorem static_payload_types_agree :
    (∀ l ∈ codecsOf .audio, ∀ r ∈ codecsOf .audio, isCodecCompatible l r = true → isDynamicPt r.pt = false → l.pt = r.pt) ∧
    (∀ r ∈ codecsOf .video, isDynamicPt r.pt = true) := by
  constructor <;> decide +kernel

/-- Every RTX codec of the tables names its base (a non-RTX table codec) through an integer `apt`, so
`filter_preferred_codecs` cannot raise `KeyError` on the tables. -/
theorem tables_rtx_have_apt :
    ∀ k ∈ [Kind.audio, Kind.video], ∀ c ∈ codecsOf k, c.mime.toLower = "video/rtx" →
      ∃ b ∈ codecsOf k, b.mime.toLower ≠ "video/rtx" ∧ plookup "apt" c.params = some (.inl (b.pt : Int)) := by
  decide +kernel

/-- Header extensions: the selected ones are the offered entries themselves (offerer's ids) with a locally known uri. -/
theorem header_extensions_offered (loc remote : List Ext) :
    ∀ x ∈ findCommonExt loc remote, x ∈ remote ∧ ∃ l ∈ loc, l.uri = x.uri := by
  intro x hx
  simp only [findCommonExt, List.mem_flatMap, List.mem_map, List.mem_filter, beq_iff_eq] at hx
  obtain ⟨rx, hrx, l, ⟨hl, hu⟩, rfl⟩ := hx
  exact ⟨hrx, l, hl, hu⟩

/-! ## 3. mids -/

theorem allocate_mid_fresh {mids : List String} {m : String} {mids' : List String}
    (h : allocateMid mids = .ok (m, mids')) : m ∉ mids ∧ mids' = mids ++ [m] := allocateMid_fresh h

/-- `allocate_mid`'s `while True` always terminates. -/
theorem allocate_mid_terminates (mids : List String) : allocateMid mids ≠ .hang := allocateMid_no_hang mids

/-! ## 4. a complete exchange: ANY two connection states -/

/-- Both sides are `stable` after a successful exchange. -/
theorem negotiate_stable {o a : Pc} {ex : Exchange} (h : negotiate o a = .ok ex) :
    ex.offerer.sig = .stable ∧ ex.answerer.sig = .stable := by
  obtain ⟨o1, offer0, answer0, F⟩ := exchange_facts h
  obtain ⟨_, _, hs⟩ := setLocal_answer_spec F.answerType F.applied
  obtain ⟨pc1, pc2, _, _, _, hA⟩ := setRemoteWith_spec F.finished
  rw [hA (by rw [F.answerEq]; exact F.answerType)]
  exact ⟨rfl, hs⟩

/-- The answer mirrors the offer: same number of media sections, same order, kind and mid; its BUNDLE group lists
exactly its mids and equals the offer's BUNDLE group. -/
theorem negotiate_mirrors {o a : Pc} {ex : Exchange} (h : negotiate o a = .ok ex) :
    ex.answer.media.length = ex.offer.media.length ∧
    ex.answer.media.map (fun m => (m.kind, m.mid)) = ex.offer.media.map (fun m => (m.kind, m.mid)) ∧
    ex.answer.bundle = ex.answer.media.map (·.mid) ∧
    ex.answer.bundle = ex.offer.bundle := by
  obtain ⟨o1, offer0, answer0, F⟩ := exchange_facts h
  have hk2 : keysOfSecs ex.answer.media = keysOfSecs ex.offer.media := F.answerRefreshed.keys.trans F.keys
  have hbun : ex.answer.bundle = ex.answer.media.map (·.mid) := by
    rw [F.answerEq]; exact F.answerBundle.trans F.answerRefreshed.mids.symm
  exact ⟨by simpa [keysOfSecs] using congrArg List.length hk2, hk2, hbun, by rw [hbun, F.offerBundle, mids_of_keys hk2]⟩

/-- Every section of the answer carries a definite DTLS role (`active` or `passive`, never `actpass`).  (That every section
of the offer says `actpass` is `ExchangeOk.offerAuto`, for well-formed pairs.) -/
theorem negotiate_roles_definite {o a : Pc} {ex : Exchange} (h : negotiate o a = .ok ex) :
    ∀ m ∈ ex.answer.media, m.setup = .client ∨ m.setup = .server := by
  obtain ⟨o1, offer0, answer0, F⟩ := exchange_facts h
  obtain ⟨_, _, rd, _, hrel⟩ := createAnswer_spec F.created
  have hdef : ∀ s ∈ answer0.media, s.setup ≠ .auto := hrel.forall_right (fun _ _ hr => hr.definite)
  intro m hm
  obtain ⟨m0, hm0, he⟩ := F.answerRefreshed.setup m hm
  rw [he]
  cases hs : m0.setup
  · exact absurd hs (hdef m0 hm0)
  · exact .inl rfl
  · exact .inr rfl

/-- The role the offerer's transport takes from an answer section is the opposite of the answerer's. -/
theorem remote_role_opposite (s : Role) (x : Transport) (hs : s = .client ∨ s = .server) :
    ((remoteRoles .answer s x).role = .client ∨ (remoteRoles .answer s x).role = .server) ∧ (remoteRoles .answer s x).role ≠ s := by
  rw [(remoteRoles_answer s x).2]
  rcases hs with rfl | rfl <;> decide

/-- An offer (always `actpass` between aiortc peers) leaves the DTLS role of the answerer's transport alone; the
answerer then answers `active` unless a role was fixed by an earlier exchange. -/
theorem offer_keeps_role (x : Transport) : (remoteRoles .offer .auto x).role = x.role :=
  (remoteRoles_offer_auto x).2

/-! ## 5. BUNDLE: the transport that carries the bundle survives (the fix), the unpatched rule loses it -/

/-- After the (patched) bundling step every section of the group is on the primary transport … -/
theorem bundle_moves_all (pc : Pc) (p : Nat) (slaves : List String) :
    (∀ t ∈ (bundleStep pc p slaves).transceivers, inSlaves slaves t.mid = true → t.transport = p) ∧
    (∀ s, (bundleStep pc p slaves).sctp = some s → inSlaves slaves s.mid = true → s.transport = p) := by
  constructor
  · intro t ht hs
    simp only [bundleStep, List.mem_map] at ht
    obtain ⟨t0, _, rfl⟩ := ht
    split
    · rfl
    · rename_i hn; simp [hn] at hs
  · intro s hs hsl
    simp only [bundleStep, Option.map_eq_some_iff] at hs
    obtain ⟨s0, _, rfl⟩ := hs
    split
    · rfl
    · rename_i hn; simp [hn] at hsl

/-- … and the primary transport itself is never among the stopped ones: its entry is untouched. -/
theorem bundle_keeps_primary (pc : Pc) (p : Nat) (slaves : List String) :
    ∀ x ∈ (bundleStep pc p slaves).transports, x.id = p → x ∈ pc.transports := by
  intro x hx hid
  simp only [bundleStep, List.mem_map] at hx
  obtain ⟨x0, hx0, rfl⟩ := hx
  by_cases hc : (bundleOld pc p slaves).contains x0.id = true
  · exfalso
    simp only [hc, if_true] at hid
    exact bundleOld_ne pc p slaves x0.id (by simpa using hc) hid
  · simp only [hc]
    exact hx0

/-! ## 6. section by section, whatever either side configured beforehand; when the exchange goes through -/

/-- What one media section of the answer is, relative to the same section of the offer, and what both sides end with.
(`SectionDone` in `Lemmas/C03/Exchange.lean` is the same record, as a field of `ExchangeOk`.) -/
structure SectionOutcome (ex : Exchange) (so sa : MSec) : Prop where
  kind : sa.kind = so.kind
  mid : sa.mid = so.mid
  /-- the answer's codecs are `filter_preferred_codecs(find_common_codecs(CODECS[kind], offered), preferences)` -/
  codecs : ∃ prefs, filterPreferred (findCommon (codecsOf so.kind) so.codecs) prefs = .ok sa.codecs
  nonempty : sa.codecs ≠ []
  exts : sa.exts = findCommonExt (extsOf so.kind) so.exts
  /-- the answerer's transceiver of that mid: its current direction is what the answer says,
  namely `and_direction(its direction, reverse_direction(offered))` -/
  answerer : ∃ ta ∈ ex.answerer.transceivers, ta.mid = some so.mid ∧ ta.currentDirection = some sa.direction ∧
    sa.direction = andDir ta.direction (revDir so.direction)
  /-- the offerer's transceiver of that mid: the reverse of it -/
  offerer : ∃ to ∈ ex.offerer.transceivers, to.mid = some so.mid ∧ to.currentDirection = some (revDir sa.direction)

theorem sectionOutcome_of_done {ex : Exchange} {so sa : MSec} (s : SectionDone ex so sa) :
    SectionOutcome ex so sa :=
  ⟨s.kind, s.mid, s.codecs, s.nonempty, s.exts, s.answerer, s.offerer⟩

/-- **Per-section theorem.**  For ANY two connections whose transceivers satisfy the structural invariant `Pre` relative
to the descriptions they receive — the answerer relative to the offer (in particular: an answerer that has not been
through an exchange yet, whatever transceivers, directions, tracks, preferences, data channel, bundle policy it was
given), the offerer after `setLocalDescription(offer)` relative to the answer (what `createOffer` + `setLocalDescription`
produce on a well-formed connection: `applied_offer_owned`) — if the exchange succeeds and the offer's mids are distinct,
then every media section of the answer is the intersection of the offered section with the answerer's tables and
preferences, and the two transceivers of that mid end with complementary current directions. -/
theorem exchange_sections {o a : Pc} {ex : Exchange} (h : negotiate o a = .ok ex)
    (hP : Pre (keysOf ex.offer) a.transceivers)
    (hnd : (ex.offer.media.map (·.mid)).Nodup)
    (hown : Pre (keysOf ex.answer) ex.offererMid.transceivers) :
    ∀ (j : Nat) (so sa : MSec), ex.offer.media[j]? = some so → ex.answer.media[j]? = some sa → so.kind.isMedia = true →
      SectionOutcome ex so sa := by
  intro j so sa hso hsa hk
  obtain ⟨o1, offer0, answer0, F⟩ := exchange_facts h
  obtain ⟨hPa, hneg⟩ := setRemote_leaves F.remote hP (keysOf_mids ex.offer ▸ hnd)
  rw [F.offerType] at hneg
  obtain ⟨_, _, rd, hrd', hrel⟩ := createAnswer_spec F.created
  rw [F.remoteDesc] at hrd'; cases hrd'
  -- section j of the unrefreshed answer
  obtain ⟨s0, hs0, hs0sa⟩ := Rel2.get_right F.answerRefreshed j sa hsa
  have hR := hrel.get j so s0 hso hs0
  obtain ⟨t, od, hby, hod, hmid0, hkind0, hdir0, hcod0, hext0⟩ := hR.media hk
  obtain ⟨t', htmem, hN, _⟩ := hneg j so hso hk
  have htmid := hN.mid
  obtain rfl : t = t' := Option.some.inj (hby.symm.trans (hPa.unique.byMid htmem htmid))
  have hodv : od = revDir so.direction := by
    have := hN.off rfl; rw [hod] at this; exact Option.some.inj this
  subst hodv
  have e_kind : sa.kind = so.kind := by rw [hs0sa]; simp only; rw [hkind0, hN.kind]
  have e_mid : sa.mid = so.mid := by rw [hs0sa]; exact hmid0
  have e_dir : sa.direction = andDir t.direction (revDir so.direction) := by rw [hs0sa]; exact hdir0
  -- the answerer's final transceivers
  have hyp : ∀ x ∈ ex.answererMid.transceivers, ∀ i, x.mline = some i → ∃ m, answer0.media[i]? = some m ∧ x.mid = some m.mid :=
    fun x hx i hi => hPa.lines.section F.keys hx hi
  have hfin := setLocal_answer_transceivers F.answerType F.applied hyp
  -- the offerer's final transceivers
  have haty : ex.answer.type = .answer := by rw [F.answerEq]; exact F.answerType
  have hmids : ex.answer.media.map (·.mid) = ex.offer.media.map (·.mid) := mids_of_keys (negotiate_mirrors h).2.1
  obtain ⟨_, hnegO⟩ := setRemote_leaves F.finished hown (by rw [keysOf_mids, hmids]; exact hnd)
  rw [haty] at hnegO
  obtain ⟨to, hto, hNO, _⟩ := hnegO j sa hsa (by rw [e_kind]; exact hk)
  refine ⟨e_kind, e_mid, ?_, ?_, ?_, ?_, ?_⟩
  · rw [hs0sa]; simp only; rw [hcod0]; exact ⟨_, hN.codecs⟩
  · rw [hs0sa]; simp only; rw [hcod0]; exact hN.nonempty
  · rw [hs0sa]; simp only; rw [hext0]; exact hN.exts
  · refine ⟨{ t with currentDirection := some (andDir t.direction (revDir so.direction)) },
      by rw [hfin]; exact localDirections_mem htmem hod, htmid, ?_, ?_⟩
    · show some (andDir t.direction (revDir so.direction)) = some sa.direction
      rw [e_dir]
    · exact e_dir
  · exact ⟨to, hto, by rw [hNO.mid, e_mid], hNO.cur rfl⟩

/-- The per-section theorem when the offerer owns its sections (`Owns`: `WF` without the signalling state): its side of the
hypotheses of `exchange_sections` is what `createOffer` and `setLocalDescription(offer)` establish. -/
theorem offered_exchange_sections {o a : Pc} {ex : Exchange} (hr : (o.remoteDesc.map keysOf).getD [] = o.keys) (hw : Owns o.keys o)
    (hP : Pre (keysOf ex.offer) a.transceivers) (h : negotiate o a = .ok ex) :
    ∀ (j : Nat) (so sa : MSec), ex.offer.media[j]? = some so → ex.answer.media[j]? = some sa → so.kind.isMedia = true →
      SectionOutcome ex so sa := by
  obtain ⟨o1, offer0, answer0, F⟩ := exchange_facts h
  obtain ⟨hnd0, hown0⟩ := applied_offer_owned hr hw F.offered F.offerApplied
  have hk2 := (negotiate_mirrors h).2.1
  exact exchange_sections h hP (by rw [F.offerRefreshed.mids]; exact hnd0)
    (by rw [show keysOf ex.answer = keysOf offer0 from hk2.trans F.offerRefreshed.keys]; exact hown0)

/-- **First exchange.**  For ANY freshly configured offerer (`FreshPc`: any transceivers,
directions, tracks, codec preferences, data channel, bundle policy — but no exchange yet) and ANY answerer that has not
negotiated its transceivers yet: if the exchange goes through, every media section of the answer and the final
directions on both sides are as `SectionOutcome` says.  (That the exchange does go through when every section has a
common codec is `exchange_succeeds`, for every well-formed pair.) -/
theorem first_exchange_sections {o a : Pc} {ex : Exchange} (hf : FreshPc o) (hun : Unnegotiated a.transceivers)
    (h : negotiate o a = .ok ex) :
    ∀ (j : Nat) (so sa : MSec), ex.offer.media[j]? = some so → ex.answer.media[j]? = some sa → so.kind.isMedia = true →
      SectionOutcome ex so sa := by
  exact offered_exchange_sections hf.rkeys hf.owns (unnegotiated_pre hun) h

/-- **An offer/answer exchange succeeds.**  For every pair of well-formed connection states (`WF`: holds for new
connections and is preserved by addTransceiver / addTrack / createDataChannel / setCodecPreferences / direction changes
and by exchanges — so: any multiset of transceivers with any directions, tracks or not, data channel or not, any bundle
policies, any history of earlier exchanges, INCLUDING transceivers / data channels the other side never matched) that
describe the same sections (`Paired`) and whose codec preferences are `Compatible`, none of the six calls createOffer /
setLocalDescription(offer) / setRemoteDescription(offer) / createAnswer / setLocalDescription(answer) /
setRemoteDescription(answer) raises, and the pair is well-formed, paired and compatible again. -/
theorem exchange_succeeds {o a : Pc} (ho : WF o) (ha : WF a) (hp : Paired o a) (hc : Compatible o a) :
    ∃ ex, negotiate o a = .ok ex ∧ WF ex.offerer ∧ WF ex.answerer ∧ Paired ex.offerer ex.answerer ∧
      Compatible ex.offerer ex.answerer := by
  obtain ⟨ex, h, r⟩ := negotiate_ok ho ha hp hc
  exact ⟨ex, h, r.wfO, r.wfA, r.paired, r.compat⟩

/-- new connections are well-formed, paired, and — without codec preferences — compatible -/
theorem new_pair_ready (p1 p2 : Policy) :
    WF (Pc.new p1) ∧ WF (Pc.new p2) ∧ Paired (Pc.new p1) (Pc.new p2) ∧ Compatible (Pc.new p1) (Pc.new p2) :=
  ⟨WF.new p1, WF.new p2, ⟨rfl, fun _ => Iff.rfl⟩,
    compatible_of_prefsOk prefsOk_none (fun t ht => by simp [Pc.new] at ht) (fun t ht => by simp [Pc.new] at ht)⟩

/-- `Compatible` from a checkable family of preference lists: if every transceiver's preferences belong to a family `P`
(per kind, containing "no preference") any three lists of which leave a codec through offer → answer → offerer
(`PrefsOk`, decidable for finite families: `prefsOk_of_check`), the two connections are compatible.
`prefsOk_none` (no preferences at all) and `prefsOk_sample` are instances. -/
theorem compatible_of_family {P : Kind → List Cap → Prop} (hP : PrefsOk P) {o a : Pc}
    (ho : ∀ t ∈ o.transceivers, P t.kind t.preferred) (ha : ∀ t ∈ a.transceivers, P t.kind t.preferred) : Compatible o a :=
  compatible_of_prefsOk hP ho ha

/-- **"At least one real codec in common per kind" ⇒ `Compatible`.**  Fix for each media kind a real (non-RTX) capability
of aiortc's tables; if every transceiver of both connections has no preference or a preference list that contains the
capability of its kind (anywhere, with anything else, with or without RTX), the connections are compatible: offer,
answer and what the offerer keeps all contain that codec.  (`prefsOk_opus_vp8` is the instance Opus / VP8.) -/
theorem compatible_of_common_codec (cap : Kind → Cap)
    (hcap : ∀ k, k.isMedia = true → (cap k).isRtx = false ∧ ∃ c0 ∈ codecsOf k, c0.isRtx = false ∧
      c0.mime.toLower = (cap k).mime.toLower ∧ c0.params = (cap k).params) {o a : Pc}
    (ho : ∀ t ∈ o.transceivers, t.preferred = [] ∨ cap t.kind ∈ t.preferred)
    (ha : ∀ t ∈ a.transceivers, t.preferred = [] ∨ cap t.kind ∈ t.preferred) : Compatible o a :=
  compatible_of_prefsOk (prefsOk_common cap hcap) ho ha

/-- The hypothesis "at least one REAL codec" cannot be dropped, and comparing only the offerer's lists with the
answerer's existing ones is not enough: an offerer whose only preference is the RTX capability offers
no codec at all, the answerer (which creates its transceiver on the fly) finds nothing in common and
`setRemoteDescription(offer)` raises `OperationError`. -/
theorem rtx_only_preference_fails :
    (match ((Pc.new .balanced).addTransceiver .video .sendrecv false).setCodecPreferences 0 [(capsOf .video)[1]!] with
     | .ok o => (match negotiate o (Pc.new .balanced) with
                 | .crash k => k == "OperationError"
                 | _ => false)
     | _ => false) = true := by decide +kernel

/-- **Any exchange, section by section** (not only the first one): for well-formed, paired, compatible connections every
media section of the answer is the intersection of the offered section with the answerer's tables and preferences, and
the two transceivers that own the section end with complementary current directions. -/
theorem exchange_sections_any {o a : Pc} {ex : Exchange} (ho : WF o) (ha : WF a) (hp : Paired o a) (hc : Compatible o a)
    (h : negotiate o a = .ok ex) :
    ∀ (j : Nat) (so sa : MSec), ex.offer.media[j]? = some so → ex.answer.media[j]? = some sa → so.kind.isMedia = true →
      SectionOutcome ex so sa := by
  intro j so sa hso hsa hk
  exact sectionOutcome_of_done ((exchangeOk_of_eq ho ha hp hc h).sections j so sa hso hsa hk)

/-- Corollary: every codec of an answer section was offered in the same section (a table codec adapted to a
compatible offered codec, or an offered RTX codec), every RTX codec has its base codec next to it in the section, at
least one codec is selected, and the header extensions are offered entries with the offerer's ids. -/
theorem answer_codecs_offered {ex : Exchange} {so sa : MSec} (hs : SectionOutcome ex so sa) :
    (∀ c ∈ sa.codecs, Selected (codecsOf so.kind) so.codecs c) ∧
    (∀ c ∈ sa.codecs, c.isRtx = true → ∃ b ∈ sa.codecs, b.isRtx = false ∧ plookup "apt" c.params = some (.inl (b.pt : Int))) ∧
    sa.codecs ≠ [] ∧ (∀ x ∈ sa.exts, x ∈ so.exts) := by
  obtain ⟨prefs, hp⟩ := hs.codecs
  obtain ⟨h1, h2⟩ := negotiated_codecs_offered hp
  refine ⟨h1, h2, hs.nonempty, ?_⟩
  intro x hx
  rw [hs.exts] at hx
  exact (header_extensions_offered _ _ x hx).1

/-- Corollary: the current directions of the two transceivers of a section are the reverse of each other, and
neither side sends or receives more than it asked for. -/
theorem directions_complementary {ex : Exchange} {so sa : MSec} (hs : SectionOutcome ex so sa) :
    ∃ ta ∈ ex.answerer.transceivers, ∃ to ∈ ex.offerer.transceivers, ta.mid = some so.mid ∧ to.mid = some so.mid ∧
      ∃ da dO, ta.currentDirection = some da ∧ to.currentDirection = some dO ∧ dO = revDir da ∧ da = revDir dO ∧
        andDir da ta.direction = da ∧ andDir dO so.direction = dO := by
  obtain ⟨ta, hta, hm1, hc1, hd⟩ := hs.answerer
  obtain ⟨to, hto, hm2, hc2⟩ := hs.offerer
  refine ⟨ta, hta, to, hto, hm1, hm2, sa.direction, revDir sa.direction, hc1, hc2, rfl, (revDir_involutive _).symm, ?_, ?_⟩
  · rw [hd]; exact (answer_direction_sound so.direction ta.direction).1
  · rw [hd]; exact (answer_direction_sound so.direction ta.direction).2

/-! ## 7. non-vacuity: concrete configurations satisfy the hypotheses and go through -/

/-- offerer: balanced policy, an audio transceiver `sendonly` with a track, a video transceiver, a data channel -/
def exO : Pc := (((Pc.new .balanced).addTransceiver .audio .sendonly true).addTransceiver .video .sendrecv false).createDataChannel
/-- answerer: max-bundle policy, video created BEFORE audio (the order that lost the primary transport before the fix) -/
def exA : Pc := ((Pc.new .maxBundle).addTransceiver .video .recvonly false).addTrack .audio

example : FreshPc exO := ⟨by unfold Unnegotiated; decide, by decide, rfl, rfl, rfl, by decide⟩
example : Unnegotiated exA.transceivers := by unfold Unnegotiated; decide

/-- the exchange succeeds, and its outcome is the one the theorems describe -/
example : (match negotiate exO exA with
    | .ok ex => decide (
      ex.offer.media.map (fun m => (m.kind, m.mid, m.direction, m.setup)) =
        [(.audio, "0", .sendonly, .auto), (.video, "1", .sendrecv, .auto), (.application, "2", .sendrecv, .auto)] ∧
      ex.answer.media.map (fun m => (m.kind, m.mid, m.direction, m.setup)) =
        [(.audio, "0", .recvonly, .client), (.video, "1", .recvonly, .client), (.application, "2", .sendrecv, .client)] ∧
      ex.answer.bundle = ["0", "1", "2"] ∧
      ex.offerer.transceivers.map (·.currentDirection) = [some .sendonly, some .sendonly] ∧
      ex.answerer.transceivers.map (·.currentDirection) = [some .recvonly, some .recvonly] ∧
      ex.offerer.sig = .stable ∧ ex.answerer.sig = .stable ∧
      ex.offerer.connectReady = true ∧ ex.answerer.connectReady = true ∧
      ex.offerer.idleTransports = [] ∧ ex.answerer.idleTransports = [])
    | _ => false) = true := by decide +kernel

/-- the same exchange with the UNPATCHED bundling rule: the answerer stops the transport that carries the bundle
(defect fixed by `fixes/C03-bundle-by-transport-identity.patch`) -/
theorem orig_bundling_stops_primary_transport :
    (match negotiateWith bundleStepOrig exO exA with
     | .ok ex => ex.answerer.connectReady
     | _ => true) = false := by decide +kernel

/-- … and with two audio transceivers behind a video one (balanced policy) it leaves the second audio section on the
stopped transport (the other half of the defect). -/
theorem orig_bundling_strands_flagged_section :
    (match negotiateWith bundleStepOrig
        ((((Pc.new .balanced).addTransceiver .video .sendrecv false).addTransceiver .audio .sendrecv false).addTransceiver .audio .sendrecv false)
        (Pc.new .balanced) with
     | .ok ex => ex.offerer.connectReady
     | _ => true) = false := by decide +kernel

/-- the patched rule on the same configuration -/
example :
    (match negotiate
        ((((Pc.new .balanced).addTransceiver .video .sendrecv false).addTransceiver .audio .sendrecv false).addTransceiver .audio .sendrecv false)
        (Pc.new .balanced) with
     | .ok ex => ex.offerer.connectReady && ex.answerer.connectReady
     | _ => false) = true := by decide +kernel

/-- a codec list / preference list in which the theorems of §2 have something to say: VP8 + RTX offered on the
offerer's payload types 97/98, the local table answers with exactly those -/
example : (filterPreferred (findCommon (codecsOf .video) ((codecsOf .video).take 2)) [(capsOf .video)[0]!, (capsOf .video)[1]!]).isOk = true ∧
    (findCommon (codecsOf .video) ((codecsOf .video).take 2)).map (·.pt) = [97, 98] := by decide +kernel

end Aiortc.Props.C03
