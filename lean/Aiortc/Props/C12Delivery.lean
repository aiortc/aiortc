import Aiortc.Props.C12
import Aiortc.Model.RouterDelivery
/-!
# C12 at transport level — the delivery loops of `RTCDtlsTransport`

Model: `Aiortc.Model.RouterDelivery` (`_handle_rtcp_data` / `_handle_rtp_data` after parsing): a compound RTCP
datagram is a *list* of packets, every delivery is an `await` during which the handler of the endpoint — or any
other task — may register / unregister receivers and senders (`Script`s, an input of the model), and the set
returned by `route_rtcp` is walked in an arbitrary order (`order`, an input of the model).

"Once a receiver or sender has been unregistered nothing is routed to it again, for any interleaving of
registrations, unregistrations and packets" therefore also has to hold for table changes that happen *between two
packets of one datagram*: packet `k` has to be routed against the tables as they are after everything that happened
while packets `0..k-1` were delivered (`compound_delivery_uses_current_tables`), not against a snapshot taken when
the datagram arrived.

Granularity: the recipient set of ONE packet is computed once (`route_rtcp` returns a set, then the loop awaits each
member); a co-recipient of the same packet that is unregistered by the handler of another co-recipient still gets
that packet — the routing decision predates the unregistration.  From the next packet on it gets nothing.
-/
namespace Aiortc.Props.C12
open Aiortc.Model.Router

variable {S : List Script} {order : List Recipient → List Recipient}

/-- `route_rtcp` never raises, hence one iteration of the loop always routes on the current tables and delivers. -/
theorem rtcpPacket_ok (S : List Script) (order : List Recipient → List Recipient) (ts : TState) (p : Rtcp) :
    ∃ l, routeRtcp ts.router p = .ok l ∧
      rtcpPacket S order ts p = ((order l).foldl (deliver S) ts, .ok (order l)) := by
  obtain ⟨l, hl⟩ := route_rtcp_never_raises ts.router p
  exact ⟨l, hl, by simp only [rtcpPacket, hl]⟩

theorem handleRtcpData_nil (ts : TState) : handleRtcpData S order ts [] = (ts, []) := rfl

theorem handleRtcpData_cons (ts : TState) (p : Rtcp) (ps : List Rtcp) :
    handleRtcpData S order ts (p :: ps) =
      ((handleRtcpData S order (rtcpPacket S order ts p).1 ps).1,
       (rtcpPacket S order ts p).2 :: (handleRtcpData S order (rtcpPacket S order ts p).1 ps).2) := by
  obtain ⟨l, _, h⟩ := rtcpPacket_ok S order ts p
  simp only [handleRtcpData, h]

theorem handleRtcpData_append (ts : TState) (a b : List Rtcp) :
    handleRtcpData S order ts (a ++ b) =
      ((handleRtcpData S order (handleRtcpData S order ts a).1 b).1,
       (handleRtcpData S order ts a).2 ++ (handleRtcpData S order (handleRtcpData S order ts a).1 b).2) := by
  induction a generalizing ts with
  | nil => simp [handleRtcpData_nil]
  | cons p ps ih => simp only [List.cons_append, handleRtcpData_cons, ih]

/-- Every packet of the datagram is processed (no exception escapes the loop): one output per packet. -/
theorem handleRtcpData_length (ts : TState) (pkts : List Rtcp) :
    (handleRtcpData S order ts pkts).2.length = pkts.length := by
  induction pkts generalizing ts with
  | nil => rfl
  | cons p ps ih => simp [handleRtcpData_cons, ih]

/-- **Compound datagrams use the current tables.**  For a datagram `pre ++ p :: post`, with arbitrary table
changes happening during every delivery (`S`) and any set iteration order: the deliveries made for packet `p` are
exactly the result of `route_rtcp(p)` evaluated in the state reached after `pre` has been processed, i.e. after
all table changes that preceded `p` — never a decision taken earlier. -/
theorem compound_delivery_uses_current_tables (S : List Script) (order : List Recipient → List Recipient)
    (ts : TState) (pre : List Rtcp) (p : Rtcp) (post : List Rtcp) :
    let tsk := (handleRtcpData S order ts pre).1
    ∃ l, routeRtcp tsk.router p = .ok l ∧
      (handleRtcpData S order ts (pre ++ p :: post)).2[pre.length]? = some (.ok (order l)) := by
  intro tsk
  obtain ⟨l, hl, h⟩ := rtcpPacket_ok S order tsk p
  refine ⟨l, hl, ?_⟩
  rw [handleRtcpData_append, handleRtcpData_cons]
  show ((handleRtcpData S order ts pre).2 ++ _)[pre.length]? = _
  rw [List.getElem?_append_right (by rw [handleRtcpData_length]; exact Nat.le_refl _)]
  simp only [handleRtcpData_length, Nat.sub_self, List.getElem?_cons_zero]
  show some (rtcpPacket S order tsk p).2 = _
  rw [h]

/-! `P` is a property of the routing tables that `step` preserves for every operation allowed by `ok`: every packet,
and every table operation the scripts perform.  Then `P` survives every delivery, datagram and history. -/

theorem mem_fire {S : List Script} {who : Recipient} {n : Nat} {t : TableOp} (h : t ∈ fire S who n) :
    ∃ s ∈ S, t ∈ s.ops := by
  unfold fire at h
  obtain ⟨s, hs, ht⟩ := List.mem_flatMap.1 h
  exact ⟨s, (List.mem_filter.1 hs).1, ht⟩

theorem trun_nil (ts : TState) : trun S order ts [] = (ts, []) := rfl

theorem trun_cons (ts : TState) (op : TOp) (ops : List TOp) :
    trun S order ts (op :: ops) =
      ((trun S order (tstep S order ts op).1 ops).1,
       (tstep S order ts op).2 :: (trun S order (tstep S order ts op).1 ops).2) := rfl

section keeps
variable {P : Router → Prop} {ok : Op → Prop} (hstep : ∀ {st : Router}, P st → ∀ op, ok op → P (step st op).1)
  (hS : ∀ s ∈ S, ∀ t ∈ s.ops, ok t.toOp)
include hstep hS

theorem keeps_deliver {ts : TState} (h : P ts.router) (who : Recipient) : P (deliver S ts who).router := by
  show P ((fire S who _).foldl applyTable ts.router)
  have hl : ∀ t ∈ fire S who (seenCount ts.seen who + 1), ok t.toOp := fun t ht => by
    obtain ⟨s, hs, hts⟩ := mem_fire ht; exact hS s hs t hts
  generalize fire S who _ = l at hl
  induction l generalizing ts with
  | nil => exact h
  | cons t l ih =>
    exact ih (ts := { ts with router := applyTable ts.router t }) (hstep h t.toOp (hl t List.mem_cons_self))
      (fun t' ht' => hl t' (List.mem_cons_of_mem _ ht'))

theorem keeps_deliverAll {ts : TState} (h : P ts.router) (l : List Recipient) :
    P (l.foldl (deliver S) ts).router := by
  induction l generalizing ts with
  | nil => exact h
  | cons x l ih => exact ih (keeps_deliver hstep hS h x)

theorem keeps_rtcpPacket {ts : TState} (h : P ts.router) (p : Rtcp) : P (rtcpPacket S order ts p).1.router := by
  obtain ⟨l, _, hp⟩ := rtcpPacket_ok S order ts p
  rw [hp]; exact keeps_deliverAll hstep hS h _

theorem keeps_handleRtcpData {ts : TState} (h : P ts.router) (pkts : List Rtcp) :
    P (handleRtcpData S order ts pkts).1.router := by
  induction pkts generalizing ts with
  | nil => exact h
  | cons p ps ih => rw [handleRtcpData_cons]; exact ih (keeps_rtcpPacket hstep hS h p)

theorem keeps_handleRtpData (hrtp : ∀ ssrc pt, ok (.rtp ssrc pt)) {ts : TState} (h : P ts.router) (ssrc pt : Nat) :
    P (handleRtpData S ts ssrc pt).1.router := by
  have hw : P (routeRtp ts.router ssrc pt).1 := hstep h (.rtp ssrc pt) (hrtp ssrc pt)
  unfold handleRtpData
  rcases hr : routeRtp ts.router ssrc pt with ⟨st', _ | r⟩
  · rw [hr] at hw; exact hw
  · rw [hr] at hw; exact keeps_deliver hstep hS (ts := { ts with router := st' }) hw _

theorem keeps_tstep (hrtp : ∀ ssrc pt, ok (.rtp ssrc pt)) {ts : TState} (h : P ts.router) (op : TOp)
    (hop : ∀ t, op = .table t → ok t.toOp) : P (tstep S order ts op).1.router := by
  cases op with
  | table t => exact hstep h t.toOp (hop t rfl)
  | rtpData ssrc pt => exact keeps_handleRtpData hstep hS hrtp h ssrc pt
  | rtcpData pkts => exact keeps_handleRtcpData hstep hS h pkts

theorem keeps_trun (hrtp : ∀ ssrc pt, ok (.rtp ssrc pt)) {ts : TState} (h : P ts.router) (ops : List TOp)
    (hops : ∀ op ∈ ops, ∀ t, op = .table t → ok t.toOp) : P (trun S order ts ops).1.router := by
  induction ops generalizing ts with
  | nil => exact h
  | cons op ops ih =>
    rw [trun_cons]
    exact ih (keeps_tstep hstep hS hrtp h op (hops op List.mem_cons_self)) fun o ho => hops o (List.mem_cons_of_mem _ ho)

end keeps

section quiet
variable {P : Router → Prop} {ok : Op → Prop} {who : Recipient} (hP : ShutsOut P ok who)
  (hS : ∀ s ∈ S, ∀ t ∈ s.ops, ok t.toOp) (hord : ∀ l, (order l).Perm l)
include hP hS hord

theorem quiet_handleRtcpData {ts : TState} (h : P ts.router) (pkts : List Rtcp) :
    ∀ o ∈ (handleRtcpData S order ts pkts).2, ∀ l, o = .ok l → who ∉ l := by
  induction pkts generalizing ts with
  | nil => intro o ho; cases ho
  | cons p ps ih =>
    rw [handleRtcpData_cons]
    obtain ⟨l', hl', hp⟩ := rtcpPacket_ok S order ts p
    refine List.forall_mem_cons.2 ⟨fun l hl hm => ?_, ih (keeps_rtcpPacket hP.step hS h p)⟩
    rw [hp] at hl; cases hl
    exact hP.rtcp h hl' ((hord l').mem_iff.1 hm)

theorem quiet_mid_datagram (ts : TState) (pre post : List Rtcp) (h : P (handleRtcpData S order ts pre).1.router) :
    ∀ o ∈ (handleRtcpData S order ts (pre ++ post)).2.drop pre.length, ∀ l, o = .ok l → who ∉ l := by
  rw [handleRtcpData_append]
  show ∀ o ∈ ((handleRtcpData S order ts pre).2 ++ _).drop pre.length, _
  rw [List.drop_append_of_le_length (by rw [handleRtcpData_length]; exact Nat.le_refl _)]
  rw [List.drop_of_length_le (by rw [handleRtcpData_length]; exact Nat.le_refl _), List.nil_append]
  exact quiet_handleRtcpData hP hS hord h post

def handsTo (who : Recipient) : TOut → Prop
  | .rtp (some r) => who = .receiver r
  | .rtcp outs => ∃ l, Outcome.ok l ∈ outs ∧ who ∈ l
  | _ => False

theorem quiet_trun {ts : TState} (h : P ts.router) (ops : List TOp) (hops : ∀ op ∈ ops, ∀ t, op = .table t → ok t.toOp) :
    ∀ o ∈ (trun S order ts ops).2, ¬ handsTo who o := by
  induction ops generalizing ts with
  | nil => exact List.forall_mem_nil _
  | cons op ops ih =>
    rw [trun_cons]
    refine List.forall_mem_cons.2 ⟨?_, ih (keeps_tstep hP.step hS hP.rtp h op (hops op List.mem_cons_self))
      fun o ho => hops o (List.mem_cons_of_mem _ ho)⟩
    cases op with
    | table t => exact fun hh => hh
    | rtpData ssrc pt =>
      show ¬ handsTo who (.rtp (handleRtpData S ts ssrc pt).2)
      have h2 := fun r => hP.rtpOut ts.router ssrc pt r h
      unfold handleRtpData
      rcases hr : routeRtp ts.router ssrc pt with ⟨st', _ | r'⟩
      · exact fun hh => hh
      · rw [hr] at h2; exact fun e => h2 r' e rfl
    | rtcpData pkts =>
      exact fun ⟨l, hl, hm⟩ => quiet_handleRtcpData hP hS hord h pkts _ hl l rfl hm

end quiet

theorem wf_handleRtcpData {ts : TState} (h : WF ts.router) (pkts : List Rtcp) :
    WF (handleRtcpData S order ts pkts).1.router :=
  keeps_handleRtcpData (ok := fun _ => True) (fun h op _ => h.step op) (fun _ _ _ _ => trivial) h pkts

theorem wf_trun {ts : TState} (h : WF ts.router) (ops : List TOp) : WF (trun S order ts ops).1.router :=
  keeps_trun (ok := fun _ => True) (fun h op _ => h.step op) (fun _ _ _ _ => trivial) (fun _ _ => trivial) h ops
    fun _ _ _ _ => trivial

/-- **Deliveries of packet `k` go exactly to the endpoints registered when its turn comes.**  In the state `tsk`
reached after the packets before it (including every table change made during their delivery), the deliveries
for `p` are: the receivers registered *in `tsk`* for the SSRCs `p` is about, the senders registered *in `tsk`* for
the SSRCs it reports on — all of them currently registered, nobody else, nobody twice. -/
theorem compound_delivery_only_to_registered (S : List Script) {order : List Recipient → List Recipient}
    (hord : ∀ l, (order l).Perm l) {ts : TState} (hwf : WF ts.router) (pre : List Rtcp) (p : Rtcp)
    (post : List Rtcp) :
    let tsk := (handleRtcpData S order ts pre).1
    ∃ l, (handleRtcpData S order ts (pre ++ p :: post)).2[pre.length]? = some (.ok l) ∧ l.Nodup ∧
      (∀ r, Recipient.receiver r ∈ l ↔ ∃ x ∈ reportedSources p, ssrcOf tsk.router x = some r) ∧
      (∀ s, Recipient.sender s ∈ l ↔ ∃ x ∈ reportedMedia p, senderOf tsk.router x = some s) ∧
      (∀ r, Recipient.receiver r ∈ l → r ∈ tsk.router.receivers) ∧
      (∀ s, Recipient.sender s ∈ l → s ∈ dvals tsk.router.senders) := by
  intro tsk
  obtain ⟨l, hl, hget⟩ := compound_delivery_uses_current_tables S order ts pre p post
  obtain ⟨l', hl', hnd, hrec, hsnd⟩ := route_rtcp_spec tsk.router p
  have hwfk : WF tsk.router := wf_handleRtcpData hwf pre
  rw [hl] at hl'; cases hl'
  have hmem : ∀ x, x ∈ order l ↔ x ∈ l := fun x => (hord l).mem_iff
  refine ⟨order l, hget, (hord l).nodup_iff.2 hnd, fun r => ?_, fun s => ?_, fun r hr => ?_, fun s hs => ?_⟩
  · rw [hmem]; exact hrec r
  · rw [hmem]; exact hsnd s
  · exact hwfk.ssrcRecv r (rtcp_receiver_bound hl ((hmem _).1 hr))
  · exact rtcp_sender_bound hl ((hmem _).1 hs)

def ScriptsKeepReceiverOut (r : Nat) (S : List Script) : Prop :=
  ∀ s ∈ S, ∀ t ∈ s.ops, ¬ registersReceiver r t.toOp

def ScriptsKeepSenderOut (s : Nat) (S : List Script) : Prop :=
  ∀ sc ∈ S, ∀ t ∈ sc.ops, ¬ registersSender s t.toOp

/-- **A receiver unregistered in the middle of a compound datagram gets none of the packets behind.**  If `r`
occurs in no table after the packets `pre` have been delivered (say its own handler called `stop()` on the BYE, or
another task did while a handler was awaiting), and nobody registers it again, then no packet of `post` — the rest
of the *same* datagram — is handed to `r`. -/
theorem unregistered_mid_datagram_receiver_is_gone (S : List Script) {order : List Recipient → List Recipient}
    (hord : ∀ l, (order l).Perm l) (ts : TState) (pre post : List Rtcp) (r : Nat)
    (ha : ReceiverAbsent r (handleRtcpData S order ts pre).1.router) (hS : ScriptsKeepReceiverOut r S) :
    ∀ o ∈ (handleRtcpData S order ts (pre ++ post)).2.drop pre.length, ∀ l, o = .ok l →
      Recipient.receiver r ∉ l :=
  quiet_mid_datagram (shutsOut_receiver r) hS hord ts pre post ha

/-- **A sender unregistered in the middle of a compound datagram gets none of the packets behind** (another task
stops the sender while its handler awaits on the RR: the NACK and PLI behind it are not handed to it). -/
theorem unregistered_mid_datagram_sender_is_gone (S : List Script) {order : List Recipient → List Recipient}
    (hord : ∀ l, (order l).Perm l) (ts : TState) (pre post : List Rtcp) (s : Nat)
    (ha : s ∉ dvals (handleRtcpData S order ts pre).1.router.senders) (hS : ScriptsKeepSenderOut s S) :
    ∀ o ∈ (handleRtcpData S order ts (pre ++ post)).2.drop pre.length, ∀ l, o = .ok l →
      Recipient.sender s ∉ l :=
  quiet_mid_datagram (shutsOut_sender s) hS hord ts pre post ha

def handsToReceiver (r : Nat) : TOut → Prop
  | .rtp (some r') => r' = r
  | .rtcp outs => ∃ l, Outcome.ok l ∈ outs ∧ Recipient.receiver r ∈ l
  | _ => False

def handsToSender (s : Nat) : TOut → Prop
  | .rtcp outs => ∃ l, Outcome.ok l ∈ outs ∧ Recipient.sender s ∈ l
  | _ => False

def topRegistersReceiver (r : Nat) : TOp → Prop
  | .table t => registersReceiver r t.toOp
  | _ => False

def topRegistersSender (s : Nat) : TOp → Prop
  | .table t => registersSender s t.toOp
  | _ => False

theorem handsTo_of_receiver {r : Nat} {o : TOut} (h : handsToReceiver r o) : handsTo (.receiver r) o := by
  cases o with
  | unit => exact h
  | rtp res => cases res with
    | none => exact h
    | some r' => exact congrArg Recipient.receiver (Eq.symm h)
  | rtcp outs => exact h

theorem handsTo_of_sender {s : Nat} {o : TOut} (h : handsToSender s o) : handsTo (.sender s) o := by
  cases o with
  | unit => exact h
  | rtp res => exact absurd h (fun hh => hh)
  | rtcp outs => exact h

/-- **Unregistered receivers are gone — at transport level.**  From any state in which `r` occurs in no table (for
instance right after `_unregister_rtp_receiver(r)`, wherever that call came from), through every history of table
operations, RTP datagrams and compound RTCP datagrams, with handlers / other tasks changing the tables during any
delivery in any way that does not register `r` again: nothing is ever handed to `r`. -/
theorem transport_unregistered_receiver_is_gone (S : List Script) {order : List Recipient → List Recipient}
    (hord : ∀ l, (order l).Perm l) (ts : TState) (r : Nat) (ha : ReceiverAbsent r ts.router)
    (hS : ScriptsKeepReceiverOut r S) (ops : List TOp) (hops : ∀ op ∈ ops, ¬ topRegistersReceiver r op) :
    (∀ o ∈ (trun S order ts ops).2, ¬ handsToReceiver r o) ∧ ReceiverAbsent r (trun S order ts ops).1.router := by
  have hP := shutsOut_receiver r
  have hops' : ∀ op ∈ ops, ∀ t, op = .table t → ¬ registersReceiver r t.toOp := fun op hop t e => by subst e; exact hops _ hop
  exact ⟨fun o ho hh => quiet_trun hP hS hord ha ops hops' o ho (handsTo_of_receiver hh),
    keeps_trun (ok := fun op => ¬ registersReceiver r op) hP.step hS hP.rtp ha ops hops'⟩

/-- **Unregistered senders are gone — at transport level.** -/
theorem transport_unregistered_sender_is_gone (S : List Script) {order : List Recipient → List Recipient}
    (hord : ∀ l, (order l).Perm l) (ts : TState) (s : Nat) (ha : s ∉ dvals ts.router.senders)
    (hS : ScriptsKeepSenderOut s S) (ops : List TOp) (hops : ∀ op ∈ ops, ¬ topRegistersSender s op) :
    ∀ o ∈ (trun S order ts ops).2, ¬ handsToSender s o := by
  have hP := shutsOut_sender s
  exact fun o ho hh => quiet_trun hP hS hord ha ops (fun op hop t e => by subst e; exact hops _ hop) o ho
    (handsTo_of_sender hh)

/-- Without any table change during deliveries the loop is `route_rtcp` mapped over the packets on one and the
same table (the case all of the repo's tests are in). -/
theorem compound_without_table_changes (order : List Recipient → List Recipient) (ts : TState) (pkts : List Rtcp) :
    (handleRtcpData [] order ts pkts).1.router = ts.router ∧
    ∀ k (hk : k < pkts.length), ∃ l, routeRtcp ts.router pkts[k] = .ok l ∧
      (handleRtcpData [] order ts pkts).2[k]? = some (.ok (order l)) := by
  -- no script, so no table operation is ever allowed: the router stays what it is
  have hrouter : ∀ ps, (handleRtcpData [] order ts ps).1.router = ts.router := fun ps =>
    keeps_handleRtcpData (S := []) (P := fun st => st = ts.router) (ok := fun _ => False) (fun _ _ h => h.elim)
      (fun _ h => nomatch h) rfl ps
  refine ⟨hrouter pkts, fun k hk => ?_⟩
  have hsplit : pkts = pkts.take k ++ pkts[k] :: pkts.drop (k + 1) := by
    rw [List.getElem_cons_drop]; exact (List.take_append_drop k pkts).symm
  obtain ⟨l, hl, hget⟩ := compound_delivery_uses_current_tables [] order ts (pkts.take k) pkts[k] (pkts.drop (k + 1))
  rw [← hsplit] at hget
  rw [hrouter] at hl
  refine ⟨l, hl, ?_⟩
  rw [List.length_take, Nat.min_eq_left (Nat.le_of_lt hk)] at hget
  exact hget

/-- [BYE(1000), SR(1000)] for a receiver that stops itself on the BYE: the SR behind it reaches nobody. -/
example :
    (handleRtcpData [⟨.receiver 0, 1, [.unregReceiver 0]⟩] id
      ⟨registerReceiver Router.empty 0 [1000] [96] none, []⟩ [.bye [1000], .sr 1000 []]).2
    = [.ok [.receiver 0], .ok []] := by decide +kernel

/-- [RR(2000), NACK(2000), PLI(2000)] with the sender stopped by another task while it handles the RR; a new sender
registered for the SSRC at the same moment gets the rest of the datagram. -/
example :
    (handleRtcpData [⟨.sender 0, 1, [.unregSender 0, .regSender 1 2000]⟩] List.reverse
      ⟨registerSender Router.empty 0 2000, []⟩ [.rr 1 [2000], .rtpfb 1 1 2000, .psfb 1 1 2000 []]).2
    = [.ok [.sender 0], .ok [.sender 1], .ok [.sender 1]] := by decide +kernel

/-- the side conditions are satisfiable by scripts that do change tables -/
example : ScriptsKeepReceiverOut 0 [⟨.receiver 0, 1, [.unregReceiver 0, .regReceiver 1 [1000] [96] none]⟩] ∧
    ScriptsKeepSenderOut 0 [⟨.sender 0, 1, [.unregSender 0, .regSender 1 2000]⟩] := by
  constructor <;> intro s hs t ht <;> simp at hs <;> subst hs <;> simp at ht <;>
    rcases ht with rfl | rfl <;> simp [TableOp.toOp, registersReceiver, registersSender]

example : ∀ l : List Recipient, (List.reverse l).Perm l := fun l => List.reverse_perm l

/-- a whole transport history: RTP latches SSRC 7 to receiver 0, whose handler unregisters it on its 2nd packet -/
example :
    (trun [⟨.receiver 0, 2, [.unregReceiver 0]⟩] id TState.fresh
      [.table (.regReceiver 0 [] [96] none), .rtpData 7 96, .rtcpData [.sr 7 [], .bye [7]], .rtpData 7 96]).2
    = [.unit, .rtp (some 0), .rtcp [.ok [.receiver 0], .ok []], .rtp none] := by decide +kernel

end Aiortc.Props.C12
