import Aiortc.Model.Video.Sender
import Aiortc.Model.Video.Receiver
import Aiortc.Lemmas.C11.Sender
import Aiortc.Lemmas.C11.NackSpec
import Aiortc.Lemmas.C11.StreamStep
import Aiortc.Lemmas.C11.Frames
import Aiortc.Lemmas.C11.Recv
import Aiortc.Props.C07
import Aiortc.Props.C10
/-!
# C11 — video frames reach the decoder unspliced; lost packets are recovered by NACK/RTX

Models: `Model/Video/Sender.lean` (packetisation loop of `_run_rtp`, `__rtp_history`, `_retransmit`, NACK branch
of `_handle_rtcp_packet`), `Model/Video/Nack.lean` (`NackGenerator`), `Model/Video/Receiver.lean`
(`_handle_rtp_packet` from the codec lookup to the decoder queue, `TimestampMapper`), reusing C07's
`wrapRtx/unwrapRtx`, C16's depayload models and C10's jitter buffer.  All theorems hold for ALL inputs of the
stated shape (sequence numbers and timestamps anywhere in their range, wrap-around included).
-/
namespace Aiortc.Props.C11
open Aiortc Aiortc.Gen Aiortc.Rtp Aiortc.Model.Video Aiortc.Lemmas.Video Aiortc.Lemmas.Jitter
open Aiortc.Model.Jitter (JB Packet Frame AddOut joinData)

set_option linter.unusedVariables false  -- `tsmap_unwraps` keeps its hypothesis `0 ≤ t0 ∧ t0 < 4294967296`, which the proof does not need

/-! ## 0. Constants of the property text vs the regenerated code -/

/-- The literal 128 of the property text is `RTP_HISTORY_SIZE`. -/
theorem history_size_const : RTP_HISTORY_SIZE = 128 := by decide

/-- The video receiver's jitter buffer is `JitterBuffer(capacity=128, is_video=True)` (prefetch 0). -/
theorem receiver_buffer_const : (128, 0, true) ∈ RECEIVER_JITTER_PARAMS := by decide

/-- The literal 100 ("100 or more positions late") is `MAX_MISORDER`. -/
theorem max_misorder_const : MAX_MISORDER = 100 := C10.max_misorder_const

/-! ## 1. Sender: packetisation loop and retransmission history -/

/-- **Packetisation (sequence numbers).** One iteration of `_run_rtp` with payloads `pls` emits exactly one
packet per payload; packet `k` carries sequence number `seq + k (mod 2^16)`, the frame's timestamp
`timestamp_origin + enc_ts (mod 2^32)` — one timestamp per frame —, payload `k`, the codec's payload type, the
sender's SSRC, and the marker bit exactly on the last payload; the running sequence number ends `len` further. -/
theorem packetise_fields (cfg : SenderCfg) {s : Sender} {q0 : Int} {sent : List RtpPacket} (hI : SInv s q0 sent)
    (encTs : Int) (pls : List Bytes) :
    let r := sendFrame cfg s encTs pls
    r.2.length = pls.length ∧
    (∀ k pl, pls[k]? = some pl → ∃ p, r.2[k]? = some p ∧
      (p.sequenceNumber : Int) = (q0 + ((sent.length + k : Nat) : Int)) % 65536 ∧
      (p.timestamp : Int) = (cfg.tsOrigin + encTs) % 4294967296 ∧
      p.payload = pl ∧ p.payloadType = cfg.pt ∧ p.ssrc = cfg.ssrc ∧ p.paddingSize = 0 ∧
      p.marker = (if k = pls.length - 1 then 1 else 0)) ∧
    r.1.seq = (q0 + ((sent.length + pls.length : Nat) : Int)) % 65536 ∧
    SInv r.1 q0 (sent ++ r.2) := by
  intro r
  obtain ⟨h1, h2, h3, h4⟩ := sendLoop_spec cfg (uint32_add cfg.tsOrigin encTs) pls.length pls 0 s q0 sent hI
  refine ⟨h3, ?_, ?_, h1⟩
  · intro k pl hk
    refine ⟨_, h4 k pl hk, ?_, ?_, rfl, rfl, rfl, rfl, by simp [mkPacket]⟩
    · simp only [mkPacket]; unfold seqAt; omega
    · simp only [mkPacket]; unfold uint32_add; omega
  · have := h1.seq
    show (sendLoop cfg (uint32_add cfg.tsOrigin encTs) pls.length 0 pls s).fst.seq = _
    rw [this]; unfold seqAt; simp only [List.length_append, h3]

/-- **Consecutive sequence numbers across frames**: in the ghost list `sent` of all first transmissions, packet
`j` has sequence number `q0 + j (mod 2^16)` (invariant `SInv`, established by `sinv_init`, kept by
`packetise_fields`, `retransmit_sinv`, `handleNack_sinv`). -/
theorem packetise_seq {s : Sender} {q0 : Int} {sent : List RtpPacket} (hI : SInv s q0 sent) (j : Nat) (p : RtpPacket)
    (hj : sent[j]? = some p) : (p.sequenceNumber : Int) = (q0 + (j : Int)) % 65536 := hI.seqs j p hj

/-- **History slot**: the packet filed under key `k` of `__rtp_history` is the one of the last 128 first
transmissions whose sequence number is `k` modulo 128. -/
theorem history_last128 {s : Sender} {q0 : Int} {sent : List RtpPacket} (hI : SInv s q0 sent) (k : Nat) (p : RtpPacket) :
    histGet s.history k = some p ↔
      ∃ j, j < sent.length ∧ sent.length ≤ j + 128 ∧ sent[j]? = some p ∧ (((q0 + (j : Int)) % 65536) % 128).toNat = k := by
  rw [hI.hist]
  simp only [slotOfSeq_eq]
  exact Iff.rfl

/-- A request for a sequence number outside the last 128 (older, never sent, or an alias ±2^16) sends nothing
and changes nothing. -/
theorem history_miss (cfg : SenderCfg) {s : Sender} {q0 : Int} {sent : List RtpPacket} (hI : SInv s q0 sent) (sn : Int)
    (h : ¬ InHistory q0 sent sn) : retransmit cfg s sn = (s, []) := by
  unfold retransmit
  split
  · rename_i p hp
    rw [if_neg fun hs => h ((lookup_spec hI sn).1 ⟨p, hp, hs⟩)]
  · rfl

/-- **`history_hit`.** `_retransmit(sn)` sends something iff `sn` is the sequence number of one of the last 128
packets sent. -/
theorem history_hit (cfg : SenderCfg) {s : Sender} {q0 : Int} {sent : List RtpPacket} (hI : SInv s q0 sent) (sn : Int) :
    (retransmit cfg s sn).2 ≠ [] ↔ InHistory q0 sent sn := by
  constructor
  · intro h
    exact Classical.byContradiction fun hn => h (by rw [history_miss cfg hI sn hn])
  · intro h
    obtain ⟨p, hp, rfl⟩ := (lookup_spec hI sn).2 h
    rw [retransmit_hit cfg hp]
    cases cfg.rtxPt <;> simp

/-- **Verbatim retransmission** (RTX not negotiated): the very packet that was sent, nothing else, sender state
unchanged. -/
theorem retransmit_verbatim (cfg : SenderCfg) (hr : cfg.rtxPt = none) {s : Sender} {q0 : Int} {sent : List RtpPacket}
    (hI : SInv s q0 sent) {j : Nat} {p : RtpPacket} (hj : sent[j]? = some p) (hlast : sent.length ≤ j + 128) :
    retransmit cfg s (p.sequenceNumber : Int) = (s, [p]) := by
  rw [retransmit_hit cfg (hist_of_sent hI hj hlast), hr]

/-- `unwrap_rtx` undoes `wrap_rtx` on a packet without padding (C07 `rtx_invertible`). -/
theorem unwrap_wrap {p : RtpPacket} (hseq : p.sequenceNumber < 65536) (hpad : p.paddingSize = 0) (pt' seq' ssrc' : Nat) :
    unwrapRtx (wrapRtx p pt' seq' ssrc') p.payloadType p.ssrc = .ok p := by
  rw [Aiortc.Props.C07.rtx_invertible p hseq, ← hpad]

/-- **RTX retransmission, invertible**: with RTX negotiated the packet is wrapped with the RTX payload type, the
RTX SSRC and the current RTX sequence number, and `unwrap_rtx` at the receiver gives back the packet that was
sent (C07 `rtx_invertible`), for a packet built by the packetisation loop (`padding_size = 0`). -/
theorem retransmit_rtx_invertible (cfg : SenderCfg) (rpt : Nat) (hr : cfg.rtxPt = some rpt) {s : Sender} {q0 : Int}
    {sent : List RtpPacket} (hI : SInv s q0 sent) {j : Nat} {p : RtpPacket} (hj : sent[j]? = some p)
    (hlast : sent.length ≤ j + 128) (hpad : p.paddingSize = 0) :
    ∃ w, retransmit cfg s (p.sequenceNumber : Int) = ({ s with rtxSeq := uint16_add s.rtxSeq 1 }, [w]) ∧
      w = wrapRtx p rpt s.rtxSeq.toNat cfg.rtxSsrc ∧
      w.payloadType = rpt ∧ w.ssrc = cfg.rtxSsrc ∧ w.sequenceNumber = s.rtxSeq.toNat ∧
      unwrapRtx w p.payloadType p.ssrc = .ok p := by
  have hseq : p.sequenceNumber < 65536 := by
    have := hI.seqs j p hj; unfold seqAt at this; omega
  exact ⟨_, by rw [retransmit_hit cfg (hist_of_sent hI hj hlast), hr], rfl, rfl, rfl, rfl, unwrap_wrap hseq hpad ..⟩

/-- **RTX sequence counter**: every RTX retransmission uses the counter and advances it by one modulo 2^16; a
request that misses the history leaves it alone. -/
theorem rtx_seq_counter (cfg : SenderCfg) (s : Sender) (sn : Int) :
    (retransmit cfg s sn).1.rtxSeq =
      if (retransmit cfg s sn).2 ≠ [] ∧ cfg.rtxPt ≠ none then (s.rtxSeq + 1) % 65536 else s.rtxSeq := by
  unfold retransmit
  split
  · split
    · cases h : cfg.rtxPt <;> simp [uint16_add]
    · simp
  · simp

/-! ### The RTX payload type `send(parameters)` derives from the codec list -/

/-- Where no rtx codec lacks its `apt` the loop of `send` is a `find?`. -/
theorem rtxScan_eq_find (pt0 : Nat) (cs : List SendCodec) (hapt : ∀ c ∈ cs, c.isRtx = true → c.apt ≠ none) :
    rtxScan pt0 cs = .ok ((cs.find? fun c => c.isRtx && c.apt == some pt0).map (·.pt)) := by
  induction cs with
  | nil => rfl
  | cons c cs ih =>
    have ih := ih fun d hd => hapt d (List.mem_cons_of_mem _ hd)
    cases hr : c.isRtx with
    | false => simp [rtxScan, hr, ih]
    | true =>
      cases ha : c.apt with
      | none => exact absurd ha (hapt c List.mem_cons_self hr)
      | some a => by_cases hm : a = pt0 <;> simp [rtxScan, hr, ha, hm, ih]

/-- **`rtxFor_spec`.** For ANY shape of `parameters.codecs` (rtx entries of other codecs before or after, several
codecs each with rtx, duplicates, none) the sender retransmits as RTX iff some rtx codec names the SENDING payload
type `codecs[0].payloadType` as its `apt`; the RTX payload type is that of the first such entry; otherwise
retransmission is verbatim (`rtxPt = none`). -/
theorem rtxFor_spec (c0 : SendCodec) (cs : List SendCodec) (hapt : ∀ c ∈ c0 :: cs, c.isRtx = true → c.apt ≠ none)
    (ssrc rtxSsrc : Nat) (tsO : Int) :
    ∃ cfg, SenderCfg.ofCodecs ssrc rtxSsrc (c0 :: cs) tsO = .ok cfg ∧ cfg.pt = c0.pt ∧ cfg.ssrc = ssrc ∧
      cfg.rtxSsrc = rtxSsrc ∧
      (cfg.rtxPt = none ↔ ∀ c ∈ c0 :: cs, ¬ (c.isRtx = true ∧ c.apt = some c0.pt)) ∧
      (∀ p, cfg.rtxPt = some p → ∃ pre c post, c0 :: cs = pre ++ c :: post ∧ c.isRtx = true ∧ c.apt = some c0.pt ∧
        c.pt = p ∧ ∀ d ∈ pre, ¬ (d.isRtx = true ∧ d.apt = some c0.pt)) := by
  refine ⟨⟨ssrc, rtxSsrc, c0.pt, ((c0 :: cs).find? fun c => c.isRtx && c.apt == some c0.pt).map (·.pt), tsO⟩,
    by simp only [SenderCfg.ofCodecs, rtxFor, rtxScan_eq_find c0.pt _ hapt], rfl, rfl, rfl, ?_, fun p hp => ?_⟩
  · simp [List.find?_eq_none]
  · obtain ⟨c, hc, rfl⟩ := Option.map_eq_some_iff.1 hp
    obtain ⟨hm, pre, post, e, hpre⟩ := List.find?_eq_some_iff_append.1 hc
    simp only [Bool.and_eq_true, beq_iff_eq] at hm
    exact ⟨pre, c, post, e, hm.1, hm.2, rfl, fun d hd h => by simpa [h.1, h.2] using hpre d hd⟩

/-- H264 (no rtx) first, then VP8 with its rtx: retransmissions of H264 are verbatim. -/
example : SenderCfg.ofCodecs 1 2 [⟨96, false, none⟩, ⟨98, false, none⟩, ⟨99, true, some 98⟩] 0 = .ok ⟨1, 2, 96, none, 0⟩ := by decide
/-- rtx of another codec listed first, duplicate rtx for the sending codec: the first matching one is used. -/
example : SenderCfg.ofCodecs 1 2 [⟨96, false, none⟩, ⟨99, true, some 98⟩, ⟨97, true, some 96⟩, ⟨98, false, none⟩, ⟨101, true, some 96⟩] 0 =
    .ok ⟨1, 2, 96, some 97, 0⟩ := by decide

/-! ## 2. `NackGenerator` -/

/-- Any run of `add`s from a fresh generator. -/
def nackRun : NackGen → List Int → Outcome NackGen
  | g, [] => .ok g
  | g, x :: xs => match g.add x with
    | .ok (g1, _) => nackRun g1 xs
    | .valueError => .valueError | .crash k => .crash k | .hang => .hang

theorem nack_run_inv (xs : List Int) : ∀ {g : NackGen}, NInv g → (∀ x ∈ xs, R16 x) → ∃ g', nackRun g xs = .ok g' ∧ NInv g' := by
  induction xs with
  | nil => intro g hI _; exact ⟨g, rfl, hI⟩
  | cons x xs ih =>
    intro g hI hx
    obtain ⟨g1, b, e, hI1, _⟩ := ninv_add hI x (hx x List.mem_cons_self)
    obtain ⟨g', e', hI'⟩ := ih hI1 (fun y hy => hx y (List.mem_cons_of_mem _ hy))
    exact ⟨g', by simp only [nackRun, e, e'], hI'⟩

/-- **`nack_bounded`.** After ANY sequence of arrivals (16-bit sequence numbers, any order, duplicates, jumps)
`missing` has no duplicates, every member lies 1 … 128 behind `max_seq`, hence at most 128 members: a NACK never
lists more than the 128-packet retransmission history. -/
theorem nack_bounded (xs : List Int) (hx : ∀ x ∈ xs, R16 x) :
    ∃ g, nackRun NackGen.init xs = .ok g ∧ g.missing.Nodup ∧ g.missing.length ≤ 128 ∧
      ∀ m, g.maxSeq = some m → ∀ x ∈ g.missing, 1 ≤ (m - x) % 65536 ∧ (m - x) % 65536 ≤ 128 := by
  obtain ⟨g, e, hI⟩ := nack_run_inv xs ninv_init hx
  exact ⟨g, e, hI.nodup, ninv_length hI, fun m hm x hxm => ((hI.win m hm).2 x hxm).2⟩

/-- Run over unwrapped stream indices: the arrival at index `i` carries sequence number `s0 + i (mod 2^16)`.
Returns the final generator and the `missed` flags. -/
def nackIdxRun (s0 : Int) : NackGen → List Nat → Outcome (NackGen × List Bool)
  | g, [] => .ok (g, [])
  | g, i :: is => match g.add (seqAt s0 i) with
    | .ok (g1, b) => match nackIdxRun s0 g1 is with
      | .ok (g2, bs) => .ok (g2, b :: bs)
      | .valueError => .valueError | .crash k => .crash k | .hang => .hang
    | .valueError => .valueError | .crash k => .crash k | .hang => .hang

/-- Every arrival is within 32 768 positions of the highest index seen so far. -/
def Tame : Nat → List Nat → Prop
  | _, [] => True
  | hi, i :: is => ((i : Int) < hi + 32768 ∧ (hi : Int) ≤ i + 32768) ∧ Tame (max hi i) is

theorem nack_idx_run (s0 : Int) (is : List Nat) : ∀ {g : NackGen} {first hi : Nat} {recv : Nat → Prop},
    NSpec g s0 first hi recv → Tame hi is →
    ∃ g' bs, nackIdxRun s0 g is = .ok (g', bs) ∧
      NSpec g' s0 first (is.foldl max hi) (fun j => recv j ∨ j ∈ is) := by
  induction is with
  | nil =>
    intro g first hi recv h _
    refine ⟨g, [], rfl, ?_⟩
    have : (fun j => recv j ∨ j ∈ ([] : List Nat)) = recv := by funext j; simp
    rw [this]; exact h
  | cons i is ih =>
    intro g first hi recv h ht
    obtain ⟨g1, b, e, h1, _⟩ := nspec_step h i ht.1
    obtain ⟨g', bs, e', h'⟩ := ih h1 ht.2
    refine ⟨g', b :: bs, by simp only [nackIdxRun, e, e'], ?_⟩
    have : (fun j => (recv j ∨ j = i) ∨ j ∈ is) = (fun j => recv j ∨ j ∈ i :: is) := by
      funext j; simp [or_assoc]
    rw [← this]; exact h'

/-- **`nack_complete`.** Arrivals `first :: is` (unwrapped indices, each within 32 768 positions of the highest
seen): afterwards `max_seq` is the sequence number of the highest index `hi`, and `missing` is EXACTLY the set of
sequence numbers of the indices `j` with `first < j < hi`, `hi - 128 ≤ j`, that have not arrived — every
not-yet-received number of the window is listed, and nothing else. -/
theorem nack_complete (s0 : Int) (hs : R16 s0) (first : Nat) (is : List Nat) (ht : Tame first is) :
    ∃ g bs, nackIdxRun s0 NackGen.init (first :: is) = .ok (g, bs) ∧
      g.maxSeq = some (seqAt s0 (is.foldl max first)) ∧
      ∀ x, x ∈ g.missing ↔ ∃ j, first < j ∧ j < is.foldl max first ∧ is.foldl max first ≤ j + 128 ∧
        j ≠ first ∧ j ∉ is ∧ x = seqAt s0 j := by
  obtain ⟨e0, h0⟩ := nspec_first s0 hs first
  obtain ⟨g, bs, e, h⟩ := nack_idx_run s0 is h0 ht
  refine ⟨g, false :: bs, by simp only [nackIdxRun, e0, e], h.max, ?_⟩
  intro x
  simp only [h.mem, not_or, and_assoc, ne_eq]

/-- The `missed` flag (= "send a NACK now") is raised exactly when the arrival skips at least one index. -/
theorem nack_missed_iff {g : NackGen} {s0 : Int} {first hi : Nat} {recv : Nat → Prop} (h : NSpec g s0 first hi recv)
    (i : Nat) (hnear : (i : Int) < hi + 32768 ∧ (hi : Int) ≤ i + 32768) :
    ∃ g', g.add (seqAt s0 i) = .ok (g', decide (hi + 1 < i)) := by
  obtain ⟨g', b, e, _, hb⟩ := nspec_step h i hnear
  refine ⟨g', ?_⟩
  rw [e]; congr 2
  cases b <;> simp_all

/-! ## 3. `TimestampMapper` -/

/-- Run of `map` over a list of timestamps. -/
def tsRun : TsMap → List Int → Outcome (List Int)
  | _, [] => .ok []
  | m, t :: ts => match m.map t with
    | .ok (m1, v) => match tsRun m1 ts with
      | .ok vs => .ok (v :: vs)
      | .valueError => .valueError | .crash k => .crash k | .hang => .hang
    | .valueError => .valueError | .crash k => .crash k | .hang => .hang

/-- Offsets `d₀ ≤ d₁ ≤ …` with consecutive differences below 2^32. -/
def SlowGrowth : Nat → List Nat → Prop
  | _, [] => True
  | d, d' :: ds => d ≤ d' ∧ d' < d + 4294967296 ∧ SlowGrowth d' ds

theorem tsmap_run (t0 : Int) (d0 : Nat) (ds : List Nat) :
    ∀ (d : Nat) (o : Int), SlowGrowth d ds → o = (t0 + d) % 4294967296 - ((d : Int) - d0) →
      tsRun ⟨some ((t0 + d) % 4294967296), some o⟩ (ds.map fun (x : Nat) => (t0 + (x : Int)) % 4294967296) =
        .ok (ds.map fun (x : Nat) => (x : Int) - d0) := by
  induction ds with
  | nil => intro d o _ _; rfl
  | cons d' ds ih =>
    intro d o hg ho
    obtain ⟨h1, h2, h3⟩ := hg
    simp only [List.map_cons, tsRun, TsMap.map]
    -- the origin is lowered by 2^32 exactly when the timestamp wrapped
    have ho' : (if (t0 + (d' : Int)) % 4294967296 < (t0 + (d : Int)) % 4294967296 then o - 4294967296 else o) =
        (t0 + (d' : Int)) % 4294967296 - ((d' : Int) - d0) := by split <;> omega
    rw [ho', ih d' _ h3 rfl]
    simp only []
    congr 2; omega

/-- **`tsmap_unwraps`.** Frames whose RTP timestamps are `t0 + d_k (mod 2^32)` with `d_0 ≤ d_1 ≤ …` and steps
below 2^32 (any 32-bit origin `t0`, so the sequence may wrap any number of times) are mapped to `d_k - d_0`. -/
theorem tsmap_unwraps (t0 : Int) (ht : 0 ≤ t0 ∧ t0 < 4294967296) (d0 : Nat) (ds : List Nat) (hg : SlowGrowth d0 ds) :
    tsRun TsMap.init ((d0 :: ds).map fun (x : Nat) => (t0 + (x : Int)) % 4294967296) =
      .ok ((d0 :: ds).map fun (x : Nat) => (x : Int) - d0) := by
  simp only [List.map_cons, tsRun, TsMap.map, TsMap.init]
  rw [tsmap_run t0 d0 ds d0 _ hg (by omega)]
  simp

/-! ## 4. The receive path: the decoder queue gets exactly the jitter buffer's frames -/

/-- **Receive path, one call.** `_handle_rtp_packet` either stops before the jitter buffer (unknown payload type,
RTX from an unknown SSRC / too short / bad `apt`, payload that does not depayload: nothing is queued, the buffer
is untouched) or hands `JitterBuffer.add` exactly one packet `(sequence_number, timestamp, depayloaded payload)`,
and then a frame is queued exactly when the buffer returned one (decoder thread running), with the buffer's
bytes, and `pli_flag` is the buffer's. -/
theorem receiver_feeds_buffer (cfg : RecvCfg) (r : Receiver) (w : RtpPacket) (o : RecvOut)
    (e : handleRtp cfg r w = .ok o) :
    (o.fed = none ∧ o.r.jb = r.jb ∧ o.item = none ∧ o.pli = false) ∨
    (∃ jp out, o.fed = some jp ∧ Aiortc.Model.Jitter.add r.jb jp = .ok out ∧ o.r.jb = out.jb ∧ o.pli = out.pli ∧
      (∀ q, o.item = some q → ∃ f, out.frame = some f ∧ q.data = f.data ∧ o.used = out.used) ∧
      (cfg.decoder = true → ∀ f, out.frame = some f → ∃ q, o.item = some q)) := by
  unfold handleRtp at e
  split at e
  · injection e with e; subst e; exact Or.inl ⟨rfl, rfl, rfl, rfl⟩
  · split at e
    · injection e with e; subst e; exact Or.inl ⟨rfl, rfl, rfl, rfl⟩
    · rename_i q pt c2 _
      rcases (feed_spec cfg r q pt c2 o e).2.2 with ⟨_, h1, h2, h3, h4⟩ | ⟨data, out, _, h1, h2, h3, h4, h5, h6⟩
      · exact Or.inl ⟨h1, h2, h3, h4⟩
      · refine Or.inr ⟨_, out, h1, h2, h3, h4, ?_, h6⟩
        intro x hx; obtain ⟨f, a, b, _, d⟩ := h5 x hx; exact ⟨f, a, b, d⟩
    · cases e
    · cases e
    · cases e

/-- **Every NACK lists exactly `missing`**: the feedback of a call is `[NACK(sorted(missing))]` (after the
generator was updated) followed by `[PLI]`, each only when due and when `__rtcp_ssrc` is set. -/
theorem nack_lists_missing (cfg : RecvCfg) (r : Receiver) (p : RtpPacket) (pt : Nat) (c : Codec) (o : RecvOut)
    (e : feedStage cfg r p pt c = .ok o) (ssrc : Nat) (lost : List Int) (h : Fb.nack ssrc lost ∈ o.fb) :
    ssrc = p.ssrc ∧ lost = sortInts o.r.nack.missing ∧ (∀ x, x ∈ lost ↔ x ∈ o.r.nack.missing) ∧
      lost.length = o.r.nack.missing.length ∧ ∃ b, r.nack.add (p.sequenceNumber : Int) = .ok (o.r.nack, b) := by
  obtain ⟨⟨b, hb⟩, hfb, _⟩ := feed_spec cfg r p pt c o e
  obtain ⟨h1, h2⟩ := hfb ssrc lost h
  exact ⟨h1, h2, fun x => h2 ▸ (sortInts_perm _).mem_iff, h2 ▸ (sortInts_perm _).length_eq, b, hb⟩

/-! ## 5. Frames entering the decoder queue are whole sender frames, in sending order -/

/-- Every arrival is a copy of the stream packet at the index it is labelled with. -/
def Arrivals (stream : List Packet) (arr : List (Nat × Packet)) : Prop := ∀ a ∈ arr, stream[a.1]? = some a.2

/-- Every arrival lies within 32 768 positions of the jitter buffer's (unwrapped) origin index of the moment. -/
def NearRun : JB → Nat → List (Nat × Packet) → Prop
  | _, _, [] => True
  | jb, oi, a :: rest =>
    (jb.origin ≠ none → Near oi a.1) ∧
    match Aiortc.Model.Jitter.add jb a.2 with
    | .ok out => NearRun out.jb (oiNext jb oi a.1 a.2 out) rest
    | _ => True

theorem NearRun.tail {jb : JB} {oi : Nat} {a : Nat × Packet} {rest : List (Nat × Packet)} {out : AddOut}
    (h : NearRun jb oi (a :: rest)) (e : Aiortc.Model.Jitter.add jb a.2 = .ok out) :
    NearRun out.jb (oiNext jb oi a.1 a.2 out) rest := by
  have := h.2; simp only [e] at this; exact this

/-- The conclusion, along the run: each released frame is `pre ++ used = frames[k]` — the in-order concatenation
of the depayloaded packets of ONE sender frame or of a tail of it — and it is the whole frame (`pre = []`) when
`al` holds: a frame has been released before and no call since returned `pli_flag`.  No call raises. -/
def FramesWhole (frames : List (List Packet)) : JB → Bool → List (Nat × Packet) → Prop
  | _, _, [] => True
  | jb, al, a :: rest =>
    match Aiortc.Model.Jitter.add jb a.2 with
    | .ok out =>
      (∀ f, out.frame = some f → ∃ (k : Nat) (fr pre : List Packet), frames[k]? = some fr ∧ fr = pre ++ out.used ∧
          f.data = joinData out.used ∧ (∀ q ∈ out.used, q.ts = f.ts) ∧ ((al && !out.pli) = true → pre = [])) ∧
      FramesWhole frames out.jb (out.frame.isSome || (al && !out.pli)) rest
    | _ => False

theorem frames_whole_run {frames : List (List Packet)} (hF : FramesOK frames) {s0 : Int}
    (hS : StreamOK s0 frames.flatten) (arr : List (Nat × Packet)) :
    ∀ (jb : JB) (oi : Nat) (al : Bool), GInv s0 frames.flatten jb oi → jb.isVideo = true →
      (al = true → jb.origin ≠ none ∧ FrameStartIdx frames.flatten oi) →
      Arrivals frames.flatten arr → NearRun jb oi arr → FramesWhole frames jb al arr := by
  induction arr with
  | nil => intro jb oi al _ _ _ _ _; trivial
  | cons a rest ih =>
    intro jb oi al hG hv hal harr hnear
    have hj := harr a List.mem_cons_self
    obtain ⟨out, e, oi2, hs⟩ := gstep hS hG hj hnear.1
    have hnear' := hnear.tail e
    simp only [FramesWhole, e]
    rw [hs.next] at hnear'
    refine ⟨?_, ih out.jb _ _ hs.ginv (by rw [← hs.same.2.2]; exact hv) ?_ (fun b hb => harr b (List.mem_cons_of_mem _ hb)) hnear'⟩
    · intro f hf
      obtain ⟨k, fr, pre, h1, h2, h3⟩ := run_is_frame hF (hs.run f hf)
      refine ⟨k, fr, pre, h1, h2, (hs.run f hf).data, (hs.run f hf).split.2.1, ?_⟩
      intro hc
      simp only [Bool.and_eq_true, Bool.not_eq_true'] at hc
      obtain ⟨ho, hfs⟩ := hal hc.1
      apply h3
      rw [hs.calm hc.2 hv ho]; exact hfs
    · intro hc
      refine ⟨hs.orig, ?_⟩
      cases hf : out.frame with
      | some f =>
        exact (hs.run f hf).frameStart
      | none =>
        rw [hf] at hc
        simp only [Option.isSome_none, Bool.false_or, Bool.and_eq_true, Bool.not_eq_true'] at hc
        obtain ⟨ho, hfs⟩ := hal hc.1
        rw [hs.noFrame hf, hs.calm hc.2 hv ho]; exact hfs

/-- The video receiver's fresh buffer satisfies the invariant (any origin index: there is no origin yet). -/
theorem fresh_ginv (s0 : Int) (stream : List Packet) :
    ∃ jb0, Aiortc.Model.Jitter.mk 128 0 true = .ok jb0 ∧ GInv s0 stream jb0 0 ∧ jb0.isVideo = true ∧ jb0.origin = none := by
  obtain ⟨jb0, e, hI, hc, _, hv, ho⟩ := Aiortc.Props.C10.mk_inv 128 0 true ⟨7, by omega, rfl⟩
  exact ⟨jb0, e, ⟨hI, by rw [hc]; omega, (fun o h => by simp [ho] at h), fun s q h => absurd h (hI.empty ho s q)⟩, hv, ho⟩

/-- **`decoder_frames_whole`.** The sender's frames `frames` (non-empty, one timestamp each, adjacent frames with
different timestamps; consecutive 16-bit sequence numbers from any `s0`) are fed, as ANY list of copies of their
packets — lost, duplicated, reordered, retransmitted —, to the video receiver's fresh jitter buffer, every
arrival within 32 768 positions of the buffer's origin.  Then no call raises and every frame the buffer releases
(= every frame entering the decoder queue, `receiver_feeds_buffer`) is the in-order concatenation of the
depayloaded packets of ONE sender frame or of a tail of one; a strict tail only for the first release after the
stream start or after a call that returned `pli_flag`. -/
theorem decoder_frames_whole {frames : List (List Packet)} (hF : FramesOK frames) {s0 : Int}
    (hS : StreamOK s0 frames.flatten) (arr : List (Nat × Packet)) (harr : Arrivals frames.flatten arr) :
    ∃ jb0, Aiortc.Model.Jitter.mk 128 0 true = .ok jb0 ∧ (NearRun jb0 0 arr → FramesWhole frames jb0 false arr) := by
  obtain ⟨jb0, e, hG, hv, _⟩ := fresh_ginv s0 frames.flatten
  exact ⟨jb0, e, fun hn => frames_whole_run hF hS arr jb0 0 false hG hv (fun h => by cases h) harr hn⟩

/-- For streams of at most 32 768 packets the proximity hypothesis holds by itself. -/
theorem near_of_short {s0 : Int} {stream : List Packet} (hS : StreamOK s0 stream) (hlen : stream.length ≤ 32768)
    (arr : List (Nat × Packet)) : ∀ (jb : JB) (oi : Nat), GInv s0 stream jb oi → (jb.origin ≠ none → oi < stream.length) →
      Arrivals stream arr → NearRun jb oi arr := by
  induction arr with
  | nil => intro _ _ _ _ _; trivial
  | cons a rest ih =>
    intro jb oi hG hlt harr
    have hj := harr a List.mem_cons_self
    have hjl : a.1 < stream.length := (List.getElem?_eq_some_iff.1 hj).1
    have hn : jb.origin ≠ none → Near oi a.1 := by
      intro h; have := hlt h; unfold Near; omega
    refine ⟨hn, ?_⟩
    have hp : R16 a.2.seq := by rw [hS.seqs a.1 a.2 hj]; exact seqAt_r16 ..
    obtain ⟨out, e, oi2, hs⟩ := gstep hS hG hj hn
    simp only [e]
    rw [hs.next]
    refine ih out.jb _ hs.ginv ?_ (fun b hb => harr b (List.mem_cons_of_mem _ hb))
    intro _
    rcases hs.bound with hb | hb
    · by_cases ho : jb.origin = none
      · have hu := (Aiortc.Props.C10.first_add_no_frame hG.inv a.2 hp e ho).2
        have := hs.first ho
        rw [hu]; simp; omega
      · rw [hb]; exact hlt ho
    · exact hb

/-- **`decoder_frames_whole`, short streams**: no ghost hypothesis at all for streams of at most 2^15 packets. -/
theorem decoder_frames_whole_short {frames : List (List Packet)} (hF : FramesOK frames) {s0 : Int}
    (hS : StreamOK s0 frames.flatten) (hlen : frames.flatten.length ≤ 32768) (arr : List (Nat × Packet))
    (harr : Arrivals frames.flatten arr) :
    ∃ jb0, Aiortc.Model.Jitter.mk 128 0 true = .ok jb0 ∧ FramesWhole frames jb0 false arr := by
  obtain ⟨jb0, e, hG, hv, ho⟩ := fresh_ginv s0 frames.flatten
  exact ⟨jb0, e, frames_whole_run hF hS arr jb0 0 false hG hv (fun h => by cases h) harr
    (near_of_short hS hlen arr jb0 0 hG (fun h => absurd ho h) harr)⟩

/-! ## 6. Frames enter the decoder queue in sending order -/

/-- Ghost: `(start index, length)` in the sender's packet sequence of every frame released along the run. -/
def releases : JB → Nat → List (Nat × Packet) → List (Nat × Nat)
  | _, _, [] => []
  | jb, oi, a :: rest =>
    match Aiortc.Model.Jitter.add jb a.2 with
    | .ok out =>
      (if out.frame.isSome then [(oiNext jb oi a.1 a.2 out - out.used.length, out.used.length)] else []) ++
        releases out.jb (oiNext jb oi a.1 a.2 out) rest
    | _ => []

/-- **`decoder_frames_in_order`.** Under C10's hypothesis (no arrival 100 or more positions behind the origin)
the released frames occupy pairwise disjoint, strictly increasing ranges of the sender's packet sequence: frames
reach the decoder in sending order, none twice.  Each range is a run inside the stream. -/
theorem decoder_frames_in_order {s0 : Int} {stream : List Packet} (hS : StreamOK s0 stream) (arr : List (Nat × Packet)) :
    ∀ (jb : JB) (oi : Nat), GInv s0 stream jb oi → Arrivals stream arr → NearRun jb oi arr →
      Aiortc.Props.C10.NoLateRun jb (arr.map (·.2)) →
      (releases jb oi arr).Pairwise (fun x y => x.1 + x.2 ≤ y.1) ∧
      (jb.origin ≠ none → ∀ x ∈ releases jb oi arr, oi ≤ x.1) ∧
      ∀ x ∈ releases jb oi arr, 1 ≤ x.2 ∧ x.1 + x.2 < stream.length := by
  induction arr with
  | nil => intro jb oi _ _ _ _; simp [releases]
  | cons a rest ih =>
    intro jb oi hG harr hnear hnl
    have hj := harr a List.mem_cons_self
    obtain ⟨out, e, oi2, hs⟩ := gstep hS hG hj hnear.1
    have hnear' := hnear.tail e
    have hnl' : Aiortc.Props.C10.NoLateRun out.jb (rest.map (·.2)) := hnl.tail e
    rw [hs.next] at hnear'
    obtain ⟨ih1, ih2, ih3⟩ := ih out.jb _ hs.ginv (fun b hb => harr b (List.mem_cons_of_mem _ hb)) hnear' hnl'
    have ih2' := ih2 hs.orig
    simp only [releases, e, hs.next]
    cases hf : out.frame with
    | none =>
      simp only [Option.isSome_none, Bool.false_eq_true, if_false, List.nil_append]
      refine ⟨ih1, ?_, ih3⟩
      intro ho x hx
      have := ih2' x hx; have := hs.mono hnl.1 ho; omega
    | some f =>
      have hlen : 1 ≤ out.used.length := List.length_pos_iff.2 (hs.run f hf).split.1
      have hlt : oi2 + out.used.length < stream.length := (hs.run f hf).lt
      simp only [Option.isSome_some, if_true, List.singleton_append, Nat.add_sub_cancel]
      refine ⟨List.pairwise_cons.2 ⟨fun y hy => by have := ih2' y hy; simp only []; omega, ih1⟩, ?_, ?_⟩
      · intro ho x hx
        rcases List.mem_cons.1 hx with h | h
        · rw [h]; exact hs.mono hnl.1 ho
        · have := ih2' x h; have := hs.mono hnl.1 ho; omega
      · intro x hx
        rcases List.mem_cons.1 hx with h | h
        · rw [h]; exact ⟨hlen, hlt⟩
        · exact ih3 x h

/-! ## 7. Recovery: a NACKed packet that is still in the history comes back and reaches the jitter buffer -/

/-- What SDP negotiation establishes between the sender's and the receiver's tables. -/
structure Negotiated (sc : SenderCfg) (rc : RecvCfg) (c : Codec) : Prop where
  media : lookupNat rc.codecs sc.pt = some c
  notRtx : c.name ≠ .rtx
  rtx : ∀ rpt, sc.rtxPt = some rpt →
    lookupNat rc.codecs rpt = some ⟨.rtx, some sc.pt⟩ ∧ lookupNat rc.rtxSsrc sc.rtxSsrc = some sc.ssrc

/-- The packet `_retransmit` puts on the wire for `p`: `p` itself, or `wrap_rtx(p, …)` with some RTX sequence
number `rs`. -/
def Retransmission (sc : SenderCfg) (p w : RtpPacket) : Prop :=
  match sc.rtxPt with
  | none => w = p
  | some rpt => ∃ rs, w = wrapRtx p rpt rs sc.rtxSsrc

/-- A media packet of the negotiated payload type goes straight to the feed stage. -/
theorem handleRtp_media {sc : SenderCfg} {rc : RecvCfg} {c : Codec} (hN : Negotiated sc rc c) {p : RtpPacket}
    (hpt : p.payloadType = sc.pt) (r : Receiver) : handleRtp rc r p = feedStage rc r p sc.pt c := by
  unfold handleRtp unwrapStage
  rw [hpt, hN.media]; simp [hN.notRtx]

/-- **A retransmission is processed exactly as the original would be** (RTX unwrap inverts the wrap; verbatim
otherwise): same receiver state afterwards, same feedback, same decoder item. -/
theorem retransmission_equiv {sc : SenderCfg} {rc : RecvCfg} {c : Codec} (hN : Negotiated sc rc c) {p w : RtpPacket}
    (hp : p.payloadType = sc.pt ∧ p.ssrc = sc.ssrc ∧ p.paddingSize = 0 ∧ p.sequenceNumber < 65536)
    (hw : Retransmission sc p w) (r : Receiver) : handleRtp rc r w = handleRtp rc r p := by
  obtain ⟨hpt, hss, hpad, hseq⟩ := hp
  unfold Retransmission at hw
  cases hr : sc.rtxPt with
  | none => rw [hr] at hw; rw [hw]
  | some rpt =>
    rw [hr] at hw; obtain ⟨rs, hw⟩ := hw
    obtain ⟨h1, h2⟩ := hN.rtx rpt hr
    have hun : unwrapRtx w sc.pt sc.ssrc = .ok p := by rw [hw, ← hpt, ← hss, unwrap_wrap hseq hpad]
    have hlen : ¬ w.payload.length < 2 := by rw [hw]; simp [wrapRtx, u16be]
    have hwpt : w.payloadType = rpt := by rw [hw]; rfl
    have hwss : w.ssrc = sc.rtxSsrc := by rw [hw]; rfl
    rw [handleRtp_media hN hpt]
    unfold handleRtp unwrapStage
    rw [hwpt, h1]; simp only [if_true]
    rw [hwss, h2]; simp only [hN.media, hlen, if_false, hun]

/-- `_handle_rtcp_packet(NACK lost)` retransmits every listed sequence number that is still in the history. -/
theorem handleNack_hits (sc : SenderCfg) (lost : List Int) : ∀ {s : Sender} {q0 : Int} {sent : List RtpPacket},
    SInv s q0 sent → ∀ {j : Nat} {p : RtpPacket}, sent[j]? = some p → sent.length ≤ j + 128 →
      (p.sequenceNumber : Int) ∈ lost → ∃ w ∈ (handleNack sc s lost).2, Retransmission sc p w := by
  induction lost with
  | nil => intro s q0 sent _ j p _ _ h; cases h
  | cons x xs ih =>
    intro s q0 sent hI j p hj hl hm
    simp only [handleNack]
    rcases List.mem_cons.1 hm with h | h
    · subst h
      rw [retransmit_hit sc (hist_of_sent hI hj hl)]
      unfold Retransmission
      cases sc.rtxPt with
      | none => exact ⟨p, List.mem_append_left _ List.mem_cons_self, rfl⟩
      | some rpt => exact ⟨_, List.mem_append_left _ List.mem_cons_self, _, rfl⟩
    · obtain ⟨w, hw, hr⟩ := ih (retransmit_sinv hI sc x) hj hl h
      exact ⟨w, List.mem_append_right _ hw, hr⟩

/-- **`loop_recovers_partial`.** A packet `p` of the stream was lost; the receiver's NACK lists its sequence
number and is delivered while `p` is still among the sender's last 128 packets.  Then the sender puts a
retransmission `w` of `p` on the wire (verbatim, or RTX-wrapped when negotiated); when `w` is delivered the
receiver treats it exactly as it would have treated `p`: it hands `(seq, timestamp, depayloaded payload)` to the
jitter buffer, and the sequence number is no longer `missing`.
Gap to the full clause ("every frame is eventually delivered while traffic continues"): NACKs are emitted only when
a NEW gap is detected (there is no timer), so a lost NACK or a lost retransmission is only repaired if a later
gap triggers another NACK while the packet is still in the 128-packet history, and whether the recovered packet
is still useful is the jitter buffer's business (C10: it is placed iff it is not behind the origin). -/
theorem loop_recovers_partial {sc : SenderCfg} {rc : RecvCfg} {c : Codec} (hN : Negotiated sc rc c)
    {s : Sender} {q0 : Int} {sent : List RtpPacket} (hI : SInv s q0 sent) {j : Nat} {p : RtpPacket}
    (hj : sent[j]? = some p) (hhist : sent.length ≤ j + 128)
    (hp : p.payloadType = sc.pt ∧ p.ssrc = sc.ssrc ∧ p.paddingSize = 0)
    (lost : List Int) (hlost : (p.sequenceNumber : Int) ∈ lost) :
    ∃ w ∈ (handleNack sc s lost).2, Retransmission sc p w ∧
      ∀ (r : Receiver) (o : RecvOut), NInv r.nack → handleRtp rc r w = .ok o →
        handleRtp rc r p = .ok o ∧ (p.sequenceNumber : Int) ∉ o.r.nack.missing ∧
        ∀ data, dataOf c p = .ok data → o.fed = some (jbPacket p data) := by
  have hseq : p.sequenceNumber < 65536 := by have := hI.seqs j p hj; unfold seqAt at this; omega
  obtain ⟨w, hw, hr⟩ := handleNack_hits sc lost hI hj hhist hlost
  refine ⟨w, hw, hr, ?_⟩
  intro r o hnI e
  rw [retransmission_equiv hN ⟨hp.1, hp.2.1, hp.2.2, hseq⟩ hr r] at e
  have e' := e
  rw [handleRtp_media hN hp.1] at e'
  obtain ⟨⟨b, hb⟩, _, hfeed⟩ := feed_spec rc r p sc.pt c o e'
  refine ⟨e, ?_, ?_⟩
  · obtain ⟨g', b', hadd, _, _, hnot⟩ := ninv_add hnI (p.sequenceNumber : Int) (by unfold R16; omega)
    rw [hadd] at hb
    obtain rfl : g' = o.r.nack := (Prod.mk.inj (Outcome.ok.inj hb)).1
    exact hnot
  · intro data hd
    rcases hfeed with ⟨h, _⟩ | ⟨data', out, h1, h2, _⟩
    · rw [hd] at h; cases h
    · rw [hd] at h1; injection h1 with h1; rw [← h1] at h2; exact h2

/-! ## 8. Non-vacuity: the hypotheses are satisfiable, the conclusions are exercised -/

def exCfg : SenderCfg := ⟨1234, 2345, 96, some 97, 4294967290⟩
def exS0 : Sender := ⟨65535, 65535, []⟩

/-- A frame of two payloads sent from sequence number 65535 / timestamp origin 2^32-6 crosses both wraps. -/
example : (sendFrame exCfg exS0 10 [[16, 1], [0, 2]]).2.map (fun p => (p.sequenceNumber, p.timestamp, p.marker)) =
    [(65535, 4, 0), (0, 4, 1)] := by decide

example : SInv exS0 65535 [] := sinv_init 65535 65535 (by omega)

/-- … the second packet is retransmitted as RTX with sequence number 65535, and unwraps to itself. -/
example : (retransmit exCfg (sendFrame exCfg exS0 10 [[16, 1], [0, 2]]).1 0).2.map
    (fun w => (w.payloadType, w.ssrc, w.sequenceNumber, w.payload)) = [(97, 2345, 65535, [0, 0, 0, 2])] := by decide

/-- A sequence number outside the history (here: 65536 + 0, an alias) is not retransmitted. -/
example : (retransmit exCfg (sendFrame exCfg exS0 10 [[16, 1], [0, 2]]).1 65536).2 = [] := by decide

/-- `Tame` / `nack_complete`: arrivals 0, 3, 1 from origin 65534 leave exactly index 2 (= sequence number 0) missing. -/
example : Tame 0 [3, 1] := by simp [Tame]
example : (nackIdxRun 65534 NackGen.init [0, 3, 1]).bind (fun r => .ok (r.1.missing, r.2)) =
    .ok ([0], [false, true, false]) := by decide

example : SlowGrowth 0 [3000, 6000] := by simp [SlowGrowth]
example : tsRun TsMap.init [4294967295, 2999, 5999] = .ok [0, 3000, 6000] := by decide

def exFrames : List (List Packet) := [[⟨65535, 10, [1]⟩, ⟨0, 10, [2]⟩], [⟨1, 20, [3]⟩], [⟨2, 30, [4]⟩]]

theorem exFrames_ok : FramesOK exFrames := by
  refine ⟨by decide, by decide, ?_⟩
  intro k fr1 fr2 h1 h2
  match k, h1, h2 with
  | 0, h1, h2 => simp [exFrames] at h1 h2; subst h1; subst h2; decide
  | 1, h1, h2 => simp [exFrames] at h1 h2; subst h1; subst h2; decide
  | k + 2, h1, h2 => simp [exFrames] at h2

theorem exStream_ok : StreamOK 65535 exFrames.flatten := by
  refine ⟨by unfold R16; omega, ?_⟩
  intro j p h
  match j, h with
  | 0, h => simp [exFrames] at h; subst h; decide
  | 1, h => simp [exFrames] at h; subst h; decide
  | 2, h => simp [exFrames] at h; subst h; decide
  | 3, h => simp [exFrames] at h; subst h; decide
  | j + 4, h => simp [exFrames] at h

/-- Loss of the first packet, duplication and reordering: the first release is a strict tail (allowed: stream
start), the second a whole frame. -/
example : (Aiortc.Model.Jitter.run ⟨8, 0, true, none, List.replicate 8 none⟩
      [⟨0, 10, [2]⟩, ⟨2, 30, [4]⟩, ⟨0, 10, [2]⟩, ⟨1, 20, [3]⟩, ⟨2, 30, [4]⟩]).bind (fun r => .ok (r.2.filterMap (·.2))) =
    .ok [⟨[2], 10⟩, ⟨[3], 20⟩] := by decide

/-- Arrivals: the first packet is lost, packet 3 overtakes, packet 1 arrives twice — every entry is a copy of the
stream packet at its index. -/
def exArr : List (Nat × Packet) := [(1, ⟨0, 10, [2]⟩), (3, ⟨2, 30, [4]⟩), (1, ⟨0, 10, [2]⟩), (2, ⟨1, 20, [3]⟩), (3, ⟨2, 30, [4]⟩)]

theorem exArr_ok : Arrivals exFrames.flatten exArr := by
  intro a ha
  simp only [exArr, List.mem_cons, List.mem_nil_iff, or_false] at ha
  rcases ha with rfl | rfl | rfl | rfl | rfl <;> decide

/-- `decoder_frames_whole_short` and `decoder_frames_in_order` apply to this run (all hypotheses hold). -/
example : ∃ jb0, Aiortc.Model.Jitter.mk 128 0 true = .ok jb0 ∧ FramesWhole exFrames jb0 false exArr :=
  decoder_frames_whole_short exFrames_ok exStream_ok (by decide) exArr exArr_ok

example : Aiortc.Props.C10.NoLateRun ⟨8, 0, true, none, List.replicate 8 none⟩ (exArr.map (·.2)) :=
  (Aiortc.Props.C10.noLateRun_iff _ _).2 (by decide)

/-- The two releases of that run occupy stream ranges [1,2) and [2,3): increasing, disjoint. -/
example : releases ⟨8, 0, true, none, List.replicate 8 none⟩ 0 exArr = [(1, 1), (2, 1)] := by decide

example : Negotiated exCfg ⟨[(96, ⟨.vp8, none⟩), (97, ⟨.rtx, some 96⟩)], [(2345, 1234)], some 1, true⟩ ⟨.vp8, none⟩ :=
  ⟨by decide, by decide, fun rpt h => by simp [exCfg] at h; subst h; exact ⟨by decide, by decide⟩⟩

end Aiortc.Props.C11
