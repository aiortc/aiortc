import Aiortc.Lemmas.C05.SctpParsed
/-!
# C05 — no received datagram can crash, hang or wedge the receive path

The theorems of this property live in four files (all four are audited by the check):
* `Props/C05.lean` (this file): totality of the SCTP wire parsers, proved in `Lemmas/C05/SctpParsed.lean`;
* `Props/C05Sctp.lean`: the SCTP endpoint automaton never raises and never hangs on any datagram
  (`rx_never_crashes_proved`, `rx_no_hang`, invariant preservation, work bounds);
* `Props/C05Sctp2.lean`: the same for the weaker invariant `Inv2 B` (partially reliable channels, channels waiting
  for a stream id, application handlers), with every input of the automaton and reachability from `Ep.init`
  (`reachable_rx_never_crashes_proved`);
* `Props/C05Rtp.lean`: totality of the RTP / RTCP / header-extension / REMB / H.264 / VP8 parsers
  (`parsers_total`) and of the dispatch around them (`recv_next_total`, `still_alive`).
-/
namespace Aiortc.Props.C05
open Aiortc Aiortc.Sctp.Wire

theorem minimum_length_const : Aiortc.Gen.SCTP_PACKET_MINIMUM_LENGTH = 16 := by decide

/-- `parse_packet(data)` returns or raises `ValueError`, for EVERY byte string: never `struct.error`,
never a non-terminating loop. -/
theorem sctp_parse_packet_total (d : Bytes) :
    (∃ r, parsePacket d = .ok r) ∨ parsePacket d = .valueError :=
  (parsePacket_safe d).symm

/-- `decode_params(body)` likewise (a zero-length parameter does not make it loop). -/
theorem sctp_decode_params_total (b : Bytes) :
    (∃ r, decodeParams b = .ok r) ∨ decodeParams b = .valueError :=
  (decodeParams_safe b).symm

/-- The three RE-CONFIG parameter parsers likewise. -/
theorem sctp_reconfig_parse_total (cls : RcCls) (data : Bytes) :
    (∃ r, RcParam.parse cls data = .ok r) ∨ RcParam.parse cls data = .valueError :=
  (rcParse_safe cls data).symm

end Aiortc.Props.C05
