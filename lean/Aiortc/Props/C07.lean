import Aiortc.Model.Rtp.Fields
import Aiortc.Model.Rtp.Rtcp
import Aiortc.Model.Rtp.Packet
import Aiortc.Lemmas.C07.RtpFields
import Aiortc.Lemmas.C07.Rtcp
import Aiortc.Lemmas.C07.RtpPacket
import Aiortc.Lemmas.C07.ParsersSafe
/-!
# C07 — RTP and RTCP packets round-trip through serialisation with exact field semantics

The models (`Aiortc.Rtp.*` in `Model/Rtp/*.lean`) mirror `src/aiortc/rtp.py` WITH fixes/C07-*.patch applied
and are tied to the code by `harness/props/C07.py`.  Every statement below quantifies over ALL values in the
stated domain (no enumeration).  `WF` = every field within its wire range (see `Model/Rtp/*.lean`).
The section numbers are those of the theorem list under C07 in DESIGN.md; the field codecs (4, 5, 3) come first
because 2 and 1 use them.
-/
namespace Aiortc.Props.C07
open Aiortc Aiortc.Rtp Aiortc.Outcome

/-! ## constants the statements rely on (regenerated from the repo on every run) -/

theorem packet_type_consts :
    Gen.RTCP_SR = 200 ∧ Gen.RTCP_RR = 201 ∧ Gen.RTCP_SDES = 202 ∧ Gen.RTCP_BYE = 203
    ∧ Gen.RTCP_RTPFB = 205 ∧ Gen.RTCP_PSFB = 206 ∧ Gen.RTP_HEADER_LENGTH = 12 ∧ Gen.RTCP_HEADER_LENGTH = 4 := by
  decide

theorem lost_range_consts : Gen.PACKETS_LOST_MIN = -8388608 ∧ Gen.PACKETS_LOST_MAX = 8388607 := by decide

/-! ## 4. cumulative loss saturates at the 24-bit signed range and survives the wire -/

/-- `clamp_packets_lost` is exactly saturation at [-2^23, 2^23 - 1]. -/
theorem clamp_saturates (n : Int) :
    Gen.clamp_packets_lost n = (if n < -8388608 then -8388608 else if n > 8388607 then 8388607 else n) := by
  unfold Gen.clamp_packets_lost; omega

/-- Any in-range count round-trips (so the receiver-report field is exact). -/
theorem lost_roundtrip (c : Int) (h1 : -8388608 ≤ c) (h2 : c < 8388608) :
    (packLost c).bind unpackLost = ok c := by
  unfold packLost
  rw [if_pos (by omega)]
  exact unpackLost_lostBytes _ h1 h2

/-- Every clamped count packs (no `struct.error`) and unpacks to itself; it lies in the signed 24-bit range. -/
theorem lost_saturates (n : Int) :
    (packLost (Gen.clamp_packets_lost n)).bind unpackLost = ok (Gen.clamp_packets_lost n)
    ∧ -8388608 ≤ Gen.clamp_packets_lost n ∧ Gen.clamp_packets_lost n < 8388608 := by
  have h : -8388608 ≤ Gen.clamp_packets_lost n ∧ Gen.clamp_packets_lost n < 8388608 := by
    unfold Gen.clamp_packets_lost; omega
  exact ⟨lost_roundtrip _ h.1 h.2, h⟩

/-- Without clamping the field silently wraps: 2^23 comes back as -2^23 (why the receiver must clamp). -/
theorem lost_unclamped_wraps : (packLost 8388608).bind unpackLost = ok (-8388608) := by decide

/-! ## 5. REMB -/

/-- For every bitrate below 2^81 and every list of at most 255 SSRCs, `pack_remb_fci` does not raise, the
SSRC list survives, the decoded bitrate never exceeds the original and the loss is below 2^-17 relative. -/
theorem remb_precision (bitrate : Nat) (ssrcs : List Nat) (hb : bitrate < 2 ^ 81)
    (hn : ssrcs.length < 256) (hs : ∀ s ∈ ssrcs, s < 4294967296) :
    RembWF bitrate ssrcs ∧
    ∃ decoded, unpackRemb (packRemb bitrate ssrcs) = ok (decoded, ssrcs)
      ∧ decoded ≤ bitrate ∧ (bitrate - decoded) * 2 ^ 17 ≤ bitrate
      ∧ (bitrate ≠ decoded → (bitrate - decoded) * 2 ^ 17 < bitrate)
      ∧ (bitrate < 2 ^ 18 → decoded = bitrate) := by
  have hwf : RembWF bitrate ssrcs := ⟨(rembNorm_exp_lt_iff bitrate).2 hb, hn, hs⟩
  refine ⟨hwf, (rembNorm bitrate 0).1 <<< (rembNorm bitrate 0).2, unpackRemb_packRemb bitrate ssrcs hwf, ?_⟩
  rw [Nat.shiftLeft_eq]
  obtain ⟨hm, hlo, hhi, htop, hsmall⟩ := rembNorm_zero bitrate
  generalize rembNorm bitrate 0 = r at *
  rw [Nat.add_mul, Nat.one_mul] at hhi
  by_cases he : r.2 = 0
  · rw [he] at hlo hhi ⊢
    simp only [Nat.pow_zero, Nat.mul_one] at hlo hhi ⊢
    have : bitrate = r.1 := by omega
    subst this
    simp
  · have h17 := htop (by omega)
    have hX : 0x20000 * 2 ^ r.2 ≤ r.1 * 2 ^ r.2 := Nat.mul_le_mul_right _ h17
    have hpos : 0 < 2 ^ r.2 := Nat.two_pow_pos r.2
    generalize r.1 * 2 ^ r.2 = D at *
    generalize 2 ^ r.2 = X at *
    have e17 : (2 : Nat) ^ 17 = 131072 := by decide
    have e18 : (2 : Nat) ^ 18 = 262144 := by decide
    rw [e17, e18]
    refine ⟨hlo, by omega, fun _ => by omega, fun hlt => ?_⟩
    -- bitrate < 2^18 means the loop did not run
    have := hsmall (by omega)
    rw [this] at he
    exact absurd rfl he

/-- Below 2^18 the bitrate is carried exactly (exponent 0). -/
theorem remb_exact_small (bitrate : Nat) (ssrcs : List Nat) (hb : bitrate < 2 ^ 18)
    (hn : ssrcs.length < 256) (hs : ∀ s ∈ ssrcs, s < 4294967296) :
    unpackRemb (packRemb bitrate ssrcs) = ok (bitrate, ssrcs) := by
  have hb' : bitrate < 2 ^ 81 := Nat.lt_of_lt_of_le hb (by decide)
  obtain ⟨_, d, h1, _, _, _, h5⟩ := remb_precision bitrate ssrcs hb' hn hs
  rw [h1, h5 hb]

/-- 2^81 and above do not fit the 6-bit exponent: `pack_remb_fci` raises (outside the domain). -/
theorem remb_domain_sharp (bitrate : Nat) (ssrcs : List Nat) (hb : 2 ^ 81 ≤ bitrate) : ¬ RembWF bitrate ssrcs := by
  rintro ⟨he, _, _⟩
  exact absurd ((rembNorm_exp_lt_iff bitrate).1 he) (Nat.not_lt.2 hb)

/-! ## 3. NACK -/

/-- A NACK denotes the same SET of sequence numbers on both sides, for EVERY list of 16-bit numbers
(any order, duplicates, across the wrap). -/
theorem nack_same_set (lost : List Nat) (h : ∀ p ∈ lost, p < 65536) (x : Nat) :
    x ∈ nackEntries (serLost lost) ↔ x ∈ lost := by
  cases lost with
  | nil => simp [serLost, nackEntries]
  | cons p ps =>
    have := mem_nackPack ps p 0 [] (h p (by simp)) (by omega) (fun q hq => h q (by simp [hq])) x
    simp only [List.append_nil, nackBits_zero, List.not_mem_nil, false_or] at this
    simp [serLost, this, nackEntries]

/-- For strictly ascending lists (what `sorted(set)` in the receiver yields) the LIST comes back. -/
theorem nack_roundtrip_ascending (lost : List Nat) (h : ∀ p ∈ lost, p < 65536) (hasc : Ascending lost) :
    nackEntries (serLost lost) = lost :=
  nackEntries_serLost_asc lost h hasc

/-- Whatever FCI bytes arrive, every parsed entry is a 16-bit sequence number. -/
theorem nack_parse_16bit (fci : Bytes) (h : IsBytes fci) : ∀ x ∈ nackEntries fci, x < 65536 := by
  induction fci using nackEntries.induct with
  | case1 a b c e rest ih =>
    intro x hx
    simp only [nackEntries, List.mem_cons, List.mem_append] at hx
    have ha := h a (by simp); have hb := h b (by simp)
    rcases hx with (rfl | hx) | hx
    · omega
    · rw [mem_nackBits] at hx; obtain ⟨_, _, _, rfl⟩ := hx; omega
    · exact ih (fun y hy => h y (by simp [hy])) x hx
  | case2 fci hd =>
    intro x hx
    rw [nackEntries] at hx
    · cases hx
    · exact hd

/-- The wrap case of the defect "`bytes` raised on lost lists across the wrap" (DESIGN §4, C07): `[65535, 0]` is one
FCI entry (pid 65535, bit 0) and parses back. -/
theorem nack_wrap_witness : serLost [65535, 0] = [255, 255, 0, 1] ∧ nackEntries [255, 255, 0, 1] = [65535, 0] := by
  decide

/-! ## 2. RTCP -/

/-- Every well-formed RTCP packet followed by anything parses to itself (NACK list in parser order)
followed by the parse of the rest. -/
theorem rtcp_single_roundtrip (p : RtcpPacket) (h : p.WF) (tail : Bytes) :
    parseCompound (serRtcp p ++ tail) = (parseCompound tail).bind fun ps => ok (normalise p :: ps) :=
  parseCompound_serRtcp p h tail

/-- Compound packets of ANY composition: SR, RR, SDES, BYE, RTPFB, PSFB in any order and number. -/
theorem rtcp_roundtrip_normalised (ps : List RtcpPacket) (h : ∀ p ∈ ps, p.WF) :
    parseCompound (serCompound ps) = ok (ps.map normalise) := by
  induction ps with
  | nil => simp [serCompound, parseCompound]
  | cons p ps ih =>
    have := ih (fun q hq => h q (by simp [hq]))
    unfold serCompound at this ⊢
    rw [List.flatMap_cons, parseCompound_serRtcp p (h p (by simp)), this]; rfl

/-- `normalise` changes nothing but the order/multiplicity of a NACK list, and keeps its set. -/
theorem normalise_spec (p : RtcpPacket) (h : p.WF) :
    (∀ f s m lost, p = .rtpfb f s m lost →
      ∃ lost', normalise p = .rtpfb f s m lost' ∧ ∀ x, x ∈ lost' ↔ x ∈ lost)
    ∧ ((∀ f s m lost, p ≠ .rtpfb f s m lost) → normalise p = p) := by
  constructor
  · rintro f s m lost rfl
    exact ⟨_, rfl, fun x => nack_same_set lost h.2.2.2.1 x⟩
  · intro hne
    cases p <;> first | rfl | exact absurd rfl (hne _ _ _ _)

/-- Equal value: with ascending NACK lists, a compound packet parses back to exactly the list of packets. -/
theorem rtcp_roundtrip (ps : List RtcpPacket) (h : ∀ p ∈ ps, p.WF)
    (hasc : ∀ p ∈ ps, ∀ f s m lost, p = .rtpfb f s m lost → Ascending lost) :
    parseCompound (serCompound ps) = ok ps := by
  rw [rtcp_roundtrip_normalised ps h]
  congr 1
  exact (List.map_congr_left fun p hp => normalise_of_ascending p (h p hp) (hasc p hp)).trans (List.map_id ps)

/-! ## 1. RTP -/

/-- `parse(serialize(p)) = p` with the extensions that have an id in the map; any CSRC list, any padding
bytes, one- or two-byte extension form, any well-formed id map. -/
theorem rtp_roundtrip (ids : ExtIds) (hids : ids.WF) (p : RtpPacket) (hp : p.WF) (pad : Bytes)
    (hpad : 0 < p.paddingSize → pad.length = p.paddingSize - 1) :
    parse ids (serialize ids p pad) = ok { p with extensions := restrict ids p.extensions } := by
  obtain ⟨hm, hpt, hseq, hts, hssrc, hcc, hcsrc, hext, _, hps⟩ := hp
  obtain ⟨hB1, hB2, hB3, hB4⟩ :=
    hdr_byte_fields (decide (p.paddingSize > 0)) (!(extSet ids p.extensions).2.isEmpty) ⟨_, hcc⟩
  dsimp only at hB1 hB2 hB3 hB4
  have hb1 : (p.marker <<< 7) ||| p.payloadType = p.marker * 128 + p.payloadType := or_eq_add _ _ 7 hpt
  have hlen := length_flatMap_u32be p.csrc
  have hlast : 0 < p.paddingSize → ((serialize ids p pad).getLast?).getD 0 = p.paddingSize := by
    intro h
    rw [serialize]
    simp only [h, decide_true, ↓reduceIte]
    rw [← List.append_assoc, List.getLast?_concat]; rfl
  have hS := splitPadding_ser p.paddingSize ((serialize ids p pad).getLast?.getD 0) p.payload pad hpad hlast
  have hX := parseExtBlock_ser ids hids p.extensions hext
    (p.payload ++ (if decide (p.paddingSize > 0) = true then pad ++ [p.paddingSize] else []))
  unfold serialize at hS ⊢
  simp only [List.append_assoc, u16be, u32be, List.cons_append, List.nil_append] at hS hX ⊢
  rw [parse, u16_recombine _ hseq, u32_recombine _ hts, u32_recombine _ hssrc, if_neg (not_not_intro hB1), hB2,
    if_neg (by rw [List.length_append]; omega), hB3, hB4, List.drop_left' hlen, hX, Outcome.ok_bind, hS,
    Outcome.ok_bind, readU32s_flatMap p.csrc hcsrc, hb1]
  rw [(mul_add_div_mod _ 128 _ hpt).1, (mul_add_div_mod _ 128 _ hpt).2]

/-- With every extension configured nothing is dropped: `parse(serialize(p)) = p`. -/
theorem restrict_all_configured (ids : ExtIds) (v : HeaderExtensions) (hw : ids.WF)
    (hall : ids.mid.isSome ∧ ids.repairedRtpStreamId.isSome ∧ ids.rtpStreamId.isSome ∧ ids.absSendTime.isSome
        ∧ ids.transmissionOffset.isSome ∧ ids.audioLevel.isSome ∧ ids.transportSequenceNumber.isSome) :
    restrict ids v = v := by
  obtain ⟨h1, h2, h3, h4, h5, h6, h7⟩ := hall
  obtain ⟨r1, r2, r3, r4, r5, r6, r7⟩ := hw.fields
  cases v
  simp only [restrict]
  rw [keep_of_configured _ h1 r1, keep_of_configured _ h2 r2, keep_of_configured _ h3 r3, keep_of_configured _ h4 r4,
    keep_of_configured _ h5 r5, keep_of_configured _ h6 r6, keep_of_configured _ h7 r7]

/-- The extension container alone: `unpack_header_extensions(*pack_header_extensions(x)) == x`, 32-bit
aligned; the one-byte form is chosen iff every id is ≤ 14 and every length is in 1..16. -/
theorem hdrext_roundtrip (exts : List (Nat × Bytes)) (hne : exts ≠ [])
    (h : ∀ x ∈ exts, 0 < x.1 ∧ x.1 < 256 ∧ x.2.length < 256) :
    unpackHeaderExtensions (packHeaderExtensions exts).1 (packHeaderExtensions exts).2 = ok exts
    ∧ (packHeaderExtensions exts).2.length % 4 = 0
    ∧ ((packHeaderExtensions exts).1 = 0xBEDE ↔ ∀ x ∈ exts, x.1 ≤ 14 ∧ 1 ≤ x.2.length ∧ x.2.length ≤ 16)
    ∧ ((packHeaderExtensions exts).1 = 0x1000 ↔ ¬ ∀ x ∈ exts, x.1 ≤ 14 ∧ 1 ≤ x.2.length ∧ x.2.length ≤ 16) := by
  obtain ⟨h1, h2, _⟩ := unpackHeaderExtensions_pack exts hne h
  refine ⟨h1, h2, ?_⟩
  rw [packHeaderExtensions_profile exts hne, ← any_needsTwoByte_eq_false]
  cases exts.any needsTwoByte <;> decide

/-! ## 6. RTX -/

/-- `unwrap_rtx(wrap_rtx(p, pt', seq', ssrc'), p.payload_type, p.ssrc)` is `p` in every field except
`padding_size`, which `wrap_rtx` does not carry (it is 0 afterwards). Holds for ANY rtx payload type,
sequence number and SSRC. -/
theorem rtx_invertible (p : RtpPacket) (hseq : p.sequenceNumber < 65536) (pt' seq' ssrc' : Nat) :
    unwrapRtx (wrapRtx p pt' seq' ssrc') p.payloadType p.ssrc = ok { p with paddingSize := 0 } := by
  unfold unwrapRtx wrapRtx
  have e1 : (u16be p.sequenceNumber ++ p.payload).take 2 = u16be p.sequenceNumber := by simp [u16be]
  have e2 : (u16be p.sequenceNumber ++ p.payload).drop 2 = p.payload := by simp [u16be]
  simp only [e1, e2, unpackU16_u16be _ hseq]

/-- The RTX packet itself: rtx header fields, original timestamp/marker/CSRC/extensions, and the
payload is the original sequence number (OSN) followed by the original payload. -/
theorem rtx_wrap_fields (p : RtpPacket) (pt' seq' ssrc' : Nat) :
    let r := wrapRtx p pt' seq' ssrc'
    r.payloadType = pt' ∧ r.sequenceNumber = seq' ∧ r.ssrc = ssrc' ∧ r.timestamp = p.timestamp
    ∧ r.marker = p.marker ∧ r.csrc = p.csrc ∧ r.extensions = p.extensions
    ∧ r.payload = u16be p.sequenceNumber ++ p.payload :=
  ⟨rfl, rfl, rfl, rfl, rfl, rfl, rfl, rfl⟩

/-- A retransmission payload shorter than 2 bytes makes `unwrap_rtx` raise `struct.error`
(the receiver guards this with `len(packet.payload) < 2`). -/
theorem rtx_short_payload_crashes (rtx : RtpPacket) (h : rtx.payload.length < 2) (pt ssrc : Nat) :
    unwrapRtx rtx pt ssrc = crash "struct.error" := by
  unfold unwrapRtx
  match hp : rtx.payload, h with
  | [], _ => rfl
  | [a], _ => rfl

/-! ## 7. the parsers raise nothing but ValueError (fixed tree: DESIGN §4, the C07 rows on header extensions of the
wrong length, REMB counts and NACK values; reused by C05) -/

/-- `RtpPacket.parse(data, map)`: for EVERY id map (also ids 0, duplicates) and EVERY input. -/
theorem rtp_parse_only_value_error (ids : ExtIds) (data : Bytes) :
    parse ids data = valueError ∨ ∃ p, parse ids data = ok p :=
  parse_safe ids data

/-- `RtcpPacket.parse(data)`: for EVERY input. -/
theorem rtcp_parse_only_value_error (data : Bytes) :
    parseCompound data = valueError ∨ ∃ ps, parseCompound data = ok ps :=
  parseCompound_safe data

/-- `unpack_remb_fci(data)`: for EVERY input (an SSRC count beyond the data is a ValueError). -/
theorem remb_parse_only_value_error (data : Bytes) :
    unpackRemb data = valueError ∨ ∃ r, unpackRemb data = ok r :=
  unpackRemb_safe data

/-- On the unfixed tree a typed extension of the wrong length raised `struct.error`; in the fixed model
e.g. a 2-byte abs-send-time is a ValueError. -/
theorem hdrext_wrong_length_rejected :
    getStep { absSendTime := some 1 } {} (1, [0xAA, 0xBB]) = valueError
    ∧ getStep { transmissionOffset := some 1 } {} (1, [0xAA, 0xBB]) = valueError
    ∧ getStep { audioLevel := some 1 } {} (1, [0xAA, 0xBB]) = valueError
    ∧ getStep { transportSequenceNumber := some 1 } {} (1, [0xAA]) = valueError := by
  decide

/-! ## non-vacuity: the hypotheses are satisfiable by non-trivial values -/

example : RtcpPacket.WF (.rtpfb 1 1 2 [65534, 65535, 0, 1, 17]) := by decide
example : Ascending [0, 1, 17, 65534, 65535] := by simp [Ascending]
example : RtcpPacket.WF (.sdes [⟨1, [(1, [97, 98, 99])]⟩, ⟨2, []⟩]) := by decide
example : RtcpPacket.WF (.sr 1 ⟨2 ^ 64 - 1, 2, 3, 4⟩ [⟨1, 255, -8388608, 4, 5, 6, 7⟩]) := by decide
example : ExtIds.WF { mid := some 1, absSendTime := some 15, transmissionOffset := some 255 } := by decide
def examplePacket : RtpPacket :=
  { marker := 1, payloadType := 127, sequenceNumber := 65535, csrc := [1, 2],
    extensions := { mid := some [], transmissionOffset := some (-8388608), audioLevel := some (true, 127) },
    payload := [1, 2, 3], paddingSize := 255 }
example : examplePacket.WF := by decide
example : RembWF (2 ^ 81 - 1) [1, 2] := (remb_precision _ _ (by decide) (by decide) (by decide)).1
example : parseCompound (serCompound [.bye [1], .rtpfb 1 1 2 [0, 65535]]) = ok [.bye [1], .rtpfb 1 1 2 [0, 65535]] :=
  rtcp_roundtrip _ (by decide) (by
    intro p hp f s m lost he
    simp only [List.mem_cons, List.not_mem_nil, or_false] at hp
    rcases hp with rfl | rfl <;> cases he
    simp [Ascending])

end Aiortc.Props.C07
