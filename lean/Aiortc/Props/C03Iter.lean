import Aiortc.Props.C03
import Aiortc.Lemmas.C03.RoleEx
/-!
# C03 — every exchange of every script succeeds

`negotiate` iterated: from a pair of new connections, for ANY list of operations — add a transceiver (any kind,
direction, with or without track), add a track, create a data channel, set codec preferences (inside a compatible family),
change a direction, run a complete exchange with either side offering — every exchange succeeds, leaves both sides
`stable` with mirrored descriptions and definite roles, sections are only ever appended and mids are never re-used.
-/
namespace Aiortc.Props.C03
open Aiortc (Outcome)
open Aiortc.Model.Negotiate
open Aiortc.Model.Jsep (Sig)

/-- operations on a pair of connections; `second` selects the connection (for `negotiate`: who offers) -/
inductive Op where
  | addTransceiver (second : Bool) (kind : Kind) (dir : Dir) (track : Bool)
  | addTrack (second : Bool) (kind : Kind)
  | createDataChannel (second : Bool)
  | setCodecPreferences (second : Bool) (idx : Nat) (caps : List Cap)
  | setDirection (second : Bool) (idx : Nat) (dir : Dir)
  | negotiate (second : Bool)

def onPeer (s : Pc × Pc) (second : Bool) (f : Pc → Pc) : Pc × Pc := if second then (s.1, f s.2) else (f s.1, s.2)

/-- one operation; a set-up call that raises (`IndexError` / `ValueError`) leaves the connection as it was -/
def step (s : Pc × Pc) : Op → Outcome ((Pc × Pc) × Option Exchange)
  | .addTransceiver p k d tr => .ok (onPeer s p (·.addTransceiver k d tr), none)
  | .addTrack p k => .ok (onPeer s p (·.addTrack k), none)
  | .createDataChannel p => .ok (onPeer s p (·.createDataChannel), none)
  | .setCodecPreferences p i caps => .ok (onPeer s p (·.trySetCodecPreferences i caps), none)
  | .setDirection p i d => .ok (onPeer s p (·.trySetDirection i d), none)
  | .negotiate false =>
    match Aiortc.Model.Negotiate.negotiate s.1 s.2 with
    | .ok ex => .ok ((ex.offerer, ex.answerer), some ex)
    | .valueError => .valueError
    | .crash k => .crash k
    | .hang => .hang
  | .negotiate true =>
    match Aiortc.Model.Negotiate.negotiate s.2 s.1 with
    | .ok ex => .ok ((ex.answerer, ex.offerer), some ex)
    | .valueError => .valueError
    | .crash k => .crash k
    | .hang => .hang

/-- a script; the exchanges it performs are collected in order -/
def run : Pc × Pc → List Op → Outcome ((Pc × Pc) × List Exchange)
  | s, [] => .ok (s, [])
  | s, op :: ops =>
    match step s op with
    | .ok (s1, e) =>
      match run s1 ops with
      | .ok (s2, es) => .ok (s2, e.toList ++ es)
      | .valueError => .valueError
      | .crash k => .crash k
      | .hang => .hang
    | .valueError => .valueError
    | .crash k => .crash k
    | .hang => .hang

/-- operations inside the property's configuration space: media kinds are audio / video; installed codec preferences
stay inside the compatible family `P` -/
def Op.Valid (P : Kind → List Cap → Prop) : Op → Prop
  | .addTransceiver _ k _ _ => k.isMedia = true
  | .addTrack _ k => k.isMedia = true
  | .setCodecPreferences _ _ caps => ∀ k : Kind, (caps.all fun c => (capsOf k).contains c) = true → P k (dedupKeepLast caps)
  | _ => True

structure Inv (P : Kind → List Cap → Prop) (s : Pc × Pc) : Prop where
  wf1 : WF s.1
  wf2 : WF s.2
  paired : Paired s.1 s.2
  prefs1 : PrefsIn P s.1
  prefs2 : PrefsIn P s.2
  /-- DTLS roles: each connection has one definite role value, the two are opposite -/
  roles : RolePair s.1 s.2

theorem inv_new {P : Kind → List Cap → Prop} (p1 p2 : Policy) : Inv P (Pc.new p1, Pc.new p2) :=
  ⟨WF.new p1, WF.new p2, ⟨rfl, fun _ => Iff.rfl⟩, fun t ht => by simp [Pc.new] at ht, fun t ht => by simp [Pc.new] at ht,
    RolePair.new p1 p2⟩

/-- what every exchange of a script looks like -/
structure ExGood (ex : Exchange) : Prop where
  stable : ex.offerer.sig = .stable ∧ ex.answerer.sig = .stable
  mirrors : ex.answer.media.length = ex.offer.media.length ∧
    ex.answer.media.map (fun m => (m.kind, m.mid)) = ex.offer.media.map (fun m => (m.kind, m.mid)) ∧
    ex.answer.bundle = ex.answer.media.map (·.mid) ∧ ex.answer.bundle = ex.offer.bundle
  /-- every media section has its own mid, however many sections there are -/
  distinct : (ex.offer.media.map (·.mid)).Nodup ∧ (ex.answer.media.map (·.mid)).Nodup
  roles : ∀ m ∈ ex.answer.media, m.setup = .client ∨ m.setup = .server
  actpass : ∀ m ∈ ex.offer.media, m.setup = .auto
  sections : ∀ (j : Nat) (so sa : MSec), ex.offer.media[j]? = some so → ex.answer.media[j]? = some sa → so.kind.isMedia = true →
    SectionDone ex so sa

/-- how the pair's history relates two states: sections are appended, never changed or moved; new mids were never seen -/
structure Extends (s s' : Pc × Pc) : Prop where
  keys : ∃ rest, s'.1.keys = s.1.keys ++ rest ∧ ∀ kx ∈ rest, kx.2 ∉ s.1.seenMids
  seen : ∀ x, x ∈ s.1.seenMids → x ∈ s'.1.seenMids
  /-- ROLE STABILITY: a transport whose DTLS role is definite keeps that role for ever -/
  roles1 : ∀ id r, (r = .client ∨ r = .server) → s.1.roleOf id = r → s'.1.roleOf id = r
  roles2 : ∀ id r, (r = .client ∨ r = .server) → s.2.roleOf id = r → s'.2.roleOf id = r

theorem Extends.refl (s : Pc × Pc) : Extends s s := ⟨⟨[], by simp, by simp⟩, fun _ h => h, fun _ _ _ h => h, fun _ _ _ h => h⟩

theorem Extends.trans {a b c : Pc × Pc} (h1 : Extends a b) (h2 : Extends b c) : Extends a c := by
  obtain ⟨r1, e1, f1⟩ := h1.keys
  obtain ⟨r2, e2, f2⟩ := h2.keys
  refine ⟨⟨r1 ++ r2, by rw [e2, e1, List.append_assoc], ?_⟩, fun x hx => h2.seen x (h1.seen x hx),
    fun id r hr h => h2.roles1 id r hr (h1.roles1 id r hr h), fun id r hr h => h2.roles2 id r hr (h1.roles2 id r hr h)⟩
  intro kx hkx
  rcases List.mem_append.mp hkx with h | h
  · exact f1 kx h
  · exact fun hh => f2 kx h (h1.seen _ hh)

/-- **Mids are pairwise distinct** in the offer and in the answer of every exchange between well-formed, paired, compatible
connections — for any number of media sections (the 12th section gets "11", not a second "10"). -/
theorem exchange_mids_distinct {o a : Pc} {ex : Exchange} (hok : ExchangeOk o a ex) :
    (ex.offer.media.map (·.mid)).Nodup ∧ (ex.answer.media.map (·.mid)).Nodup := by
  have h := hok.wfO.nodup
  have ho : ex.offer.media.map (·.mid) = ex.offerer.keys.map (·.2) := by
    rw [← hok.offerKeys]; simp [keysOf, List.map_map, Function.comp_def]
  have ha : ex.answer.media.map (·.mid) = ex.offerer.keys.map (·.2) := by
    rw [← hok.answerKeys]; simp [keysOf, List.map_map, Function.comp_def]
  exact ⟨ho ▸ h, ha ▸ h⟩

theorem exchange_good {o a : Pc} {ex : Exchange} (h : Aiortc.Model.Negotiate.negotiate o a = .ok ex) (hok : ExchangeOk o a ex) : ExGood ex :=
  ⟨negotiate_stable h, negotiate_mirrors h, exchange_mids_distinct hok, negotiate_roles_definite h, hok.offerAuto, hok.sections⟩

theorem exchange_extends {o a : Pc} {ex : Exchange} (hok : ExchangeOk o a ex) :
    (∃ rest, ex.offerer.keys = o.keys ++ rest ∧ ∀ kx ∈ rest, kx.2 ∉ o.seenMids) ∧ (∀ x, x ∈ o.seenMids → x ∈ ex.offerer.seenMids) := by
  obtain ⟨rest, hrest⟩ := hok.ext
  refine ⟨⟨rest, hrest, ?_⟩, fun x hx => (hok.seen x).mpr (.inl hx)⟩
  intro kx hkx
  obtain ⟨i, hi⟩ := List.getElem?_of_mem hkx
  refine hok.fresh (o.keys.length + i) kx (Nat.le_add_right _ _) ?_
  rw [hrest, List.getElem?_append_right (Nat.le_add_right _ _)]
  simpa using hi

/-- **Opposite roles.**  After any exchange from a pair satisfying the invariant, every negotiated section (transceiver with
a mid, SCTP transport with a mid) of the offerer sits on a transport of one definite DTLS role and every negotiated
section of the answerer on a transport of the opposite role. -/
theorem exchange_roles_opposite {P : Kind → List Cap → Prop} (hP : PrefsOk P) {s : Pc × Pc} (h : Inv P s) {ex : Exchange}
    (hn : Aiortc.Model.Negotiate.negotiate s.1 s.2 = .ok ex) :
    ∃ ro ra, Opp ro ra ∧
      (∀ t ∈ ex.offerer.transceivers, t.mid ≠ none → ex.offerer.roleOf t.transport = ro) ∧
      (∀ t ∈ ex.answerer.transceivers, t.mid ≠ none → ex.answerer.roleOf t.transport = ra) ∧
      (∀ c, ex.offerer.sctp = some c → c.mid ≠ none → ex.offerer.roleOf c.transport = ro) ∧
      (∀ c, ex.answerer.sctp = some c → c.mid ≠ none → ex.answerer.roleOf c.transport = ra) := by
  have hok := exchangeOk_of_eq h.wf1 h.wf2 h.paired (compatible_of_prefsOk hP h.prefs1 h.prefs2) hn
  obtain ⟨⟨ro, ra, hopp, Ro, Ra⟩, _, _⟩ := exchange_roles h.wf1 h.wf2 h.paired hok h.roles
  exact ⟨ro, ra, hopp, Ro.owners, Ra.owners, Ro.sctpOwner, Ra.sctpOwner⟩

theorem step_cases {P : Kind → List Cap → Prop} {op : Op} (hv : op.Valid P) : (∃ p, op = .negotiate p) ∨
    ∃ p f, (∀ s, step s op = .ok (onPeer s p f, none)) ∧ ∀ pc, SetupMove P pc (f pc) := by
  cases op with
  | negotiate p => exact .inl ⟨p, rfl⟩
  | addTransceiver p k d tr => exact .inr ⟨p, _, fun _ => rfl, fun _ => .transceiver d hv tr⟩
  | addTrack p k => exact .inr ⟨p, _, fun _ => rfl, fun pc => .of_addTrack pc hv⟩
  | createDataChannel p => exact .inr ⟨p, _, fun _ => rfl, fun pc => .of_createDataChannel pc⟩
  | setCodecPreferences p i caps => exact .inr ⟨p, _, fun _ => rfl, fun pc => .of_trySetCodecPreferences pc i hv⟩
  | setDirection p i d => exact .inr ⟨p, _, fun _ => rfl, fun pc => .of_trySetDirection pc i d⟩

theorem Inv.swap {P : Kind → List Cap → Prop} {s : Pc × Pc} (h : Inv P s) : Inv P (s.2, s.1) :=
  ⟨h.wf2, h.wf1, h.paired.symm, h.prefs2, h.prefs1, h.roles.symm⟩

/-- `Extends` speaks of the first connection's keys and seen mids only; for a `Paired` pair they are the second's too -/
theorem Extends.swap {s s' : Pc × Pc} (hp : Paired s.1 s.2) (hp' : Paired s'.1 s'.2) (h : Extends s s') : Extends (s.2, s.1) (s'.2, s'.1) := by
  obtain ⟨rest, hk, hf⟩ := h.keys
  exact ⟨⟨rest, by rw [← hp'.keys, hk, hp.keys], fun kx hkx hh => hf kx hkx ((hp.seen _).mpr hh)⟩,
    fun x hx => (hp'.seen x).mp (h.seen x ((hp.seen x).mpr hx)), h.roles2, h.roles1⟩

theorem negotiate_step {P : Kind → List Cap → Prop} (hP : PrefsOk P) {s : Pc × Pc} (h : Inv P s) :
    ∃ ex, Aiortc.Model.Negotiate.negotiate s.1 s.2 = .ok ex ∧ Inv P (ex.offerer, ex.answerer) ∧ Extends s (ex.offerer, ex.answerer) ∧ ExGood ex := by
  obtain ⟨ex, hn, hok⟩ := negotiate_ok h.wf1 h.wf2 h.paired (compatible_of_prefsOk hP h.prefs1 h.prefs2)
  obtain ⟨hrp, hst1, hst2⟩ := exchange_roles h.wf1 h.wf2 h.paired hok h.roles
  obtain ⟨hk, hs⟩ := exchange_extends hok
  exact ⟨ex, hn, ⟨hok.wfO, hok.wfA, hok.paired, h.prefs1.sub hP.nil hok.prefsO, h.prefs2.sub hP.nil hok.prefsA, hrp⟩,
    ⟨hk, hs, hst1, hst2⟩, exchange_good hn hok⟩

theorem setup_step {P : Kind → List Cap → Prop} (hnil : ∀ k, P k []) {s : Pc × Pc} (h : Inv P s) (p : Bool) {f : Pc → Pc}
    (hf : ∀ pc, SetupMove P pc (f pc)) : Inv P (onPeer s p f) ∧ Extends s (onPeer s p f) := by
  have first : ∀ {s : Pc × Pc}, Inv P s → Inv P (f s.1, s.2) ∧ Extends s (f s.1, s.2) := by
    intro s h
    have K := (hf s.1).keeps hnil
    obtain ⟨ro, ra, hopp, Ro, Ra⟩ := h.roles
    have hkeys : (f s.1).keys = s.1.keys := keys_of_slots K.slots
    refine ⟨⟨K.wf h.wf1, h.wf2, ⟨hkeys.trans h.paired.keys, fun x => by rw [K.seen]; exact h.paired.seen x⟩,
        K.prefs h.prefs1, h.prefs2, ⟨ro, ra, hopp, K.rwf _ Ro, Ra⟩⟩,
      ⟨⟨[], by simp [hkeys], by simp⟩, fun x hx => by rw [K.seen]; exact hx, fun id r _ hid => ?_, fun _ _ _ h => h⟩⟩
    exact (K.roleSame.roleOf_eq id).trans hid
  cases p
  · exact first h
  · obtain ⟨i, x⟩ := first h.swap
    exact ⟨i.swap, x.swap h.paired.symm i.paired⟩

theorem step_ok {P : Kind → List Cap → Prop} (hP : PrefsOk P) {s : Pc × Pc} (h : Inv P s) {op : Op} (hv : op.Valid P) :
    ∃ s' e, step s op = .ok (s', e) ∧ Inv P s' ∧ Extends s s' ∧ (∀ ex ∈ e.toList, ExGood ex) := by
  rcases step_cases hv with ⟨p, rfl⟩ | ⟨p, f, hstep, hmove⟩
  · cases p
    · obtain ⟨ex, hn, i1, x1, g1⟩ := negotiate_step hP h
      exact ⟨(ex.offerer, ex.answerer), some ex, by simp [step, hn], i1, x1, by simpa using g1⟩
    · obtain ⟨ex, hn, i1, x1, g1⟩ := negotiate_step hP h.swap
      exact ⟨(ex.answerer, ex.offerer), some ex, by simp [step, hn], i1.swap, x1.swap h.paired.symm i1.paired, by simpa using g1⟩
  · obtain ⟨i1, x1⟩ := setup_step hP.nil h p hmove
    exact ⟨_, none, hstep s, i1, x1, by simp⟩

/-- **Every exchange of every script succeeds.**  From any pair satisfying the invariant (in particular two new
connections, `inv_new`), any list of valid operations runs to the end: no call of any exchange raises; the invariant
holds again; every exchange leaves both sides `stable`, the answer mirroring the offer with definite roles and
section-wise the negotiated intersection; sections are only appended, mids never re-used, and a DTLS role that is
definite never changes (`Extends`). -/
theorem run_ok {P : Kind → List Cap → Prop} (hP : PrefsOk P) : ∀ (ops : List Op) (s : Pc × Pc), Inv P s → (∀ op ∈ ops, op.Valid P) →
    ∃ s' exs, run s ops = .ok (s', exs) ∧ Inv P s' ∧ Extends s s' ∧ (∀ ex ∈ exs, ExGood ex) := by
  intro ops
  induction ops with
  | nil => intro s h _; exact ⟨s, [], rfl, h, Extends.refl s, by simp⟩
  | cons op ops ih =>
    intro s h hv
    obtain ⟨s1, e, h1, i1, x1, g1⟩ := step_ok hP h (hv op (by simp))
    obtain ⟨s2, es, h2, i2, x2, g2⟩ := ih s1 i1 (fun o ho => hv o (by simp [ho]))
    refine ⟨s2, e.toList ++ es, by simp [run, h1, h2], i2, x1.trans x2, ?_⟩
    intro ex hex
    rcases List.mem_append.mp hex with hh | hh
    · exact g1 ex hh
    · exact g2 ex hh

def Op.isNegotiate : Op → Bool
  | .negotiate _ => true
  | _ => false

theorem step_count {s s1 : Pc × Pc} {op : Op} {e : Option Exchange} (h : step s op = .ok (s1, e)) :
    e.toList.length = if op.isNegotiate then 1 else 0 := by
  cases op with
  | negotiate p =>
    cases p <;> simp only [step] at h <;> split at h <;> first | (cases h; rfl) | cases h
  | _ => simp_all [step, Op.isNegotiate]

/-- the number of exchanges performed is the number of `negotiate` operations: none is skipped -/
theorem run_count : ∀ (ops : List Op) (s s' : Pc × Pc) (exs : List Exchange), run s ops = .ok (s', exs) →
    exs.length = (ops.filter Op.isNegotiate).length := by
  intro ops
  induction ops with
  | nil => intro s s' exs h; simp [run] at h; simp [h.2.symm]
  | cons op ops ih =>
    intro s s' exs h
    simp only [run] at h
    split at h
    · rename_i s1 e h1
      split at h
      · rename_i s2 es h2
        cases h
        have h3 := ih s1 _ es h2
        have h4 := step_count h1
        simp only [List.length_append, h3, h4, List.filter_cons]
        cases op.isNegotiate <;> simp <;> omega
      · cases h
      · cases h
      · cases h
    · cases h
    · cases h
    · cases h

/-! ## instances with many sections

`allocate_mid` on the mids of a 10-, 11-, 12-, 13-, 20-, 30- and 101-section description: the next mid is the next number
(a "highest mid + 1" computed over the mid STRINGS would hand out "10" again after "9" and "10" exist, "100" after "99"). -/

def midsUpTo (n : Nat) : List String := (List.range n).map toString

theorem mem_midsUpTo {n i : Nat} : toString i ∈ midsUpTo n ↔ i < n := by
  simp only [midsUpTo, List.mem_map, List.mem_range]
  exact ⟨fun ⟨j, hj, he⟩ => toString_nat_inj he ▸ hj, fun h => ⟨i, h, rfl⟩⟩

theorem allocateMidGo_midsUpTo (n : Nat) : ∀ (fuel i : Nat), i ≤ n → n < i + fuel →
    allocateMidGo (midsUpTo n) fuel i = some (toString n) := by
  intro fuel
  induction fuel with
  | zero => intro i h1 h2; omega
  | succ f ih =>
    intro i h1 h2
    rw [allocateMidGo]
    by_cases hi : i < n
    · rw [if_pos (by simpa using mem_midsUpTo.mpr hi)]
      exact ih (i + 1) hi (by omega)
    · have : i = n := by omega
      subst this
      rw [if_neg (by simpa using mt mem_midsUpTo.mp hi)]

/-- `allocate_mid` on the mids "0" … "n-1" hands out "n", for every `n`; the instances below only spell the number out -/
theorem allocateMid_midsUpTo (n : Nat) : (allocateMid (midsUpTo n)).bind (fun r => .ok r.1) = .ok (toString n) := by
  unfold allocateMid
  rw [allocateMidGo_midsUpTo n _ 0 (Nat.zero_le _) (by simp [midsUpTo])]
  rfl

example : (allocateMid (midsUpTo 10)).bind (fun r => .ok r.1) = .ok "10" := allocateMid_midsUpTo 10
example : (allocateMid (midsUpTo 11)).bind (fun r => .ok r.1) = .ok "11" := allocateMid_midsUpTo 11
example : (allocateMid (midsUpTo 12)).bind (fun r => .ok r.1) = .ok "12" := allocateMid_midsUpTo 12
example : (allocateMid (midsUpTo 13)).bind (fun r => .ok r.1) = .ok "13" := allocateMid_midsUpTo 13
example : (allocateMid (midsUpTo 20)).bind (fun r => .ok r.1) = .ok "20" := allocateMid_midsUpTo 20
example : (allocateMid (midsUpTo 30)).bind (fun r => .ok r.1) = .ok "30" := allocateMid_midsUpTo 30
example : (allocateMid (midsUpTo 101)).bind (fun r => .ok r.1) = .ok "101" := allocateMid_midsUpTo 101
/-- remote mids that are not numbers are skipped over, holes are filled first (the scan starts at 0) -/
example : (allocateMid (["audio", "1", "0", "data", "3"] ++ midsUpTo 12)).bind (fun r => .ok r.1) = .ok "12" := by decide +kernel

/-- a conference: audio + video with tracks, a data channel, eleven more receive-only audio transceivers — 14 sections
at once, then a follow-up exchange offered by the OTHER side that adds one more -/
def bigScript : List Op :=
  [.addTrack false .audio, .addTrack false .video] ++ List.replicate 5 (.addTransceiver false .audio .recvonly false) ++
  [.createDataChannel false] ++ List.replicate 6 (.addTransceiver false .audio .recvonly false) ++
  [.negotiate false, .addTransceiver true .video .sendrecv true, .negotiate true]

/-- the script satisfies the hypotheses of `run_ok` (for any family `P`) -/
example (P : Kind → List Cap → Prop) : ∀ op ∈ bigScript, op.Valid P := by
  intro op h
  simp only [bigScript, List.replicate, List.cons_append, List.nil_append, List.mem_cons, List.not_mem_nil, or_false] at h
  rcases h with h | h | h | h | h | h | h | h | h | h | h | h | h | h | h | h | h <;> subst h <;> simp [Op.Valid, Kind.isMedia]

/-- ... and the model run: two exchanges, of 14 and 15 sections, mids "0" … "13" and "0" … "14" in order -/
example : (match run (Pc.new .balanced, Pc.new .balanced) bigScript with
    | .ok (_, exs) => exs.map (fun ex => (ex.offer.media.map (·.mid), ex.answer.media.map (·.mid)))
    | _ => []) = [(midsUpTo 14, midsUpTo 14), (midsUpTo 15, midsUpTo 15)] := by decide +kernel

end Aiortc.Props.C03
