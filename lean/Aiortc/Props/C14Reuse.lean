import Aiortc.Props.C14
import Aiortc.Model.Jsep.System
/-!
# C14 — descriptions that re-use a stored text; several connections in one process

The theorems of `Props/C14.lean` quantify over descriptions of ARBITRARY content, so they cover a description that is equal to
one the connection stores, or equal to it up to the type label.  This file states those instances explicitly (they are what the
harness feeds to the real code: the pending offer handed back labelled `answer`, a peer's own offer fed back to it as remote
offer, the same description applied twice, ...) and proves that connections living in one process do not influence each other:
each follows `run` on exactly the calls that name it.
-/
namespace Aiortc.Props.C14Reuse
open Aiortc.Model.Jsep Aiortc.Props.C14
open Aiortc.Model.Jsep.Spec (next acceptable)

set_option linter.unusedVariables false  -- `runSys_closed_absorbing` keeps its hypothesis on the alphabet, which the proof does not need

/-! ## A rejected call leaves every stored description as it was - type label included -/

/-- Whatever the call, whatever description it carries (in particular one whose text the connection already stores, under any
type): if it raises, `signalingState`, `localDescription` and `remoteDescription` are the same VALUES as before. -/
theorem rejected_call_keeps_descriptions (pc : Pc) (c : Call) (hf : (step pc c).1.failed = true) :
    (step pc c).2.sig = pc.sig ∧ (step pc c).2.localDescription = pc.localDescription ∧
      (step pc c).2.remoteDescription = pc.remoteDescription ∧ (step pc c).2.events = pc.events := by
  rw [failed_call_no_effect pc c hf]; simp

/-- In particular the TYPE of a stored description cannot be changed by a rejected call that carries the same text under another
type (`d.relabel t`), on either side. -/
theorem rejected_relabel_keeps_type (pc : Pc) (d : Desc) (t : DType) (isLocal : Bool)
    (hf : (step pc (if isLocal then .setLocal (d.relabel t) else .setRemote (d.relabel t))).1.failed = true) :
    ((step pc (if isLocal then .setLocal (d.relabel t) else .setRemote (d.relabel t))).2.localDescription.map Desc.type
        = pc.localDescription.map Desc.type) ∧
      ((step pc (if isLocal then .setLocal (d.relabel t) else .setRemote (d.relabel t))).2.remoteDescription.map Desc.type
        = pc.remoteDescription.map Desc.type) := by
  rw [failed_call_no_effect pc _ hf]; simp

/-! ## The instances the harness generates -/

/-- The pending local offer (any description, so also that one) handed back as `answer`, to either call, or fed back as remote
offer: illegal in `have-local-offer` ⇒ InvalidStateError, nothing changes. -/
theorem have_local_offer_rejects_relabelled {pc : Pc} (hinv : Inv pc) (hs : pc.sig = .haveLocalOffer) (d : Desc) :
    step pc (.setLocal (d.relabel .answer)) = (.invalidState, pc) ∧
      step pc (.setRemote (d.relabel .offer)) = (.invalidState, pc) := by
  constructor
  · exact illegal_no_effect hinv (d.relabel .answer) true (Or.inr rfl) (by simp [hs, next, Desc.relabel])
  · exact illegal_no_effect hinv (d.relabel .offer) false (Or.inl rfl) (by simp [hs, next, Desc.relabel])

/-- The pending remote offer handed back as `answer`, or applied locally as `offer`: illegal in `have-remote-offer`. -/
theorem have_remote_offer_rejects_relabelled {pc : Pc} (hinv : Inv pc) (hs : pc.sig = .haveRemoteOffer) (d : Desc) :
    step pc (.setRemote (d.relabel .answer)) = (.invalidState, pc) ∧
      step pc (.setLocal (d.relabel .offer)) = (.invalidState, pc) := by
  constructor
  · exact illegal_no_effect hinv (d.relabel .answer) false (Or.inr rfl) (by simp [hs, next, Desc.relabel])
  · exact illegal_no_effect hinv (d.relabel .offer) true (Or.inl rfl) (by simp [hs, next, Desc.relabel])

/-- In `stable` (fresh or after any number of negotiations) every description labelled `answer` is rejected by both calls. -/
theorem stable_rejects_any_answer {pc : Pc} (hinv : Inv pc) (hs : pc.sig = .stable) (d : Desc) :
    step pc (.setLocal (d.relabel .answer)) = (.invalidState, pc) ∧
      step pc (.setRemote (d.relabel .answer)) = (.invalidState, pc) := by
  constructor
  · exact illegal_no_effect hinv (d.relabel .answer) true (Or.inr rfl) (by simp [hs, next, Desc.relabel])
  · exact illegal_no_effect hinv (d.relabel .answer) false (Or.inr rfl) (by simp [hs, next, Desc.relabel])

/-- The same acceptable offer applied twice in a row (the same object passed twice): both calls succeed, the second changes
nothing but the event count. -/
theorem same_offer_twice {pc : Pc} (hinv : Inv pc) (d : Desc) (isLocal : Bool) (s' : Sig) (ht : d.type = .offer)
    (hleg : next pc.sig isLocal .offer = some s') (hok : Spec.wellFormed d = true) :
    let c : Call := if isLocal then .setLocal d else .setRemote d
    let pc1 := (step pc c).2
    (step pc c).1 = .ok ∧ (step pc1 c).1 = .ok ∧ (step pc1 c).2.obs = pc1.obs ∧ (step pc1 c).2.events = pc.events + 2 := by
  have hacc : ∀ o, acceptable d o = true := by intro o; simp [acceptable, hok, ht]
  have h1 := legal_applied hinv d isLocal s' (Or.inl ht) (ht ▸ hleg) (hacc _)
  have hinv1 : Inv (step pc (if isLocal then .setLocal d else .setRemote d)).2 := inv_step hinv _
  have hs' : next s' isLocal .offer = some s' := by
    cases isLocal <;> cases hs : pc.sig <;> simp [hs, next] at hleg <;> subst hleg <;> rfl
  have h2 := legal_applied hinv1 d isLocal s' (Or.inl ht) (by rw [ht, h1.2.1]; exact hs') (hacc _)
  refine ⟨h1.1, h2.1, ?_, ?_⟩
  · cases isLocal <;> simp_all [Pc.obs]
  · have := h2.2.2.1; have := h1.2.2.1; omega

/-! ## Connections living in one process are independent -/

theorem stepAt_some {pcs : List Pc} {i : Nat} {c : Call} {r : Res × List Pc} (h : stepAt pcs i c = some r) :
    ∃ pc, pcs[i]? = some pc ∧ r = ((step pc c).1, pcs.set i (step pc c).2) := by
  unfold stepAt at h
  cases hp : pcs[i]? with
  | none => simp [hp] at h
  | some pc =>
    simp [hp] at h
    exact ⟨pc, rfl, h.symm⟩

/-- A call on connection `i` leaves every other connection of the process exactly as it was - whatever the description, also one
that another connection stores. -/
theorem stepAt_frame {pcs : List Pc} {i : Nat} {c : Call} {r : Res × List Pc} (h : stepAt pcs i c = some r)
    (j : Nat) (hj : j ≠ i) : r.2[j]? = pcs[j]? := by
  obtain ⟨pc, _, rfl⟩ := stepAt_some h
  simp [Ne.symm hj]

/-- ... and the connection it names moves as `step` says. -/
theorem stepAt_self {pcs : List Pc} {i : Nat} {c : Call} {r : Res × List Pc} (h : stepAt pcs i c = some r) :
    ∃ pc, pcs[i]? = some pc ∧ r.1 = (step pc c).1 ∧ r.2[i]? = some (step pc c).2 := by
  obtain ⟨pc, hp, rfl⟩ := stepAt_some h
  obtain ⟨hi, _⟩ := List.getElem?_eq_some_iff.mp hp
  exact ⟨pc, hp, rfl, by simp [hi]⟩

theorem stepAt_failed {pcs : List Pc} {i : Nat} {c : Call} {r : Res × List Pc} (h : stepAt pcs i c = some r)
    (hf : r.1.failed = true) : r.2 = pcs := by
  obtain ⟨pc, hp, rfl⟩ := stepAt_some h
  simp only at hf ⊢
  rw [failed_call_no_effect pc c hf]
  obtain ⟨hi, he⟩ := List.getElem?_eq_some_iff.mp hp
  rw [← he]; exact List.set_getElem_self hi

theorem runSys_cons (pcs : List Pc) (i : Nat) (c : Call) (cs : List (Nat × Call)) :
    runSys pcs ((i, c) :: cs) = runSys (pcs.modify i fun pc => (step pc c).2) cs := by
  rw [runSys, stepAt]
  cases h : pcs[i]? with
  | none => rw [List.modify_eq_self (by simpa using h)]
  | some pc =>
    obtain ⟨hi, rfl⟩ := List.getElem?_eq_some_iff.1 h
    show runSys (pcs.set i (step pcs[i] c).2) cs = _
    rw [List.modify_eq_take_cons_drop hi, List.set_eq_take_append_cons_drop, if_pos hi]

/-- Over any trace of calls on any connections of the process, connection `j` ends where `run` takes it on exactly the calls
that name it: what happens to the other connections (a second pair fed the same texts, ...) is invisible to it.  All theorems of
`Props/C14.lean` therefore hold for every connection of the process. -/
theorem runSys_proj (pcs : List Pc) (cs : List (Nat × Call)) (j : Nat) :
    (runSys pcs cs)[j]? = pcs[j]?.map fun pc => (run pc (callsOf j cs)).2 := by
  induction cs generalizing pcs with
  | nil => cases h : pcs[j]? <;> simp [runSys, callsOf, run, h]
  | cons ic cs ih =>
    obtain ⟨i, c⟩ := ic
    rw [runSys_cons, ih, List.getElem?_modify]
    by_cases hji : i = j
    · subst hji; cases pcs[i]? <;> simp [callsOf, run]
    · simp [callsOf, hji]

theorem runSys_untouched (pcs : List Pc) (cs : List (Nat × Call)) (j : Nat) (h : ∀ ic ∈ cs, ic.1 ≠ j) :
    (runSys pcs cs)[j]? = pcs[j]? := by
  rw [runSys_proj]
  have : callsOf j cs = [] := by
    simp only [callsOf, List.filterMap_eq_nil_iff]
    intro ic hic; simp [h ic hic]
  cases hp : pcs[j]? <;> simp [this, run]

/-- `closed` is absorbing for every connection of a process, whatever is done to the others. -/
theorem runSys_closed_absorbing (pcs : List Pc) (cs : List (Nat × Call)) (j : Nat) (pc : Pc) (hj : pcs[j]? = some pc)
    (hinv : Inv pc) (hcl : pc.sig = .closed) (hcs : ∀ ic ∈ cs, ic.2.inAlphabet = true) :
    (runSys pcs cs)[j]? = some pc := by
  rw [runSys_proj, hj]
  simp only [Option.map_some, Option.some.injEq]
  exact run_closed pc (hinv.closed_iff.mpr hcl) _

/-! ## Non-vacuity: a stored offer handed back under another type label, to the same and to another connection -/

/-- offerer: the pending offer handed back as "answer" is rejected and `localDescription` is still the OFFER -/
example : step haveLocal (.setLocal (offerD.relabel .answer)) = (.invalidState, haveLocal) ∧
    haveLocal.localDescription.map Desc.type = some .offer := by decide
/-- answerer: the pending remote offer received again labelled "answer" -/
example : let pc := (step Pc.init (.setRemote offerD)).2
    step pc (.setRemote (offerD.relabel .answer)) = (.invalidState, pc) ∧ pc.remoteDescription = some offerD := by decide
/-- the peer's own offer fed back to it as remote offer -/
example : step haveLocal (.setRemote offerD) = (.invalidState, haveLocal) := by decide
/-- hypotheses of `same_offer_twice` -/
example : next Pc.init.sig true .offer = some .haveLocalOffer ∧ Spec.wellFormed offerD = true ∧ offerD.type = .offer := by decide
example : (run Pc.init [.setLocal offerD, .setLocal offerD]).2.obs = ⟨.haveLocalOffer, some offerD, none⟩ := by decide
/-- two pairs in one process: pair B (connections 2, 3) is fed pair A's offer under both labels; pair A does not notice -/
example : let sys := runSys (List.replicate 4 Pc.init) [(0, .setLocal offerD), (1, .setRemote offerD)]
    runSys sys [(3, .setRemote offerD), (3, .setRemote (offerD.relabel .answer)), (2, .setLocal (offerD.relabel .answer)),
                (2, .setLocal offerD), (2, .close)] = [sys[0]!, sys[1]!, (step haveLocal .close).2, sys[1]!] := by decide

end Aiortc.Props.C14Reuse
