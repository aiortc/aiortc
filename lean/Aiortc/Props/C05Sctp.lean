import Aiortc.Lemmas.C05.SctpChunk
import Aiortc.Lemmas.C05.SctpTask
import Aiortc.Lemmas.C05.SctpQuiet
import Aiortc.Lemmas.C05.SctpWitness
/-!
# C05 (SCTP part): no received datagram can crash or hang the SCTP receive path

About the endpoint automaton `Aiortc.Sctp.step` (model of `RTCSctpTransport` + `RTCDataChannel`, tied to the real
code by `./check C05`).  See `notes/C05a.md` for what is proved, what is assumed and the defects found.
-/
namespace Aiortc.Props.C05Sctp
open Aiortc Aiortc.Gen Aiortc.Sctp Aiortc.Sctp.Wire

/-- The invariant: structural well-formedness, receive-window accounting, stream ids of queued fragments. -/
def Inv (e : Ep) : Prop := WF e ∧ Acc 0 e.rwnd e.inStreams ∧ SidOk e.inStreams

/-- The property: from a well-formed state NO datagram makes the receive path raise. -/
def rx_never_crashes : Prop :=
  ∀ (e : Ep), Inv e → ∀ (d cookie : Bytes) (now : Int), IsBytes d → cookie.length ≤ 1000 →
    ∀ k, Out.crash k ∉ (step e now (.rx d cookie)).2

/-- From a well-formed state, for EVERY byte string `d` (random bytes, truncated packets, well-formed but nonsensical
chunks of every type, in every association state) no exception escapes `_handle_data`, and the state is well-formed
again, so the statement composes over any sequence of datagrams.  The model is aiortc with `fixes/C05a-*.patch`
applied. -/
theorem rx_never_crashes_and_preserves (e : Ep) (h : Inv e) (d cookie : Bytes) (now : Int) (hd : IsBytes d)
    (hc : cookie.length ≤ 1000) :
    (∀ k, Out.crash k ∉ (step e now (.rx d cookie)).2) ∧ Inv (step e now (.rx d cookie)).1 := by
  obtain ⟨hw, ha, hs⟩ := h
  refine step_ok (P := Inv) ?_
  show wp NoExc (handleData d cookie) _ _
  exact wp_handleData chunkInv_WF (hw.congr rfl) ha hs hd hc fun e' l' hw' ha' hs' => ⟨hw', ha', hs'⟩

theorem rx_never_crashes_proved : rx_never_crashes :=
  fun e h d cookie now hd hc => (rx_never_crashes_and_preserves e h d cookie now hd hc).1

/-- No fuelled loop reachable from `.rx` runs out of fuel: "hang" is never produced. -/
theorem rx_no_hang (e : Ep) (h : Inv e) (d cookie : Bytes) (now : Int) (hd : IsBytes d)
    (hc : cookie.length ≤ 1000) : Out.crash "hang" ∉ (step e now (.rx d cookie)).2 :=
  (rx_never_crashes_and_preserves e h d cookie now hd hc).1 _

/-- Reassembly never hangs, whatever is in the queue: `pop_messages` with fuel `2·len + 2` returns. -/
theorem pop_messages_no_hang (s : InStream) : ∃ r, s.popMessages = .ok r := by
  obtain ⟨msgs, s', h, _⟩ := popMessages_ok s
  exact ⟨_, h⟩

/-- Work bound for a SACK: the set of TSNs reported by the gap blocks has at most `|gaps| · (limit + 1)` elements,
where `limit` is the offset of the highest outstanding TSN (each block is clipped to it). -/
theorem rx_work_bound_partial (cum : Int) (limit : Nat) (gaps : List (Nat × Nat)) :
    (gapSeen cum limit gaps).1.length ≤ gaps.length * (limit + 1) := by
  unfold gapSeen
  simp only
  induction gaps with
  | nil => simp
  | cons g gs ih =>
    simp only [List.flatMap_cons, List.length_append, List.length_map, List.length_range, List.length_cons]
    have : min g.2 limit + 1 - g.1 ≤ limit + 1 := by omega
    rw [Nat.succ_mul]
    omega

/-- The SACK this endpoint sends never has more than 296 gap blocks (`sack_max_entries_const`), all offsets within
16 bits. -/
theorem sack_bound (rx : Rx) (sorted : List Int) :
    (sendSack.build rx none [] sorted).length ≤ 296 ∧ pairsInRange (sendSack.build rx none [] sorted) = true :=
  sackBuild_ok rx sorted

/-- The invariant holds for a fresh endpoint as soon as the application has called `start()` (which, on the client
side, sends the INIT): tags and the initial TSN are 32-bit random numbers, the remote port a 16-bit number. -/
theorem inv_after_start (isServer : Bool) (tag tsn rp : Nat) (now : Int) (ht : tag < 4294967296)
    (hs : tsn < 4294967296) (hr : rp < 65536) :
    (∀ k, Out.crash k ∉ (step (Ep.init isServer tag tsn) now (.start rp)).2) ∧
    Inv (step (Ep.init isServer tag tsn) now (.start rp)).1 := by
  refine step_ok (P := Inv) ?_
  have hw0 := WF.started isServer now ht hs hr
  have ha0 : Acc 0 (1048576 : Int) ([] : List (Nat × InStream)) := ⟨by simp [reasmBytes], by simp⟩
  have hs0 : SidOk ([] : List (Nat × InStream)) := by intro p hp; cases hp
  simp only [handle, wp_bind, wp_getE]
  rw [wp_ite]
  refine ⟨fun _ => ?_, fun hn => absurd rfl hn⟩
  simp only [wp_bind, wp_setE]
  rw [wp_ite]
  refine ⟨fun _ => ?_, fun _ => ?_⟩
  · simp only [wp_bind, wp_getE]
    refine wp_sendChunk hw0.net ?_ ?_
    · exact initChunk_inRange hw0.net.ltag (Int.le_refl _) hw0.net.outCnt hw0.net.inMax hw0.tx.tsn
    · intro d
      refine wp_t1Start rfl ?_
      intro l'
      rw [wp_setState_other (by decide) (by decide)]
      exact ⟨hw0.congr rfl, ha0, hs0⟩
  · simp only [wp_pure]
    exact ⟨hw0, ha0, hs0⟩

/-- A queued task (`_data_channel_flush`, `_transmit`, `_transmit_reconfig`, a T1/T2/RE-CONFIG retransmission)
neither raises nor breaks the invariant, provided a queued retransmission is serialisable (`TaskOk`: it is a chunk
that was sent before). -/
theorem task_preserves_inv_partial (e : Ep) (h : Inv e) (now : Int)
    (ht : ∀ t rest, e.tasks = t :: rest → TaskOk t) :
    (∀ k, Out.crash k ∉ (step e now .task).2) ∧ Inv (step e now .task).1 := by
  obtain ⟨hw, ha, hs⟩ := h
  refine step_ok (P := Inv) ?_
  show wp NoExc runTask _ _
  have post : Cont RxKept WF e (fun _ s' => Inv s'.1) := Cont.inv ha hs
  exact wp_runTask ctlInv_WF (hw.congr rfl) ht post

/-- The timers T1, T2, T3 and the RE-CONFIG timer neither raise nor break the invariant, provided T1 / T2 were armed
with a chunk (`_t1_start(chunk)` always stores one). -/
theorem fire_preserves_inv_partial (e : Ep) (h : Inv e) (now : Int) (t : String)
    (ht : t = "t1" ∧ e.t1Chunk.isSome = true ∨ t = "t2" ∧ e.t2Chunk.isSome = true ∨ t = "t3" ∨ t = "reconfig") :
    (∀ k, Out.crash k ∉ (step e now (.fire t)).2) ∧ Inv (step e now (.fire t)).1 := by
  obtain ⟨hw, ha, hs⟩ := h
  have hw0 : WF { e with now := now } := hw.congr rfl
  have post : Cont RxKept WF e (fun _ s' => Inv s'.1) := Cont.inv ha hs
  refine step_ok (P := Inv) ?_
  rcases ht with ⟨rfl, hc⟩ | ⟨rfl, hc⟩ | rfl | rfl
  · obtain ⟨c, hcs⟩ := Option.isSome_iff_exists.mp hc
    exact wp_fire_t1 ctlInv_WF hcs (hw0.congr rfl) (hw0.congr rfl) post
  · obtain ⟨c, hcs⟩ := Option.isSome_iff_exists.mp hc
    exact wp_fire_t2 ctlInv_WF hcs (hw0.congr rfl) (hw0.congr rfl) post
  · exact wp_fire_t3 ctlInv_WF hw0 post
  · exact wp_fire_reconfig (hw0.congr rfl) (fun _ _ => hw0.congr rfl) post

/-! ## the two inputs that make aiortc before `fixes/C05a-*.patch` raise do not make the model raise -/

open Aiortc.Sctp.Witness in
/-- `Lemmas/C05/SctpWitness`: the same DATA chunk again (`dData`) in the state `e4` reached after two FORWARD-TSNs have
wrapped the TSN space around it (duplicate TSN in the reassembly queue), and the run `run2` (a stream reset response
after ABORT and a replayed COOKIE-ECHO). -/
theorem witnesses_fixed :
    noCrash (step e4 now0 (.rx dData ck)).2 = true ∧ noCrash (runIn (Ep.init true 222 5000) run2).2 = true := by
  constructor <;> decide +kernel

/-! ## the hypotheses are satisfiable -/

open Aiortc.Sctp.Witness in
/-- `Inv` holds for a started endpoint, `IsBytes` / the cookie bound for a real datagram and a real cookie. -/
example : Inv e0 ∧ IsBytes dData ∧ ck.length ≤ 1000 :=
  ⟨(inv_after_start true 222 5000 5000 now0 (by decide) (by decide) (by decide)).2, by decide +kernel,
   by decide +kernel⟩

/-- A queued retransmission of SHUTDOWN-ACK is `TaskOk`. -/
example : TaskOk (.resend (.plain .shutdownAck 0 [])) := by
  show Chunk.inRange _ = true
  decide

/-- the 296 of `sack_bound` (and of `GapsOk`) is aiortc's constant -/
theorem sack_max_entries_const : SACK_MAX_ENTRIES = 296 := by decide
/-- aiortc's own cookies satisfy the hypothesis `cookie.length ≤ 1000` of the `.rx` theorems -/
theorem cookie_length_const : COOKIE_LENGTH = 24 := by decide

end Aiortc.Props.C05Sctp
