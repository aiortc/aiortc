import Aiortc.Lemmas.C13.SctpLifeHandle
import Aiortc.Lemmas.C13.SctpBufHandle
import Aiortc.Lemmas.C13.SctpClose
import Aiortc.Lemmas.C13.SctpIds
import Aiortc.Lemmas.C13.SctpDcep
import Aiortc.Lemmas.C13.SctpUtf8
import Aiortc.Lemmas.C13.SctpNeg
import Aiortc.Lemmas.C13.SctpOpen
import Aiortc.Lemmas.C13.SctpReset
import Aiortc.Lemmas.C13.SctpReact
import Aiortc.Lemmas.C13.SctpFuel
/-!
# C13 — data channel lifecycle: faithful open, forward-only states, exact bufferedAmount

All statements are about the endpoint automaton `Aiortc.Sctp.step` (`Model/Sctp/Endpoint.lean`), the
executable model of `RTCSctpTransport` + `RTCDataChannel` that `./check C13` replays against two real
endpoints step by step.  They hold for EVERY endpoint state satisfying the stated invariant, every clock
value and every input (datagram bytes, timer, task, application call) - hence for all programs of
create/send/close operations and all datagram fault schedules; the invariants hold in the initial state
and are preserved by every step (`lifeInv_init`, `ready_forward`; `bufInv_init`, `buffered_exact`).

Channel objects are identified by their index `i` in `Ep.chans` (creation order); `ready` encodes
`readyState` as 0 connecting < 1 open < 2 closing < 3 closed.
-/
namespace Aiortc.Props.C13
open Aiortc Aiortc.Gen Aiortc.Sctp Aiortc.Sctp.Wire

/-! ## constants of the property text / wire format -/

theorem userdata_max_const : Aiortc.Gen.USERDATA_MAX_LENGTH = 1200 := by decide
theorem dcep_const : WEBRTC_DCEP = 50 ∧ DATA_CHANNEL_OPEN = 3 ∧ DATA_CHANNEL_ACK = 2 ∧
    DATA_CHANNEL_RELIABLE = 0 := by decide
theorem ppid_const : WEBRTC_STRING = 51 ∧ WEBRTC_BINARY = 53 ∧ WEBRTC_STRING_EMPTY = 56 ∧
    WEBRTC_BINARY_EMPTY = 57 := by decide

/-! ## (a) faithful open -/

/-- **DCEP round trip.** For every label and protocol that is valid UTF-8 and shorter than 65536 bytes,
every `ordered` flag and every reliability setting (at most one of maxRetransmits/maxPacketLifeTime,
below 2^32), `_data_channel_open`'s message parsed by the OPEN branch of `_data_channel_receive` gives
back exactly label, protocol, ordered, maxRetransmits, maxPacketLifeTime. -/
theorem dcep_roundtrip (c : Chan)
    (hl : c.label.length < 65536) (hp : c.protocol.length < 65536)
    (hul : utf8Valid c.label = true) (hup : utf8Valid c.protocol = true)
    (hone : c.maxRetransmits = none ∨ c.maxPacketLifeTime = none)
    (hr : ∀ r, c.maxRetransmits = some r → r < 4294967296)
    (ht : ∀ r, c.maxPacketLifeTime = some r → r < 4294967296) :
    ∃ d, encodeOpen c = .ok d ∧ decodeOpen d = some c.openParams := by
  obtain ⟨id, label, protocol, ordered, mr, ml, neg, ready, buf, thr, silent⟩ := c
  simp only at hl hp hul hup hone hr ht
  cases mr with
  | some r =>
    have hml : ml = none := by rcases hone with h | h; cases h; exact h
    subst hml
    have hr' := hr r rfl
    refine ⟨openMsg ((if !ordered then DATA_CHANNEL_RELIABLE + 128 else DATA_CHANNEL_RELIABLE) + 1) r label protocol, ?_, ?_⟩
    · simp [encodeOpen, openMsg, hl, hp, hr']
    · rw [decodeOpen_openMsg _ _ _ _ hl hp hr' hul hup]
      cases ordered <;> simp [Chan.openParams, DATA_CHANNEL_RELIABLE]
  | none =>
    cases ml with
    | some t =>
      have ht' := ht t rfl
      refine ⟨openMsg ((if !ordered then DATA_CHANNEL_RELIABLE + 128 else DATA_CHANNEL_RELIABLE) + 2) t label protocol, ?_, ?_⟩
      · simp [encodeOpen, openMsg, hl, hp, ht']
      · rw [decodeOpen_openMsg _ _ _ _ hl hp ht' hul hup]
        cases ordered <;> simp [Chan.openParams, DATA_CHANNEL_RELIABLE]
    | none =>
      refine ⟨openMsg (if !ordered then DATA_CHANNEL_RELIABLE + 128 else DATA_CHANNEL_RELIABLE) 0 label protocol, ?_, ?_⟩
      · simp [encodeOpen, openMsg, hl, hp]
      · rw [decodeOpen_openMsg _ _ _ _ hl hp (by omega) hul hup]
        cases ordered <;> simp [Chan.openParams, DATA_CHANNEL_RELIABLE]

def exampleChan : Chan :=
  { id := none, label := [0x68, 0xC3, 0xA9], protocol := [0xF0, 0x9F, 0x99, 0x82],
    ordered := false, maxRetransmits := some 3 }

example : ∃ d, encodeOpen exampleChan = .ok d ∧ decodeOpen d = some
      ⟨[0x68, 0xC3, 0xA9], [0xF0, 0x9F, 0x99, 0x82], false, some 3, none⟩ :=
  dcep_roundtrip exampleChan (by decide) (by decide) (by decide) (by decide) (Or.inr rfl)
    (by intro r h; cases h; decide) (by intro r h; cases h)

/-- `bytes.decode("utf8")` as modelled by `utf8Valid` accepts exactly the concatenations of UTF-8 encoded
Unicode scalar values (Unicode Table 3-6/3-7: no overlong forms, no surrogates, nothing above U+10FFFF):
any Unicode label/protocol is accepted, and nothing else is. -/
theorem utf8_exact (b : Bytes) :
    utf8Valid b = true ↔ ∃ cps : List Nat, (∀ n ∈ cps, Scalar n) ∧ b = cps.flatMap encodeCp :=
  ⟨utf8Valid_sound b.length b (Nat.le_refl _), fun ⟨cps, hs, he⟩ => he ▸ utf8Valid_flatMap cps hs⟩

example : utf8Valid ([0x41, 0x7FF, 0x800, 0xFFFF, 0x10000, 0x10FFFF].flatMap encodeCp) = true := by decide
example : utf8Valid [0xC0, 0x80] = false ∧ utf8Valid [0xED, 0xA0, 0x80] = false ∧
    utf8Valid [0xF4, 0x90, 0x80, 0x80] = false ∧ utf8Valid [0xE2, 0x82] = false := by decide

/-- **The `datachannel` event mirrors the opener.** When a DATA_CHANNEL_OPEN that decodes to `p` arrives on a
stream id `sid` that is not in use, the endpoint creates one channel object with exactly the parameters
`p` and id `sid`, not negotiated, and (while the transport still has listeners) emits the `datachannel`
event for it. -/
theorem open_announces (sid : Nat) (data : Bytes) (p : OpenParams) (hp : decodeOpen data = some p)
    (s : St) (hI : LifeInv s.1) (hfree : dictGet s.1.dataChannels sid = none) :
    WP (dcReceive sid WEBRTC_DCEP data) (OpenPost sid p s) s :=
  dcReceive_open sid data p hp s hI hfree

/-! ## (b) automatically chosen ids -/

/-- The id `_data_channel_flush` chooses for a channel without id has the parity of the allocator's start
value (`_data_channel_id`: 0 on the side with `is_server`, 1 on the other) and is not registered. -/
theorem ids_disjoint (e : Ep) (start : Nat) :
    flushLoop.pick e (e.dataChannels.length + 1) start % 2 = start % 2 ∧
    dictGet e.dataChannels (flushLoop.pick e (e.dataChannels.length + 1) start) = none :=
  ⟨pick_parity e _ start, pick_free e start⟩

/-- Whatever the step: an id that gets *assigned* to an existing channel object (it had none before) is even
on the server side and odd on the client side; an id once set never changes. -/
theorem auto_id_parity (e : Ep) (now : Int) (inp : Input) (hI : LifeInv e)
    (i : Nat) (c : Chan) (hc : e.chans[i]? = some c) :
    ∃ c', (step e now inp).1.chans[i]? = some c' ∧
      (∀ s, c.id = some s → c'.id = some s) ∧
      (c.id = none → ∀ s, c'.id = some s → s % 2 = (if e.isServer then 0 else 1)) := by
  obtain ⟨c', hc', hst⟩ := (step_forward e now inp hI).2.2.1 i c hc
  exact ⟨c', hc', hst.id_keep, fun h s hs => (hst.id_auto h s hs).1⟩

/-- the two sides of an association have different roles, so their automatic ids never collide -/
theorem auto_ids_never_collide (eA eB : Ep) (hrole : eA.isServer ≠ eB.isServer) (a b : Nat)
    (ha : a % 2 = (if eA.isServer then 0 else 1)) (hb : b % 2 = (if eB.isServer then 0 else 1)) : a ≠ b := by
  intro hab
  subst hab
  cases hA : eA.isServer <;> cases hB : eB.isServer <;> simp_all

/-- **Automatically chosen ids stay below 65536.** Whatever the step: an id that gets assigned to an existing channel
object is at most 65535 (a channel that cannot get one is closed instead, fix "close a data channel that cannot get
a stream id"). -/
theorem auto_id_in_range (e : Ep) (now : Int) (inp : Input) (hI : LifeInv e)
    (i : Nat) (c : Chan) (hc : e.chans[i]? = some c) :
    ∃ c', (step e now inp).1.chans[i]? = some c' ∧
      (c.id = none → ∀ s, c'.id = some s → s ≤ 65535) := by
  obtain ⟨c', hc', hst⟩ := (step_forward e now inp hI).2.2.1 i c hc
  exact ⟨c', hc', fun h s hs => (hst.id_auto h s hs).2⟩

/-- the same for `_data_channel_flush`'s loop alone, with any fuel and any outcome: every id it assigns is
≤ 65535 and has the role's parity -/
theorem flushLoop_ids_in_range (fuel : Nat) (s : St) (hI : LifeInv s.1) :
    WP (flushLoop fuel) (fun _ s' => ∀ (i : Nat) c, s.1.chans[i]? = some c →
      ∃ c', s'.1.chans[i]? = some c' ∧
        (c.id = none → ∀ x, c'.id = some x → x ≤ 65535 ∧ x % 2 = (if s.1.isServer then 0 else 1))) s := by
  refine WP.mono ((fwd_flushLoop fuel).out s hI) ?_
  intro r s' h i c hc
  obtain ⟨c', hc', hst⟩ := (h (fun h => h.elim)).2.2.1 i c hc
  exact ⟨c', hc', fun hn x hx => ⟨(hst.id_auto hn x hx).2, (hst.id_auto hn x hx).1⟩⟩

/-- **A stream reset waits for the queued data.** If `_transmit_reconfig` issues a new request, none of the streams in it
is the id of a channel that still has an entry in `_data_channel_queue` (so a DATA_CHANNEL_OPEN or user message
that has not been handed to `_send` yet can never be overtaken by the reset of its stream; fix "send a stream reset
only after the data queued for the channel has been sent"). -/
theorem reset_deferred (s : St) : WP transmitReconfig (ResetPost s) s := by
  have keep : ∀ l', ResetPost s (.ok ()) (s.1, l') := by
    intro l' h0 p hp
    rw [h0] at hp; cases hp
  -- a request whose streams were filtered against the ids of the queue entries, the channel objects and the
  -- queue being as they were
  have key : ∀ (e' : Ep) (l' : List Out) (r : Except String Unit), e'.chans = s.1.chans → e'.dcQueue = s.1.dcQueue →
      (∀ p, e'.reconfigRequest = some p → p.2.2.2 =
        ((s.1.reconfigQueue.filter fun x =>
          !(s.1.dcQueue.map (queuedId s.1)).contains (some x)).take RECONFIG_MAX_STREAMS)) →
      ResetPost s r (e', l') := by
    intro e' l' r hch hq hp _ p hpe x hx q hq' hqi
    rw [hp p hpe] at hx
    refine streams_not_queued _ _ _ _ hx ?_
    rw [← hqi, show queuedId e' q = queuedId s.1 q by unfold queuedId; rw [hch]]
    exact List.mem_map.2 ⟨q, hq ▸ hq', rfl⟩
  unfold transmitReconfig sendChunk rcStart rcCancel packetFor
  wp_head
  wp_split
  · wp_split
    · wp_head; exact keep _
    · -- the request is stored first; serialising it, sending the chunk and starting the timer (every test in them
      -- is split) only append to the log and write transport fields
      wp_head
      repeat' split
      all_goals (try wp_head)
      all_goals (first
        | exact key _ _ _ rfl rfl (fun p hp => by cases hp; rfl)
        | (repeat' split) <;> (try wp_head) <;> exact key _ _ _ rfl rfl (fun p hp => by cases hp; rfl))
  · wp_head; exact keep _

example : ([1, 3].filter fun x => !([some 1, none] : List (Option Nat)).contains (some x)).take 135 = [3] := by decide

/-! ## (c) `readyState` only moves forward; at most one `open` / `close` / `datachannel` event -/

theorem lifeInv_init (isServer : Bool) (tag tsn : Nat) : LifeInv (Ep.init isServer tag tsn) :=
  ⟨(by intro c hc; cases hc), (by intro d hd; cases hd)⟩

/-- **Forward only.** For every state, clock and input: every channel object is still there after the step
(channels are only appended), its `ready` did not decrease and stays within 0..3, and its label, protocol,
ordered flag, reliability settings and `negotiated` flag are unchanged.  The invariant is preserved. -/
theorem ready_forward (e : Ep) (now : Int) (inp : Input) (hI : LifeInv e) :
    LifeInv (step e now inp).1 ∧
    e.chans.length ≤ (step e now inp).1.chans.length ∧
    ∀ (i : Nat) c, e.chans[i]? = some c → ∃ c', (step e now inp).1.chans[i]? = some c' ∧
      c.ready ≤ c'.ready ∧ c'.ready ≤ 3 ∧ c'.label = c.label ∧ c'.protocol = c.protocol ∧
      c'.ordered = c.ordered ∧ c'.maxRetransmits = c.maxRetransmits ∧
      c'.maxPacketLifeTime = c.maxPacketLifeTime ∧ c'.negotiated = c.negotiated := by
  have h := step_forward e now inp hI
  refine ⟨h.1, FwdRel.length_le h.2, ?_⟩
  intro i c hc
  obtain ⟨c', hc', hst⟩ := h.2.2.1 i c hc
  exact ⟨c', hc', hst.ready, h.1.1 c' (List.mem_of_getElem? hc'), hst.label, hst.protocol, hst.ordered,
    hst.maxRetransmits, hst.maxPacketLifeTime, hst.negotiated⟩

/-- the same over arbitrary input sequences (any two points of a run are related this way, because the
statement holds from every intermediate state) -/
theorem ready_forward_run (e : Ep) (ins : List (Int × Input)) (hI : LifeInv e) :
    LifeInv (runSteps e ins).1 ∧
    ∀ (i : Nat) c, e.chans[i]? = some c → ∃ c', (runSteps e ins).1.chans[i]? = some c' ∧
      c.ready ≤ c'.ready ∧ c'.ready ≤ 3 := by
  have h := run_forward e ins hI
  refine ⟨h.1, ?_⟩
  intro i c hc
  obtain ⟨c', hc', hst⟩ := h.2.2.1 i c hc
  exact ⟨c', hc', hst.ready, h.1.1 c' (List.mem_of_getElem? hc')⟩

/-- **Events only on change.** If a step emits `open` for channel `i`, the channel was `connecting` (or did
not exist) before and is at least `open` after; if it emits `close`, the channel was not closed before and is
closed after; a `datachannel` event is only emitted for a channel object created in that very step. -/
theorem events_on_change (e : Ep) (now : Int) (inp : Input) (hI : LifeInv e) (k : Kind) (i : Nat)
    (hev : 0 < (step e now inp).2.countP (Kind.ev k i)) :
    (step e now inp).2.countP (Kind.ev k i) = 1 ∧ bud k e i = 1 ∧ bud k (step e now inp).1 i = 0 := by
  have h := (step_forward e now inp hI).2.2.2 k i
  simp only [List.countP_nil] at h
  have hb := bud_le_one k e i
  omega

/-- **At most one `open`, one `close`, one `datachannel` event per channel object** over every run from the
initial state. -/
theorem at_most_one_event (isServer : Bool) (tag tsn : Nat) (ins : List (Int × Input)) (k : Kind) (i : Nat) :
    (runSteps (Ep.init isServer tag tsn) ins).2.countP (Kind.ev k i) ≤ 1 := by
  have h := (run_forward _ ins (lifeInv_init isServer tag tsn)).2.2.2 k i
  simp only [List.countP_nil] at h
  have hb := bud_le_one k (Ep.init isServer tag tsn) i
  omega

example : Kind.ev .opened 3 (.evOpen 3) = true ∧ Kind.ev .closed 3 (.evClose 3) = true ∧
    Kind.ev .announced 3 (.evChannel 3) = true ∧ Kind.ev .opened 3 (.evOpen 4) = false := by decide

/-! ## (d) `bufferedAmount` is exact -/

theorem bufInv_init (isServer : Bool) (tag tsn : Nat) : BufInv (Ep.init isServer tag tsn) :=
  ⟨(by intro x hx; cases hx), (by intro i c hc; simp [Ep.init] at hc)⟩

/-- **Exact accounting.** `bufferedAmount` of every channel that is not closed equals the number of user-data
bytes queued for it in `_data_channel_queue` (accepted by `send()`, not yet handed to `_send`); the
invariant is preserved by every step in which no exception escapes a handler. -/
theorem buffered_exact (e : Ep) (now : Int) (inp : Input) (hI : BufInv e)
    (hok : NoCrash (step e now inp).2) : BufInv (step e now inp).1 :=
  (buf_handle inp).step_inv e now hI (fun _ => hok)

/-- never negative, and zero once nothing is queued for the channel -/
theorem buffered_nonneg_drained (e : Ep) (hI : BufInv e) (i : Nat) (c : Chan) (hc : e.chans[i]? = some c)
    (h3 : c.ready ≠ 3) :
    c.buffered = qsum e.dcQueue i ∧ 0 ≤ c.buffered ∧ ((∀ x ∈ e.dcQueue, x.1 ≠ i) → c.buffered = 0) :=
  ⟨hI.2 i c hc h3, hI.nonneg hc h3, hI.drained hc h3⟩

/-- `send()` and the flush loop separately (the two places that move `bufferedAmount`) -/
theorem buffered_send_flush : (∀ i isStr data, Pres bufSpec (handle (.send i isStr data))) ∧
    (∀ fuel, Pres bufSpec (flushLoop fuel)) ∧ Pres bufSpec flush :=
  ⟨buf_send, buf_flushLoop, buf_flush⟩

/-- a handler that re-enters `send()` (and `_data_channel_send` itself) is accounted exactly like a `send()`: the bytes are
added to `bufferedAmount` and queued, so `BufInv` also holds after every step in which a handler sent -/
theorem buffered_react : (∀ k i, Pres bufSpec (react k i)) ∧ (∀ i isStr data, Pres bufSpec (dcSend i isStr data)) :=
  ⟨buf_react, buf_dcSend⟩

/-- **`bufferedamountlow` fires exactly on downward crossings**: `_addBufferedAmount(amount)` - up to the application's
handler, `addBufferedCore` - adds the amount and emits the event (and returns `true`) iff the amount was above the
threshold and is now at most the threshold (and the channel can have listeners).  The equation behind it, also for an
index that does not exist, is `WPh_addBufferedCore`. -/
theorem evLow_exact (i : Nat) (amount : Int) (s : St) (c : Chan) (hc : s.1.chans[i]? = some c) {Q}
    (h : Q (.ok (decide ((c.buffered > c.threshold ∧ c.buffered + amount ≤ c.threshold) ∧ c.silent = false ∧ c.ready ≠ 3)))
      ({ s.1 with chans := s.1.chans.set i { c with buffered := c.buffered + amount } },
        s.2 ++ (if (c.buffered > c.threshold ∧ c.buffered + amount ≤ c.threshold) ∧ c.silent = false ∧ c.ready ≠ 3
                then [Out.evLow i] else []))) :
    WP (addBufferedCore i amount) Q s := by
  rw [← bind_pure (addBufferedCore i amount), WPh_addBufferedCore, hc]
  exact (WP_pure _ _ _).2 h

/-- `_addBufferedAmount` with the application's handler = the core followed by at most one reaction, which runs exactly
when the event fired (the stored amount is the one computed BEFORE the handler runs; the handler's own `send()` then adds
to the stored value) -/
theorem addBuffered_core_react (i : Nat) (amount : Int) :
    addBuffered i amount = (addBufferedCore i amount >>= fun fired => if fired then react 2 i else pure ()) := rfl

/-! ## re-entrant application handlers -/

/-- **A handler sends only on an open channel.** `react k i` does nothing without a matching armed reaction; otherwise it
consumes the reaction and - iff channel `i` is open - continues with exactly `dcSend` (`_data_channel_send`); on a channel that
is not open it only emits `.rexc i "InvalidStateError"` and changes nothing else. -/
theorem react_sends_only_when_open (k i : Nat) (s : St) (Q : Except String Unit → St → Prop) :
    WP (react k i) Q s ↔
      match armed s.1 k i with
      | none => Q (.ok ()) s
      | some r =>
        match s.1.chans[i]? with
        | none => Q (.error "IndexError") ({ s.1 with reactions := s.1.reactions.erase r }, s.2)
        | some c =>
          if c.ready ≠ 1 then
            Q (.ok ()) ({ s.1 with reactions := s.1.reactions.erase r }, s.2 ++ [.rexc i "InvalidStateError"])
          else WP (dcSend i r.2.2.1 r.2.2.2) Q ({ s.1 with reactions := s.1.reactions.erase r }, s.2) :=
  react_spec k i s Q

example : armed { (Ep.init true 1 2) with reactions := [(3, 0, true, [104]), (4, 7, false, [])] } 4 0
    = some (4, 7, false, []) := by decide

/-- **Reactions are one-shot.** Every step leaves at most one more armed reaction than before, only the `.react` input (the
application attaching a handler) adds one, and a handler that fires makes the list strictly shorter. -/
theorem reactions_one_shot :
    (∀ e now inp, (step e now inp).1.reactions.length ≤ e.reactions.length + 1) ∧
    (∀ e now inp, (∀ k i isStr data, inp ≠ .react k i isStr data) →
      (step e now inp).1.reactions.length ≤ e.reactions.length) ∧
    (∀ k i (s : St), (armed s.1 k i).isSome →
      WP (react k i) (fun _ s' => s'.1.reactions.length < s.1.reactions.length) s) :=
  ⟨step_reactions, step_reactions_le, react_consumes⟩

/-- **The fuel of `flush` suffices.** With `len(queue) + len(reactions) + 1` units of fuel (what `flush` passes) - or more -
the loop returns normally only when its real exit condition holds (queue empty or outbound queue non-empty), never because the
fuel ran out, although handlers running inside the loop append entries. -/
theorem flush_fuel_suffices (fuel : Nat) (s : St) (h : s.1.dcQueue.length + s.1.reactions.length + 1 ≤ fuel) :
    WP (flushLoop fuel) LoopDone s :=
  flushLoop_fuel fuel s h

example (s : St) : WP (flushLoop (s.1.dcQueue.length + s.1.reactions.length + 1)) LoopDone s :=
  flush_fuel_suffices _ s (Nat.le_refl _)

/-! ## (e) when the association ends every channel closes -/

/-- After `_set_state(CLOSED)` (abort, shutdown, `stop()`, T1/T2 giving up) every channel object registered in
`_data_channels` or still waiting in `_data_channel_queue` is closed and both containers are empty.  The keys of
`_data_channels` are distinct in every reachable state: clause `dcKeys` of the invariants of C05
(`Aiortc.Sctp.ChansOk`, kept by every step: `Props.C05Sctp2.reach_inv2`). -/
theorem closed_all (s : St) (hnd : (s.1.dataChannels.map (·.1)).Nodup) :
    WP (setState .closed) (ClosedAllPost s) s :=
  Aiortc.Sctp.closed_all s hnd

example : (([(1, 0), (3, 1)] : List (Nat × Nat)).map (·.1)).Nodup := by decide

/-! ## (f) negotiated channels pair up by id -/

/-- `RTCDataChannel(negotiated=True, id=v)` registers exactly id `v` for the new channel object (open at once if
the association is established, connecting otherwise), or raises `ValueError` (id missing, outside 0..65534,
or already registered) and leaves the transport unchanged. -/
theorem negotiated_exact_id (p : CreateParams) (hneg : p.negotiated = true) (e : Ep) (l : List Out) :
    WP (createChannel p) (NegPost p e l) (e, l) := by
  unfold createChannel
  rw [WPh_getE]
  simp only [hneg, Bool.true_and, Bool.not_true, Bool.false_eq_true, if_false]
  cases hid : p.id with
  | none => simp only [if_true]; wp_head; exact ⟨rfl, .inl rfl⟩
  | some v =>
    simp only [Option.map_some]
    by_cases hr : (decide (v < 0) || decide (v > 65534)) = true
    · rw [if_pos hr]; wp_head; exact ⟨rfl, .inl rfl⟩
    rw [if_neg hr]
    by_cases hfree : (dictGet e.dataChannels v.toNat).isSome = true
    · rw [if_pos hfree]; wp_head; exact ⟨rfl, .inl rfl⟩
    rw [if_neg hfree, WP_setE]
    simp only [Bool.or_eq_true, decide_eq_true_eq, not_or, Int.not_lt] at hr
    refine ⟨rfl, .inr ⟨v, hid, by omega, by omega, by simpa using hfree, rfl, _, rfl, ?_⟩⟩
    split <;> simp

end Aiortc.Props.C13
