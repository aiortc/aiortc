import Aiortc.Model.Sctp.Endpoint
/-!
# DCEP `DATA_CHANNEL_OPEN`: the parser inside `dcReceive` (`_data_channel_receive`), restated as a pure function

`decodeOpen` is tied to the automaton by `Aiortc.Sctp.dcReceive_open` (Lemmas/C13/SctpOpen.lean) and to the real
code by the `dcep` component of `./check C13`.
-/
namespace Aiortc.Sctp
open Aiortc.Gen Aiortc.Sctp.Wire

/-- the id-independent parameters carried by a DATA_CHANNEL_OPEN message -/
structure OpenParams where
  label : Bytes
  protocol : Bytes
  ordered : Bool
  maxRetransmits : Option Nat
  maxPacketLifeTime : Option Nat
  deriving Repr, DecidableEq

def Chan.openParams (c : Chan) : OpenParams :=
  ⟨c.label, c.protocol, c.ordered, c.maxRetransmits, c.maxPacketLifeTime⟩

/-- the OPEN branch of `dcReceive` (`_data_channel_receive`), without the state -/
def decodeOpen (data : Bytes) : Option OpenParams :=
  if data.headD 0 = DATA_CHANNEL_OPEN && data.length ≥ 12 then
    let channelType := data.getD 1 0
    let reliability := beVal ((data.drop 4).take 4)
    let ll := beVal ((data.drop 8).take 2)
    let pl := beVal ((data.drop 10).take 2)
    let label := (data.drop 12).take ll
    let protocol := (data.drop (12 + ll)).take pl
    if !utf8Valid label || !utf8Valid protocol then none
    else some {
      label := label, protocol := protocol
      ordered := channelType / 128 % 2 = 0
      maxRetransmits := if channelType % 4 = 1 then some reliability else none
      maxPacketLifeTime := if channelType % 4 = 2 then some reliability else none }
  else none

/-! ## UTF-8 encoding of a code point (Unicode Table 3-6), the specification side of `utf8Valid` -/

def Scalar (n : Nat) : Prop := n < 0xD800 ∨ (0xE000 ≤ n ∧ n < 0x110000)

def encodeCp (n : Nat) : Bytes :=
  if n < 0x80 then [n]
  else if n < 0x800 then [0xC0 + n / 64, 0x80 + n % 64]
  else if n < 0x10000 then [0xE0 + n / 4096, 0x80 + n / 64 % 64, 0x80 + n % 64]
  else [0xF0 + n / 262144, 0x80 + n / 4096 % 64, 0x80 + n / 64 % 64, 0x80 + n % 64]

end Aiortc.Sctp
